-- Library root: every property module (they pull in model, spec, proofs and generated constants).
import Wee.Props.C01
import Wee.Props.C02
import Wee.Props.C02Closed
import Wee.Props.C03
import Wee.Props.C04
import Wee.Props.C05
import Wee.Props.C06
import Wee.Props.C07
import Wee.Props.C08
import Wee.Props.C09
import Wee.Props.C10Closed
import Wee.Props.C11
import Wee.Props.C12
import Wee.Props.C12Closed
import Wee.Props.C13
import Wee.Props.C13Closed
import Wee.Props.C14
import Wee.Props.C15
import Wee.Props.C16
import Wee.Props.C17
import Wee.Props.C18
import Wee.Props.C19
import Wee.Props.C20
import Wee.Spec.San
import Wee.Spec.Outcome
import Wee.Props.C06Complete
import Wee.Props.C14Total
import Wee.Props.Compose
import Wee.Props.Interleave
import Wee.Props.C07Compose
import Wee.Props.C05Closed
import Wee.Props.C03Report
import Wee.Props.C07Report
import Wee.Props.Threads
import Wee.Props.Clamped
import Wee.Props.FenRegex
import Wee.Props.C20Translated
import Wee.Props.C04Stop
import Wee.Props.C06Pairing
import Wee.Proofs.CoreFnsBridge
import Wee.Proofs.GenMovesBridge
import Wee.Proofs.EvalFnsBridge
import Wee.Props.Translated
import Wee.Proofs.TTFnsBridge
import Wee.Proofs.EvalFnsTotal
import Wee.Proofs.TextFnsBridge
import Wee.Proofs.TextFnsBridge2
import Wee.Proofs.SearchFnsBridge
import Wee.Proofs.BookFnsBridge
import Wee.Props.Translated2
import Wee.Props.Translated3
import Wee.Props.Translated4
import Wee.Proofs.SearchFnsBridge2
import Wee.Proofs.SearchIterBridge
import Wee.Props.Translated5
import Wee.Proofs.UciFnsBridge
import Wee.Proofs.SeamFnsBridge
import Wee.Proofs.IterateFnsBridge
