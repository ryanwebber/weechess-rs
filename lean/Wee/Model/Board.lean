import Wee.Model.Attacks
import Wee.Model.Move
/-!
# Attack maps, check, make-move (mirror of `board.rs` `AttackMap`, `Board::is_check`, `state.rs`)
-/
namespace Wee

/-- `AttackMap::from_occupancy` → `(all, pawn)` -/
def attackMap (m : PieceMap) (c : Color) : UInt64 × UInt64 :=
  let occ := m.occ
  let own := m.colorOcc c
  let (all, pawn) := Piece.all.foldl (fun (acc : UInt64 × UInt64) p =>
    (bitsOf (m.get c p)).foldl (fun (acc : UInt64 × UInt64) sq =>
      let a := attacksOf c p sq occ
      (acc.1 ||| a, if p == .pawn then acc.2 ||| a else acc.2)) acc) (0, 0)
  (all &&& ~~~own, pawn &&& ~~~own)

/-- `Board::colored_attacks` (pure value; the `OnceCell` cache is modelled in `Model/AttackCache`) -/
@[inline] def coloredAttacks (m : PieceMap) (c : Color) : UInt64 := (attackMap m c).1
/-- `Board::colored_pawn_attacks` -/
@[inline] def coloredPawnAttacks (m : PieceMap) (c : Color) : UInt64 := (attackMap m c).2
/-- `Board::is_check` -/
@[inline] def isCheckB (m : PieceMap) (c : Color) : Bool := bbAny (m.get c .king &&& coloredAttacks m c.opp)
/-- `State::is_check` -/
@[inline] def State.isCheck (s : State) : Bool := isCheckB s.pieces s.turn

inductive MoveErr | ambiguous | illegalEnPassant | unknown
deriving DecidableEq, Repr

/-- `State::by_performing_move`.  A move whose piece code is not a `Piece` discriminant makes the
Rust accessor `unwrap` panic; that is `none` at the outer level here. -/
def performMove (s : State) (mv : Move) : Option (Except MoveErr State) :=
  match Move.piece? mv with
  | Option.none => Option.none
  | some p =>
  -- capture()/promotion() unwrap a bad discriminant too
  if (Move.captureCode mv ≠ 0 ∧ (Piece.ofCode? (Move.captureCode mv)).isNone) ∨
     (Move.promotionCode mv ≠ 0 ∧ (Piece.ofCode? (Move.promotionCode mv)).isNone) then Option.none else
  let us := s.turn
  let them := us.opp
  let o := Move.origin mv
  let d := Move.dest mv
  let map := s.pieces
  let map := map.assign us p o false
  let map := map.assign us p d true
  let mapE : Except MoveErr PieceMap :=
    if Move.isEnPassant mv then
      match s.ep with
      | Option.none => .error .illegalEnPassant
      | some t =>
        match offset t 0 us.backward with
        | Option.none => .error .illegalEnPassant
        | some csq => .ok (map.assign them .pawn csq false)
    else match Move.capture mv with
      | some cap => .ok (map.assign them cap d false)
      | Option.none => .ok map
  match mapE with
  | .error e => some (.error e)
  | .ok map =>
  let map := match Move.promotion mv with
    | some pr => (map.assign us p d false).assign us pr d true
    | Option.none => map
  let map :=
    if Move.isCastle mv .king then
      (map.assign us .rook (mkSq (rankOf o) 7) false).assign us .rook (mkSq (rankOf o) 5) true
    else if Move.isCastle mv .queen then
      (map.assign us .rook (mkSq (rankOf o) 0) false).assign us .rook (mkSq (rankOf o) 3) true
    else map
  let cw := s.castleW
  let cb := s.castleB
  let cw := if p == .king ∧ us == .white then CastleRights.noRights else cw
  let cb := if p == .king ∧ us == .black then CastleRights.noRights else cb
  let cb : CastleRights := ⟨cb.kingside && test (map.get .black .rook) 63, cb.queenside && test (map.get .black .rook) 56⟩
  let cw : CastleRights := ⟨cw.kingside && test (map.get .white .rook) 7, cw.queenside && test (map.get .white .rook) 0⟩
  some (.ok {
    pieces := map
    turn := them
    castleW := cw
    castleB := cb
    ep := if Move.isDoublePawn mv then offset d 0 us.backward else Option.none
    halfmove := if Move.isCapture mv || p == .pawn then 0 else clockSucc s.halfmove
    fullmove := if us == .black then clockSucc s.fullmove else s.fullmove })

end Wee

/-! ## Compiled fast path (`@[csimp]`)

Nothing below changes a definition: `attackMap` is proved EQUAL to a version with two unboxed
`UInt64` accumulators (no pair allocated per attacked square); only the code generator uses it. -/
namespace Wee.Fast

/-- `attackMap` with two `UInt64` accumulators instead of a pair -/
def attackMapFast (m : PieceMap) (c : Color) : UInt64 × UInt64 :=
  let occ := m.occ
  let own := m.colorOcc c
  let all := Piece.all.foldl (fun (acc : UInt64) p =>
    (bitsOf (m.get c p)).foldl (fun (acc : UInt64) sq => acc ||| attacksOf c p sq occ) acc) 0
  let pawn := (bitsOf (m.get c .pawn)).foldl (fun (acc : UInt64) sq => acc ||| attacksOf c .pawn sq occ) 0
  (all &&& ~~~own, pawn &&& ~~~own)

theorem inner_fold (a : Nat → UInt64) (isPawn : Bool) (l : List Nat) (acc : UInt64 × UInt64) :
    l.foldl (fun (acc : UInt64 × UInt64) sq => (acc.1 ||| a sq, if isPawn then acc.2 ||| a sq else acc.2)) acc
      = (l.foldl (fun (x : UInt64) sq => x ||| a sq) acc.1,
         if isPawn then l.foldl (fun (x : UInt64) sq => x ||| a sq) acc.2 else acc.2) := by
  induction l generalizing acc with
  | nil => cases isPawn <;> simp
  | cons x xs ih => rw [List.foldl_cons, ih]; cases isPawn <;> simp

@[csimp] theorem attackMap_eq : @attackMap = @attackMapFast := by
  funext m c
  unfold attackMap attackMapFast
  simp only [Piece.all, List.foldl_cons, List.foldl_nil]
  simp only [inner_fold]
  simp

/-! The `@[inline]` readers above were compiled before the lemma existed (their stored bodies still
call the original `attackMap`); these literal copies (equal by `rfl`) are compiled after it. -/

@[inline] def coloredAttacksFast (m : PieceMap) (c : Color) : UInt64 := (attackMap m c).1
@[csimp] theorem coloredAttacks_eq : @coloredAttacks = @coloredAttacksFast := rfl

@[inline] def coloredPawnAttacksFast (m : PieceMap) (c : Color) : UInt64 := (attackMap m c).2
@[csimp] theorem coloredPawnAttacks_eq : @coloredPawnAttacks = @coloredPawnAttacksFast := rfl

@[inline] def isCheckBFast (m : PieceMap) (c : Color) : Bool := bbAny (m.get c .king &&& coloredAttacks m c.opp)
@[csimp] theorem isCheckB_eq : @isCheckB = @isCheckBFast := rfl

@[inline] def isCheckFast (s : State) : Bool := isCheckB s.pieces s.turn
@[csimp] theorem State.isCheck_eq : @State.isCheck = @isCheckFast := rfl

end Wee.Fast
