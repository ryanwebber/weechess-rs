import Wee.Model.MoveGen
import Wee.Model.F32
import Wee.Gen.EvalTables
/-!
# Static evaluation (mirror of `weechess-engine/src/eval/*.rs`)

`Evaluation(i32)` is an `Int`; f32 arithmetic goes through the soft-float of `Model/F32`.
`Ev.mulF e w` is `impl Mul<f32> for Evaluation`: `((e as f32) * w) as i32`.
-/
namespace Wee
open Gen

abbrev Eval := Int

namespace Ev
def onePawn : Eval := Gen.onePawn
def posInf : Eval := Gen.onePawn * Gen.posInfFactor
def negInf : Eval := Gen.onePawn * Gen.negInfFactor

/-- `Evaluation * f32` -/
def mulF (e : Eval) (w : Rat) : Eval := F32.toI32 (F32.mul (F32.ofInt e) w)

/-- `Evaluation::mate_in_ply` (`ply as i32` wraps for ply ≥ 2^31; callers pass small plies) -/
def mateInPly (ply : Nat) : Eval :=
  let p : Int := ((ply % 2^32 + 2^31) % 2^32 : Nat) - 2^31     -- `as i32`
  posInf + onePawn * (max (Gen.mateBonusPlies - p) Gen.mateBonusFloor)

def isTerminal (e : Eval) : Bool := e ≤ negInf || e ≥ posInf
end Ev

def pieceWorth (p : Piece) : Rat := piecePawnWorths.getD p.code 0

structure Variation where
  s : State
  egw : Rat
  countW : Nat
  countB : Nat

def pieceCount (s : State) (c : Color) (p : Piece) : Nat := popcount (s.pieces.get c p)

/-- `StateVariation::from` -/
def Variation.of (s : State) : Variation :=
  let cnt (c : Color) : Nat := (Piece.all.map (pieceCount s c)).sum
  let countPieces (p : Piece) : Rat := F32.ofInt ((pieceCount s .white p + pieceCount s .black p : Nat) : Int)
  let v1 := F32.div (countPieces .pawn) egD1
  let v2 := F32.div (countPieces .queen) egD2
  let v3 := F32.div (F32.ofInt (popcount s.pieces.occ : Nat)) egD3
  let num := F32.add (F32.add (F32.mul egW1 v1) (F32.mul egW2 v2)) (F32.mul egW3 v3)
  let den := F32.add (F32.add egW1 egW2) egW3
  { s, egw := F32.sub 1 (F32.div num den), countW := cnt .white, countB := cnt .black }

def Variation.count (v : Variation) : Color → Nat | .white => v.countW | .black => v.countB

/-- `evaluate_piece_worths::evaluate` -/
def evalWorths (v : Variation) (c : Color) : Eval :=
  Piece.all.foldl (fun acc p => acc + Ev.mulF Ev.onePawn (pieceWorth p) * (pieceCount v.s c p : Int)) 0

/-- `evaluate_piece_square` -/
def pieceSquare (p : Piece) (sq : Nat) (c : Color) (egw : Rat) : Eval :=
  let sq' := if c == .white then sq else flipRank sq
  let index := flipRank sq'
  let maps := pieceSquareMap.getD p.code (#[], #[])
  let e1 := F32.ofInt (maps.1.getD index 0)
  let e2 := F32.ofInt (maps.2.getD index 0)
  F32.toI32 (F32.add (F32.mul (F32.sub e2 e1) egw) e1)

/-- `evaluate_piece_squares::evaluate` -/
def evalSquares (v : Variation) (c : Color) : Eval :=
  Piece.all.foldl (fun acc p =>
    (bitsOf (v.s.pieces.get c p)).foldl (fun acc sq => acc + pieceSquare p sq c v.egw) acc) 0

/-- `evaluate_force_king_to_edge::evaluate` -/
def evalKingEdge (v : Variation) (c : Color) : Eval :=
  if v.egw < kingEdgeThreshold then 0
  else if v.count c < v.count c.opp + kingEdgeCountMargin then 0
  else match firstOne (v.s.pieces.get c .king), firstOne (v.s.pieces.get c.opp .king) with
    | some ours, some theirs =>
      let kd : Int := manhattan ours theirs
      let rd : Int := min (absDist (rankOf theirs) 0) (absDist (rankOf theirs) 7)
      let fd : Int := min (absDist (fileOf theirs) 0) (absDist (fileOf theirs) 7)
      let disp : Int := kingEdgeCentre - (rd + fd)
      Ev.mulF (kingEdgeFactor * disp - kd) v.egw
    | _, _ => 0

/-- `evaluate_bad_pawns::evaluate` -/
def evalBadPawns (v : Variation) (c : Color) : Eval :=
  let pawns := v.s.pieces.get c .pawn
  (List.range 8).foldl (fun acc f =>
    let acc := if popcount (pawns &&& fileMask f) > doubledPawnMin then acc - Ev.mulF Ev.onePawn doubledPawnPenalty else acc
    let mask : UInt64 := (if f = 0 then 0 else fileMask (f - 1)) ||| (if f = 7 then 0 else fileMask (f + 1))
    if bbNone (pawns &&& mask) then acc - Ev.mulF Ev.onePawn isolatedPawnPenalty else acc) 0

def evaluators : List (Variation → Color → Eval) := [evalWorths, evalSquares, evalKingEdge, evalBadPawns]

/-- the non-terminal part of `Evaluator::evaluate` -/
def evalHeuristic (v : Variation) (perspective : Color) : Eval :=
  (evaluators.zip evaluatorWeights).foldl (fun acc (fw : (Variation → Color → Eval) × Rat) =>
    acc + Ev.mulF (fw.1 v perspective - fw.1 v perspective.opp) fw.2) 0

/-- `king_has_move` shortcut.  Since the repair of F3 its answer is only trusted when the side to
move is not in check (`if !king_has_move || state.is_check()`). -/
def kingHasMove (s : State) : Option Bool :=
  match firstOne (s.pieces.get s.turn .king) with
  | Option.none => Option.none        -- `first_square().unwrap()` panics without a king
  | some k => some (bbAny (kingAttacks k &&& ~~~s.pieces.occ &&& ~~~(coloredAttacks s.pieces s.turn.opp)))

/-- `eval.clamp(NEG_INF + 1, POS_INF - 1)` (since the repair of F10: a heuristic score never looks like a mate score) -/
def clampHeuristic (e : Eval) : Eval := max (Ev.negInf + 1) (min (Ev.posInf - 1) e)

/-- `Evaluator::evaluate(state, perspective, depth)`; `none` = panic -/
def evaluate (s : State) (perspective : Color) (depth : Nat) : Option Eval :=
  match kingHasMove s with
  | Option.none => Option.none
  | some khm =>
    let v := Variation.of s
    if !khm || s.isCheck then
      match legalMoves? s with
      | Option.none => Option.none
      | some ms =>
        if ms.isEmpty && s.isCheck then
          some (if s.turn == perspective then - Ev.mateInPly depth else Ev.mateInPly depth)
        else if ms.isEmpty then some 0
        else some (clampHeuristic (evalHeuristic v perspective))
    else some (clampHeuristic (evalHeuristic v perspective))

/-- `Evaluator::estimate` -/
def estimate (s : State) (mv : Move) : Eval :=
  let p := Move.piece mv
  let c := Move.color mv
  let e : Eval := 0
  let e := if bbAny (coloredPawnAttacks s.pieces c.opp &&& bit (Move.dest mv)) then e - Ev.mulF Ev.onePawn (pieceWorth p) else e
  let e := match Move.capture mv with
    | some cap => e + Ev.mulF Ev.onePawn (pieceWorth cap) * estCaptureFactor - Ev.mulF Ev.onePawn (pieceWorth p)
    | Option.none => e
  let e := if (Move.castleSide mv).isSome then e + Ev.mulF Ev.onePawn estCastleBonus else e
  let e := if Move.isDoublePawn mv then e + Ev.mulF Ev.onePawn estDoublePawnBonus else e
  let e := match Move.promotion mv with
    | some pr => e + Ev.mulF (Ev.mulF Ev.onePawn (pieceWorth pr)) estPromotionFactor
    | Option.none => e
  if (Move.promotion mv).isNone then
    e + (pieceSquare p (Move.dest mv) c estSquareWeight - pieceSquare p (Move.origin mv) c estSquareWeight) * estSquareFactor
  else e

end Wee
