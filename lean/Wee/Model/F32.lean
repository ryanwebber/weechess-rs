/-!
# binary32 soft-float (exact model of the f32 operations the evaluator uses)

A finite binary32 value is represented by the rational it denotes.  Every operation is "compute
exactly in `Rat`, round to nearest-even at 24 significant bits" (IEEE-754 round-to-nearest-even;
subnormals handled, overflow not — all values here are far below 2^128).  Defined through sign and
magnitude so that `round32 (-q) = - round32 q` is immediate (needed by C13).
Validated against Rust `f32` through the evaluator correspondence: the checks of C05 and C13
(`tools/props.py`) send the same `eval` requests to the driver (the model's `evaluate` over this
soft-float) and to the harness (the real `Evaluator::evaluate`) and compare the values.
-/
namespace Wee.F32

def pow2 (k : Int) : Rat := if k ≥ 0 then ((2 ^ k.toNat : Nat) : Rat) else 1 / ((2 ^ (-k).toNat : Nat) : Rat)

/-- floor(log2 q) for q > 0 -/
def ilog2 (q : Rat) : Int :=
  let n := q.num.toNat
  let d := q.den
  let e : Int := (Nat.log2 n : Int) - (Nat.log2 d : Int)
  if q < pow2 e then e - 1 else if q < pow2 (e + 1) then e else e + 1

/-- round a non-negative rational to the nearest integer, ties to even -/
def rne (n : Rat) : Int :=
  let f := n.floor
  let r := n - (f : Rat)
  if r < 1/2 then f else if r > 1/2 then f + 1 else if f % 2 = 0 then f else f + 1

/-- nearest binary32 of a positive rational -/
def roundPos (q : Rat) : Rat :=
  let e := ilog2 q
  let e' := if e < -126 then -126 else e
  let ulp := pow2 (e' - 23)
  ((rne (q / ulp) : Int) : Rat) * ulp

def round32 (q : Rat) : Rat :=
  if q = 0 then 0 else if q < 0 then - roundPos (-q) else roundPos q

def mul (a b : Rat) : Rat := round32 (a * b)
def add (a b : Rat) : Rat := round32 (a + b)
def sub (a b : Rat) : Rat := round32 (a - b)
def div (a b : Rat) : Rat := round32 (a / b)
/-- `i as f32` -/
def ofInt (i : Int) : Rat := round32 (i : Rat)
/-- `x as i32`: truncate toward zero, saturate -/
def toI32 (q : Rat) : Int :=
  let t : Int := if q ≥ 0 then q.floor else - (-q).floor
  if t > 2147483647 then 2147483647 else if t < -2147483648 then -2147483648 else t

/-! ## Lemmas about the soft-float

Core-only proofs (no Mathlib).  They are on the model side because the `@[csimp]` fast paths at the
end of this file (which must be in scope when `Wee/Model/Eval.lean` is compiled) rest on them. -/

/-! ### oddness -/

theorem round32_neg (q : Rat) : round32 (-q) = - round32 q := by
  unfold round32
  by_cases h0 : q = 0
  · subst h0; simp
  · have h0' : ¬ (-q = 0) := by
      intro h; apply h0; have := congrArg (fun x => -x) h; simpa [Rat.neg_neg] using this
    simp only [h0, h0', if_false]
    by_cases hneg : q < 0
    · have : ¬ (-q < 0) := by
        intro h
        have h1 : -(0:Rat) < -(-q) := Rat.neg_lt_neg h
        rw [Rat.neg_neg] at h1
        have h2 : (0:Rat) < q := by simpa using h1
        exact Rat.lt_irrefl (Std.lt_trans hneg h2)
      simp [hneg, this, Rat.neg_neg]
    · have hle : 0 ≤ q := Rat.not_lt.1 hneg
      have hpos : 0 < q := Rat.lt_iff_le_and_ne.2 ⟨hle, fun h => h0 h.symm⟩
      have : -q < 0 := by
        have h1 : -q < -(0:Rat) := Rat.neg_lt_neg hpos
        simpa using h1
      simp [hneg, this]

/-! ## `pow2`, `ilog2` -/

theorem pow2_nat (n : Nat) : pow2 (n : Int) = ((2 ^ n : Nat) : Rat) := by
  unfold pow2; simp

theorem pow2_pos (k : Int) : 0 < pow2 k := by
  unfold pow2
  split
  · exact Rat.natCast_pos.2 (Nat.pow_pos (by decide))
  · have h : (0:Rat) < ((2 ^ (-k).toNat : Nat) : Rat) := Rat.natCast_pos.2 (Nat.pow_pos (by decide))
    rw [Rat.div_def, Rat.one_mul]; exact Rat.inv_pos.2 h

theorem pow2_succ (k : Int) : pow2 (k + 1) = 2 * pow2 k := by
  unfold pow2
  by_cases h : k ≥ 0
  · have h1 : k + 1 ≥ 0 := by omega
    have : (k + 1).toNat = k.toNat + 1 := by omega
    simp only [h, h1, if_true, this, Nat.pow_succ, Rat.natCast_mul]
    grind
  · by_cases h1 : k + 1 ≥ 0
    · have hk : k = -1 := by omega
      subst hk; simp; grind
    · have : (-k).toNat = (-(k+1)).toNat + 1 := by omega
      simp only [h, h1, if_false, this, Nat.pow_succ, Rat.natCast_mul]
      have hp : (0:Rat) < ((2 ^ (-(k + 1)).toNat : Nat) : Rat) := Rat.natCast_pos.2 (Nat.pow_pos (by decide))
      generalize ((2 ^ (-(k + 1)).toNat : Nat) : Rat) = x at hp
      simp
      grind

theorem pow2_add_nat (k : Int) (n : Nat) : pow2 (k + n) = ((2 ^ n : Nat) : Rat) * pow2 k := by
  induction n with
  | zero => simp
  | succ n ih =>
    have : k + ((n + 1 : Nat) : Int) = (k + n) + 1 := by omega
    rw [this, pow2_succ, ih, Nat.pow_succ, Rat.natCast_mul]; grind

theorem pow2_le_of_le {k j : Int} (h : k ≤ j) : pow2 k ≤ pow2 j := by
  obtain ⟨n, rfl⟩ : ∃ n : Nat, j = k + n := ⟨(j - k).toNat, by omega⟩
  rw [pow2_add_nat]
  have h1 : (1 : Rat) ≤ ((2 ^ n : Nat) : Rat) := by
    have : (1 : Nat) ≤ 2 ^ n := Nat.pow_pos (by decide)
    simpa using Rat.natCast_le_natCast.2 this
  have := Rat.mul_le_mul_of_nonneg_right h1 (Rat.le_of_lt (pow2_pos k))
  simpa using this

theorem pow2_lt_of_lt {k j : Int} (h : k < j) : pow2 k < pow2 j := by
  have h1 : pow2 (k + 1) ≤ pow2 j := pow2_le_of_le (by omega)
  have h2 := pow2_pos k
  rw [pow2_succ] at h1
  grind

theorem lt_of_pow2_lt {k j : Int} (h : pow2 k < pow2 j) : k < j := by
  apply Decidable.byContradiction; intro hn
  have := pow2_le_of_le (Int.not_lt.1 hn)
  grind

theorem mul_den (q : Rat) : q * (q.den : Rat) = (q.num : Rat) := by
  have := Rat.div_mul_cancel (a := (q.num : Rat)) (b := (q.den : Rat)) (by simpa using q.den_nz)
  rwa [← Rat.mkRat_eq_div, Rat.mkRat_self] at this

/-- a quotient `n / d` (given as `q · d = n`, not necessarily in lowest terms) lies within a factor two of
`2^(log2 n - log2 d)` -/
theorem log2_bracket {q : Rat} {n d : Nat} (hq : 0 < q) (hd0 : 0 < d) (hqd : q * (d : Rat) = (n : Rat)) :
    pow2 ((n.log2 : Int) - (d.log2 : Int) - 1) ≤ q ∧ q < pow2 ((n.log2 : Int) - (d.log2 : Int) + 1) := by
  have hn0 : n ≠ 0 := by
    intro h; subst h
    have : (0 : Rat) < q * (d : Rat) := Rat.mul_pos hq (Rat.natCast_pos.2 hd0)
    rw [hqd] at this; simp at this
  have hdnz : d ≠ 0 := by omega
  have hn1 := Nat.log2_self_le hn0
  have hn2 := Nat.lt_log2_self (n := n)
  have hd1 := Nat.log2_self_le hdnz
  have hd2 := Nat.lt_log2_self (n := d)
  generalize hln : n.log2 = ln at *
  generalize hld : d.log2 = ld at *
  have cn1 : ((2 ^ ln : Nat) : Rat) ≤ (n : Rat) := Rat.natCast_le_natCast.2 hn1
  have cn2 : (n : Rat) < ((2 ^ (ln + 1) : Nat) : Rat) := Rat.natCast_lt_natCast.2 hn2
  have cd1 : ((2 ^ ld : Nat) : Rat) ≤ (d : Rat) := Rat.natCast_le_natCast.2 hd1
  have cd2 : (d : Rat) < ((2 ^ (ld + 1) : Nat) : Rat) := Rat.natCast_lt_natCast.2 hd2
  have pd : (0 : Rat) < ((2 ^ ld : Nat) : Rat) := Rat.natCast_pos.2 (Nat.pow_pos (by decide))
  have key : pow2 ((ln : Int) - (ld : Int)) * ((2 ^ ld : Nat) : Rat) = ((2 ^ ln : Nat) : Rat) := by
    have := pow2_add_nat ((ln : Int) - (ld : Int)) ld
    rw [show (ln : Int) - (ld : Int) + (ld : Int) = (ln : Int) by omega, pow2_nat] at this
    rw [this]; grind
  constructor
  · apply Rat.le_of_mul_le_mul_right (c := ((2 ^ (ld+1) : Nat) : Rat)) _ (Rat.natCast_pos.2 (Nat.pow_pos (by decide)))
    have h0 : pow2 ((ln : Int) - (ld : Int)) = 2 * pow2 ((ln : Int) - (ld : Int) - 1) := by
      rw [← pow2_succ]; congr 1; omega
    have h1 : q * (d : Rat) ≤ q * ((2 ^ (ld + 1) : Nat) : Rat) :=
      Rat.mul_le_mul_of_nonneg_left (Rat.le_of_lt cd2) (Rat.le_of_lt hq)
    rw [Nat.pow_succ, Rat.natCast_mul] at h1 ⊢
    rw [h0] at key
    rw [hqd] at h1
    clear cd1 cd2 hd1 hd2 hn1 hn2 cn2 hqd h0 pd
    generalize pow2 ((ln : Int) - (ld : Int) - 1) = P at *
    generalize ((2 ^ ld : Nat) : Rat) = A at *
    generalize ((2 ^ ln : Nat) : Rat) = L at *
    have h2 : ((2 : Nat) : Rat) = 2 := by simp
    rw [h2] at h1 ⊢
    have : P * (A * 2) = L := by grind
    grind
  · apply Rat.lt_of_mul_lt_mul_right (c := ((2 ^ ld : Nat) : Rat)) _ (Rat.le_of_lt pd)
    rw [pow2_succ, Rat.mul_assoc, key]
    have h1 : q * ((2 ^ ld : Nat) : Rat) ≤ q * (d : Rat) :=
      Rat.mul_le_mul_of_nonneg_left cd1 (Rat.le_of_lt hq)
    rw [Nat.pow_succ, Rat.natCast_mul] at cn2
    grind

/-- the correction step of `ilog2` and of its integer version `Fast.ilog2ND`: a guess `e` that is off by at most one
is put right by two comparisons -/
theorem bracket_adjust {q : Rat} {e : Int} (h : pow2 (e - 1) ≤ q ∧ q < pow2 (e + 1)) :
    let r := if q < pow2 e then e - 1 else if q < pow2 (e + 1) then e else e + 1
    pow2 r ≤ q ∧ q < pow2 (r + 1) := by
  intro r
  by_cases h1 : q < pow2 e
  · have : r = e - 1 := if_pos h1
    rw [this, show e - 1 + 1 = e by omega]; exact ⟨h.1, h1⟩
  · have : r = e := by show (if _ then _ else _) = e; rw [if_neg h1, if_pos h.2]
    rw [this]; exact ⟨Rat.not_lt.1 h1, h.2⟩

theorem ilog2_spec {q : Rat} (hq : 0 < q) : pow2 (ilog2 q) ≤ q ∧ q < pow2 (ilog2 q + 1) := by
  have hnum : 0 < q.num := by
    have := (Rat.lt_iff 0 q).1 hq; simpa using this
  have hqd : q * (q.den : Rat) = ((q.num.toNat : Nat) : Rat) := by
    rw [mul_den, ← Rat.intCast_natCast]; congr 1; omega
  exact bracket_adjust (log2_bracket hq q.den_pos hqd)
/-! ## rounding never crosses a dyadic rational `N·2^-t` with `N < 2^24`, in particular a small integer -/

theorem rne_cases (x : Rat) : rne x = x.floor ∨ (rne x = x.floor + 1 ∧ (x.floor : Rat) < x) := by
  unfold rne
  simp only
  split
  · left; rfl
  · rename_i h
    have hx : (x.floor : Rat) < x := by grind
    split
    · right; exact ⟨rfl, hx⟩
    · split
      · left; rfl
      · right; exact ⟨rfl, hx⟩

theorem rne_le {x : Rat} {M : Int} (h : x ≤ (M : Rat)) : rne x ≤ M := by
  have hf : x.floor ≤ M := by
    have := Rat.floor_monotone h; rwa [Rat.floor_intCast] at this
  rcases rne_cases x with h1 | ⟨h1, h2⟩
  · omega
  · rw [h1]
    have : x.floor < M := by
      apply Decidable.byContradiction; intro hn
      have he : x.floor = M := by omega
      rw [he] at h2; grind
    omega

theorem le_rne {x : Rat} {M : Int} (h : (M : Rat) ≤ x) : M ≤ rne x := by
  have hf : M ≤ x.floor := Rat.le_floor_iff.2 h
  rcases rne_cases x with h1 | ⟨h1, _⟩ <;> omega

theorem rne_intCast (M : Int) : rne (M : Rat) = M := by
  have h1 := rne_le (x := (M : Rat)) (M := M) Rat.le_refl
  have h2 := le_rne (x := (M : Rat)) (M := M) Rat.le_refl
  omega

/-- the `ulp` used by `roundPos q` -/
def ulpOf (q : Rat) : Rat := pow2 ((if ilog2 q < -126 then -126 else ilog2 q) - 23)

theorem roundPos_def (q : Rat) : roundPos q = ((rne (q / ulpOf q) : Int) : Rat) * ulpOf q := rfl

theorem ulpOf_pos (q : Rat) : 0 < ulpOf q := pow2_pos _

/-- below `2^(24-t)` the unit in the last place divides `2^-t` (`t ≤ 149`: the smallest subnormal is `2^-149`) -/
theorem ulpOf_dvd_pow2 {q : Rat} (hq : 0 < q) {t : Nat} (ht : t ≤ 149) (h : q < pow2 (24 - t)) :
    ∃ j : Nat, ulpOf q * ((2 ^ j : Nat) : Rat) = pow2 (-(t : Int)) := by
  have hs := ilog2_spec hq
  have h2 : ilog2 q < 24 - t := lt_of_pow2_lt (by grind)
  unfold ulpOf
  generalize he : (if ilog2 q < -126 then -126 else ilog2 q) = e'
  have he' : e' ≤ 23 - t := by split at he <;> omega
  refine ⟨(23 - t - e').toNat, ?_⟩
  have := pow2_add_nat (e' - 23) (23 - t - e').toNat
  rw [show e' - 23 + ((23 - t - e').toNat : Int) = -(t : Int) by omega] at this
  rw [Rat.mul_comm, ← this]

/-- `u·J = p`, so dividing `N·p` by the unit in the last place `u` gives the integer `N·J` -/
theorem dyadic_div_ulp {u J p : Rat} (hu : 0 < u) (hj : u * J = p) (N : Rat) : N * p * u⁻¹ = N * J := by
  have hinv : u * u⁻¹ = 1 := Rat.mul_inv_cancel _ (by grind)
  have : N * (u * J) * u⁻¹ = N * J * (u * u⁻¹) := by grind
  rw [← hj, this, hinv, Rat.mul_one]

theorem lt_pow2_of_le_dyadic {q : Rat} {N t : Nat} (hN : N < 16777216) (h : q ≤ (N : Rat) * pow2 (-(t : Int))) :
    q < pow2 (24 - t) := by
  have hp := pow2_pos (-(t : Int))
  rw [show (24 - (t : Int)) = -(t : Int) + ((24 : Nat) : Int) by omega, pow2_add_nat]
  have := Rat.mul_lt_mul_of_pos_right (Rat.natCast_lt_natCast.2 hN) hp
  grind

/-- rounding never crosses a dyadic `N·2^-t` with a 24-bit numerator (upper side) -/
theorem roundPos_le_dyadic {q : Rat} {N t : Nat} (hq : 0 < q) (hN : N < 16777216) (ht : t ≤ 149)
    (h : q ≤ (N : Rat) * pow2 (-(t : Int))) : roundPos q ≤ (N : Rat) * pow2 (-(t : Int)) := by
  obtain ⟨j, hj⟩ := ulpOf_dvd_pow2 hq ht (lt_pow2_of_le_dyadic hN h)
  have hu := ulpOf_pos q
  rw [roundPos_def]
  generalize ulpOf q = u at *
  have hM : q / u ≤ (((N * 2 ^ j : Nat) : Int) : Rat) := by
    rw [Rat.div_def, Rat.intCast_natCast, Rat.natCast_mul, ← dyadic_div_ulp hu hj]
    exact Rat.mul_le_mul_of_nonneg_right h (Rat.le_of_lt (Rat.inv_pos.2 hu))
  have h2 := Rat.mul_le_mul_of_nonneg_right (Rat.intCast_le_intCast.2 (rne_le hM)) (Rat.le_of_lt hu)
  rw [Rat.intCast_natCast, Rat.natCast_mul] at h2
  rw [← hj]
  grind

/-- in the normal range `roundPos q` is at least the power of two below `q` -/
theorem pow2_ilog2_le_roundPos {q : Rat} (hq : 0 < q) (he : -126 ≤ ilog2 q) : pow2 (ilog2 q) ≤ roundPos q := by
  have hs := (ilog2_spec hq).1
  have hu := ulpOf_pos q
  have hue : ulpOf q = pow2 (ilog2 q - 23) := by unfold ulpOf; rw [if_neg (by omega)]
  have hp : pow2 (ilog2 q) = ((8388608 : Nat) : Rat) * ulpOf q := by
    have := pow2_add_nat (ilog2 q - 23) 23
    rw [show ilog2 q - 23 + ((23 : Nat) : Int) = ilog2 q by omega] at this
    rw [this, hue]
  rw [roundPos_def, hp]
  have hM : (((8388608 : Nat) : Int) : Rat) ≤ q / ulpOf q := by
    rw [Rat.intCast_natCast, Rat.div_def]
    have := Rat.mul_le_mul_of_nonneg_right (hp ▸ hs) (Rat.le_of_lt (Rat.inv_pos.2 hu))
    rwa [Rat.mul_assoc, Rat.mul_inv_cancel _ (by grind), Rat.mul_one] at this
  have := Rat.mul_le_mul_of_nonneg_right (Rat.intCast_le_intCast.2 (le_rne hM)) (Rat.le_of_lt hu)
  rwa [Rat.intCast_natCast] at this

/-- rounding never crosses a dyadic `N·2^-t` with a 24-bit numerator (lower side): below `2^(24-t)` the unit in the
last place divides `2^-t`, above it already the power of two below `q` exceeds `N·2^-t` -/
theorem dyadic_le_roundPos {q : Rat} {N t : Nat} (hq : 0 < q) (hN : N < 16777216) (ht : t ≤ 149)
    (h : (N : Rat) * pow2 (-(t : Int)) ≤ q) : (N : Rat) * pow2 (-(t : Int)) ≤ roundPos q := by
  by_cases h24 : q < pow2 (24 - t)
  · obtain ⟨j, hj⟩ := ulpOf_dvd_pow2 hq ht h24
    have hu := ulpOf_pos q
    rw [roundPos_def]
    generalize ulpOf q = u at *
    have hM : (((N * 2 ^ j : Nat) : Int) : Rat) ≤ q / u := by
      rw [Rat.div_def, Rat.intCast_natCast, Rat.natCast_mul, ← dyadic_div_ulp hu hj]
      exact Rat.mul_le_mul_of_nonneg_right h (Rat.le_of_lt (Rat.inv_pos.2 hu))
    have h2 := Rat.mul_le_mul_of_nonneg_right (Rat.intCast_le_intCast.2 (le_rne hM)) (Rat.le_of_lt hu)
    rw [Rat.intCast_natCast, Rat.natCast_mul] at h2
    rw [← hj]
    grind
  · have h1 : pow2 (24 - t) ≤ q := Rat.not_lt.1 h24
    have h2 : (24 - t : Int) < ilog2 q + 1 := lt_of_pow2_lt (by have := (ilog2_spec hq).2; grind)
    have h3 := pow2_ilog2_le_roundPos hq (by omega)
    have h4 : pow2 (24 - t) ≤ pow2 (ilog2 q) := pow2_le_of_le (by omega)
    have h5 := lt_pow2_of_le_dyadic hN (Rat.le_refl (a := (N : Rat) * pow2 (-(t : Int))))
    grind

theorem pow2_neg_zero : pow2 (-((0 : Nat) : Int)) = 1 := by decide +kernel

theorem roundPos_nonneg {q : Rat} (hq : 0 < q) : 0 ≤ roundPos q := by
  rw [roundPos_def]
  have hu := ulpOf_pos q
  have hx : ((0 : Int) : Rat) ≤ q / ulpOf q := by
    rw [Rat.div_def]
    exact Rat.le_of_lt (Rat.mul_pos hq (Rat.inv_pos.2 hu))
  have := Rat.intCast_le_intCast.2 (le_rne hx)
  exact Rat.mul_nonneg (by simpa using this) (Rat.le_of_lt hu)

theorem round32_nonpos {q : Rat} (h : q ≤ 0) : round32 q ≤ 0 := by
  unfold round32
  split
  · exact Rat.le_refl
  · rename_i h0
    have hneg : q < 0 := by grind
    rw [if_pos hneg]
    have := roundPos_nonneg (q := -q) (by grind)
    grind

theorem round32_nonneg {q : Rat} (h : 0 ≤ q) : 0 ≤ round32 q := by
  have := round32_nonpos (q := -q) (by grind)
  rw [round32_neg] at this
  grind

/-! ## the grid of representable values

`Grid x`: `x = B·2^-t` with `|B| < 2^24` and `t ≤ 149`, a binary32 value below `2^24` in modulus.  Rounding never crosses
a grid point, from either side and for every argument; all bounds on `f32` expressions rest on this. -/

def Grid (x : Rat) : Prop :=
  ∃ (B : Int) (t : Nat), B.natAbs < 16777216 ∧ t ≤ 149 ∧ x = (B : Rat) * pow2 (-(t : Int))

theorem Grid.intCast {i : Int} (h : i.natAbs < 16777216) : Grid (i : Rat) :=
  ⟨i, 0, h, by decide, by rw [pow2_neg_zero, Rat.mul_one]⟩

theorem Grid.neg {x : Rat} : Grid x → Grid (-x)
  | ⟨B, t, hB, ht, hx⟩ => ⟨-B, t, by omega, ht, by rw [hx, Rat.intCast_neg, Rat.neg_mul]⟩

/-- `B·p` for a negative power of two `p` given by its value -/
theorem Grid.dyadic {B : Int} (t : Nat) {p : Rat} (hp : pow2 (-(t : Int)) = p) (hB : B.natAbs < 16777216)
    (ht : t ≤ 149) : Grid ((B : Rat) * p) := ⟨B, t, hB, ht, by rw [hp]⟩

theorem round32_le_grid {q x : Rat} (hx : Grid x) (h : q ≤ x) : round32 q ≤ x := by
  obtain ⟨B, t, hB, ht, rfl⟩ := hx
  have hp := pow2_pos (-(t : Int))
  by_cases hB0 : 0 ≤ B
  · obtain ⟨N, rfl⟩ : ∃ N : Nat, B = N := ⟨B.toNat, by omega⟩
    rw [Rat.intCast_natCast] at h ⊢
    by_cases hq0 : q ≤ 0
    · have := round32_nonpos hq0
      have : (0 : Rat) ≤ (N : Rat) * pow2 (-(t : Int)) := Rat.mul_nonneg Rat.natCast_nonneg (Rat.le_of_lt hp)
      grind
    · unfold round32
      rw [if_neg (by grind), if_neg (by grind)]
      exact roundPos_le_dyadic (by grind) (by omega) ht h
  · obtain ⟨N, rfl, hN⟩ : ∃ N : Nat, B = -(N : Int) ∧ 0 < N := ⟨(-B).toNat, by omega, by omega⟩
    rw [Rat.intCast_neg, Rat.intCast_natCast, Rat.neg_mul] at h ⊢
    have hNp : (0 : Rat) < (N : Rat) * pow2 (-(t : Int)) := Rat.mul_pos (Rat.natCast_pos.2 hN) hp
    have hneg : q < 0 := by grind
    unfold round32
    rw [if_neg (by grind), if_pos hneg]
    have := dyadic_le_roundPos (q := -q) (N := N) (by grind) (by omega) ht (by grind)
    grind

theorem grid_le_round32 {q x : Rat} (hx : Grid x) (h : x ≤ q) : x ≤ round32 q := by
  have := round32_le_grid (q := -q) hx.neg (by grind)
  rw [round32_neg] at this
  grind

/-- grid points are representable -/
theorem round32_grid {x : Rat} (hx : Grid x) : round32 x = x :=
  Rat.le_antisymm (round32_le_grid hx Rat.le_refl) (grid_le_round32 hx Rat.le_refl)

end Wee.F32

/-! ## Compiled fast paths (`@[csimp]`)

Nothing below changes a definition: each `@[csimp]` theorem proves that a model function is EQUAL to
a faster implementation, and only the code generator uses it (the kernel, `decide` and every proof
keep seeing the definitions above).

`round32 (N / D)` is computed on the integers `N`, `D` (not necessarily coprime): `ilog2` by
comparing shifted integers, `rne` by one integer division, the result `m · 2^u` assembled without a
gcd.  `mul`, `add`, `sub`, `div`, `ofInt` feed it the un-normalised numerator and denominator, so
no `Rat` arithmetic (two gcds per operation, each through GMP) is executed at all. -/
namespace Wee.F32.Fast
open Wee.F32

/-- powers of two below `2^128`, computed once (`Nat.pow` and `Nat.shiftLeft` go through GMP even for
small results; `Nat.mul` does not) -/
def twoPowTab : Array Nat := (Array.range 128).map (2 ^ ·)

@[inline] def twoPow (k : Nat) : Nat := if h : k < twoPowTab.size then twoPowTab[k] else 2 ^ k

theorem twoPow_eq (k : Nat) : twoPow k = 2 ^ k := by
  unfold twoPow
  split
  · simp [twoPowTab]
  · rfl

/-- `n <<< k` by a multiplication -/
@[inline] def shl (n k : Nat) : Nat := n * twoPow k

theorem shl_eq (n k : Nat) : shl n k = n <<< k := by
  rw [shl, twoPow_eq, Nat.shiftLeft_eq]

/-- `m / 2^k` in lowest terms without a gcd -/
def mkDyadic : Nat → Nat → Rat
  | m, 0 => (m : Rat)
  | m, k+1 =>
    if h : m % 2 = 0 then mkDyadic (m / 2) k
    else ⟨(m : Int), twoPow (k+1), by rw [twoPow_eq]; exact Nat.ne_of_gt (Nat.pow_pos (by decide)), by
      show Nat.Coprime m (twoPow (k+1))
      rw [twoPow_eq]
      apply Nat.Coprime.pow_right
      unfold Nat.Coprime
      rw [Nat.gcd_comm, Nat.gcd_rec]
      have : m % 2 = 1 := by omega
      rw [this]; decide⟩

theorem mkDyadic_eq (m k : Nat) : mkDyadic m k = (m : Rat) / ((2 ^ k : Nat) : Rat) := by
  induction k generalizing m with
  | zero => simp [mkDyadic]; grind
  | succ k ih =>
    unfold mkDyadic
    split
    · rename_i h
      rw [ih]
      have hm : m = 2 * (m / 2) := by omega
      have hp : (0 : Rat) < ((2 ^ k : Nat) : Rat) := Rat.natCast_pos.2 (Nat.pow_pos (by decide))
      conv => rhs; rw [hm]
      rw [Nat.pow_succ, Rat.natCast_mul, Rat.natCast_mul]
      generalize ((2 ^ k : Nat) : Rat) = P at *
      generalize ((m / 2 : Nat) : Rat) = M
      have : ((2 : Nat) : Rat) = 2 := by simp
      rw [this]
      grind
    · rw [Rat.mk_eq_divInt, Rat.divInt_eq_div, Rat.intCast_natCast, Rat.intCast_natCast, twoPow_eq]

/-- `rne (N / D)` on naturals -/
@[inline] def rneND (N D : Nat) : Nat :=
  let f := N / D
  let r := N % D
  if 2 * r < D then f else if 2 * r > D then f + 1 else if f % 2 = 0 then f else f + 1

theorem rne_eq_rneND {x : Rat} {N D : Nat} (hD : 0 < D) (hx : x * (D : Rat) = (N : Rat)) :
    rne x = (rneND N D : Int) := by
  have hDq : (0 : Rat) < (D : Rat) := Rat.natCast_pos.2 hD
  have hdm : D * (N / D) + N % D = N := Nat.div_add_mod N D
  have hr : N % D < D := Nat.mod_lt _ hD
  generalize hf : N / D = f at *
  generalize hrr : N % D = r at *
  have hN : (N : Rat) = (D : Rat) * (f : Rat) + (r : Rat) := by
    rw [← hdm, Rat.natCast_add, Rat.natCast_mul]
  have hrq : (r : Rat) < (D : Rat) := Rat.natCast_lt_natCast.2 hr
  have hr0 : (0 : Rat) ≤ (r : Rat) := Rat.natCast_nonneg
  have hfl : x.floor = (f : Int) := by
    have h1 : ((f : Int) : Rat) ≤ x := by
      apply Rat.le_of_mul_le_mul_right (c := (D : Rat)) _ hDq
      rw [hx, hN, Rat.intCast_natCast]; grind
    have h2 : x < (((f : Int) + 1 : Int) : Rat) := by
      apply Rat.lt_of_mul_lt_mul_right (c := (D : Rat)) _ (Rat.le_of_lt hDq)
      rw [hx, hN, Rat.intCast_add, Rat.intCast_natCast]; grind
    have a := Rat.le_floor_iff.2 h1
    have b := Rat.floor_lt_iff.2 h2
    omega
  have hfrac : (x - ((f : Int) : Rat)) * (D : Rat) = (r : Rat) := by
    rw [Rat.intCast_natCast]; grind
  unfold rne rneND
  simp only [hfl, hf, hrr]
  generalize x - ((f : Int) : Rat) = y at hfrac
  have h2r : ((2 * r : Nat) : Rat) = 2 * (r : Rat) := by rw [Rat.natCast_mul]; simp
  have key1 : y < 1/2 ↔ 2 * r < D := by
    rw [← Rat.natCast_lt_natCast, h2r, ← hfrac]
    constructor
    · intro h; have := Rat.mul_lt_mul_of_pos_right h hDq; grind
    · intro h; apply Rat.lt_of_mul_lt_mul_right (c := (D : Rat)) _ (Rat.le_of_lt hDq); grind
  have key2 : y > 1/2 ↔ 2 * r > D := by
    show 1/2 < y ↔ D < 2 * r
    rw [← Rat.natCast_lt_natCast, h2r, ← hfrac]
    constructor
    · intro h; have := Rat.mul_lt_mul_of_pos_right h hDq; grind
    · intro h; apply Rat.lt_of_mul_lt_mul_right (c := (D : Rat)) _ (Rat.le_of_lt hDq); grind
  simp only [key1, key2]
  split
  · rfl
  · split
    · simp
    · have : ((f : Int) % 2 = 0) ↔ (f % 2 = 0) := by omega
      simp only [this]
      split <;> simp


theorem rneND_mul_right (N D c : Nat) (hc : 0 < c) : rneND (N * c) (D * c) = rneND N D := by
  unfold rneND
  simp only [Nat.mul_div_mul_right _ _ hc, Nat.mul_mod_mul_right]
  have e1 : (2 * (N % D * c) < D * c) ↔ (2 * (N % D) < D) := by
    rw [← Nat.mul_assoc]; exact Nat.mul_lt_mul_right hc
  have e2 : (2 * (N % D * c) > D * c) ↔ (2 * (N % D) > D) := by
    show D * c < 2 * (N % D * c) ↔ D < 2 * (N % D)
    rw [← Nat.mul_assoc]; exact Nat.mul_lt_mul_right hc
  simp only [e1, e2]

/-- `n / d < 2^k` on integers -/
@[inline] def ltPow2 (n d : Nat) (k : Int) : Bool :=
  if k ≥ 0 then n < shl d k.toNat else shl n (-k).toNat < d

/-- `pow2 k` as a quotient of naturals -/
theorem pow2_split (k : Int) :
    pow2 k * (((if k ≥ 0 then 1 else 2 ^ (-k).toNat : Nat)) : Rat) = (((if k ≥ 0 then 2 ^ k.toNat else 1 : Nat)) : Rat) := by
  by_cases h : k ≥ 0
  · simp only [h, if_true]; unfold pow2; simp [h]
  · simp only [h, if_false]
    have := pow2_add_nat k (-k).toNat
    rw [show k + ((-k).toNat : Int) = ((0 : Nat) : Int) by omega, pow2_nat] at this
    rw [Rat.mul_comm, ← this]

theorem lt_pow2_iff {q : Rat} {n d : Nat} (hd0 : 0 < d) (hqd : q * (d : Rat) = (n : Rat)) (k : Int) :
    decide (q < pow2 k) = ltPow2 n d k := by
  have hs := pow2_split k
  have hd : (0 : Rat) < (d : Rat) := Rat.natCast_pos.2 hd0
  unfold ltPow2
  simp only [shl_eq]
  by_cases h : k ≥ 0
  · simp only [h, if_true] at hs ⊢
    rw [show ((1 : Nat) : Rat) = 1 by simp, Rat.mul_one] at hs
    rw [Nat.shiftLeft_eq, hs]
    apply decide_eq_decide.2
    rw [← Rat.natCast_lt_natCast (a := n), Rat.natCast_mul, ← hqd]
    constructor
    · intro h1; rw [Rat.mul_comm (d : Rat)]; exact Rat.mul_lt_mul_of_pos_right h1 hd
    · intro h1; rw [Rat.mul_comm (d : Rat)] at h1; exact Rat.lt_of_mul_lt_mul_right h1 (Rat.le_of_lt hd)
  · simp only [h, if_false] at hs ⊢
    rw [show ((1 : Nat) : Rat) = 1 by simp] at hs
    rw [Nat.shiftLeft_eq]
    apply decide_eq_decide.2
    have hp : (0 : Rat) < ((2 ^ (-k).toNat : Nat) : Rat) := Rat.natCast_pos.2 (Nat.pow_pos (by decide))
    rw [← Rat.natCast_lt_natCast (a := n * 2 ^ (-k).toNat), Rat.natCast_mul, ← hqd]
    generalize ((2 ^ (-k).toNat : Nat) : Rat) = P at *
    generalize pow2 k = Q at *
    constructor
    · intro h1
      have a1 := Rat.mul_lt_mul_of_pos_right h1 hd
      have a2 := Rat.mul_lt_mul_of_pos_right a1 hp
      have e : Q * (d : Rat) * P = (d : Rat) := by
        rw [Rat.mul_assoc, Rat.mul_comm (d : Rat), ← Rat.mul_assoc, hs, Rat.one_mul]
      rwa [e] at a2
    · intro h1
      apply Rat.lt_of_mul_lt_mul_right (c := (d : Rat) * P) _ (Rat.le_of_lt (Rat.mul_pos hd hp))
      have e : Q * ((d : Rat) * P) = (d : Rat) := by
        rw [Rat.mul_comm (d : Rat), ← Rat.mul_assoc, hs, Rat.one_mul]
      rw [e, ← Rat.mul_assoc]; exact h1

/-- `ilog2 (n / d)` on integers (`n`, `d` need not be coprime) -/
def ilog2ND (n d : Nat) : Int :=
  let e : Int := (Nat.log2 n : Int) - (Nat.log2 d : Int)
  if ltPow2 n d e then e - 1 else if ltPow2 n d (e + 1) then e else e + 1

/-- `ilog2_spec` for a quotient that is not in lowest terms -/
theorem ilog2ND_spec {q : Rat} {n d : Nat} (hq : 0 < q) (hd0 : 0 < d) (hqd : q * (d : Rat) = (n : Rat)) :
    pow2 (ilog2ND n d) ≤ q ∧ q < pow2 (ilog2ND n d + 1) := by
  have key0 : ∀ k, ltPow2 n d k = decide (q < pow2 k) := fun k => (lt_pow2_iff hd0 hqd k).symm
  unfold ilog2ND
  simp only [key0, decide_eq_true_eq]
  exact bracket_adjust (log2_bracket hq hd0 hqd)

theorem ilog2_unique {q : Rat} {e1 e2 : Int} (h1 : pow2 e1 ≤ q ∧ q < pow2 (e1 + 1))
    (h2 : pow2 e2 ≤ q ∧ q < pow2 (e2 + 1)) : e1 = e2 := by
  have a : e1 < e2 + 1 := lt_of_pow2_lt (by grind)
  have b : e2 < e1 + 1 := lt_of_pow2_lt (by grind)
  omega

theorem ilog2_eq_ilog2ND {q : Rat} {n d : Nat} (hq : 0 < q) (hd0 : 0 < d) (hqd : q * (d : Rat) = (n : Rat)) :
    ilog2 q = ilog2ND n d :=
  ilog2_unique (ilog2_spec hq) (ilog2ND_spec hq hd0 hqd)

/-- `roundPos (n / d)` on integers (`n`, `d` need not be coprime) -/
def roundPosND (n d : Nat) : Rat :=
  let e := ilog2ND n d
  let e' := if e < -126 then -126 else e
  let u := e' - 23
  if u ≥ 0 then
    ((shl (rneND n (shl d u.toNat)) u.toNat : Nat) : Rat)
  else
    let s := (-u).toNat
    -- cancel the power of two common to `n · 2^s` and `d` (all of `2^s` when `d` is a power of two)
    let g := min s (Nat.log2 d)
    let d' := d >>> g
    if shl d' g = d then mkDyadic (rneND (shl n (s - g)) d') s
    else mkDyadic (rneND (shl n s) d) s

theorem roundPos_eq_roundPosND {q : Rat} {n d : Nat} (hq : 0 < q) (hd : 0 < d) (hqd : q * (d : Rat) = (n : Rat)) :
    roundPos q = roundPosND n d := by
  unfold roundPos roundPosND
  simp only [ilog2_eq_ilog2ND hq hd hqd, shl_eq]
  generalize (if ilog2ND n d < -126 then -126 else ilog2ND n d) - 23 = u
  have hcancel : (if (d >>> min (-u).toNat d.log2) <<< min (-u).toNat d.log2 = d then
        mkDyadic (rneND (n <<< ((-u).toNat - min (-u).toNat d.log2)) (d >>> min (-u).toNat d.log2)) (-u).toNat
      else mkDyadic (rneND (n <<< (-u).toNat) d) (-u).toNat) = mkDyadic (rneND (n <<< (-u).toNat) d) (-u).toNat := by
    split
    · rename_i hg
      generalize hgg : min (-u).toNat d.log2 = g at hg
      have hgs : g ≤ (-u).toNat := by omega
      congr 1
      conv => rhs; rw [← hg]
      rw [Nat.shiftLeft_eq, Nat.shiftLeft_eq, Nat.shiftLeft_eq]
      conv => rhs; rw [show (-u).toNat = ((-u).toNat - g) + g by omega, Nat.pow_add, ← Nat.mul_assoc]
      rw [rneND_mul_right _ _ _ (Nat.pow_pos (by decide))]
    · rfl
  simp only [hcancel]
  have hs := pow2_split u
  by_cases h : u ≥ 0
  · simp only [h, if_true] at hs ⊢
    rw [show ((1 : Nat) : Rat) = 1 by simp, Rat.mul_one] at hs
    have hp : (0 : Rat) < ((2 ^ u.toNat : Nat) : Rat) := Rat.natCast_pos.2 (Nat.pow_pos (by decide))
    rw [hs, Nat.shiftLeft_eq, Nat.shiftLeft_eq]
    have hx : q / ((2 ^ u.toNat : Nat) : Rat) * ((d * 2 ^ u.toNat : Nat) : Rat) = (n : Rat) := by
      rw [Rat.natCast_mul, ← hqd]
      generalize ((2 ^ u.toNat : Nat) : Rat) = P at *
      rw [Rat.mul_comm (d : Rat), ← Rat.mul_assoc, Rat.div_mul_cancel (by grind)]
    rw [rne_eq_rneND (Nat.mul_pos hd (Nat.pow_pos (by decide))) hx, Rat.intCast_natCast, Rat.natCast_mul]
  · simp only [h, if_false] at hs ⊢
    rw [show ((1 : Nat) : Rat) = 1 by simp] at hs
    have hp : (0 : Rat) < ((2 ^ (-u).toNat : Nat) : Rat) := Rat.natCast_pos.2 (Nat.pow_pos (by decide))
    rw [Nat.shiftLeft_eq, mkDyadic_eq]
    have hx : q / pow2 u * (d : Rat) = ((n * 2 ^ (-u).toNat : Nat) : Rat) := by
      rw [Rat.natCast_mul, ← hqd]
      generalize ((2 ^ (-u).toNat : Nat) : Rat) = P at *
      generalize pow2 u = Q at *
      have hQ : Q⁻¹ = P := Rat.inv_eq_of_mul_eq_one hs
      rw [Rat.div_def, hQ]; grind
    rw [rne_eq_rneND hd hx, Rat.intCast_natCast]
    generalize ((2 ^ (-u).toNat : Nat) : Rat) = P at *
    generalize pow2 u = Q at *
    have hP : P⁻¹ = Q := Rat.inv_eq_of_mul_eq_one (by rw [Rat.mul_comm]; exact hs)
    rw [Rat.div_def, hP]

/-- `round32 (N / D)` on integers: exit for the exactly representable integers, integer arithmetic
(no `Rat` operation, no gcd) otherwise -/
def roundDiv (N : Int) (D : Nat) : Rat :=
  if D = 1 ∧ N.natAbs < 16777216 then (N : Rat)
  else if N = 0 then 0 else if N < 0 then - roundPosND (-N).toNat D else roundPosND N.toNat D

/-- `round32` of any quotient `N / D`, given as `q · D = N` -/
theorem round32_of_mul_eq {q : Rat} {N : Int} {D : Nat} (hD : 0 < D) (hqd : q * (D : Rat) = (N : Rat)) :
    round32 q = roundDiv N D := by
  have hDq : (0 : Rat) < (D : Rat) := Rat.natCast_pos.2 hD
  unfold roundDiv
  split
  · rename_i h
    rw [h.1, show ((1 : Nat) : Rat) = 1 by simp, Rat.mul_one] at hqd
    rw [hqd]; exact round32_grid (.intCast h.2)
  · unfold round32
    by_cases h0 : N = 0
    · subst h0
      have : q = 0 := by
        rcases Rat.mul_eq_zero.1 (hqd.trans Rat.intCast_zero) with h | h
        · exact h
        · grind
      simp [this]
    · by_cases hneg : N < 0
      · have hN : (N : Rat) < 0 := by
          have := Rat.intCast_lt_intCast.2 hneg; simpa using this
        have hq0 : q < 0 := by
          apply Decidable.byContradiction; intro hc
          have := Rat.mul_nonneg (Rat.not_lt.1 hc) (Rat.le_of_lt hDq)
          grind
        have hq0' : ¬ q = 0 := by grind
        simp only [h0, hneg, hq0, hq0', if_true, if_false]
        congr 1
        apply roundPos_eq_roundPosND (by grind) hD
        rw [Rat.neg_mul, hqd, ← Rat.intCast_neg, ← Rat.intCast_natCast]
        congr 1; omega
      · have hpos : 0 < N := by omega
        have hN : (0 : Rat) < (N : Rat) := by
          have := Rat.intCast_lt_intCast.2 hpos; simpa using this
        have hq0 : 0 < q := by
          apply Decidable.byContradiction; intro hc
          have hc' : q ≤ 0 := Rat.not_lt.1 hc
          have : q * (D : Rat) ≤ 0 := by
            have := Rat.mul_le_mul_of_nonneg_right hc' (Rat.le_of_lt hDq)
            simpa using this
          grind
        have hq1 : ¬ q < 0 := by grind
        have hq2 : ¬ q = 0 := by grind
        simp only [h0, hneg, hq1, hq2, if_false]
        apply roundPos_eq_roundPosND hq0 hD
        rw [hqd, ← Rat.intCast_natCast]
        congr 1; omega

def round32Fast (q : Rat) : Rat := roundDiv q.num q.den

@[csimp] theorem round32_eq_round32Fast : @round32 = @round32Fast := by
  funext q
  exact round32_of_mul_eq q.den_pos (mul_den q)


/-! ### the operations: numerators and denominators are combined without normalising -/

def mulFast (a b : Rat) : Rat := roundDiv (a.num * b.num) (a.den * b.den)

@[csimp] theorem mul_eq_mulFast : @mul = @mulFast := by
  funext a b
  refine round32_of_mul_eq (Nat.mul_pos a.den_pos b.den_pos) ?_
  rw [Rat.natCast_mul, Rat.intCast_mul, ← mul_den a, ← mul_den b]; grind

def addFast (a b : Rat) : Rat := roundDiv (a.num * b.den + b.num * a.den) (a.den * b.den)

@[csimp] theorem add_eq_addFast : @add = @addFast := by
  funext a b
  refine round32_of_mul_eq (Nat.mul_pos a.den_pos b.den_pos) ?_
  rw [Rat.natCast_mul, Rat.intCast_add, Rat.intCast_mul, Rat.intCast_mul, Rat.intCast_natCast, Rat.intCast_natCast,
    ← mul_den a, ← mul_den b]; grind

def subFast (a b : Rat) : Rat := roundDiv (a.num * b.den - b.num * a.den) (a.den * b.den)

@[csimp] theorem sub_eq_subFast : @sub = @subFast := by
  funext a b
  refine round32_of_mul_eq (Nat.mul_pos a.den_pos b.den_pos) ?_
  rw [Rat.natCast_mul, Rat.intCast_sub, Rat.intCast_mul, Rat.intCast_mul, Rat.intCast_natCast, Rat.intCast_natCast,
    ← mul_den a, ← mul_den b]; grind

def divFast (a b : Rat) : Rat :=
  if b.num = 0 then 0
  else if b.num < 0 then roundDiv (-(a.num * b.den)) (a.den * (-b.num).toNat)
  else roundDiv (a.num * b.den) (a.den * b.num.toNat)

@[csimp] theorem div_eq_divFast : @div = @divFast := by
  funext a b
  unfold div divFast
  have hb := mul_den b
  by_cases h0 : b.num = 0
  · have db : (0 : Rat) < (b.den : Rat) := Rat.natCast_pos.2 b.den_pos
    have : b = 0 := by rw [h0] at hb; simp at hb; grind
    simp [this, Rat.div_def, round32]
  · have hbne : b ≠ 0 := fun h => h0 (by rw [h]; rfl)
    have key : a / b * ((a.den : Rat) * (b.num : Rat)) = (a.num : Rat) * (b.den : Rat) := by
      rw [← mul_den a, ← hb, Rat.div_def]
      have := Rat.inv_mul_cancel b hbne
      grind
    simp only [h0, if_false]
    by_cases hneg : b.num < 0
    · simp only [hneg, if_true]
      refine round32_of_mul_eq (Nat.mul_pos a.den_pos (by omega)) ?_
      have e : (((-b.num).toNat : Nat) : Rat) = - (b.num : Rat) := by
        rw [← Rat.intCast_natCast, ← Rat.intCast_neg]; congr 1; omega
      rw [Rat.natCast_mul, e, Rat.intCast_neg, Rat.intCast_mul, Rat.intCast_natCast, Rat.mul_neg, Rat.mul_neg, key]
    · simp only [hneg, if_false]
      refine round32_of_mul_eq (Nat.mul_pos a.den_pos (by omega)) ?_
      have e : ((b.num.toNat : Nat) : Rat) = (b.num : Rat) := by
        rw [← Rat.intCast_natCast]; congr 1; omega
      rw [Rat.natCast_mul, e, Rat.intCast_mul, Rat.intCast_natCast, key]

def ofIntFast (i : Int) : Rat := roundDiv i 1

@[csimp] theorem ofInt_eq_ofIntFast : @ofInt = @ofIntFast := by
  funext i
  exact round32_of_mul_eq (by decide) (by simp)

end Wee.F32.Fast
