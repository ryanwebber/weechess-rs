import Wee.Model.Search
/-!
# One search worker inside an environment (interleaving semantics of the shared transposition table)

Rust: `searcher.rs`.  The workers of one iteration of `analyze_iterative` (`into_par_iter`) share exactly one
mutable object, the `TranspositionTableAccess`; every access goes through `TranspositionTableAccess::{find, insert}`,
which take ONE `RwLock` guard of ONE sub-table for the whole operation.  Everything else a worker touches is its own
(`rng`, `nodes_searched`, `move_buffer`) or read-only (`hasher`, `state_history`, the cancellation flag).  A concurrent
run of `N` workers is therefore an interleaving of atomic table operations.

`Wee/Model/Search.lean` runs the workers one after the other (`runWorkers`) — one admissible schedule.  This file is the
same worker code (`searchNodeE`, `childLoopE`: a transcription of `searchNode`, `childLoop` in which the three table
accesses are replaced by `findE` / `insertE`) placed in an *environment*: before each of the worker's own table
operations the environment applies a finite list of foreign inserts (those the other workers performed since this
worker's previous table operation; foreign `find`s do not change the table).  The worker's own operations are logged,
finds with their results.

* `ME` is the worker monad: `ops so far → St → (outcome, St, operations appended)`.  The log is append-only by
  construction and the number of own operations so far is read-only, so that "the `k`-th own operation sees batch `k` of
  the environment" cannot be disturbed by the worker code.
* `searchNodeE Env.empty` is `searchNode` (theorem `searchNodeE_empty` in `Wee/Proofs/EnvCore.lean`), which keeps
  the tie to the executable model that is compared event by event with the real engine.
* `Interleaving` says when a global history (a list of `(worker, operation)` in the order in which the operations held
  their lock) is an execution of `N` workers: projected on each worker it is the log of that worker run in the
  environment that the history induces for it (`envOf`).  The sequential schedule of `runWorkers` is one such history
  (`sequentialHistory`; theorem `sequential_interleaving`).
* `finishStep` / `joinOf` / `StepS` / `LoopS` / `SearchS`: `analyze_iterative` with every iteration's workers raced under
  an arbitrary interleaving — a relation, of which the executable `iterate` is one outcome (`iterate_searchS`).
-/
namespace Wee.Search
open Wee

/-- one atomic operation on the shared table, as logged by the worker that performs it (`find` with its result) -/
inductive TOp
  | find (k : Nat) (r : Option TT.Entry)
  | insert (k : Nat) (e : TT.Entry)
deriving DecidableEq, Repr

/-- the environment of one worker: `script k` are the foreign inserts (key, entry), oldest first, that take effect
between this worker's `(k-1)`-th and `k`-th own table operation -/
structure Env where
  script : Nat → List (Nat × TT.Entry)

/-- nobody else writes -/
def Env.empty : Env := ⟨fun _ => []⟩

/-- batches given as a list; nothing after its end -/
def Env.ofList (bs : List (List (Nat × TT.Entry))) : Env := ⟨fun k => bs.getD k []⟩

/-- the environment that behaves like `env` for the first `n` batches and is silent afterwards -/
def Env.upTo (env : Env) (n : Nat) : Env := ⟨fun k => if k < n then env.script k else []⟩

/-- apply a batch of foreign inserts, oldest first -/
def applyInserts (tt : TT.Access) (b : List (Nat × TT.Entry)) : TT.Access :=
  b.foldl (fun t p => t.insert p.1 p.2) tt

/-- the worker monad: number of own table operations so far (read-only) → worker state → (outcome, worker state,
own table operations performed, oldest first).  As in `M`, the state survives an interrupt or a panic. -/
abbrev ME (α : Type) : Type := Nat → St → Except Stop α × St × List TOp

namespace ME

@[inline] protected def pure {α : Type} (a : α) : ME α := fun _ st => (.ok a, st, [])

@[inline] protected def bind {α β : Type} (x : ME α) (f : α → ME β) : ME β := fun n st =>
  match x n st with
  | (.ok a, st', l1) =>
    match f a (n + l1.length) st' with
    | (r, st'', l2) => (r, st'', l1 ++ l2)
  | (.error e, st', l1) => (.error e, st', l1)

instance : Monad ME where
  pure := ME.pure
  bind := ME.bind

instance : MonadStateOf St ME where
  get := fun _ st => (.ok st, st, [])
  set s := fun _ _ => (.ok ⟨⟩, s, [])
  modifyGet f := fun _ st => match f st with | (a, s) => (.ok a, s, [])

instance : MonadExceptOf Stop ME where
  throw e := fun _ st => (.error e, st, [])
  tryCatch x h := fun n st =>
    match x n st with
    | (.error e, st', l1) =>
      match h e (n + l1.length) st' with
      | (r, st'', l2) => (r, st'', l1 ++ l2)
    | out => out

end ME

/-- a computation of the sequential model that does not touch the table, run inside the worker -/
def liftE {α : Type} (x : M α) : ME α := fun _ st =>
  match x.run.run st with
  | (r, st') => (r, st', [])

/-- `TranspositionTableAccess::find` by a worker with `n` earlier table operations: first the foreign inserts of
batch `n` take effect, then the lookup happens (one lock section), its result is logged -/
def findE (env : Env) (k : Nat) : ME (Option TT.Entry) := fun n st =>
  let tt := applyInserts st.tt (env.script n)
  (.ok (tt.find k), { st with tt := tt }, [.find k (tt.find k)])

/-- `TranspositionTableAccess::insert` by a worker with `n` earlier table operations -/
def insertE (env : Env) (k : Nat) (e : TT.Entry) : ME Unit := fun n st =>
  let tt := applyInserts st.tt (env.script n)
  (.ok ⟨⟩, { st with tt := tt.insert k e }, [.insert k e])

/-- `childLoop` with the cut-off store going through `insertE` -/
def childLoopE (env : Env) (ctx : Ctx) (child : NodeArgs → ME Eval) (a : NodeArgs) (hash : UInt64) :
    List Move → Eval → Option Move → Nat → ME (Except Eval (Eval × Option Move × Nat))
  | [], alpha, best, kind => pure (.ok (alpha, best, kind))
  | mv :: rest, alpha, best, kind => do
    match tryAsLegal a.s mv with
    | Option.none => throw (.panic "try_as_legal_move: by_performing_move(..).unwrap()")
    | some Option.none => childLoopE env ctx child a hash rest alpha best kind
    | some (some (m, next)) =>
      let ext := if a.curExt < Gen.extensionCap then extensionOf a.s else 0
      let v ← child { s := next, maxDepth := a.maxDepth + ext, curDepth := a.curDepth + 1 + ext,
                      curExt := a.curExt + ext, alpha := -a.beta, beta := -alpha, prioritized := Option.none }
      let ev := -v
      if ev ≥ a.beta then
        let e : TT.Entry := { kind := kindLower, mv := m.toNat, depth := a.curDepth, maxDepth := a.maxDepth, eval := a.beta }
        insertE env hash.toNat e
        pure (.error a.beta)
      else if ev > alpha then childLoopE env ctx child a hash rest ev (some m) kindExact
      else childLoopE env ctx child a hash rest alpha best kind

/-- `searchNode` with the probe going through `findE` and the final store through `insertE`; the move ordering
(`sortByCachedKey` with `jitter`) only touches the worker's own generator and is taken over unchanged -/
def searchNodeE (env : Env) (ctx : Ctx) : Nat → NodeArgs → ME Eval
  | rem, a => do
    modify fun st => { st with nodes := st.nodes + 1 }
    let st ← get
    if st.nodes % Gen.pollInterval == 0 then
      let cancelled := match ctx.cancelAt with | some k => decide (st.polls ≥ k) | Option.none => false
      set { st with polls := st.polls + 1 }
      if cancelled then throw .interrupt
    let hash := Wee.hash ctx.keys a.s
    if a.curDepth > 0 && ctx.history.contains hash then return 0
    let mut alpha := a.alpha
    let mut beta := a.beta
    match ← findE env hash.toNat with
    | some e =>
      if a.maxDepth < a.curDepth ∨ e.maxDepth < e.depth then throw (.panic "usize subtraction underflow")
      if e.maxDepth - e.depth ≥ a.maxDepth - a.curDepth then
        if e.kind == kindExact then return e.eval
        else if e.kind == kindUpper then beta := min beta e.eval
        else alpha := max alpha e.eval
        if alpha ≥ beta then return e.eval
    | Option.none => pure ()
    match rem with
    | 0 =>
      match quiesce evaluate (quiesceFuel a.s) a.s a.curDepth alpha beta with
      | .ok v => return v
      | .error e => throw e
    | rem' + 1 =>
      match pseudoLegalMoves a.s with
      | Option.none => throw (.panic "move generation: Square::offset(..).unwrap()")
      | some pseudo =>
        let sorted ← liftE (sortByCachedKey pseudo fun mv => do
          let j ← jitter
          pure (estimate a.s mv + j))
        let buffer := match a.prioritized with | some m => sorted ++ [m] | Option.none => sorted
        let before := (← get).nodes
        let a' := { a with alpha := alpha, beta := beta }
        match ← childLoopE env ctx (searchNodeE env ctx rem') a' hash buffer.reverse alpha Option.none kindUpper with
        | .error b => return b
        | .ok (alpha', best, kind) =>
          if (← get).nodes == before then
            match evaluate a.s a.s.turn a.curDepth with
            | some e => return e
            | Option.none => throw (.panic "evaluate: no king")
          match best with
          | some m =>
            let e : TT.Entry := { kind := kind, mv := m.toNat, depth := a.curDepth, maxDepth := a.maxDepth, eval := alpha' }
            insertE env hash.toNat e
          | Option.none => pure ()
          return alpha'

/-! ## workers of one iteration and global histories -/

/-- what distinguishes the workers of one iteration: `search_depth`, the previous best move (worker 0 only), the
worker's generator, and the number of polls of the cancellation flag that happened before its first poll (any value:
the flag may become visible to each worker at a different instant) -/
structure Worker where
  searchDepth : Nat
  best : Option Move
  rng : Rng.ChaCha8
  polls : Nat := 0

/-- worker `i` of iteration `depth` as `analyze_iterative` builds it -/
def Worker.ofIteration (depth : Nat) (bestMv : Option Move) (i : Nat) (seed : UInt64) (polls : Nat := 0) : Worker :=
  { searchDepth := (depth - i % 2) + 1, best := if i == 0 then bestMv else Option.none,
    rng := Rng.seedFromU64 seed, polls }

/-- one worker's run of one iteration in environment `env`, started on table `tt`:
(outcome, final worker state, log of its table operations) -/
def runWorkerE (env : Env) (ctx : Ctx) (root : State) (w : Worker) (tt : TT.Access) :
    Except Stop Eval × St × List TOp :=
  searchNodeE env ctx w.searchDepth
    { s := root, maxDepth := w.searchDepth, curDepth := 0, curExt := 0,
      alpha := - Ev.mateInPly 0, beta := Ev.mateInPly 0, prioritized := w.best }
    0 { tt, rng := w.rng, nodes := 0, polls := w.polls }

/-- a global history: `(worker index, operation)` in the order in which the operations held their lock -/
abbrev History := List (Nat × TOp)

/-- the operations of worker `i`, in order -/
def History.proj (H : History) (i : Nat) : List TOp := (H.filter fun p => p.1 == i).map (·.2)

/-- effect of one logged operation on the table -/
def TOp.apply (tt : TT.Access) : TOp → TT.Access
  | .find _ _ => tt
  | .insert k e => tt.insert k e

/-- the shared table after the history `H`, started from `tt` -/
def History.table (tt : TT.Access) (H : History) : TT.Access := H.foldl (fun t p => p.2.apply t) tt

/-- put one more insert in front of the first batch -/
def consHead (p : Nat × TT.Entry) : List (List (Nat × TT.Entry)) → List (List (Nat × TT.Entry))
  | b :: bs => (p :: b) :: bs
  | [] => [[p]]

/-- the foreign inserts worker `i` experiences, cut at its own operations: element `k` of the result is what the
other workers insert between `i`'s `(k-1)`-th and `k`-th operation; the last element is what they insert after `i`'s
last operation -/
def batchesOf (i : Nat) : History → List (List (Nat × TT.Entry))
  | [] => [[]]
  | (j, .find _ _) :: rest => if j == i then [] :: batchesOf i rest else batchesOf i rest
  | (j, .insert k e) :: rest => if j == i then [] :: batchesOf i rest else consHead (k, e) (batchesOf i rest)

/-- the environment the history `H` is for worker `i` -/
def envOf (H : History) (i : Nat) : Env := Env.ofList (batchesOf i H)

/-- **`H` is an execution of the workers `ws` on the shared table `tt`** (any schedule, any number of workers):
every operation belongs to one of the workers, and for each worker the operations it contributes to `H` are exactly —
same operations, same order, same results of `find` — the log of that worker run in the environment `H` induces for
it.  (Whether a worker ended normally, by the interrupt or by a panic is not restricted; a worker that rayon never
started is simply not in `ws`.) -/
def Interleaving (ctx : Ctx) (root : State) (tt : TT.Access) (ws : List Worker) (H : History) : Prop :=
  (∀ p ∈ H, p.1 < ws.length) ∧
  ∀ i (h : i < ws.length), (runWorkerE (envOf H i) ctx root ws[i] tt).2.2 = H.proj i

/-- outcome of worker `i` in the execution `H` -/
def outcomeOf (ctx : Ctx) (root : State) (tt : TT.Access) (w : Worker) (H : History) (i : Nat) : Except Stop Eval :=
  (runWorkerE (envOf H i) ctx root w tt).1

instance (ctx : Ctx) (root : State) (tt : TT.Access) (ws : List Worker) (H : History) :
    Decidable (Interleaving ctx root tt ws H) := by
  unfold Interleaving; infer_instance

/-- the sequential schedule: the logs of the workers one after the other, each started on the table the previous
ones left (this is what `runWorkers` executes, as long as no worker is interrupted) -/
def sequentialHistory (ctx : Ctx) (root : State) : TT.Access → Nat → List Worker → History
  | _, _, [] => []
  | tt, i, w :: rest =>
    let out := runWorkerE Env.empty ctx root w tt
    out.2.2.map (fun op => (i, op)) ++ sequentialHistory ctx root out.2.1.tt (i + 1) rest

/-! ## the whole search under arbitrary schedules -/

/-- what `analyze_iterative` does after the workers of iteration `depth` have been joined (`match results { Ok(..) => ..,
Err(SearchInterrupt) => .. }`): the text of `iterStep` after its call of `runWorkers`, with the joined results `w` and
the generator state after drawing the seeds as parameters (`iterStep_eq_finishStep`: `rfl`) -/
def finishStep (ctx : Ctx) (root : State) (rootHash : UInt64) (depth : Nat) (rng : Rng.ChaCha8) (w : WorkersOut)
    (st : IterSt) : IterSt :=
  match w.panic with
  | some why => { st with rng, panic := some why, finished := true }
  | Option.none =>
    if !w.interrupted then
      let nodes := st.nodes + w.sumNodes
      let bestEval := match w.evals with | [] => st.bestEval | e :: es => es.foldl max e
      let line := walkLine ctx.keys w.tt (depth + 1) root
      let events := st.events ++ [.progress (depth + 1) nodes]
      if line.isEmpty then
        { st with tt := w.tt, rng, polls := w.polls, nodes, bestEval, bestMv := Option.none, events }
      else
        { st with tt := w.tt, rng, polls := w.polls, nodes, bestEval, bestMv := line.head?
                  events := events ++ [.best bestEval line], finished := decide (bestEval ≥ Ev.posInf) }
    else
      let events := match w.tt.find rootHash.toNat with
        | some x =>
          if x.eval > st.bestEval then
            let line := walkLine ctx.keys w.tt (depth + 1) root
            if line.isEmpty then st.events else st.events ++ [.best x.eval line]
          else st.events
        | Option.none => st.events
      { st with tt := w.tt, rng, polls := w.polls, events, finished := true }

theorem iterStep_eq_finishStep (ctx : Ctx) (root : State) (rootHash : UInt64) (workers depth : Nat) (st : IterSt) :
    iterStep ctx root rootHash workers depth st =
      finishStep ctx root rootHash depth (drawSeeds workers st.rng).2
        (runWorkers ctx root depth st.bestMv ((List.range workers).zip (drawSeeds workers st.rng).1)
          { tt := st.tt, polls := st.polls, evals := [], sumNodes := 0 }) st := rfl

/-- the joined results of the workers `ws` in the execution `H` (rayon's `collect::<Result<Vec<_>, SearchInterrupt>>()`
after all started workers have ended): the shared table is the table after `H`; `Err` if some worker was interrupted;
otherwise the values and node counts in worker order; a panicking worker makes the whole search panic.  `polls` (the
number of polls of the flag so far, which the sequential model threads through the workers) is whatever it is. -/
def joinOf (ctx : Ctx) (root : State) (tt : TT.Access) (ws : List Worker) (H : History) (polls : Nat) : WorkersOut :=
  let outs := (List.range ws.length).filterMap fun i => ws[i]?.map fun w => runWorkerE (envOf H i) ctx root w tt
  { tt := History.table tt H
    polls := polls
    evals := outs.filterMap fun o => match o.1 with | .ok e => some e | _ => Option.none
    sumNodes := (outs.map fun o => o.2.1.nodes).sum
    interrupted := outs.any fun o => match o.1 with | .error .interrupt => true | _ => false
    panic := outs.findSome? fun o => match o.1 with | .error (.panic why) => some why | _ => Option.none }

/-- the workers `analyze_iterative` starts in iteration `depth` (`thread_data`), each with an arbitrary poll offset -/
def workersOfIteration (depth : Nat) (bestMv : Option Move) (seeds : List UInt64) (pollsOf : Nat → Nat) : List Worker :=
  ((List.range seeds.length).zip seeds).map fun p => Worker.ofIteration depth bestMv p.1 p.2 (pollsOf p.1)

/-- **one iteration under some schedule**: the seeds are drawn as in `analyze_iterative`; rayon starts the workers
`started` — all of them, unless one of the started ones is interrupted (`collect` into a `Result` may skip work that
has not begun once an `Err` has been seen) or panics —, they run concurrently in ANY interleaving `H` of their table operations
(any poll offsets), the results are joined and reported -/
def StepS (ctx : Ctx) (root : State) (rootHash : UInt64) (workers depth : Nat) (st st' : IterSt) : Prop :=
  ∃ (pollsOf : Nat → Nat) (started : List Worker) (H : History) (polls' : Nat),
    started.Sublist (workersOfIteration depth st.bestMv (drawSeeds workers st.rng).1 pollsOf) ∧
    ((joinOf ctx root st.tt started H polls').interrupted = false → (joinOf ctx root st.tt started H polls').panic = Option.none →
      started = workersOfIteration depth st.bestMv (drawSeeds workers st.rng).1 pollsOf) ∧
    Interleaving ctx root st.tt started H ∧
    st' = finishStep ctx root rootHash depth (drawSeeds workers st.rng).2 (joinOf ctx root st.tt started H polls') st

/-- the deepening loop (`for depth in 0..max_depth` with `break`), every iteration under some schedule.  The read of the
flag at the top of the loop body (`boundaryPoll`, since the repair of F11) happens at an arbitrary poll number `p` — as
for the workers, the flag may become visible to the search thread at any instant: `stopped` is the `break` at an
iteration boundary with `depth > 0` (`boundaryPoll` cannot finish at `depth = 0`), `step` is an iteration run because
the boundary read said "not cancelled" (or `depth = 0`). -/
inductive LoopS (ctx : Ctx) (root : State) (rootHash : UInt64) (workersOf : Nat → Nat) : Nat → Nat → IterSt → IterSt → Prop
  | done (depth : Nat) (st : IterSt) : LoopS ctx root rootHash workersOf 0 depth st st
  | finished (n depth : Nat) (st : IterSt) : st.finished = true → LoopS ctx root rootHash workersOf (n + 1) depth st st
  | stopped (n depth : Nat) (st : IterSt) (p : Nat) : st.finished = false →
      (boundaryPoll ctx depth { st with polls := p }).finished = true →
      LoopS ctx root rootHash workersOf (n + 1) depth st (boundaryPoll ctx depth { st with polls := p })
  | step (n depth : Nat) (st st1 st2 : IterSt) (p : Nat) : st.finished = false →
      (boundaryPoll ctx depth { st with polls := p }).finished = false →
      StepS ctx root rootHash (workersOf depth) depth (boundaryPoll ctx depth { st with polls := p }) st1 →
      LoopS ctx root rootHash workersOf n (depth + 1) st1 st2 → LoopS ctx root rootHash workersOf (n + 1) depth st st2

/-- **`analyze_iterative` under arbitrary schedules**: `out` is a possible outcome of the search (`iterate` is the
outcome for the sequential schedules) -/
def SearchS (root : State) (rng0 : Rng.ChaCha8) (maxDepth : Option Nat) (art : Artifact) (workersOf : Nat → Nat)
    (cancelAt : Option Nat) (fuelDepth : Nat) (out : Outcome) : Prop :=
  let keys := art.keys.keys
  let rootHash := Wee.hash keys root
  let history := rootHash :: art.history
  let ctx : Ctx := { keys, history, cancelAt }
  let limit := match maxDepth with | some d => d | Option.none => fuelDepth
  let limit := if (legalMoves root).isEmpty then 0 else limit
  ∃ st : IterSt,
    LoopS ctx root rootHash workersOf limit 0
      { tt := art.tt, rng := rng0, events := [], nodes := 0, bestEval := Ev.negInf, bestMv := Option.none, polls := 0 } st ∧
    out = { events := if st.panic.isNone && st.tt.entries * 2 > st.tt.maxEntries then st.events ++ [.warning] else st.events
            artifact := { keys := art.keys, tt := st.tt, history }, panic := st.panic }

end Wee.Search
