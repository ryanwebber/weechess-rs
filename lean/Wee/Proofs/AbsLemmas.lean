import Wee.Proofs.BitLemmas
import Wee.Proofs.RulesClosed
import Wee.Spec.Abs
/-!
# The mailbox abstraction read off the bitboards

`abs s` (`Wee/Spec/Abs.lean`) is `Board::piece_at` square by square.  What relates the two sides is here: `absKind` and
`toSpecMove` as equivalences; on a placement without stacked pieces (`C10.DisjointBoard`) a mailbox cell holds a piece
iff that piece's bitboard has the bit (`C10.pieceAt_iff`, `C10.absCell_iff`, `at_iff`), so the occupancy masks of the
generator are statements about cells; a placement seen as a function of the squares (`C02.Repr`), with the writes
`assign … false` / `assign … true` seen through it (`repr_clear`, `repr_set`; `get` after a write is in `Wee/Proofs/BitLemmas.lean`);
the occupied squares counted on both sides (`popcount_occ`); and, at the end, what `LegalPos` provides to the generator's
layers (`legal_abs`, `C02.oneKingEach_of_legal`, `legalPos_ep`, `legalPos_king`).

The inverse of `absKind` is called `SanP.kindPiece`: the SAN proofs use it most, and it keeps their namespace.
-/
namespace Wee.SanP

/-! ## `absKind` and its inverse; `toSpecMove` as an equivalence -/

/-- `Spec.Kind` → model `Piece` (inverse of `absKind`) -/
def kindPiece : Spec.Kind → Piece
  | .pawn => .pawn | .knight => .knight | .bishop => .bishop | .rook => .rook | .queen => .queen
  | .king => .king

end Wee.SanP

namespace Wee
open SanP (kindPiece)

theorem absKind_eq_some (p : Piece) (k : Spec.Kind) : absKind p = some k ↔ p = kindPiece k := by
  cases p <;> cases k <;> simp [absKind, kindPiece]

theorem absKind_kindPiece (k : Spec.Kind) : absKind (kindPiece k) = some k := by
  cases k <;> rfl

theorem kindPiece_inj {a b : Spec.Kind} (h : kindPiece a = kindPiece b) : a = b := by
  cases a <;> cases b <;> first | rfl | cases h

theorem toSpecMove_eq_some (m : Move) (sm : Spec.SMove) :
    toSpecMove m = some sm ↔
      Move.piece m = kindPiece sm.kind ∧
      sm = { color := absColor (Move.color m), kind := sm.kind, src := Move.origin m, dst := Move.dest m
             capture := (Move.capture m).bind absKind
             promo := (Move.promotion m).bind absKind
             ep := Move.isEnPassant m
             castle := (Move.castleSide m).map (fun s => s == .king)
             dbl := Move.isDoublePawn m } := by
  unfold toSpecMove
  cases h : absKind (Move.piece m) with
  | none =>
    simp only [Option.bind_eq_bind, Option.bind_none, reduceCtorEq, false_iff, not_and]
    intro h'; rw [h', absKind_kindPiece] at h; cases h
  | some k =>
    rw [absKind_eq_some] at h
    simp only [Option.bind_eq_bind, Option.bind_some, Option.pure_def, Option.some.injEq]
    constructor
    · rintro rfl; exact ⟨h, rfl⟩
    · rintro ⟨h1, h2⟩
      have : k = sm.kind := kindPiece_inj (h.symm.trans h1)
      subst this; exact h2.symm

theorem toSpecMove_fields {m : Move} {sm : Spec.SMove} (hsm : toSpecMove m = some sm) :
    Move.piece m = kindPiece sm.kind ∧ sm.src = Move.origin m ∧ sm.dst = Move.dest m ∧
    sm.promo = (Move.promotion m).bind absKind ∧ sm.capture = (Move.capture m).bind absKind ∧
    sm.castle = (Move.castleSide m).map (fun s => s == .king) := by
  obtain ⟨hpiece, hsmeq⟩ := (toSpecMove_eq_some m sm).1 hsm
  exact ⟨hpiece, congrArg Spec.SMove.src hsmeq, congrArg Spec.SMove.dst hsmeq,
    congrArg Spec.SMove.promo hsmeq, congrArg Spec.SMove.capture hsmeq, congrArg Spec.SMove.castle hsmeq⟩

end Wee

namespace Wee.C10

/-! ## occupancy, bit by bit -/

theorem test_colorOcc (m : PieceMap) (c : Color) (n : Nat) :
    test (m.colorOcc c) n = true ↔ ∃ p ∈ Piece.all, test (m.get c p) n = true := by
  unfold PieceMap.colorOcc
  rw [test_foldl_or]
  simp [test_zero]

theorem test_occ (m : PieceMap) (n : Nat) :
    test m.occ n = true ↔ ∃ c, ∃ p ∈ Piece.all, test (m.get c p) n = true := by
  unfold PieceMap.occ
  rw [test_or, Bool.or_eq_true, test_colorOcc, test_colorOcc]
  constructor
  · rintro (h | h)
    · exact ⟨.white, h⟩
    · exact ⟨.black, h⟩
  · rintro ⟨c, h⟩; cases c
    · exact .inl h
    · exact .inr h

/-! ## `piece_at` / `absCell` on a disjoint board -/

/-- the list `Board::piece_at` scans: `Color::ALL × Piece::ALL` -/
def allCP : List (Color × Piece) := Color.all.flatMap fun c => Piece.all.map fun p => (c, p)

theorem mem_allCP (c : Color) (p : Piece) : (c, p) ∈ allCP ↔ p ≠ Piece.none := by
  cases c <;> cases p <;> decide

theorem mem_pieceAll (p : Piece) : p ∈ Piece.all ↔ p ≠ Piece.none := by
  cases p <;> simp [Piece.all]

/-- the twelve piece bitboards are pairwise disjoint (no square holds two different pieces) -/
def DisjointBoard (m : PieceMap) : Prop :=
  ∀ x ∈ allCP, ∀ y ∈ allCP, x ≠ y → m.get x.1 x.2 &&& m.get y.1 y.2 = 0

instance (m : PieceMap) : Decidable (DisjointBoard m) := by unfold DisjointBoard; infer_instance

theorem DisjointBoard.unique {m : PieceMap} (h : DisjointBoard m) {c1 c2 : Color} {p1 p2 : Piece} {n : Nat}
    (h1 : test (m.get c1 p1) n = true) (h2 : test (m.get c2 p2) n = true) : c1 = c2 ∧ p1 = p2 := by
  have hp1 : p1 ≠ Piece.none := by rintro rfl; cases c1 <;> simp [PieceMap.get, test_zero] at h1
  have hp2 : p2 ≠ Piece.none := by rintro rfl; cases c2 <;> simp [PieceMap.get, test_zero] at h2
  apply Classical.byContradiction
  intro hne
  have := h (c1, p1) ((mem_allCP _ _).2 hp1) (c2, p2) ((mem_allCP _ _).2 hp2)
    (by intro e; cases e; exact hne ⟨rfl, rfl⟩)
  have ht : test (m.get c1 p1 &&& m.get c2 p2) n = true := by rw [test_and, h1, h2]; rfl
  simp only [] at this
  rw [this, test_zero] at ht; cases ht

theorem find?_unique {α : Type} (l : List α) (f : α → Bool) (x : α) (hx : x ∈ l) (hf : f x = true)
    (hu : ∀ y ∈ l, f y = true → y = x) : l.find? f = some x := by
  cases h : l.find? f with
  | none => exact absurd hf (by simpa using List.find?_eq_none.1 h x hx)
  | some y => rw [hu y (List.mem_of_find?_eq_some h) (List.find?_some h)]

theorem pieceAt_def (m : PieceMap) (sq : Nat) :
    m.pieceAt sq = allCP.find? fun x => test (m.get x.1 x.2) sq := rfl

/-- `piece_at` returns a piece only if its bitboard has the square -/
theorem pieceAt_some (m : PieceMap) (sq : Nat) (c : Color) (p : Piece) (h : m.pieceAt sq = some (c, p)) :
    p ≠ Piece.none ∧ test (m.get c p) sq = true := by
  rw [pieceAt_def] at h
  have h2 := List.find?_some h
  exact ⟨(mem_allCP c p).1 (List.mem_of_find?_eq_some h), h2⟩

/-- on a disjoint board `piece_at` finds exactly the piece whose bitboard has the square -/
theorem pieceAt_iff {m : PieceMap} (hd : DisjointBoard m) (sq : Nat) (c : Color) (p : Piece) :
    m.pieceAt sq = some (c, p) ↔ test (m.get c p) sq = true := by
  constructor
  · exact fun h => (pieceAt_some m sq c p h).2
  · intro h
    have hp : p ≠ Piece.none := by rintro rfl; cases c <;> simp [PieceMap.get, test_zero] at h
    rw [pieceAt_def]
    apply find?_unique _ _ _ ((mem_allCP c p).2 hp) h
    rintro ⟨c', p'⟩ _ h'
    obtain ⟨rfl, rfl⟩ := hd.unique h' h
    rfl

theorem pieceAt_none (m : PieceMap) (sq : Nat) :
    m.pieceAt sq = Option.none ↔ ∀ c p, test (m.get c p) sq = false := by
  rw [pieceAt_def, List.find?_eq_none]
  constructor
  · intro h c p
    by_cases hp : p = Piece.none
    · subst hp; cases c <;> simp [PieceMap.get, test_zero]
    · simpa using h (c, p) ((mem_allCP c p).2 hp)
  · rintro h ⟨c, p⟩ _; simp [h c p]

theorem absKind_some (p : Piece) (hp : p ≠ Piece.none) : ∃ k, absKind p = some k := by
  cases p <;> simp [absKind] at hp ⊢

theorem absKind_inj (p q : Piece) (k : Spec.Kind) (hp : absKind p = some k) (hq : absKind q = some k) : p = q :=
  ((absKind_eq_some p k).1 hp).trans ((absKind_eq_some q k).1 hq).symm

theorem absColor_inj (c d : Color) (h : absColor c = absColor d) : c = d := by
  cases c <;> cases d <;> simp [absColor] at h ⊢

theorem absColor_opp (c : Color) : absColor c.opp = (absColor c).opp := by cases c <;> rfl

/-- the mailbox cell of a disjoint board, read off the bitboards -/
theorem absCell_iff {m : PieceMap} (hd : DisjointBoard m) (sq : Nat) (c : Color) (k : Spec.Kind) :
    absCell m sq = some (absColor c, k) ↔ ∃ p, absKind p = some k ∧ test (m.get c p) sq = true := by
  unfold absCell
  constructor
  · intro h
    cases hpa : m.pieceAt sq with
    | none => rw [hpa] at h; cases h
    | some cp =>
      obtain ⟨c', p'⟩ := cp
      rw [hpa] at h
      simp only [Option.map_eq_some_iff] at h
      obtain ⟨k', hk', e⟩ := h
      have e1 : absColor c' = absColor c := congrArg Prod.fst e
      have e2 : k' = k := congrArg Prod.snd e
      have := absColor_inj _ _ e1
      subst this; subst e2
      exact ⟨p', hk', (pieceAt_some m sq c' p' hpa).2⟩
  · rintro ⟨p, hk, ht⟩
    rw [(pieceAt_iff hd sq c p).2 ht]
    simp [hk]

theorem absCell_eq_none_iff (m : PieceMap) (n : Nat) : absCell m n = Option.none ↔ m.pieceAt n = Option.none := by
  unfold absCell
  cases h : m.pieceAt n with
  | none => simp
  | some cp =>
    obtain ⟨c, p⟩ := cp
    obtain ⟨k, hk⟩ := absKind_some p (pieceAt_some m n c p h).1
    simp [hk]

theorem absCell_eq_some_iff {m : PieceMap} (hd : DisjointBoard m) (n : Nat) (c : Color) (p : Piece) (k : Spec.Kind)
    (hk : absKind p = some k) : absCell m n = some (absColor c, k) ↔ m.pieceAt n = some (c, p) := by
  rw [absCell_iff hd, pieceAt_iff hd]
  constructor
  · rintro ⟨p', hk', ht⟩
    rw [absKind_inj p p' k hk hk']; exact ht
  · intro ht; exact ⟨p, hk, ht⟩

/-- occupancy bitboard = "the mailbox cell is not empty" (any placement, any `n`) -/
theorem occ_abs (m : PieceMap) : (fun n => test m.occ n) = fun n => (absCell m n).isSome := by
  funext n
  unfold absCell
  cases hpa : m.pieceAt n with
  | none =>
    have h := (pieceAt_none m n).1 hpa
    cases ht : test m.occ n with
    | false => rfl
    | true =>
      obtain ⟨c, p, _, hp⟩ := (test_occ m n).1 ht
      rw [h c p] at hp; cases hp
  | some cp =>
    obtain ⟨c, p⟩ := cp
    obtain ⟨hp, ht⟩ := pieceAt_some m n c p hpa
    obtain ⟨k, hk⟩ := absKind_some p hp
    have : test m.occ n = true := (test_occ m n).2 ⟨c, p, (mem_pieceAll p).2 hp, ht⟩
    simp [this, hk]

theorem absKind_ne_none {p : Piece} {k : Spec.Kind} (h : absKind p = some k) : p ≠ Piece.none := by
  rintro rfl; cases h

/-- own squares: `colored_occupancy[c]` has `t` iff the mailbox cell holds a piece of colour `c` -/
theorem test_colorOcc_abs {m : PieceMap} (hd : DisjointBoard m) (c : Color) (t : Nat) :
    test (m.colorOcc c) t = true ↔ ∃ k, absCell m t = some (absColor c, k) := by
  rw [test_colorOcc]
  constructor
  · rintro ⟨p, hp, ht⟩
    obtain ⟨k, hk⟩ := absKind_some p ((mem_pieceAll p).1 hp)
    exact ⟨k, (absCell_iff hd t c k).2 ⟨p, hk, ht⟩⟩
  · rintro ⟨k, h⟩
    obtain ⟨p, hk, ht⟩ := (absCell_iff hd t c k).1 h
    exact ⟨p, (mem_pieceAll p).2 (absKind_ne_none hk), ht⟩

theorem absColor_opp_ne (c : Color) : absColor c.opp ≠ absColor c := by cases c <;> simp [absColor, Color.opp]

/-! ## the position `abs s` -/

theorem absCell_ge (m : PieceMap) (n : Nat) (h : 64 ≤ n) : absCell m n = Option.none := by
  unfold absCell
  rw [(pieceAt_none m n).2 (fun c p => test_ge _ n h)]

theorem abs_at (st : State) (n : Nat) : (abs st).at n = absCell st.pieces n := by
  unfold Spec.Pos.at abs
  by_cases h : n < 64
  · simp [h, Array.getD]
  · simp [h, absCell_ge st.pieces n (by omega)]

theorem abs_occupied (st : State) : (abs st).occupied = fun n => (absCell st.pieces n).isSome := by
  funext n; simp [Spec.Pos.occupied, abs_at]

end Wee.C10

namespace Wee.C02
open Wee.C10 (absCell_ge DisjointBoard allCP mem_allCP pieceAt_def pieceAt_iff pieceAt_none find?_unique)

theorem opp_ne (c : Color) : c.opp ≠ c := by cases c <;> simp [Color.opp]

/-! ## the mailbox view of a placement -/

/-- square `n` of `m` holds exactly `x` (no second piece on it) -/
def CellIs (m : PieceMap) (n : Nat) (x : Option (Color × Piece)) : Prop :=
  ∀ c p, test (m.get c p) n = true ↔ x = some (c, p)

/-- `f` is the mailbox of `m` -/
def Repr (m : PieceMap) (f : Nat → Option (Color × Piece)) : Prop := ∀ n, n < 64 → CellIs m n (f n)

theorem cellIs_piece_ne_none {m : PieceMap} {n : Nat} {c : Color} {p : Piece} (h : CellIs m n (some (c, p))) :
    p ≠ Piece.none := by
  rintro rfl
  have := (h c Piece.none).2 rfl
  rw [get_none, test_zero] at this; cases this

theorem repr_pieceAt {m : PieceMap} (hd : DisjointBoard m) : Repr m m.pieceAt := by
  intro n _ c p
  rw [← pieceAt_iff hd n c p]

theorem pieceAt_of_cellIs {m : PieceMap} {n : Nat} {x : Option (Color × Piece)} (h : CellIs m n x) :
    m.pieceAt n = x := by
  cases x with
  | none =>
    rw [pieceAt_none]
    intro c p
    cases ht : test (m.get c p) n with
    | false => rfl
    | true => exact absurd ((h c p).1 ht) (by simp)
  | some cp =>
    obtain ⟨c, p⟩ := cp
    have hp := cellIs_piece_ne_none h
    rw [pieceAt_def]
    apply find?_unique _ _ _ ((mem_allCP c p).2 hp) ((h c p).2 rfl)
    rintro ⟨c', p'⟩ _ h'
    exact (Option.some.inj ((h c' p').1 h')).symm

theorem disjoint_of_repr {m : PieceMap} {f : Nat → Option (Color × Piece)} (h : Repr m f) : DisjointBoard m := by
  intro x _ y _ hxy
  apply eq_zero_of_test
  intro n hn
  rw [test_and]
  cases h1 : test (m.get x.1 x.2) n with
  | false => rfl
  | true =>
    cases h2 : test (m.get y.1 y.2) n with
    | false => rfl
    | true =>
      have e1 := (h n hn x.1 x.2).1 h1
      have e2 := (h n hn y.1 y.2).1 h2
      rw [e1] at e2
      exact absurd (Option.some.inj e2) hxy

theorem repr_unique {m : PieceMap} {f : Nat → Option (Color × Piece)} (h : Repr m f) (n : Nat) (hn : n < 64) :
    f n = m.pieceAt n := (pieceAt_of_cellIs (h n hn)).symm

/-- remove a piece that stands on `sq` -/
theorem repr_clear {m : PieceMap} {f : Nat → Option (Color × Piece)} (h : Repr m f) (c : Color) (p : Piece)
    (sq : Nat) (hsq : sq < 64) (hf : f sq = some (c, p)) : Repr (m.assign c p sq false) (upd f sq Option.none) := by
  intro n hn c' p'
  rw [test_get_assign _ _ _ _ _ _ _ _ hsq]
  by_cases e : n = sq
  · subst e
    rw [upd_same]
    by_cases hc : c' = c ∧ p' = p ∧ p ≠ Piece.none ∧ n = n
    · rw [if_pos hc]; simp
    · rw [if_neg hc]
      have h1 := h n hn c' p'
      rw [hf] at h1
      have hp : p ≠ Piece.none := by
        have := h n hn; rw [hf] at this; exact cellIs_piece_ne_none this
      constructor
      · intro ht
        have := Option.some.inj (h1.1 ht)
        exact absurd ⟨congrArg Prod.fst this.symm, congrArg Prod.snd this.symm, hp, rfl⟩ hc
      · intro e; cases e
  · rw [upd_ne _ _ _ _ e]
    have : ¬ (c' = c ∧ p' = p ∧ p ≠ Piece.none ∧ sq = n) := fun ⟨_, _, _, e'⟩ => e e'.symm
    rw [if_neg this]
    exact h n hn c' p'

/-- put a piece on the empty square `sq` -/
theorem repr_set {m : PieceMap} {f : Nat → Option (Color × Piece)} (h : Repr m f) (c : Color) (p : Piece)
    (sq : Nat) (hsq : sq < 64) (hf : f sq = Option.none) (hp : p ≠ Piece.none) :
    Repr (m.assign c p sq true) (upd f sq (some (c, p))) := by
  intro n hn c' p'
  rw [test_get_assign _ _ _ _ _ _ _ _ hsq]
  by_cases e : n = sq
  · subst e
    rw [upd_same]
    by_cases hc : c' = c ∧ p' = p ∧ p ≠ Piece.none ∧ n = n
    · rw [if_pos hc]; obtain ⟨rfl, rfl, _, _⟩ := hc; simp
    · rw [if_neg hc]
      have h1 := h n hn c' p'
      rw [hf] at h1
      constructor
      · intro ht; exact absurd (h1.1 ht) (by simp)
      · intro e
        have := Option.some.inj e
        exact absurd ⟨congrArg Prod.fst this.symm, congrArg Prod.snd this.symm, hp, rfl⟩ hc
  · rw [upd_ne _ _ _ _ e]
    have : ¬ (c' = c ∧ p' = p ∧ p ≠ Piece.none ∧ sq = n) := fun ⟨_, _, _, e'⟩ => e e'.symm
    rw [if_neg this]
    exact h n hn c' p'


def cellAbs (x : Option (Color × Piece)) : Option (Spec.Color × Spec.Kind) :=
  x.bind fun cp => (absKind cp.2).map fun k => (absColor cp.1, k)

theorem absCell_eq_cellAbs (m : PieceMap) (n : Nat) : absCell m n = cellAbs (m.pieceAt n) := by
  unfold absCell cellAbs
  cases m.pieceAt n with
  | none => rfl
  | some cp => rfl

theorem cellsFn_abs (s : State) : cellsFn (abs s).cells = fun n => cellAbs (s.pieces.pieceAt n) := by
  funext n
  unfold cellsFn abs
  rw [← absCell_eq_cellAbs]
  by_cases h : n < 64
  · simp [h]
  · simp [h, absCell_ge s.pieces n (by omega)]

theorem cellAbs_some (c : Color) (q : Piece) (k : Spec.Kind) (hk : absKind q = some k) :
    cellAbs (some (c, q)) = some (absColor c, k) := by
  simp [cellAbs, hk]

end Wee.C02

namespace Wee
open Wee.C10 (DisjointBoard)

theorem abs_turn (s : State) : (abs s).turn = absColor s.turn := rfl


theorem abs_size (s : State) : (abs s).cells.size = 64 := by simp [abs]

theorem at_none_iff (s : State) (t : Nat) : (abs s).at t = Option.none ↔ s.pieces.pieceAt t = Option.none := by
  rw [C10.abs_at]; exact C10.absCell_eq_none_iff _ _

/-- on a placement without stacked pieces the mailbox cell is `(c, k)` iff `piece_at` finds the piece of that kind -/
theorem at_some_iff {s : State} (hd : DisjointBoard s.pieces) {p : Piece} {k : Spec.Kind} (hk : absKind p = some k)
    (t : Nat) (c : Color) : (abs s).at t = some (absColor c, k) ↔ s.pieces.pieceAt t = some (c, p) := by
  rw [C10.abs_at]; exact C10.absCell_eq_some_iff hd t c p k hk

theorem at_of_pieceAt (s : State) (t : Nat) (c : Color) (q : Piece) (h : s.pieces.pieceAt t = some (c, q)) :
    ∃ k, absKind q = some k ∧ (abs s).at t = some (absColor c, k) := by
  obtain ⟨hp, _⟩ := C10.pieceAt_some _ _ _ _ h
  obtain ⟨k, hk⟩ := C10.absKind_some q hp
  refine ⟨k, hk, ?_⟩
  rw [C10.abs_at]; unfold absCell; rw [h]; simp [hk]

/-- the mailbox cell of a disjoint board: colour `c`, kind of `p` -/
theorem at_iff {s : State} (hd : DisjointBoard s.pieces) (t : Nat) (c : Color) (k : Spec.Kind) :
    (abs s).at t = some (absColor c, k) ↔ ∃ p, absKind p = some k ∧ test (s.pieces.get c p) t = true := by
  rw [C10.abs_at]; exact C10.absCell_iff hd t c k

theorem at_of_test {s : State} (hd : DisjointBoard s.pieces) (t : Nat) (c : Color) (p : Piece) (k : Spec.Kind)
    (hk : absKind p = some k) (h : test (s.pieces.get c p) t = true) : (abs s).at t = some (absColor c, k) :=
  (at_iff hd t c k).2 ⟨p, hk, h⟩

theorem test_of_at {s : State} (hd : DisjointBoard s.pieces) (t : Nat) (c : Color) (p : Piece) (k : Spec.Kind)
    (hk : absKind p = some k) (h : (abs s).at t = some (absColor c, k)) : test (s.pieces.get c p) t = true := by
  obtain ⟨p', hk', ht⟩ := (at_iff hd t c k).1 h
  rw [C10.absKind_inj p p' k hk hk']; exact ht

theorem specColor_cases (c : Color) (x : Spec.Color) : x = absColor c ∨ x = absColor c.opp := by
  cases c <;> cases x <;> simp [absColor, Color.opp]

theorem test_own_iff {s : State} (hd : DisjointBoard s.pieces) (c : Color) (t : Nat) :
    test (s.pieces.colorOcc c) t = true ↔ ∃ k, (abs s).at t = some (absColor c, k) := by
  rw [C10.test_colorOcc_abs hd]; simp only [C10.abs_at]

theorem test_occ_abs (s : State) (t : Nat) : test s.pieces.occ t = (abs s).occupied t := by
  have := congrFun (C10.occ_abs s.pieces) t
  rw [C10.abs_occupied]; exact this

/-- "opponent piece or empty" (the mask `opposing_pieces | vacancy`) is "not an own piece" -/
theorem test_opp_or_vac {s : State} (hd : DisjointBoard s.pieces) (c : Color) (t : Nat) (ht : t < 64) :
    test (s.pieces.colorOcc c.opp ||| ~~~s.pieces.occ) t = true ↔
      ∀ k, (abs s).at t ≠ some (absColor c, k) := by
  rw [test_or, test_not _ _ ht, Bool.or_eq_true, test_own_iff hd, test_occ_abs, Bool.not_eq_true',
    occupied_false_iff]
  constructor
  · rintro (⟨k', h⟩ | h) k e
    · rw [h] at e
      exact C10.absColor_opp_ne c (congrArg Prod.fst (Option.some.inj e))
    · rw [h] at e; cases e
  · intro h
    cases hat : (abs s).at t with
    | none => exact .inr rfl
    | some x =>
      obtain ⟨c', k'⟩ := x
      rcases specColor_cases c c' with e | e
      · subst e; exact absurd hat (h k')
      · subst e; exact .inl ⟨k', rfl⟩

/-- `!own_pieces` is "not an own piece" -/
theorem test_not_own {s : State} (hd : DisjointBoard s.pieces) (c : Color) (t : Nat) (ht : t < 64) :
    test (~~~s.pieces.colorOcc c) t = true ↔ ∀ k, (abs s).at t ≠ some (absColor c, k) := by
  rw [test_not _ _ ht, Bool.not_eq_true', ← Bool.not_eq_true, test_own_iff hd]
  constructor
  · intro h k e; exact h ⟨k, e⟩
  · rintro h ⟨k, e⟩; exact h k e

/-- the occupied squares of the bitboards, counted, are the occupied cells of the mailbox -/
theorem popcount_occ (s : State) : popcount s.pieces.occ =
    C02.sumTo (fun x : Option (Spec.Color × Spec.Kind) => if x.isSome then 1 else 0) (fun n => (abs s).at n) 64 := by
  unfold popcount bitsOf
  rw [C02.length_filter_range]
  unfold C02.sumTo
  congr 1
  apply List.map_congr_left
  intro n _
  have : test s.pieces.occ n = (absCell s.pieces n).isSome := congrFun (C10.occ_abs s.pieces) n
  show (if test s.pieces.occ n = true then 1 else 0) = if ((abs s).at n).isSome = true then 1 else 0
  rw [this, C10.abs_at]

/-! ## what `LegalPos` provides

A legal state abstracts to a `Spec.Legal` position; what the generator's specification takes from it: one king of either
colour as a bit count, the en-passant target, the king at home when a castling right is held. -/

theorem legal_abs {s : State} (h : LegalPos s = true) : Spec.Legal (abs s) := (Spec.legalPos_iff _).1 h

/-- a legal position without overlaps has exactly one king of either colour, as a bit count -/
theorem C02.oneKingEach_of_legal (s : State) (hl : LegalPos s = true) (hd : DisjointBoard s.pieces) :
    C05.OneKingEach s := by
  intro c
  obtain ⟨q, hq, hat, huniq⟩ := (legal_abs hl).king (absColor c)
  have key : ∀ n, n < 64 → (test (s.pieces.get c .king) n = true ↔ (abs s).at n = some (absColor c, Spec.Kind.king)) := by
    intro n _
    rw [C10.abs_at, C10.absCell_iff hd]
    constructor
    · intro ht; exact ⟨Piece.king, rfl, ht⟩
    · rintro ⟨p, hp, ht⟩
      cases (absKind_eq_some p _).1 hp; exact ht
  have hb : s.pieces.get c .king = bit q := by
    apply ext
    intro n hn
    rw [test_bit q n hq]
    cases ht : test (s.pieces.get c .king) n
    · symm; rw [decide_eq_false_iff_not]; intro e; subst e
      rw [(key q hq).2 hat] at ht; cases ht
    · symm; rw [decide_eq_true_eq]
      exact (huniq n hn ((key n hn).1 ht)).symm
  rw [hb]
  exact popcount_bit q hq

theorem legalPos_ep (s : State) (h : LegalPos s = true) :
    ∀ e, s.ep = some e → e < 64 ∧ (abs s).at e = Option.none :=
  fun e he => ⟨(legal_abs h).ep_lt he, ((legal_abs h).ep e he).2.1⟩

theorem abs_right (s : State) (c : Color) (side : Side) :
    (s.castle c).forSide side = (abs s).right (absColor c) (side == Side.king) := by
  cases c <;> cases side <;> rfl

theorem legalPos_king (s : State) (h : LegalPos s = true) :
    ∀ side, (s.castle s.turn).forSide side = true →
      (abs s).at (Spec.kingHome (absColor s.turn)) = some (absColor s.turn, Spec.Kind.king) := by
  intro side hside
  rw [abs_right] at hside
  cases side
  · exact ((legal_abs h).rightK _ hside).1
  · exact ((legal_abs h).rightQ _ hside).1

end Wee
