import Wee.Proofs.MateBase
/-!
# Alpha-beta once: what a node does, as relations; what "bound" means, as a structure

No monad in this file.  The move loop, the node after the table probe and the whole node of `analyze_recursive` are
relations (`Loop`, `TailOut`, `NodeOut`) between what goes in and what comes out, given what is known (`C`) of the values
the children returned; that a run of the model is such a derivation is shown once (`Wee/Proofs/HoldsP.lean`), everything
else about a node is a statement about these relations.  `Bounds s` says what it means that a number is a lower / an upper
bound of the value of `s` and of its successors, with the facts negamax rests on; `Loop.ab`, `TailOut.ab`, `probe_ab`,
`NodeOut.ab` are fail-hard alpha-beta with the table for any `Bounds`.  The properties are readings of `Bounds`:
`Bounds.sound` (a bound beyond the mate threshold is a game-theoretic fact: C06 soundness), `Bounds.complete` (a visible
forced mate pushes every bound beyond the threshold: C06 completeness), `Bounds.avoid` (a winning move does not repeat a
recorded position: C17), and `Bounds.inside` (every value lies strictly inside the root window: C03; defined where it is
used, in `SearchReport.lean`).

The mate threshold and the root window are written three ways in statements: as literals (`10000`, `-10000`; `11000`,
`-11000`), as the model's constants (`Ev.posInf`, `Ev.negInf`; `Ev.mateInPly 0`) and, in the C03 files, as `M0`.
`posInf_eq` / `negInf_eq` (`ClampLemmas.lean`), `root_window` (`MateRoot.lean`) and `M0_eq` (`SearchReport.lean`) rewrite
one into the other; `C06_root_window` (`Props/C06.lean`) is `SoundVal` at the root window read in `Ev.posInf` / `Ev.negInf`.
-/
namespace Wee.C06
open Wee Wee.Search Wee.Outcome
open Wee.SearchCtl (entryOf InBuffer)

theorem kindLower_ne : ¬ (kindLower = kindExact ∨ kindLower = kindUpper) := by decide
theorem kindExact_ne_upper : kindExact ≠ kindUpper := by decide

/-! ## the relations -/

/-- how the move loop ends: a cut-off by the move `m`, or the end of the buffer -/
inductive LoopOut
  | cut (m : Move)
  | done (alpha : Eval) (best : Option Move) (kind : Nat)

/-- `Loop s β C l α b k o`: the move loop of a node with position `s` and upper window bound `β`, run over the buffer `l`
from the running `alpha` / `best_move` / `evaluation_type` `α` / `b` / `k`, ends in `o`; `C m next α v` is what is known of the
value `v` that the child after the legal move `m` returned when the running bound was `α`.  One constructor per thing the
loop can do with a move: skip an illegal one, cut off, raise `alpha`, keep it. -/
inductive Loop (s : State) (β : Eval) (C : Move → State → Eval → Eval → Prop) :
    List Move → Eval → Option Move → Nat → LoopOut → Prop
  | nil {α b k} : Loop s β C [] α b k (.done α b k)
  | skip {mv rest α b k o} : tryAsLegal s mv = some Option.none → Loop s β C rest α b k o →
      Loop s β C (mv :: rest) α b k o
  | cut {mv rest α b k m next v} : tryAsLegal s mv = some (some (m, next)) → C m next α v → β ≤ -v →
      Loop s β C (mv :: rest) α b k (.cut m)
  | raise {mv rest α b k m next v o} : tryAsLegal s mv = some (some (m, next)) → C m next α v → -v < β → α < -v →
      Loop s β C rest (-v) (some m) kindExact o → Loop s β C (mv :: rest) α b k o
  | keep {mv rest α b k m next v o} : tryAsLegal s mv = some (some (m, next)) → C m next α v → -v < β → -v ≤ α →
      Loop s β C rest α b k o → Loop s β C (mv :: rest) α b k o

/-- how the part of a node after the probe ends (remaining depth > 0), over the buffer `buf` with the window `(α, β)`:
the value returned and the entry stored -/
inductive TailOut (a : NodeArgs) (C : Move → State → Eval → Eval → Prop) (buf : List Move) (α β : Eval) :
    Eval → Option TT.Entry → Prop
  | cutoff {m} : Loop a.s β C buf α Option.none kindUpper (.cut m) →
      TailOut a C buf α β β (some (entryOf a kindLower m β))
  | static {e} : (∀ mv ∈ buf, tryAsLegal a.s mv = some Option.none) → evaluate a.s a.s.turn a.curDepth = some e →
      TailOut a C buf α β e Option.none
  | stored {α' m k} : ¬ (∀ mv ∈ buf, tryAsLegal a.s mv = some Option.none) →
      Loop a.s β C buf α Option.none kindUpper (.done α' (some m) k) →
      TailOut a C buf α β α' (some (entryOf a k m α'))
  | kept {α' k} : ¬ (∀ mv ∈ buf, tryAsLegal a.s mv = some Option.none) →
      Loop a.s β C buf α Option.none kindUpper (.done α' Option.none k) → TailOut a C buf α β α' Option.none

/-- how a node ends, given the entry `found` under its key: the value returned and the entry stored.  A node cut by the
history returns `0`; otherwise the probe answers from `found`, or leaves a window with which quiescence (remaining depth 0,
`deep = false`) or the move loop (`deep = true`) runs; `C β` is what is known of the children when the upper window bound
is `β`. -/
inductive NodeOut (ctx : Ctx) (a : NodeArgs) (deep : Bool) (C : Eval → Move → State → Eval → Eval → Prop)
    (found : Option TT.Entry) : Eval → Option TT.Entry → Prop
  | hist : 0 < a.curDepth → ctx.history.contains (hash ctx.keys a.s) = true → NodeOut ctx a deep C found 0 Option.none
  | hit {v} : ¬ (0 < a.curDepth ∧ ctx.history.contains (hash ctx.keys a.s) = true) → SearchCtl.probe a found = .cut v →
      NodeOut ctx a deep C found v Option.none
  | leaf {α β v} : ¬ (0 < a.curDepth ∧ ctx.history.contains (hash ctx.keys a.s) = true) → deep = false →
      SearchCtl.probe a found = .window α β → quiesce evaluate (quiesceFuel a.s) a.s a.curDepth α β = .ok v →
      NodeOut ctx a deep C found v Option.none
  | tail {α β ps buf r stored} : ¬ (0 < a.curDepth ∧ ctx.history.contains (hash ctx.keys a.s) = true) → deep = true →
      SearchCtl.probe a found = .window α β → pseudoLegalMoves a.s = some ps → (∀ mv, mv ∈ buf ↔ InBuffer a ps mv) →
      TailOut a (C β) buf α β r stored → NodeOut ctx a deep C found r stored

theorem NodeOut.hist_zero {ctx : Ctx} {a : NodeArgs} {deep : Bool} {C : Eval → Move → State → Eval → Eval → Prop}
    {found stored : Option TT.Entry} {r : Eval} (h : NodeOut ctx a deep C found r stored) (h1 : 0 < a.curDepth)
    (h2 : ctx.history.contains (hash ctx.keys a.s) = true) : r = 0 ∧ stored = Option.none := by
  cases h with
  | hist _ _ => exact ⟨rfl, rfl⟩
  | hit hn _ => exact absurd ⟨h1, h2⟩ hn
  | leaf hn _ _ _ => exact absurd ⟨h1, h2⟩ hn
  | tail hn _ _ _ _ _ => exact absurd ⟨h1, h2⟩ hn

/-! ## bounds, and alpha-beta for any reading of them -/

/-- a reading of "the number is a lower (`Low`; by the move `m`: `LowM`) / an upper (`Up`) bound of the value of `s`", and
of the values of its successors (`SLow`, `SUp`), with what negamax needs of them: a lower bound by a move is a lower
bound; the negated upper bound of one successor is a lower bound of `s` by the move to it (`low_of_succ`); the negated
common lower bound of all successors is an upper bound of `s` (`up_of_succs`); bounds may be weakened (`*_mono`: the
probe tightens windows, the loop raises `alpha`). -/
structure Bounds (s : State) where
  Low : Eval → Prop
  LowM : Eval → Move → Prop
  Up : Eval → Prop
  SLow : State → Eval → Prop
  SUp : State → Eval → Prop
  lowM_low : ∀ {r m}, LowM r m → Low r
  low_of_succ : ∀ {m c v b}, (m, c) ∈ legalMoves s → SUp c v → b ≤ -v → LowM b m
  up_of_succs : ∀ {r}, legalMoves s ≠ [] → (∀ c ∈ legalMoves s, SLow c.2 (-r)) → Up r
  slow_mono : ∀ {c v v'}, SLow c v → v' ≤ v → SLow c v'
  low_mono : ∀ {r r'}, Low r → r' ≤ r → Low r'
  up_mono : ∀ {r r'}, Up r → r ≤ r' → Up r'

variable {s : State}

/-- the fail-hard contract of a node with window `(α, β)`, for its value `r` -/
def Bounds.Val (B : Bounds s) (α β r : Eval) : Prop := (α < r → B.Low r) ∧ (r < β → B.Up r)

/-- the contract of the child after the legal move `m`, called with the window `(-β, -α)` -/
def Bounds.Child (B : Bounds s) (β : Eval) (m : Move) (c : State) (α v : Eval) : Prop :=
  (m, c) ∈ legalMoves s ∧ (v < -α → B.SUp c v) ∧ (-β < v → B.SLow c v)

/-- invariant of the running `alpha` / `best_move` -/
def Bounds.Inv (B : Bounds s) (α₀ β alpha : Eval) (best : Option Move) : Prop :=
  α₀ ≤ alpha ∧ alpha < β ∧ (α₀ < alpha → B.Low alpha) ∧ ∀ m, best = some m → B.LowM alpha m

/-- what the loop over `l`, started with `alpha`, establishes -/
def Bounds.Post (B : Bounds s) (α₀ β : Eval) (l : List Move) (alpha : Eval) : LoopOut → Prop
  | .cut m => B.LowM β m
  | .done alpha' best' _ => alpha ≤ alpha' ∧ B.Inv α₀ β alpha' best' ∧
      ∀ c ∈ legalMoves s, c.1 ∈ l → B.SLow c.2 (-alpha')

/-- what holds of the successor after every legal move of the buffer `rest`, and after `mv` if it is legal, holds after
every legal move of `mv :: rest` (a legal move is accepted with its listed successor) -/
theorem cover_cons {ms : List (Move × State)} (hms : legalMoves? s = some ms) {mv : Move} {rest : List Move}
    {R : State → Prop} (hmv : ∀ c, tryAsLegal s mv = some (some c) → R c.2)
    (hrest : ∀ c ∈ legalMoves s, c.1 ∈ rest → R c.2) : ∀ c ∈ legalMoves s, c.1 ∈ mv :: rest → R c.2 := by
  intro c hc hmem
  rcases List.mem_cons.1 hmem with h | h
  · exact hmv c (h ▸ try_of_legal hms hc)
  · exact hrest c hc h

/-- every legal move is in the buffer -/
theorem legal_mem_buffer {a : NodeArgs} {ms : List (Move × State)} {ps buf : List Move} (hms : legalMoves? a.s = some ms)
    (hps : pseudoLegalMoves a.s = some ps) (hbuf : ∀ mv, mv ∈ buf ↔ InBuffer a ps mv) :
    ∀ c ∈ legalMoves a.s, c.1 ∈ buf := by
  intro c hc
  rw [legalMoves_of_some hms] at hc
  obtain ⟨mv, hmv, ht⟩ := (mem_legalMoves?_iff hms hps c).1 hc
  obtain ⟨next, _, _, rfl⟩ := tryAsLegal_eq_some_some.1 ht
  exact (hbuf mv).2 (Or.inl hmv)

/-- no move of the buffer is accepted exactly when the position has no legal move: a buffer move that is searched is a
legal move -/
theorem buffer_illegal_iff {a : NodeArgs} {ms : List (Move × State)} {ps buf : List Move}
    (hms : legalMoves? a.s = some ms) (hps : pseudoLegalMoves a.s = some ps) (hprio : PrioOK a)
    (hbuf : ∀ mv, mv ∈ buf ↔ InBuffer a ps mv) :
    (∀ mv ∈ buf, tryAsLegal a.s mv = some Option.none) ↔ legalMoves a.s = [] := by
  constructor
  · intro hall
    cases hl : legalMoves a.s with
    | nil => rfl
    | cons c _ =>
      have hc : c ∈ legalMoves a.s := by rw [hl]; exact List.mem_cons_self
      have := try_of_legal hms hc
      rw [hall c.1 (legal_mem_buffer hms hps hbuf c hc)] at this; cases this
  · intro hnil mv hmv
    cases ht : tryAsLegal a.s mv with
    | none =>
      rcases (hbuf mv).1 hmv with h | h
      · exact absurd ht (tryAsLegal_ne_none_of_legalMoves? hms hps h)
      · obtain ⟨r0, hr0, _⟩ := hprio mv h
        rw [hnil] at hr0; exact nomatch hr0
    | some o =>
      cases o with
      | none => rfl
      | some r0 =>
        have := buffer_legal hms hps hprio ((hbuf mv).1 hmv) ht
        rw [hnil] at this; exact nomatch this

/-- **alpha-beta**, for any reading of "bound" -/
theorem Loop.ab (B : Bounds s) {ms : List (Move × State)} (hms : legalMoves? s = some ms) {α₀ β : Eval}
    {l : List Move} {alpha : Eval} {best : Option Move} {kind : Nat} {o : LoopOut}
    (h : Loop s β (B.Child β) l alpha best kind o) (hinv : B.Inv α₀ β alpha best) : B.Post α₀ β l alpha o := by
  induction h with
  | nil => exact ⟨Int.le_refl _, hinv, fun _ _ h => nomatch h⟩
  | @skip mv rest α b k o ht _ ih =>
    have := ih hinv
    cases o with
    | cut m => exact this
    | done alpha' best' kind' =>
      exact ⟨this.1, this.2.1, cover_cons (R := fun c => B.SLow c (-alpha')) hms (fun c hc => by rw [ht] at hc; cases hc) this.2.2⟩
  | @cut mv rest α b k m next v ht hC hb =>
    exact B.low_of_succ hC.1 (hC.2.1 (by have := hinv.2.1; eomega)) hb
  | @raise mv rest α b k m next v o ht hC h1 h2 _ ih =>
    have hm := B.low_of_succ hC.1 (hC.2.1 (by eomega)) (Int.le_refl (-v))
    have := ih ⟨by have := hinv.1; eomega, h1, fun _ => B.lowM_low hm, fun m' e => by cases e; exact hm⟩
    cases o with
    | cut m' => exact this
    | done alpha' best' kind' =>
      refine ⟨by have := this.1; eomega, this.2.1, cover_cons (R := fun c => B.SLow c (-alpha')) hms (fun c hc => ?_) this.2.2⟩
      rw [ht] at hc; cases hc
      exact B.slow_mono (hC.2.2 (by eomega)) (by have := this.1; eomega)
  | @keep mv rest α b k m next v o ht hC h1 h2 _ ih =>
    have := ih hinv
    cases o with
    | cut m' => exact this
    | done alpha' best' kind' =>
      refine ⟨this.1, this.2.1, cover_cons (R := fun c => B.SLow c (-alpha')) hms (fun c hc => ?_) this.2.2⟩
      rw [ht] at hc; cases hc
      exact B.slow_mono (hC.2.2 (by eomega)) (by have := this.1; eomega)

/-- **alpha-beta for the node after the probe**: the value keeps the fail-hard contract, a stored entry carries a lower bound
by its move and — unless it is the `LowerBound` entry of a cut-off — an upper bound -/
theorem TailOut.ab {a : NodeArgs} (B : Bounds a.s) {ms : List (Move × State)} {ps : List Move}
    (hms : legalMoves? a.s = some ms) (hps : pseudoLegalMoves a.s = some ps) (hprio : PrioOK a)
    {buf : List Move} (hbuf : ∀ mv, mv ∈ buf ↔ InBuffer a ps mv) {α β r : Eval} (hab : α < β)
    {stored : Option TT.Entry}
    (hstatic : legalMoves a.s = [] → ∀ e, evaluate a.s a.s.turn a.curDepth = some e → B.Val α β e)
    (h : TailOut a (B.Child β) buf α β r stored) :
    B.Val α β r ∧ ∀ e, stored = some e → ∃ k m, e = entryOf a k m r ∧ B.LowM r m ∧ (k = kindLower ∨ B.Up r) := by
  have hinv : B.Inv α β α Option.none := ⟨Int.le_refl _, hab, fun h => absurd h (Int.lt_irrefl _), fun _ h => nomatch h⟩
  have hill := buffer_illegal_iff hms hps hprio hbuf
  have hdone : ∀ {α' b k}, ¬ (∀ mv ∈ buf, tryAsLegal a.s mv = some Option.none) →
      Loop a.s β (B.Child β) buf α Option.none kindUpper (.done α' b k) →
      B.Val α β α' ∧ B.Up α' ∧ ∀ m, b = some m → B.LowM α' m := by
    intro α' b k hn hl
    obtain ⟨_, ⟨_, _, i3, i4⟩, q3⟩ := hl.ab B hms hinv
    have hup := B.up_of_succs (fun hnil => hn (hill.2 hnil)) fun c hc => q3 c hc (legal_mem_buffer hms hps hbuf c hc)
    exact ⟨⟨i3, fun _ => hup⟩, hup, i4⟩
  cases h with
  | cutoff hl =>
    have := hl.ab B hms hinv
    exact ⟨⟨fun _ => B.lowM_low this, fun h => absurd h (Int.lt_irrefl _)⟩,
      fun e he => by cases he; exact ⟨_, _, rfl, this, Or.inl rfl⟩⟩
  | static hall he => exact ⟨hstatic (hill.1 hall) _ he, fun _ h => nomatch h⟩
  | stored hn hl =>
    obtain ⟨h1, h2, h3⟩ := hdone hn hl
    exact ⟨h1, fun e he => by cases he; exact ⟨_, _, rfl, h3 _ rfl, Or.inr h2⟩⟩
  | kept hn hl => exact ⟨(hdone hn hl).1, fun _ h => nomatch h⟩

/-- **the table probe, for any reading of "bound"**: an entry searched at least as deep whose value is an upper bound
(`Exact`, `UpperBound`) resp. a lower bound (every kind but `UpperBound`) either answers the node within its contract, or
tightens the window to one that is still open and whose contract implies the node's -/
theorem probe_ab {a : NodeArgs} (B : Bounds a.s) (hab : a.alpha < a.beta) {o : Option TT.Entry}
    (he : ∀ e, o = some e → a.maxDepth - a.curDepth ≤ e.maxDepth - e.depth →
      (e.kind = kindExact ∨ e.kind = kindUpper → B.Up e.eval) ∧ (e.kind ≠ kindUpper → B.Low e.eval)) :
    match SearchCtl.probe a o with
    | .underflow => True
    | .cut v => B.Val a.alpha a.beta v
    | .window α β => α < β ∧ ∀ r, B.Val α β r → B.Val a.alpha a.beta r := by
  split
  · trivial
  · rename_i v hv
    obtain ⟨e, rfl, rfl, hd, hkind⟩ := probe_cut hv
    obtain ⟨hU, hL⟩ := he e rfl hd
    rcases hkind with hx | ⟨hup, hc⟩ | ⟨_, hup, hc⟩
    · exact ⟨fun _ => hL (by rw [hx]; exact kindExact_ne_upper), fun _ => hU (Or.inl hx)⟩
    · exact ⟨fun h => by exfalso; eomega, fun _ => hU (Or.inr hup)⟩
    · exact ⟨fun _ => hL hup, fun h => by exfalso; eomega⟩
  · rename_i α β hw
    rcases probe_window hw with ⟨rfl, rfl, _⟩ | ⟨e, rfl, hd, _, hlt, ⟨hup, rfl, rfl⟩ | ⟨hup, rfl, rfl⟩⟩
    · exact ⟨hab, fun _ h => h⟩
    · refine ⟨hlt, fun r hr => ⟨hr.1, fun h => ?_⟩⟩
      by_cases h' : r < min a.beta e.eval
      · exact hr.2 h'
      · exact B.up_mono ((he e rfl hd).1 (Or.inr hup)) (by eomega)
    · refine ⟨hlt, fun r hr => ⟨fun h => ?_, hr.2⟩⟩
      by_cases h' : max a.alpha e.eval < r
      · exact hr.1 h'
      · exact B.low_mono ((he e rfl hd).2 hup) (by eomega)

/-- **alpha-beta for the node**: given that the value `0` of a recorded position, the entry found, the value of quiescence
(for the window the probe left) and the static value of a position without a legal move (for every window) are within the
contract, so is the value of the node; a stored entry is as in `TailOut.ab` -/
theorem NodeOut.ab {ctx : Ctx} {a : NodeArgs} {deep : Bool} (B : Bounds a.s) {ms : List (Move × State)}
    (hms : legalMoves? a.s = some ms) (hprio : PrioOK a) (hab : a.alpha < a.beta) {found stored : Option TT.Entry}
    {r : Eval}
    (hhist : 0 < a.curDepth → ctx.history.contains (hash ctx.keys a.s) = true → B.Val a.alpha a.beta 0)
    (hfound : ∀ e, found = some e → a.maxDepth - a.curDepth ≤ e.maxDepth - e.depth →
      (e.kind = kindExact ∨ e.kind = kindUpper → B.Up e.eval) ∧ (e.kind ≠ kindUpper → B.Low e.eval))
    (hleaf : deep = false → ∀ α β v, SearchCtl.probe a found = .window α β →
      quiesce evaluate (quiesceFuel a.s) a.s a.curDepth α β = .ok v → B.Val α β v)
    (hstatic : legalMoves a.s = [] → ∀ e, evaluate a.s a.s.turn a.curDepth = some e → ∀ α β, B.Val α β e)
    (h : NodeOut ctx a deep (fun β => B.Child β) found r stored) :
    B.Val a.alpha a.beta r ∧ ∀ e, stored = some e → ∃ k m, e = entryOf a k m r ∧ B.LowM r m ∧ (k = kindLower ∨ B.Up r) := by
  have hp := probe_ab B hab hfound
  cases h with
  | hist h1 h2 => exact ⟨hhist h1 h2, fun _ h => nomatch h⟩
  | hit _ hv => rw [hv] at hp; exact ⟨hp, fun _ h => nomatch h⟩
  | leaf _ hd hw hq => rw [hw] at hp; exact ⟨hp.2 _ (hleaf hd _ _ _ hw hq), fun _ h => nomatch h⟩
  | tail _ _ hw hps hbuf ht =>
    rw [hw] at hp
    obtain ⟨h1, h2⟩ := ht.ab B hms hps hprio hbuf hp.1 fun hn e he => hstatic hn e he _ _
    exact ⟨hp.2 _ h1, h2⟩

/-! ## the readings -/

/-- soundness: a bound beyond the mate threshold is a game-theoretic fact -/
def Bounds.sound (s : State) : Bounds s where
  Low r := 10000 ≤ r → Win s
  LowM r m := ∃ c ∈ legalMoves s, c.1 = m ∧ (10000 ≤ r → Lost c.2)
  Up r := r ≤ -10000 → Lost s
  SLow c v := 10000 ≤ v → Win c
  SUp c v := v ≤ -10000 → Lost c
  lowM_low := fun ⟨c, hc, _, hl⟩ h => Win.intro _ c hc (hl h)
  low_of_succ := fun hc hu hb => ⟨_, hc, rfl, fun h => hu (by eomega)⟩
  up_of_succs := fun hne hall h => Lost.forced s hne fun c hc => hall c hc (by eomega)
  slow_mono := fun h hv hw => h (by eomega)
  low_mono := fun h hv hw => h (by eomega)
  up_mono := fun h hv hw => h (by eomega)


/-- `SoundVal` is the contract under the reading `Bounds.sound` -/
theorem Bounds.sound_val {α β r : Eval} : (Bounds.sound s).Val α β r ↔ SoundVal s α β r := by
  unfold SoundVal
  rw [posInf_eq, negInf_eq]
  exact ⟨fun h => ⟨fun h' => h.1 h'.2 h'.1, fun h' => h.2 h'.2 h'.1⟩, fun h => ⟨fun h1 h2 => h.1 ⟨h2, h1⟩, fun h1 h2 => h.2 ⟨h2, h1⟩⟩⟩

/-- what a sound entry says, as bounds -/
theorem SoundEntry.bounds {e : TT.Entry} (h : SoundEntry s e) :
    (e.kind = kindExact ∨ e.kind = kindUpper → (Bounds.sound s).Up e.eval) ∧
      (e.kind ≠ kindUpper → (Bounds.sound s).Low e.eval) :=
  ⟨fun hk hn => h.2.2 hk (by rw [negInf_eq]; exact hn), fun _ hp => by
    obtain ⟨c, hc, _, hl⟩ := h.2.1 (by rw [posInf_eq]; exact hp)
    exact Win.intro _ c hc hl⟩

/-- an entry whose value is a lower bound by its move and — unless it is a `LowerBound` entry — an upper bound is sound -/
theorem Bounds.sound_entry {a : NodeArgs} {k : Nat} {m : Move} {r : Eval} (hl : (Bounds.sound a.s).LowM r m)
    (hu : k = kindLower ∨ (Bounds.sound a.s).Up r) : SoundEntry a.s (entryOf a k m r) := by
  obtain ⟨c, hc, e, hlost⟩ := hl
  refine ⟨⟨c, hc, by rw [e]; rfl⟩, fun hp => ⟨c, hc, by rw [e]; rfl, hlost (by rw [posInf_eq] at hp; exact hp)⟩, fun hk hn => ?_⟩
  rcases hu with rfl | hu
  · exact absurd hk kindLower_ne
  · exact hu (by rw [negInf_eq] at hn; exact hn)

/-- completeness: a visible forced mate (loss) within the remaining depth `rem` pushes every upper (lower) bound beyond the
threshold; a successor with a recorded key is no mate and no loss -/
def Bounds.complete (K : Keys) (H : List UInt64) (rem : Nat) (s : State) : Bounds s where
  Low r := liH K H rem s = true → r ≤ -10000
  LowM r _ := liH K H rem s = true → r ≤ -10000
  Up r := fmH K H rem s = true → 10000 ≤ r
  SLow c v := inHist K H c = false → liH K H (rem - 1) c = true → v ≤ -10000
  SUp c v := inHist K H c = false → fmH K H (rem - 1) c = true → 10000 ≤ v
  lowM_low := id
  low_of_succ := fun {m c v b} hc hu hb hl => by
    cases rem with
    | zero => rw [liH_zero_nomoves K H hl] at hc; exact nomatch hc
    | succ n =>
      obtain ⟨c1, c2⟩ := liH_succ_child K H hl hc
      have := hu c1 c2
      eomega
  up_of_succs := fun {r} _ hall hw => by
    cases rem with
    | zero => rw [fmH.eq_1] at hw; cases hw
    | succ n =>
      obtain ⟨c, hc, c1, c2⟩ := (fmH_succ_iff K H n s).1 hw
      have := hall c hc c1 c2
      eomega
  slow_mono := fun h hv c1 c2 => by have := h c1 c2; eomega
  low_mono := fun h hv hl => by have := h hl; eomega
  up_mono := fun h hv hw => by have := h hw; eomega

/-- history avoidance: a winning lower bound comes by a move into a position whose key is not recorded, because the child
after a recorded position returns `0` -/
def Bounds.avoid (K : Keys) (H : List UInt64) (s : State) : Bounds s where
  Low _ := True
  LowM r m := 10000 ≤ r → ∃ c ∈ legalMoves s, c.1 = m ∧ inHist K H c.2 = false
  Up _ := True
  SLow _ _ := True
  SUp c v := inHist K H c = true → v = 0
  lowM_low := fun _ => trivial
  low_of_succ := fun {m c v b} hc hu hb h => ⟨(m, c), hc, rfl, by
    cases hin : inHist K H c with
    | false => rfl
    | true => have := hu hin; eomega⟩
  up_of_succs := fun _ _ => trivial
  slow_mono := fun _ _ => trivial
  low_mono := fun _ _ => trivial
  up_mono := fun _ _ => trivial

/-! ## what the loop does to `best_move`, and what a node stores, whatever the bounds mean -/

/-- the move a loop ends with — the cut-off move, or `best_move` — was returned with a child contract -/
theorem Loop.witness {s : State} {β : Eval} {C : Move → State → Eval → Eval → Prop} {l : List Move} {α : Eval}
    {b : Option Move} {k : Nat} {o : LoopOut} (h : Loop s β C l α b k o)
    (hb : ∀ m, b = some m → ∃ next α v, C m next α v) :
    match (generalizing := false) o with
    | .cut m => ∃ next α v, C m next α v
    | .done _ b' _ => ∀ m, b' = some m → ∃ next α v, C m next α v := by
  induction h with
  | nil => exact hb
  | skip _ _ ih => exact ih hb
  | cut _ hC _ => exact ⟨_, _, _, hC⟩
  | raise _ hC _ _ _ ih => exact ih fun m e => by cases e; exact ⟨_, _, _, hC⟩
  | keep _ _ _ _ _ ih => exact ih hb

/-- the loop leaves `alpha` / `best_move` / `evaluation_type` as they were, or has raised `alpha`: then there is a best
move and the type is `Exact` -/
theorem Loop.done_cases {β : Eval} {C : Move → State → Eval → Eval → Prop} {l : List Move} {α : Eval}
    {b : Option Move} {k : Nat} {o : LoopOut} (h : Loop s β C l α b k o) :
    match (generalizing := false) o with
    | .cut _ => True
    | .done α' b' k' => (α' = α ∧ b' = b ∧ k' = k) ∨ (α < α' ∧ k' = kindExact ∧ ∃ m, b' = some m) := by
  induction h with
  | nil => exact Or.inl ⟨rfl, rfl, rfl⟩
  | skip _ _ ih => exact ih
  | cut _ _ _ => trivial
  | @raise mv rest α b k m next v o _ _ _ h2 _ ih =>
    cases o with
    | cut _ => trivial
    | done α' b' k' =>
      rcases ih with ⟨rfl, rfl, rfl⟩ | ⟨h, hk, hb⟩
      · exact Or.inr ⟨h2, rfl, m, rfl⟩
      · exact Or.inr ⟨by eomega, hk, hb⟩
  | keep _ _ _ _ _ ih => exact ih

/-- a loop that ends without a best move has kept `alpha` at every legal move: if every child's value would have raised
it, no move of the buffer was legal -/
theorem Loop.none_illegal {β : Eval} {C : Move → State → Eval → Eval → Prop} {l : List Move} {α : Eval}
    {b : Option Move} {k : Nat} {o : LoopOut} (h : Loop s β C l α b k o) {α' : Eval} {k' : Nat}
    (ho : o = .done α' Option.none k') (hC : ∀ m next v, C m next α v → α < -v) :
    ∀ mv ∈ l, tryAsLegal s mv = some Option.none := by
  induction h with
  | nil => exact fun _ h => nomatch h
  | skip ht _ ih => exact fun mv hm => (List.mem_cons.1 hm).elim (fun e => e ▸ ht) (ih ho hC mv)
  | cut _ _ _ => cases ho
  | raise _ _ _ _ hl _ =>
    subst ho
    rcases hl.done_cases with ⟨_, h, _⟩ | ⟨_, _, _, h⟩ <;> cases h
  | keep _ hc _ h2 _ _ => have := hC _ _ _ hc; eomega

/-- a node that stores nothing after the probe returns a static value, or the `alpha` it started with -/
theorem TailOut.none_value {a : NodeArgs} {C : Move → State → Eval → Eval → Prop} {buf : List Move} {α β r : Eval}
    {stored : Option TT.Entry} (h : TailOut a C buf α β r stored) (hs : stored = Option.none) : r < 10000 ∨ r = α := by
  cases h with
  | cutoff _ => cases hs
  | static _ he => exact Or.inl (static_lt he)
  | stored _ _ => cases hs
  | kept _ hl =>
    rcases hl.done_cases with ⟨h, _⟩ | ⟨_, _, _, h⟩
    · exact Or.inr h
    · cases h

/-- the entry a node stores: the `LowerBound` entry of a cut-off with the value `beta`, or the `Exact` entry of a raised
`alpha` -/
theorem TailOut.some_entry {a : NodeArgs} {C : Move → State → Eval → Eval → Prop} {buf : List Move} {α β r : Eval}
    {stored : Option TT.Entry} (h : TailOut a C buf α β r stored) {e : TT.Entry} (hs : stored = some e) :
    (∃ m, e = entryOf a kindLower m β ∧ r = β) ∨ (∃ m, e = entryOf a kindExact m r ∧ α < r) := by
  cases h with
  | cutoff _ => cases hs; exact Or.inl ⟨_, rfl, rfl⟩
  | static _ _ => cases hs
  | stored _ hl =>
    cases hs
    rcases hl.done_cases with ⟨_, h, _⟩ | ⟨hlt, rfl, _⟩
    · cases h
    · exact Or.inr ⟨_, rfl, hlt⟩
  | kept _ _ => cases hs

/-- the root call (`current_depth = 0`, remaining depth > 0): the probe answers, or the move loop runs -/
theorem NodeOut.root_cases {ctx : Ctx} {a : NodeArgs} {C : Eval → Move → State → Eval → Eval → Prop}
    {found stored : Option TT.Entry} {r : Eval} (h : NodeOut ctx a true C found r stored) (hcur : a.curDepth = 0) :
    (SearchCtl.probe a found = .cut r ∧ stored = Option.none) ∨
    ∃ α β ps buf, SearchCtl.probe a found = .window α β ∧ pseudoLegalMoves a.s = some ps ∧
      (∀ mv, mv ∈ buf ↔ InBuffer a ps mv) ∧ TailOut a (C β) buf α β r stored := by
  cases h with
  | hist h1 _ => omega
  | hit _ hv => exact Or.inl ⟨hv, rfl⟩
  | leaf _ hd _ _ => cases hd
  | tail _ _ hw hps hbuf ht => exact Or.inr ⟨_, _, _, _, hw, hps, hbuf, ht⟩

end Wee.C06
