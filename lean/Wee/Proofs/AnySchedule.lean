import Wee.Proofs.Histories
import Wee.Proofs.EnvWorker
/-!
# The whole search under arbitrary schedules: one rule per layer, and its readings

`Interleaving` (the workers of one iteration, any order of their table operations), `StepS` (one iteration), `LoopS` (the
deepening loop), `SearchS` (the search) are relations of `Wee/Model/SearchEnv.lean`.  One rule per layer says how a
property gets through it: `interleaving_rg` (`Wee/Proofs/Histories.lean`) for the workers, `stepS_rule` for an iteration
(what `finishStep` makes of the joined results), `loopS_rule`, `searchS_rule`.  The readings at each layer are C03
(`…_legal` / `…_inv`, also for a region closed under legal moves), C06 (`…_sound`), C04 (`…_safe`), and `searchS_tt_inv` for
any table property kept by the workers' inserts.

Nothing here looks inside a history: what a statement needs is the rules and, of each worker, `Wee/Proofs/EnvWorker.lean`
(one worker-level guarantee stands here, `runWorkerE_depthOK`, beside `searchS_tt_inv` whose instance in `Wee/Props/C04.lean`
it serves).  That the sequential model is one of the schedules is `Wee/Proofs/SeqSchedule.lean`.
-/
namespace Wee.Env
open Wee.Search

/-! ## the workers of one iteration: C03, C06, C04 from `interleaving_rg` -/

/-- C03 for one iteration under any schedule: all inserts legal, `TInv` after every prefix -/
theorem interleaving_legal {G : Nat → State → Prop} (hG : Graded G) (D : Nat) (ctx : Ctx)
    (hcf : CollisionFree ctx.keys (upTo G D)) (root : State) (hroot : G 0 root)
    (tt : TT.Access) (htt : TInv ctx.keys (upTo G D) tt) (ws : List Worker)
    (hws : ∀ w ∈ ws, w.searchDepth ≤ D ∧ ∀ m, w.best = some m → LegalIn root m)
    (H : History) (hI : Interleaving ctx root tt ws H) :
    (∀ p ∈ H, ∀ k e, p.2 = TOp.insert k e → LegalInsert ctx.keys (upTo G D) k e) ∧
    (∀ n, TInv ctx.keys (upTo G D) (History.table tt (H.take n))) := by
  have h := interleaving_rg (Q := fun _ _ => True) (TInv_legalIns hcf) htt (fun i h env hadm =>
    ⟨(runWorkerE_legal hG D ctx hcf root hroot env hadm ws[i] (hws _ (List.getElem_mem h)).1
      (hws _ (List.getElem_mem h)).2 tt htt).2, trivial⟩) hI
  exact ⟨h.1, h.2.1⟩

/-- the same for a region of legal positions closed under legal moves: no bound on the search depths is asked (the
depth-graded form is used at a depth above all of them) -/
theorem interleaving_legal_region {R : State → Prop} (hR : Region R) (ctx : Ctx) (hcf : CollisionFree ctx.keys R)
    (root : State) (hroot : R root) (tt : TT.Access) (htt : TInv ctx.keys R tt) (ws : List Worker)
    (hws : ∀ w ∈ ws, ∀ m, w.best = some m → LegalIn root m) (H : History) (hI : Interleaving ctx root tt ws H) :
    (∀ p ∈ H, ∀ k e, p.2 = TOp.insert k e → LegalInsert ctx.keys R k e) ∧
    (∀ n, TInv ctx.keys R (History.table tt (H.take n))) := by
  obtain ⟨D, hD⟩ : ∃ D, ∀ w ∈ ws, w.searchDepth ≤ D := by
    clear hI hws
    induction ws with
    | nil => exact ⟨0, fun _ h => nomatch h⟩
    | cons w rest ih =>
      obtain ⟨D0, h0⟩ := ih
      refine ⟨max D0 w.searchDepth, fun w' hw' => ?_⟩
      rcases List.mem_cons.1 hw' with rfl | hw'
      · exact Nat.le_max_right _ _
      · exact Nat.le_trans (h0 w' hw') (Nat.le_max_left _ _)
  have hup := upTo_const (R := R) D
  have h := interleaving_legal hR.graded D ctx (hcf.congr fun s hs => (hup s).1 hs) root hroot tt
    (htt.congr fun s hs => (hup s).1 hs) ws (fun w hw => ⟨hD w hw, hws w hw⟩) H hI
  refine ⟨fun p hp k e he => ?_, fun n => (h.2 n).congr fun s hs => (hup s).2 hs⟩
  obtain ⟨s, m, hs, hk, hm, hmv⟩ := h.1 p hp k e he
  exact ⟨s, m, (hup s).1 hs, hk, hm, hmv⟩

/-- C06 for one iteration under any schedule: all inserts sound, `C06.TTInv` after every prefix, every value sound -/
theorem interleaving_sound {K : Keys} {D : State → Prop} {L nT nB : Nat} (g : C06.Geo L nT nB)
    (dom : C06.Domain K D) (ctx : Ctx) (hK : ctx.keys = K) (root : State) (hD : D root)
    (tt : TT.Access) (htt : C06.TTInv K D L nT nB tt) (ws : List Worker)
    (hws : ∀ w ∈ ws, C06.BestOK root w.best) (H : History) (hI : Interleaving ctx root tt ws H) :
    (∀ p ∈ H, ∀ k e, p.2 = TOp.insert k e → SoundInsert K D k e) ∧
    (∀ n, C06.TTInv K D L nT nB (History.table tt (H.take n))) ∧
    (∀ i (h : i < ws.length) e, outcomeOf ctx root tt ws[i] H i = .ok e → C06.SoundVal root (-11000) 11000 e) :=
  interleaving_rg (Q := fun _ o => ∀ e, o.1 = .ok e → C06.SoundVal root (-11000) 11000 e) (TTInv_soundInsert g dom) htt
    (fun i h env hadm => (runWorkerE_sound g dom ctx hK root hD env hadm ws[i] (hws _ (List.getElem_mem h)) tt htt).2) hI

/-- C04 for one iteration under any schedule: no worker panics, the safety invariant after every prefix -/
theorem interleaving_safe (ctx : Ctx) (root : State) (nT nB : Nat) (hT : 0 < nT) (hB : 0 < nB)
    (hhist : ctx.history.contains (Wee.hash ctx.keys root) = true) (hg : SearchCtl.Good root)
    (tt : TT.Access) (hI0 : SearchCtl.SafeT ctx root nT nB tt)
    (ws : List Worker) (hws : ∀ w ∈ ws, SearchCtl.BestOK root w.best)
    (H : History) (hI : Interleaving ctx root tt ws H) :
    (∀ i (h : i < ws.length) why, outcomeOf ctx root tt ws[i] H i ≠ .error (.panic why)) ∧
    (∀ n, SearchCtl.SafeT ctx root nT nB (History.table tt (H.take n))) ∧
    (∀ p ∈ H, ∀ k e, p.2 = TOp.insert k e → SafeInsert ctx root k e) := by
  have h := interleaving_rg (Q := fun _ o => ∀ why, o.1 ≠ .error (.panic why)) (SafeI_safeInsert hT hB) hI0
    (fun i h env hadm =>
      have hr := runWorkerE_safe ctx root nT nB hT hB hhist hg env hadm ws[i] (hws _ (List.getElem_mem h)) tt hI0
      ⟨hr.2.2, hr.1⟩) hI
  exact ⟨h.2.2, h.2.1, h.1⟩

/-! ## what `joinOf` joins -/

theorem take_all_table (tt : TT.Access) (H : History) : History.table tt (H.take H.length) = History.table tt H := by
  rw [List.take_length]

/-- a worker of iteration `depth` searches to depth at most `depth + 1` and carries the remembered best move or none -/
theorem mem_workersOfIteration {depth : Nat} {bestMv : Option Move} {seeds : List UInt64} {pollsOf : Nat → Nat}
    {w : Worker} (hw : w ∈ workersOfIteration depth bestMv seeds pollsOf) :
    w.searchDepth ≤ depth + 1 ∧ (w.best = bestMv ∨ w.best = Option.none) := by
  unfold workersOfIteration at hw
  obtain ⟨p, _, rfl⟩ := List.mem_map.1 hw
  refine ⟨?_, ?_⟩
  · show (depth - p.1 % 2) + 1 ≤ depth + 1
    omega
  · show (if p.1 == 0 then bestMv else Option.none) = bestMv ∨ (if p.1 == 0 then bestMv else Option.none) = Option.none
    split
    · exact Or.inl rfl
    · exact Or.inr rfl

/-- the runs whose results `joinOf` joins -/
theorem mem_joinOuts {ctx : Ctx} {root : State} {tt : TT.Access} {ws : List Worker} {H : History}
    {o : Except Stop Eval × St × List TOp}
    (ho : o ∈ (List.range ws.length).filterMap fun i => ws[i]?.map fun w => runWorkerE (envOf H i) ctx root w tt) :
    ∃ i, ∃ h : i < ws.length, o = runWorkerE (envOf H i) ctx root ws[i] tt := by
  obtain ⟨i, hi, hio⟩ := List.mem_filterMap.1 ho
  have hlt : i < ws.length := List.mem_range.1 hi
  rw [List.getElem?_eq_getElem hlt] at hio
  exact ⟨i, hlt, (Option.some.inj hio).symm⟩

theorem joinOf_evals {ctx : Ctx} {root : State} {tt : TT.Access} {ws : List Worker} {H : History} {polls : Nat}
    {e : Eval} (he : e ∈ (joinOf ctx root tt ws H polls).evals) :
    ∃ i, ∃ h : i < ws.length, outcomeOf ctx root tt ws[i] H i = .ok e := by
  unfold joinOf at he
  simp only at he
  obtain ⟨o, ho, hoe⟩ := List.mem_filterMap.1 he
  obtain ⟨i, h, rfl⟩ := mem_joinOuts ho
  refine ⟨i, h, ?_⟩
  unfold outcomeOf
  cases hr : (runWorkerE (envOf H i) ctx root ws[i] tt).1 with
  | ok v => rw [hr] at hoe; cases hoe; rfl
  | error err => rw [hr] at hoe; cases hoe

theorem joinOf_panic {ctx : Ctx} {root : State} {tt : TT.Access} {ws : List Worker} {H : History} {polls : Nat}
    {why : String} (hp : (joinOf ctx root tt ws H polls).panic = some why) :
    ∃ i, ∃ h : i < ws.length, outcomeOf ctx root tt ws[i] H i = .error (.panic why) := by
  unfold joinOf at hp
  simp only at hp
  obtain ⟨o, ho, hoe⟩ := List.exists_of_findSome?_eq_some hp
  obtain ⟨i, h, rfl⟩ := mem_joinOuts ho
  refine ⟨i, h, ?_⟩
  unfold outcomeOf
  cases hr : (runWorkerE (envOf H i) ctx root ws[i] tt).1 with
  | ok v => rw [hr] at hoe; cases hoe
  | error err =>
    rw [hr] at hoe
    cases err with
    | interrupt => cases hoe
    | panic w => cases hoe; rfl

theorem joinOf_tt (ctx : Ctx) (root : State) (tt : TT.Access) (ws : List Worker) (H : History) (polls : Nat) :
    (joinOf ctx root tt ws H polls).tt = History.table tt H := rfl

/-- what a completed iteration reports: the walked line with the maximum of the workers' values -/
theorem finishStep_reports (ctx : Ctx) (root : State) (rootHash : UInt64) (depth : Nat) (rng : Rng.ChaCha8)
    (w : WorkersOut) (st : IterSt) (hp : w.panic = Option.none) (hi : w.interrupted = false)
    (x : Move) (xs : List Move) (hline : walkLine ctx.keys w.tt (depth + 1) root = x :: xs)
    (e : Eval) (es : List Eval) (he : w.evals = e :: es) :
    (finishStep ctx root rootHash depth rng w st).panic = st.panic ∧
    Event.best (es.foldl max e) (x :: xs) ∈ (finishStep ctx root rootHash depth rng w st).events := by
  unfold finishStep
  rw [hp, hi, hline, he]
  simp

theorem finishStep_tt (ctx : Ctx) (root : State) (rootHash : UInt64) (depth : Nat) (rng : Rng.ChaCha8) (w : WorkersOut)
    (st : IterSt) : (finishStep ctx root rootHash depth rng w st).tt = if w.panic.isSome then st.tt else w.tt := by
  rcases finishStep_cases ctx root rootHash depth rng w st rfl rfl rfl with ⟨hp, h, _⟩ | ⟨hp, h, _⟩
  · rw [h, if_pos (Option.isSome_iff_ne_none.2 hp)]
  · rw [h, hp]; rfl

/-! ## the rules -/

/-- **one iteration under any schedule, from the workers' rely/guarantee**: with `Adm`, `TI` as in `interleaving_rg` and
`Q` a property of outcomes that every worker of the iteration has in every `Adm` environment, the step is the report step
on joined results whose table is `TI`, whose values are `Q` and whose panic, if any, is `Q` -/
theorem stepS_rule {ctx : Ctx} {root : State} {rootHash : UInt64} {workers depth : Nat} {st st' : IterSt}
    {Adm : Nat → TT.Entry → Prop} {TI : TT.Access → Prop} {Q : Except Stop Eval → Prop}
    (hstep : ∀ tt k e, TI tt → Adm k e → TI (tt.insert k e)) (htt : TI st.tt)
    (hworker : ∀ w : Worker, w.searchDepth ≤ depth + 1 → (w.best = st.bestMv ∨ w.best = Option.none) → ∀ env : Env,
      (∀ j, ∀ p ∈ env.script j, Adm p.1 p.2) →
      LogOK Adm (runWorkerE env ctx root w st.tt).2.2 ∧ Q (runWorkerE env ctx root w st.tt).1)
    (hs : StepS ctx root rootHash workers depth st st') :
    ∃ w, st' = finishStep ctx root rootHash depth (drawSeeds workers st.rng).2 w st ∧ TI w.tt ∧
      (∀ e ∈ w.evals, Q (.ok e)) ∧ ∀ why, w.panic = some why → Q (.error (.panic why)) := by
  obtain ⟨pollsOf, started, H, polls', hsub, _, hI, rfl⟩ := hs
  obtain ⟨_, htab, hq⟩ := interleaving_rg (Q := fun _ o => Q o.1) hstep htt (fun i h env hadm =>
    hworker _ (mem_workersOfIteration (hsub.subset (List.getElem_mem h))).1
      (mem_workersOfIteration (hsub.subset (List.getElem_mem h))).2 env hadm) hI
  refine ⟨_, rfl, ?_, fun e he => ?_, fun why hp => ?_⟩
  · rw [joinOf_tt, ← take_all_table]; exact htab _
  · obtain ⟨i, hi, hoe⟩ := joinOf_evals he
    rw [← hoe]; exact hq i hi
  · obtain ⟨i, hi, hoe⟩ := joinOf_panic hp
    rw [← hoe]; exact hq i hi

/-- **the deepening loop under any schedule**: what the boundary read and every iteration keep, the loop keeps -/
theorem loopS_rule {ctx : Ctx} {root : State} {rootHash : UInt64} {workersOf : Nat → Nat} {P : IterSt → Prop} {N : Nat}
    (hpoll : ∀ depth st p, P st → P (boundaryPoll ctx depth { st with polls := p }))
    (hstep : ∀ depth st st', depth < N → P st → StepS ctx root rootHash (workersOf depth) depth st st' → P st')
    {n depth : Nat} {st st' : IterSt} (hl : LoopS ctx root rootHash workersOf n depth st st') :
    depth + n ≤ N → P st → P st' := by
  induction hl with
  | done depth st => exact fun _ h => h
  | finished n depth st _ => exact fun _ h => h
  | stopped n depth st p _ _ => exact fun _ h => hpoll depth st p h
  | step n depth st st1 st2 p _ _ hs _ ih =>
    exact fun hd h => ih (by omega) (hstep depth _ st1 (by omega) (hpoll depth st p h) hs)

/-- `SearchS` opened once: an outcome is the final state of a loop of `iterLimit` iterations from `iterInit`, its events
with at most the saturation warning appended -/
theorem searchS_out {root : State} {rng0 : Rng.ChaCha8} {maxDepth : Option Nat} {art : Artifact} {workersOf : Nat → Nat}
    {cancelAt : Option Nat} {fuelDepth : Nat} {out : Outcome}
    (hout : SearchS root rng0 maxDepth art workersOf cancelAt fuelDepth out) :
    ∃ st, LoopS (iterCtx root art cancelAt) root (hash art.keys.keys root) workersOf (iterLimit root maxDepth fuelDepth) 0
        (iterInit rng0 art) st ∧ out.panic = st.panic ∧
      out.artifact = { keys := art.keys, tt := st.tt, history := hash art.keys.keys root :: art.history } ∧
      (∀ ev ∈ st.events, ev ∈ out.events) ∧ ∀ ev ∈ out.events, ev ∈ st.events ∨ ev = Event.warning := by
  obtain ⟨st, hl, rfl⟩ := hout
  refine ⟨st, hl, rfl, rfl, fun ev h => ?_, fun ev h => ?_⟩
  · dsimp only
    split
    · exact List.mem_append_left _ h
    · exact h
  · dsimp only at h
    split at h
    · exact (List.mem_append.1 h).imp id List.mem_singleton.1
    · exact Or.inl h

/-- **the whole search under any schedule**: an outcome is the final loop state of a loop that kept `P` -/
theorem searchS_rule {root : State} {rng0 : Rng.ChaCha8} {maxDepth : Option Nat} {art : Artifact} {workersOf : Nat → Nat}
    {cancelAt : Option Nat} {fuelDepth : Nat} {out : Outcome} {P : IterSt → Prop}
    (h0 : P (iterInit rng0 art))
    (hpoll : ∀ depth st p, P st → P (boundaryPoll (iterCtx root art cancelAt) depth { st with polls := p }))
    (hstep : ∀ depth st st', depth < iterLimit root maxDepth fuelDepth → P st →
      StepS (iterCtx root art cancelAt) root (hash art.keys.keys root) (workersOf depth) depth st st' → P st')
    (hout : SearchS root rng0 maxDepth art workersOf cancelAt fuelDepth out) :
    ∃ st, P st ∧ out.panic = st.panic ∧
      out.artifact = { keys := art.keys, tt := st.tt, history := hash art.keys.keys root :: art.history } ∧
      (∀ ev ∈ st.events, ev ∈ out.events) ∧ ∀ ev ∈ out.events, ev ∈ st.events ∨ ev = Event.warning :=
  let ⟨st, hl, h⟩ := searchS_out hout
  ⟨st, loopS_rule (N := iterLimit root maxDepth fuelDepth) hpoll hstep hl (Nat.le_of_eq (Nat.zero_add _)) h0, h⟩

/-! ## one iteration: C03 -/

/-- C03: one iteration under any schedule keeps the loop invariant -/
theorem stepS_inv {G : Nat → State → Prop} (hG : Graded G) (D : Nat) (ctx : Ctx)
    (hcf : CollisionFree ctx.keys (upTo G D)) (root : State) (hroot : G 0 root) (rootHash : UInt64)
    (workers depth : Nat) (hdepth : depth + 1 ≤ D) (st st' : IterSt)
    (h : IterInv ctx.keys (upTo G D) root st) (hs : StepS ctx root rootHash workers depth st st') :
    IterInv ctx.keys (upTo G D) root st' := by
  obtain ⟨w, rfl, hw, _⟩ := stepS_rule (ctx := ctx) (root := root) (depth := depth) (Q := fun _ => True) (TInv_legalIns hcf) h.tt (fun w hsd hb env hadm =>
    ⟨(runWorkerE_legal hG D ctx hcf root hroot env hadm w (by omega)
      (hb.elim (fun e => e ▸ h.best) fun e => e ▸ fun m hm => nomatch hm) st.tt h.tt).2, trivial⟩) hs
  exact finishStep_inv hG D ctx root hroot rootHash depth hdepth _ w st hw h

/-- the same for a region of legal positions closed under legal moves -/
theorem stepS_inv_region {R : State → Prop} (hR : Region R) (ctx : Ctx) (hcf : CollisionFree ctx.keys R) (root : State)
    (hroot : R root) (rootHash : UInt64) (workers depth : Nat) (st st' : IterSt) (h : IterInv ctx.keys R root st)
    (hs : StepS ctx root rootHash workers depth st st') : IterInv ctx.keys R root st' := by
  have hup := upTo_const (R := R) (depth + 1)
  have h' := stepS_inv hR.graded (depth + 1) ctx (hcf.congr fun s hs => (hup s).1 hs) root hroot rootHash workers depth
    (Nat.le_refl _) st st' ⟨h.tt.congr fun s hs => (hup s).1 hs, h.best, h.events⟩ hs
  exact ⟨h'.tt.congr fun s hs => (hup s).2 hs, h'.best, h'.events⟩

/-! ## one iteration: C06 -/

section soundS
open Wee.C06 Wee.Outcome

theorem bestOK_of_mem {root : State} {depth : Nat} {bestMv : Option Move} {seeds : List UInt64} {pollsOf : Nat → Nat}
    (hb : C06.BestOK root bestMv) {w : Worker} (hw : w ∈ workersOfIteration depth bestMv seeds pollsOf) :
    C06.BestOK root w.best := by
  rcases (mem_workersOfIteration hw).2 with h | h
  · rw [h]; exact hb
  · rw [h]; exact fun m hm => nomatch hm

theorem stepS_sound {K : Keys} {D : State → Prop} {L nT nB : Nat} (g : Geo L nT nB) (dom : Domain K D)
    (ctx : Ctx) (hK : ctx.keys = K) (root : State) (hD : D root) (rootHash : UInt64) (hrh : rootHash = hash ctx.keys root)
    (workers depth : Nat) (st st' : IterSt) (h : IterOK K D L nT nB root st)
    (hs : StepS ctx root rootHash workers depth st st') :
    IterOK K D L nT nB root st' ∧ ∃ new, st'.events = st.events ++ new ∧ ∀ ev ∈ new, ClaimTrue root ev := by
  obtain ⟨w, rfl, htab, hev, _⟩ := stepS_rule (ctx := ctx) (root := root) (depth := depth) (Q := fun o => ∀ e, o = .ok e → SoundVal root (-11000) 11000 e)
    (TTInv_soundInsert g dom) h.1 (fun w _ hb env hadm =>
      (runWorkerE_sound g dom ctx hK root hD env hadm w
        (hb.elim (fun e => e ▸ h.2.1) fun e => e ▸ fun m hm => nomatch hm) st.tt h.1).2) hs
  exact C06.finishStep_sound ctx hK root hD rootHash hrh depth (drawSeeds workers st.rng).2 w st htab
    (fun e he => hev e he e rfl) h

end soundS

/-! ## one iteration: C04 -/

section safeS
open Wee.SearchCtl

/-- loop-state invariant of the no-panic proof: the three table properties, a legal remembered move, no panic so far -/
def SafeSE (ctx : Ctx) (root : State) (nT nB : Nat) (st : IterSt) : Prop :=
  SafeT ctx root nT nB st.tt ∧ BestOK root st.bestMv ∧ st.panic = Option.none

/-- the report step keeps `SafeSE` when the joined results carry a safe table and no panic -/
theorem finishStep_safe (ctx : Ctx) (root : State) (nT nB : Nat) (depth : Nat) (rng : Rng.ChaCha8) (w : WorkersOut)
    (st : IterSt) (hw : SafeT ctx root nT nB w.tt)
    (hp : w.panic = Option.none) (h : SafeSE ctx root nT nB st) :
    SafeSE ctx root nT nB (finishStep ctx root (Wee.hash ctx.keys root) depth rng w st) := by
  obtain ⟨_, h2, h3⟩ := h
  rcases finishStep_cases ctx root _ depth rng w st rfl rfl rfl with ⟨hne, _⟩ | ⟨_, htt, hpn, hc⟩
  · exact absurd hp hne
  · refine ⟨by rw [htt]; exact hw, ?_, by rw [hpn]; exact h3⟩
    rcases hc with ⟨_, hb, _⟩ | ⟨_, _, ⟨_, hb, _⟩ | ⟨_, hb, _⟩⟩
    · rw [hb]; exact h2
    · rw [hb]; exact fun m hm => nomatch hm
    · rw [hb]; exact walkLine_head ctx root w.tt hw.2.2 (depth + 1)

/-- C04: one iteration under any schedule keeps `SafeSE` -/
theorem stepS_safe (ctx : Ctx) (root : State) (nT nB : Nat) (hT : 0 < nT) (hB : 0 < nB)
    (hhist : ctx.history.contains (Wee.hash ctx.keys root) = true) (hg : Good root)
    (workers depth : Nat) (st st' : IterSt) (h : SafeSE ctx root nT nB st)
    (hs : StepS ctx root (Wee.hash ctx.keys root) workers depth st st') : SafeSE ctx root nT nB st' := by
  obtain ⟨w, rfl, hw, _, hp⟩ := stepS_rule (ctx := ctx) (root := root) (depth := depth) (Q := fun o => ∀ why, o ≠ .error (.panic why)) (SafeI_safeInsert hT hB) h.1
    (fun w _ hb env hadm =>
      have hr := runWorkerE_safe ctx root nT nB hT hB hhist hg env hadm w
        (hb.elim (fun e => e ▸ h.2.1) fun e => e ▸ fun m hm => nomatch hm) st.tt h.1
      ⟨hr.2.2, hr.1⟩) hs
  refine finishStep_safe ctx root nT nB depth _ w st hw ?_ h
  cases hpw : w.panic with
  | none => rfl
  | some why => exact absurd rfl (hp why hpw why)

end safeS

/-! ## the whole search: C03, C04, C06 -/

/-- **C03 for the whole search under arbitrary schedules** (depth-graded): same keys, `TInv` of the table handed back,
every reported line non-empty and legal from the root -/
theorem searchS_inv {G : Nat → State → Prop} (hG : Graded G) (D : Nat) (root : State) (hroot : G 0 root)
    (art : Artifact) (hcf : CollisionFree art.keys.keys (upTo G D)) (htt : TInv art.keys.keys (upTo G D) art.tt)
    (rng0 : Rng.ChaCha8) (maxDepth : Option Nat) (workersOf : Nat → Nat) (cancelAt : Option Nat) (fuelDepth : Nat)
    (hD : iterLimit root maxDepth fuelDepth ≤ D) (out : Outcome)
    (hout : SearchS root rng0 maxDepth art workersOf cancelAt fuelDepth out) :
    out.artifact.keys = art.keys ∧ TInv art.keys.keys (upTo G D) out.artifact.tt ∧
    ∀ ev line, Event.best ev line ∈ out.events → line ≠ [] ∧ LineLegal root line := by
  obtain ⟨st, h, _, hart, _, hev⟩ := searchS_rule (P := IterInv art.keys.keys (upTo G D) root)
    ⟨htt, fun m hm => (by cases hm), fun ev line hm => (by cases hm)⟩
    (fun depth st p h => (show IterInv _ _ root { st with polls := p } from ⟨h.tt, h.best, h.events⟩).boundaryPoll _ depth)
    (fun depth st st' hd h hs => stepS_inv hG D (iterCtx root art cancelAt) hcf root hroot _ _ depth (by omega) st st' h hs)
    hout
  rw [hart]
  exact ⟨rfl, h.tt, fun ev line hmem => h.events ev line ((hev _ hmem).resolve_right (fun e => nomatch e))⟩

/-- the same for a region of legal positions closed under legal moves -/
theorem searchS_inv_region {R : State → Prop} (hR : Region R) (root : State) (hroot : R root) (art : Artifact)
    (hcf : CollisionFree art.keys.keys R) (htt : TInv art.keys.keys R art.tt)
    (rng0 : Rng.ChaCha8) (maxDepth : Option Nat) (workersOf : Nat → Nat) (cancelAt : Option Nat) (fuelDepth : Nat)
    (out : Outcome) (hout : SearchS root rng0 maxDepth art workersOf cancelAt fuelDepth out) :
    out.artifact.keys = art.keys ∧ TInv art.keys.keys R out.artifact.tt ∧
    ∀ ev line, Event.best ev line ∈ out.events → line ≠ [] ∧ LineLegal root line := by
  have hup := upTo_const (R := R) (iterLimit root maxDepth fuelDepth)
  have h := searchS_inv hR.graded _ root hroot art (hcf.congr fun s hs => (hup s).1 hs) (htt.congr fun s hs => (hup s).1 hs)
    rng0 maxDepth workersOf cancelAt fuelDepth (Nat.le_refl _) out hout
  exact ⟨h.1, h.2.1.congr fun s hs => (hup s).2 hs, h.2.2⟩

/-- **C04 for the whole search under arbitrary schedules**: no outcome is a panic, and the three table properties of C04
hold of the table handed back -/
theorem searchS_safe (root : State) (rng0 : Rng.ChaCha8) (maxDepth : Option Nat) (art : Artifact)
    (workersOf : Nat → Nat) (cancelAt : Option Nat) (fuelDepth : Nat) (nT nB : Nat) (hT : 0 < nT) (hB : 0 < nB)
    (hg : SearchCtl.Good root) (hd : art.tt.All SearchCtl.DepthOK) (ha : TT.AInv Gen.bucketSize nT nB art.tt)
    (hp : SearchCtl.PrioritizedOK art root) (out : Outcome)
    (hout : SearchS root rng0 maxDepth art workersOf cancelAt fuelDepth out) :
    out.panic = Option.none ∧ out.artifact.tt.All SearchCtl.DepthOK ∧ TT.AInv Gen.bucketSize nT nB out.artifact.tt ∧
    SearchCtl.PrioritizedOK out.artifact root := by
  obtain ⟨st, h, hpn, hart, _⟩ := searchS_rule (P := SafeSE (iterCtx root art cancelAt) root nT nB)
    ⟨⟨hd, ha, hp⟩, (fun m hm => by cases hm), rfl⟩
    (fun depth st p h => by unfold SafeSE; rw [boundaryPoll_tt, boundaryPoll_bestMv, boundaryPoll_panic]; exact h)
    (fun depth st st' _ h hs => stepS_safe (iterCtx root art cancelAt) root nT nB hT hB (by simp [iterCtx]) hg
      _ depth st st' h hs)
    hout
  rw [hart, hpn]
  exact ⟨h.2.2, h.1.1, h.1.2.1, h.1.2.2⟩

/-- **C06 for the whole search under arbitrary schedules**: the table handed back is sound again and every winning report
is a true forced win -/
theorem searchS_sound {D : State → Prop} {L nT nB : Nat} (g : C06.Geo L nT nB) (art : Artifact)
    (dom : C06.Domain art.keys.keys D) (root : State) (hD : D root) (htt : C06.TTInv art.keys.keys D L nT nB art.tt)
    (rng0 : Rng.ChaCha8) (maxDepth : Option Nat) (workersOf : Nat → Nat) (cancelAt : Option Nat) (fuelDepth : Nat)
    (out : Outcome) (hout : SearchS root rng0 maxDepth art workersOf cancelAt fuelDepth out) :
    C06.TTInv art.keys.keys D L nT nB out.artifact.tt ∧ ∀ ev ∈ out.events, C06.ClaimTrue root ev := by
  obtain ⟨st, h, _, hart, _, hev⟩ := searchS_rule
    (P := fun st => C06.IterOK art.keys.keys D L nT nB root st ∧ ∀ ev ∈ st.events, C06.ClaimTrue root ev)
    ⟨.init htt rfl rfl, fun _ h => nomatch h⟩
    (fun depth st p h => ⟨(show C06.IterOK art.keys.keys D L nT nB root { st with polls := p } from h.1).boundaryPoll _ depth,
      by rw [boundaryPoll_events]; exact h.2⟩)
    (fun depth st st' _ h hs => by
      obtain ⟨h1, new, e1, c1⟩ := stepS_sound g dom (iterCtx root art cancelAt) rfl root hD _ rfl _ depth st st' h.1 hs
      exact ⟨h1, fun ev hev => by rw [e1] at hev; exact (List.mem_append.1 hev).elim (h.2 ev) (c1 ev)⟩)
    hout
  rw [hart]
  exact ⟨h.1.1, fun ev hmem => (hev ev hmem).elim (h.2 ev) (fun e => e ▸ trivial)⟩

/-! ## any table property kept by the workers' inserts -/

/-- C04's worker guarantee for the stored depths alone: in an environment whose inserts have `depth ≤ max_depth`, started
on such a table, a worker only stores such entries (no hypothesis on the position) -/
theorem runWorkerE_depthOK (env : Env) (ctx : Ctx) (root : State) (w : Worker) (tt : TT.Access)
    (hadm : ∀ j, ∀ p ∈ env.script j, SearchCtl.DepthOK p.2) (h : tt.All SearchCtl.DepthOK) :
    LogOK (fun _ e => SearchCtl.DepthOK e) (runWorkerE env ctx root w tt).2.2 := by
  rw [runWorkerE_eq]
  exact (searchNodeE_walk
    (V := { I := fun st => st.tt.All SearchCtl.DepthOK, J := fun st => st.tt.All SearchCtl.DepthOK,
            A := fun e => e ≠ .panic "usize subtraction underflow", G := fun _ e => SearchCtl.DepthOK e })
    (SearchCtl.underflow_walk ctx)
    (fun st j hi => applyInserts_inv (P := fun t => t.All SearchCtl.DepthOK) (Adm := fun _ e => SearchCtl.DepthOK e)
      (fun _ k e h he => h.insert k e he) _ _ hi (hadm j))
    (fun rem a _ _ _ _ _ _ hN _ _ _ _ => by
      show a.curDepth ≤ a.maxDepth
      unfold SearchCtl.RemInv at hN
      omega)
    w.searchDepth (rootArgsE root w) (SearchCtl.remInv_root root w.searchDepth w.best) 0 _ h).log

/-- **a table property kept by the inserts the workers make is kept by the whole search, under any schedule**: `Adm` is
what every worker guarantees of its inserts, in every environment of `Adm` inserts, from a table satisfying `TI` -/
theorem searchS_tt_inv {Adm : Nat → TT.Entry → Prop} {TI : TT.Access → Prop} {root : State} {rng0 : Rng.ChaCha8}
    {maxDepth : Option Nat} {art : Artifact} {workersOf : Nat → Nat} {cancelAt : Option Nat} {fuelDepth : Nat}
    (hstep : ∀ tt k e, TI tt → Adm k e → TI (tt.insert k e))
    (hworker : ∀ (w : Worker) (tt : TT.Access) (env : Env), TI tt → (∀ j, ∀ p ∈ env.script j, Adm p.1 p.2) →
      LogOK Adm (runWorkerE env (iterCtx root art cancelAt) root w tt).2.2)
    (h : TI art.tt) (out : Outcome) (hout : SearchS root rng0 maxDepth art workersOf cancelAt fuelDepth out) :
    TI out.artifact.tt := by
  obtain ⟨st, hst, _, hart, _⟩ := searchS_rule (P := fun st => TI st.tt) h
    (fun depth st p h => by rw [boundaryPoll_tt]; exact h)
    (fun depth st st' _ h hs => by
      obtain ⟨w, rfl, hw, _⟩ := stepS_rule (depth := depth) (Q := fun _ => True) hstep h
        (fun w _ _ env hadm => ⟨hworker w st.tt env h hadm, trivial⟩) hs
      rw [finishStep_tt]
      by_cases hp : w.panic.isSome = true
      · rw [if_pos hp]; exact h
      · rw [if_neg hp]; exact hw)
    hout
  rw [hart]
  exact hst

end Wee.Env
