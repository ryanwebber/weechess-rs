import Wee.Proofs.MoveGenLemmas
import Wee.Proofs.ApplyGen
import Wee.Proofs.MoveWF
import Wee.Proofs.RulesClosed
/-!
# C02 ⇄ C01: every generated pseudo-legal move fits (`C02.MoveFits`), hence `ApplyCorrect`

`Wee/Proofs/MoveGenLemmas.lean` (C01) takes make-move correctness as the hypothesis `ApplyCorrect`; here it is
discharged.  A generated move is `Move.mk` at squares `< 64` (`pseudoLegalMoves_generated`, `Wee/Proofs/MoveWF.lean`), so
its capture / promotion codes are valid; `C02.MoveFits` is `Spec.Fits` of the mailbox plus the reading of the packed move
(`moveFits_iff`), and every pseudo-legal move of a legal position fits by the rules alone (`Spec.fits_of_pseudo`).

The predicates that say "this move is all right", and the implications that exist between them:

| predicate | speaks of | from | by |
|---|---|---|---|
| `Generated h mv` (MoveWF) | the word: `Move.mk` of a real piece at squares `< 64` | a member of `pseudoLegalMoves s` | `pseudoLegalMoves_generated` |
| `GenFns.WFMove mv` (MoveWF) | the word: piece code valid, capture / promotion codes `≤ 6` | `Generated` | `Generated.wf` |
| `C02.CodesOk mv` (ApplyLemmas) | the word: capture / promotion codes valid (`= 0 ∨ isSome`; `codesOk_iff_le`: `≤ 6`) | `Generated` | `Generated.codesOk` |
| `Spec.Fits P sm`, `Spec.PawnShape P sm` (RulesClosed) | the rule move and the mailbox | `Spec.Pseudo P sm`, `Spec.Legal P` | `Spec.fits_of_pseudo` |
| `C02.MoveFits s mv sm` (ApplyLemmas) | word, rule move, mailbox `abs s` | `= toSpecMove mv = some sm ∧ CodesOk mv ∧ DisjointBoard ∧ Spec.Fits (abs s) sm` | `moveFits_iff` |
| | | a generated move of a legal position | `C02.fits_of_pseudo` (below; not `Spec.fits_of_pseudo` of the row above, which it calls), `pseudo_generated_fit`, `legal_generated_fit` |
| `C02.MFits s mv p` (ApplyLemmas) | word and bitboards (what `perform_repr` uses) | `C02.MoveFits` | `fits_model` |
| `Wee.MoveFits s mv sm` (MoveGenLemmas) | C01's hypothesis to `ApplyCorrect`: generated, reads as `sm`, `sm` pseudo-legal | — | (a record of three facts) |
| `WfM.PFacts P sm` (WfMoves) | the rule move: its attributes as functions of (kind, origin, destination, promotion) | `sm ∈ Spec.pseudoMoves P`, `WfM.PosOK P` | `WfM.facts_of_pseudo` |

(`Move.Fits` of MoveBits is unrelated: field widths of the packed word.)
-/
namespace Wee.C02
open Wee.C10 (DisjointBoard)

/-! ## generated moves have valid codes -/

/-- a move built by the general constructor `Move.mk` at squares `< 64` has valid capture / promotion codes, so the
`unwrap`s in `Move::capture` / `Move::promotion` cannot panic on it -/
theorem codesOk_mk (c : Color) (p : Piece) (o d : Nat) (cap pr : Option Piece) (ep cq ck : Bool)
    (ho : o < 64) (hd : d < 64) : CodesOk (Move.mk c p o d cap pr ep cq ck) :=
  (codesOk_iff_le _).2 (Move.codes_mk_le c p o d cap pr ep cq ck ho hd)

theorem _root_.Wee.Generated.codesOk {h : Helper} {mv : Move} (g : Generated h mv) : CodesOk mv := by
  obtain ⟨c, p, o, d, cap, pr, ep, cq, ck, ho, hd, _, _, rfl⟩ := g
  exact codesOk_mk c p o d cap pr ep cq ck ho hd

/-- **every generated pseudo-legal move has valid capture / promotion codes** -/
theorem codesOk_of_generated (s : State) (L : List Move) (hL : pseudoLegalMoves s = some L) (mv : Move)
    (hmv : mv ∈ L) : CodesOk mv :=
  (pseudoLegalMoves_generated s L hL mv hmv).codesOk

/-! ## a rule-level pseudo-legal move of a legal position fits -/

/-- a fitting packed move is a packed move that reads as a fitting rule-level move -/
theorem moveFits_iff (s : State) (mv : Move) (sm : Spec.SMove) :
    MoveFits s mv sm ↔ toSpecMove mv = some sm ∧ CodesOk mv ∧ DisjointBoard s.pieces ∧ Spec.Fits (abs s) sm :=
  ⟨fun h => ⟨h.spec, h.codes, h.disjoint, ⟨abs_size s, h.color, h.src_lt, h.dst_lt, h.mover, h.quiet, h.capture,
      h.enPassant, h.promo, h.castle, h.dbl⟩⟩,
    fun ⟨a, b, c, h⟩ => ⟨a, b, c, h.color, h.src_lt, h.dst_lt, h.mover, h.quiet, h.capture, h.enPassant, h.promo,
      h.castle, h.dbl⟩⟩

/-- **every rule-level pseudo-legal move of a legal position, read from a packed move with valid
codes, fits**, and has the shape of a move of the rules -/
theorem fits_of_pseudo (s : State) (hl : LegalPos s = true) (hd : DisjointBoard s.pieces) (mv : Move)
    (sm : Spec.SMove) (hspec : toSpecMove mv = some sm) (hcodes : CodesOk mv)
    (hps : sm ∈ Spec.pseudoMoves (abs s)) : MoveFits s mv sm ∧ Spec.PawnShape (abs s) sm :=
  let ⟨h, hsh⟩ := Spec.fits_of_pseudo (legal_abs hl) ((Spec.pseudo_iff _ _).1 hps)
  ⟨(moveFits_iff s mv sm).2 ⟨hspec, hcodes, hd, h⟩, hsh⟩

/-! ## generated moves fit; `ApplyCorrect` -/

/-- every move of the pseudo-legal list of a legal position fits the rule-level move it reads as -/
theorem pseudo_generated_fit (s : State) (hl : LegalPos s = true) (hd : DisjointBoard s.pieces)
    (ps : List Move) (hps : pseudoLegalMoves s = some ps) (mv : Move) (hmv : mv ∈ ps) :
    ∃ sm, MoveFits s mv sm ∧ sm ∈ Spec.pseudoMoves (abs s) := by
  obtain ⟨L, hL, hmem⟩ := pseudoLegal_spec s hd (legalPos_ep s hl) (legalPos_king s hl)
  rw [hps] at hL
  cases hL
  obtain ⟨m, hm, _, e⟩ := (hmem (toSpecMove mv)).1 (List.mem_map_of_mem hmv)
  exact ⟨m, (fits_of_pseudo s hl hd mv m e (codesOk_of_generated s ps hps mv hmv) hm).1, hm⟩

/-- every entry of the legal-move list of a legal position without overlaps fits a rule-level move -/
theorem legal_generated_fit (s : State) (hl : LegalPos s = true) (hd : DisjointBoard s.pieces)
    (r : Move × State) (hr : r ∈ legalMoves s) : ∃ sm, MoveFits s r.1 sm := by
  obtain ⟨ms, h, hr⟩ := legalMoves?_of_mem hr
  obtain ⟨_, ps, hps, hmem⟩ := mem_legalMoves? h hr
  obtain ⟨sm, hfit, _⟩ := pseudo_generated_fit s hl hd ps hps r.1 hmem
  exact ⟨sm, hfit⟩

/-- the interface hypothesis of C01, proved: on a legal position without overlaps every generated
pseudo-legal move is performed without error, the successor reads as the rule-level successor and
again has no overlaps -/
theorem applyCorrect : _root_.Wee.ApplyCorrect := by
  intro s hl hd mv sm h
  obtain ⟨L, hL, hmv⟩ := h.generated
  have hfit := (fits_of_pseudo s hl hd mv sm h.reads (codesOk_of_generated s L hL mv hmv) h.pseudo).1
  obtain ⟨p, hm, hk⟩ := fits_model hfit
  obtain ⟨map, hpm, hr⟩ := perform_repr hm
  exact ⟨_, hpm, abs_finish hfit hm hk (rightsSound_of_legal hl hd) hr, disjoint_of_repr hr⟩

end Wee.C02
