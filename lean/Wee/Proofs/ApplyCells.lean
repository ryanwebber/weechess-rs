import Wee.Proofs.ApplyLemmas
/-!
# C02: the mailbox of the successor placement (`expectedF`), square by square
-/
namespace Wee.C02
open Wee.C10 (DisjointBoard)

/-- the mailbox of the successor placement: the instance of `moved` at the packed move's attributes -/
def expectedF (s : State) (mv : Move) (p : Piece) : Nat → Option (Color × Piece) :=
  moved s.pieces.pieceAt (Move.origin mv) (Move.dest mv) (Move.isEnPassant mv)
    (s.turn, (Move.promotion mv).getD p) (s.turn, Piece.rook) ((Move.castleSide mv).map (· == Side.king))

/-- before the move the destination is empty or holds an enemy piece that is not a king -/
theorem MFits.dest_content {s : State} {mv : Move} {p : Piece} (h : MFits s mv p) :
    s.pieces.pieceAt (Move.dest mv) = Option.none ∨
      ∃ q, s.pieces.pieceAt (Move.dest mv) = some (s.turn.opp, q) ∧ q ≠ Piece.king := by
  cases hcap : Move.capture mv with
  | none => exact Or.inl (h.quiet hcap).2
  | some q =>
    cases hep : Move.isEnPassant mv with
    | false => exact Or.inr ⟨q, h.capture q hcap hep⟩
    | true => exact Or.inl (h.enPassant hep).2.2.2.2.1

theorem MFits.dest_not_own {s : State} {mv : Move} {p : Piece} (h : MFits s mv p) (q : Piece) :
    s.pieces.pieceAt (Move.dest mv) ≠ some (s.turn, q) := by
  intro e
  rcases h.dest_content with hn | ⟨q', hq', _⟩
  · rw [e] at hn; cases hn
  · rw [e] at hq'
    exact opp_ne s.turn (congrArg Prod.fst (Option.some.inj hq')).symm

theorem MFits.o_ne_d {s : State} {mv : Move} {p : Piece} (h : MFits s mv p) : Move.origin mv ≠ Move.dest mv :=
  fun e => h.dest_not_own p (e ▸ h.mover)

theorem MFits.dest_not_king {s : State} {mv : Move} {p : Piece} (h : MFits s mv p) (c : Color) :
    s.pieces.pieceAt (Move.dest mv) ≠ some (c, Piece.king) := by
  intro e
  rcases h.dest_content with hn | ⟨q', hq', hk⟩
  · rw [e] at hn; cases hn
  · rw [e] at hq'
    exact hk (congrArg Prod.snd (Option.some.inj hq')).symm

theorem mid_repr {s : State} {mv : Move} {p : Piece} (h : MFits s mv p) :
    ∃ mid, capStep s mv (baseMap s mv p) = .ok mid ∧
      Repr mid (placed s.pieces.pieceAt (Move.origin mv) (Move.dest mv) (Move.isEnPassant mv) (s.turn, p)) := by
  have h0 : Repr s.pieces s.pieces.pieceAt := repr_pieceAt h.disjoint
  have h1 := repr_clear h0 s.turn p _ h.o_lt h.mover
  unfold capStep baseMap placed
  cases hep : Move.isEnPassant mv
  · simp only [Bool.false_eq_true, if_false]
    cases hcap : Move.capture mv with
    | none =>
      refine ⟨_, rfl, ?_⟩
      obtain ⟨_, hdn⟩ := h.quiet hcap
      have hne := h.o_ne_d.symm
      exact repr_set h1 s.turn p _ h.d_lt (by rw [upd_ne _ _ _ _ hne]; exact hdn) h.p_ne
    | some q =>
      refine ⟨_, rfl, ?_⟩
      obtain ⟨hdq, _⟩ := h.capture q hcap hep
      have hne := h.o_ne_d.symm
      rw [assign_comm _ s.turn s.turn.opp p q _ _ _ _ (fun e => opp_ne s.turn e.1.symm)]
      have h2 := repr_clear h1 s.turn.opp q _ h.d_lt (by rw [upd_ne _ _ _ _ hne]; exact hdq)
      have h3 := repr_set h2 s.turn p _ h.d_lt (upd_same _ _ _) h.p_ne
      rw [upd_upd] at h3
      exact h3
  · obtain ⟨_, _, _, _, hdn, hsep, hoff, hv⟩ := h.enPassant hep
    simp only [if_true, hsep, hoff]
    refine ⟨_, rfl, ?_⟩
    have hvlt : Move.origin mv / 8 * 8 + Move.dest mv % 8 < 64 := by have := h.o_lt; omega
    have hvo : Move.origin mv / 8 * 8 + Move.dest mv % 8 ≠ Move.origin mv := by
      intro e; rw [e, h.mover] at hv
      exact opp_ne s.turn (congrArg Prod.fst (Option.some.inj hv)).symm
    rw [assign_comm _ s.turn s.turn.opp p Piece.pawn _ _ _ _ (fun e => opp_ne s.turn e.1.symm)]
    have h2 := repr_clear h1 s.turn.opp Piece.pawn _ hvlt (by rw [upd_ne _ _ _ _ hvo]; exact hv)
    refine repr_set h2 s.turn p _ h.d_lt ?_ h.p_ne
    unfold upd
    split
    · rfl
    · split
      · rfl
      · exact hdn

theorem promo_repr {s : State} {mv : Move} {p : Piece} (h : MFits s mv p) {mid : PieceMap}
    (hm : Repr mid (placed s.pieces.pieceAt (Move.origin mv) (Move.dest mv) (Move.isEnPassant mv) (s.turn, p))) :
    Repr (promoStep s.turn p (Move.dest mv) (Move.promotion mv) mid)
      (placed s.pieces.pieceAt (Move.origin mv) (Move.dest mv) (Move.isEnPassant mv)
        (s.turn, (Move.promotion mv).getD p)) := by
  unfold promoStep
  cases hpr : Move.promotion mv with
  | none => exact hm
  | some r =>
    simp only []
    have h1 := repr_clear hm s.turn p _ h.d_lt (placed_dst _ _)
    have h2 := repr_set h1 s.turn r _ h.d_lt (upd_same _ _ _) (promotion_ne_none hpr)
    rw [upd_upd, placed_upd] at h2
    exact h2

theorem homeSq_cases (c : Color) : homeSq c = 4 ∨ homeSq c = 60 := by cases c <;> simp [homeSq]

/-- a rook lifted from `a` and put on the empty square `b` -/
theorem rook_hop {m : PieceMap} {f : Nat → Option (Color × Piece)} (hm : Repr m f) {c : Color} {a b : Nat}
    (ha : a < 64) (hb : b < 64) (hfa : f a = some (c, Piece.rook)) (hfb : f b = Option.none) :
    Repr ((m.assign c Piece.rook a false).assign c Piece.rook b true)
      (upd (upd f a Option.none) b (some (c, Piece.rook))) := by
  have hne : b ≠ a := fun e => by rw [e, hfa] at hfb; cases hfb
  exact repr_set (repr_clear hm c Piece.rook a ha hfa) c Piece.rook b hb (by rw [upd_ne _ _ _ _ hne]; exact hfb)
    (by decide)

theorem castle_repr {s : State} {mv : Move} {p : Piece} (h : MFits s mv p) {m : PieceMap}
    (hm : Repr m (placed s.pieces.pieceAt (Move.origin mv) (Move.dest mv) (Move.isEnPassant mv)
      (s.turn, (Move.promotion mv).getD p))) :
    Repr (castleStep s.turn (Move.origin mv) (Move.castleSide mv) m) (expectedF s mv p) := by
  unfold castleStep expectedF moved
  cases hcs : Move.castleSide mv with
  | none => exact hm
  | some sd =>
    obtain ⟨hpk, hcap, hpr, ho, hsd⟩ := h.castle sd hcs
    obtain ⟨hep, _⟩ := h.quiet hcap
    have hF : placed s.pieces.pieceAt (Move.origin mv) (Move.dest mv) (Move.isEnPassant mv)
        (s.turn, (Move.promotion mv).getD p) =
        upd (upd s.pieces.pieceAt (Move.origin mv) Option.none) (Move.dest mv) (some (s.turn, p)) := by
      unfold placed; simp only [hpr, hep, Bool.false_eq_true, if_false, Option.getD_none]
    have ho' := homeSq_cases s.turn
    rw [← ho] at ho'
    rw [hF] at hm ⊢
    -- with the origin one of the two literals 4 and 60, every side condition is a closed numeral fact
    generalize Move.origin mv = o at hm hsd ho' ⊢
    generalize Move.dest mv = d at hm hsd ⊢
    -- both sides, both colours: the same argument
    cases sd
    all_goals
      obtain ⟨rfl, hr, he⟩ := hsd
      rcases ho' with rfl | rfl <;>
        exact rook_hop hm (by decide) (by decide)
          (by rw [upd_ne _ _ _ _ (by decide), upd_ne _ _ _ _ (by decide)]; exact hr)
          (by rw [upd_ne _ _ _ _ (by decide), upd_ne _ _ _ _ (by decide)]; exact he)

/-- **the successor placement, square by square**: under `MFits`, `performMove` succeeds and the
mailbox of the new placement is `expectedF` -/
theorem perform_repr {s : State} {mv : Move} {p : Piece} (h : MFits s mv p) :
    ∃ map, performMove s mv = some (.ok (finish s mv p map)) ∧ Repr map (expectedF s mv p) := by
  obtain ⟨mid, hmid, hr⟩ := mid_repr h
  refine ⟨finalMap s mv p mid, ?_, ?_⟩
  · rw [performMove_eq s mv p h.piece h.codes, hmid]
  · exact castle_repr h (promo_repr h hr)

/-- a successful `by_performing_move` of a fitting move, taken apart -/
theorem perform_inv {s next : State} {mv : Move} {sm : Spec.SMove} (h : MoveFits s mv sm)
    (hnext : performMove s mv = some (.ok next)) :
    ∃ p map, MFits s mv p ∧ absKind p = some sm.kind ∧ next = finish s mv p map ∧ Repr map (expectedF s mv p) := by
  obtain ⟨p, hm, hk⟩ := fits_model h
  obtain ⟨map, hpm, hr⟩ := perform_repr hm
  rw [hpm] at hnext
  exact ⟨p, map, hm, hk, (Except.ok.inj (Option.some.inj hnext)).symm, hr⟩

/-! ## what moves and what stays: castling rights — "rook still on its corner" (model) = "lost when the king
moves or a rook leaves / is captured on its corner" (rules), given `RightsSound` -/

theorem castleSide_map {cs : Option Side} :
    (cs.map (· == Side.king) = some true ↔ cs = some Side.king) ∧
    (cs.map (· == Side.king) = some false ↔ cs = some Side.queen) := by
  cases cs with
  | none => simp
  | some sd => cases sd <;> simp

/-- where the castling king lands, in the terms of `moved` -/
theorem MFits.castle_dest {s : State} {mv : Move} {p : Piece} (h : MFits s mv p) :
    ((Move.castleSide mv).map (· == Side.king) = some true → Move.dest mv = Move.origin mv + 2) ∧
    ((Move.castleSide mv).map (· == Side.king) = some false →
      Move.dest mv = Move.origin mv - 2 ∧ 4 ≤ Move.origin mv) := by
  constructor
  · intro hc
    exact (h.castle _ (castleSide_map.1.1 hc)).2.2.2.2.1
  · intro hc
    obtain ⟨_, _, _, ho, hd, _⟩ := h.castle _ (castleSide_map.2.1 hc)
    have := homeSq_cases s.turn
    exact ⟨hd, by omega⟩

/-- a square that is neither origin, destination, en-passant victim nor a castling rook square keeps its content -/
theorem expectedF_untouched (s : State) (mv : Move) (p : Piece) (sq : Nat)
    (h1 : sq ≠ Move.origin mv) (h2 : sq ≠ Move.dest mv)
    (h3 : Move.isEnPassant mv = true → sq ≠ Move.origin mv / 8 * 8 + Move.dest mv % 8)
    (h4 : Move.castleSide mv = some Side.king → sq ≠ Move.origin mv + 3 ∧ sq ≠ Move.origin mv + 1)
    (h5 : Move.castleSide mv = some Side.queen → sq ≠ Move.origin mv - 4 ∧ sq ≠ Move.origin mv - 1) :
    expectedF s mv p sq = s.pieces.pieceAt sq := by
  unfold expectedF
  exact moved_untouched _ _ _ sq h1 h2 h3 (fun hc => h4 (castleSide_map.1.1 hc)) (fun hc => h5 (castleSide_map.2.1 hc))

theorem expectedF_origin {s : State} {mv : Move} {p : Piece} (h : MFits s mv p) :
    expectedF s mv p (Move.origin mv) = Option.none := by
  unfold expectedF
  exact moved_src _ _ _ h.o_ne_d (fun hc => (h.castle_dest.2 hc).2)

theorem expectedF_dest {s : State} {mv : Move} {p : Piece} (h : MFits s mv p) :
    expectedF s mv p (Move.dest mv) = some (s.turn, (Move.promotion mv).getD p) := by
  unfold expectedF
  exact moved_dst _ _ _ h.castle_dest.1 h.castle_dest.2

/-- a piece `(col, q)` standing on `sq` that is not the mover, not the victim and (when castling)
not the castling rook stays where it is -/
theorem expectedF_bystander {s : State} {mv : Move} {p : Piece} (h : MFits s mv p) (sq : Nat) (col : Color) (q : Piece)
    (hsq : s.pieces.pieceAt sq = some (col, q)) (h1 : sq ≠ Move.origin mv) (h2 : sq ≠ Move.dest mv)
    (hq : q = Piece.king ∨ (q = Piece.rook ∧ ¬ (p = Piece.king ∧ s.turn = col))) :
    expectedF s mv p sq = some (col, q) := by
  rw [expectedF_untouched s mv p sq h1 h2, hsq]
  · intro hep e
    obtain ⟨_, _, _, _, _, _, _, hv⟩ := h.enPassant hep
    rw [← e, hsq] at hv
    have := congrArg Prod.snd (Option.some.inj hv)
    simp only [] at this
    rcases hq with rfl | ⟨rfl, _⟩ <;> cases this
  -- either side: `sq` is not the rook's corner (that rook is the mover's, and the mover is the king) nor
  -- the empty square it lands on
  all_goals
    intro hcs
    obtain ⟨hpk, _, _, _, _, hr, he⟩ := h.castle _ hcs
    constructor
    · intro e
      rw [← e, hsq] at hr
      have e1 := congrArg Prod.fst (Option.some.inj hr)
      have e2 := congrArg Prod.snd (Option.some.inj hr)
      simp only [] at e1 e2
      rcases hq with rfl | ⟨_, hn⟩
      · cases e2
      · exact hn ⟨hpk, e1.symm⟩
    · intro e; rw [← e, hsq] at he; cases he

/-- **a corner rook after the move**: the rook of colour `col` that stood on `sq` is still there
iff the move neither started nor ended on `sq` (the mover's own king move is excluded: castling
takes the rook away) -/
theorem corner_rook {s : State} {mv : Move} {p : Piece} (h : MFits s mv p) {map : PieceMap}
    (hr : Repr map (expectedF s mv p)) (sq : Nat) (hlt : sq < 64) (col : Color)
    (hsq : s.pieces.pieceAt sq = some (col, Piece.rook)) (hn : ¬ (p = Piece.king ∧ s.turn = col)) :
    test (map.get col Piece.rook) sq = !(Move.origin mv == sq || Move.dest mv == sq) := by
  have key := hr sq hlt col Piece.rook
  by_cases ho : Move.origin mv = sq
  · subst ho
    rw [expectedF_origin h] at key
    have : test (map.get col Piece.rook) (Move.origin mv) = false := by
      cases ht : test (map.get col Piece.rook) (Move.origin mv) with
      | false => rfl
      | true => exact absurd (key.1 ht) (by simp)
    rw [this]; simp
  · by_cases hd : Move.dest mv = sq
    · subst hd
      rw [expectedF_dest h] at key
      have : test (map.get col Piece.rook) (Move.dest mv) = false := by
        cases ht : test (map.get col Piece.rook) (Move.dest mv) with
        | false => rfl
        | true =>
          have e := Option.some.inj (key.1 ht)
          have e1 : s.turn = col := congrArg Prod.fst e
          rw [← e1] at hsq
          exact absurd hsq (h.dest_not_own _)
      rw [this]; simp
    · have := expectedF_bystander h sq col Piece.rook hsq (fun e => ho e.symm) (fun e => hd e.symm)
        (Or.inr ⟨rfl, hn⟩)
      rw [key.2 this]
      simp [ho, hd]

/-- a king that is not the mover stays on its square -/
theorem king_stays {s : State} {mv : Move} {p : Piece} (h : MFits s mv p) {map : PieceMap}
    (hr : Repr map (expectedF s mv p)) (sq : Nat) (hlt : sq < 64) (col : Color)
    (hsq : s.pieces.pieceAt sq = some (col, Piece.king)) (hn : ¬ (p = Piece.king ∧ s.turn = col)) :
    test (map.get col Piece.king) sq = true := by
  apply (hr sq hlt col Piece.king).2
  apply expectedF_bystander h sq col Piece.king hsq _ _ (Or.inl rfl)
  · intro e
    rw [e, h.mover] at hsq
    have := Option.some.inj hsq
    exact hn ⟨congrArg Prod.snd this, congrArg Prod.fst this⟩
  · intro e
    rw [e] at hsq
    exact h.dest_not_king col hsq

end Wee.C02
