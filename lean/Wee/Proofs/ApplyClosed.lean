import Wee.Proofs.ApplyBridge
/-!
# C02_closed: the successor of a legal position by a legal move is a legal position

`LegalPos next` for `next = by_performing_move(s, mv)`, `mv` a listed legal move of the legal position `s`: the mailbox
of `next` is the rule-level successor (`abs_finish`), and the rules keep legality (`Spec.legal_succ`,
`Wee/Proofs/RulesClosed.lean`).

With that closed, the file states what the layers above consume about the legal-move list of a legal position:
`legalMoves?_eq` (the generator returns), `legalMoves_entry` (what one entry is), `legalMoves_perm` (the list against the
rules' list), `legalMoves_length`.  It also DEFINES `SearchCtl.Good s` (legal, no stacked pieces: the positions the search
controller's proofs range over) — here and not in `SearchCtl*`, because `Good.succ`, `Good.legalMoves?` and `Good.king` are
these theorems.
-/
namespace Wee.C02
open Wee.C10 (DisjointBoard)

theorem _root_.Wee.legalPos_size (P : Spec.Pos) (hP : Spec.LegalPos P = true) : P.cells.size = 64 :=
  ((Spec.legalPos_iff P).1 hP).size

theorem MoveFits.fits {s : State} {mv : Move} {sm : Spec.SMove} (h : MoveFits s mv sm) : Spec.Fits (abs s) sm :=
  ((moveFits_iff s mv sm).1 h).2.2.2

theorem abs_at_fn (s : State) (n : Nat) : (abs s).at n = cellsFn (abs s).cells n :=
  at_eq_cellsFn _ (abs_size s) n

/-- **C02_closed, one move**: in a legal position `s` (placement without overlaps), if `mv` fits the
rule-level pseudo-legal move `sm` and `sm` does not leave the mover's king attacked, then the
position `by_performing_move` returns is again legal. -/
theorem legalPos_succ (s : State) (hl : LegalPos s = true) (hd : DisjointBoard s.pieces) (mv : Move)
    (sm : Spec.SMove) (hfit : MoveFits s mv sm) (hps : sm ∈ Spec.pseudoMoves (abs s))
    (hlegal : Spec.isLegalAfter (abs s) sm = true) (next : State)
    (hnext : performMove s mv = some (.ok next)) : LegalPos next = true := by
  obtain ⟨p, map, hm, hk, rfl, hr⟩ := perform_inv hfit hnext
  unfold LegalPos
  rw [abs_finish hfit hm hk (rightsSound_of_legal hl hd) hr]
  exact (Spec.legalPos_iff _).2 (Spec.legal_succ (legal_abs hl) ((Spec.pseudo_iff _ _).1 hps) hlegal)


/-- **C02_closed**: every successor stored in the legal-move list of a legal position (placement
without overlaps) is a legal position. -/
theorem legalClosed : ∀ s, LegalPos s = true → DisjointBoard s.pieces → ∀ r ∈ legalMoves s, LegalPos r.2 = true := by
  intro s hl hd r hr
  obtain ⟨ps, L, _, hL, _, hr', _⟩ := legalMoves_spec applyCorrect s hl hd
  have hLe : legalMoves s = L := legalMoves_of_some hL
  rw [hLe] at hr
  obtain ⟨sm, e, hleg, _, _⟩ := hr' r hr
  obtain ⟨hpm, hla⟩ := Spec.mem_legalMoves.1 hleg
  obtain ⟨hperf, ps', hps', hmem⟩ := mem_legalMoves? hL hr
  have hfit := (fits_of_pseudo s hl hd r.1 sm e (codesOk_of_generated s ps' hps' r.1 hmem) hpm).1
  exact legalPos_succ s hl hd r.1 sm hfit hpm hla r.2 hperf

/-! ## the legal-move list of a legal position -/

/-- `compute_legal_moves` does not panic on a legal position (placement without overlaps): what it returns is
`legalMoves s` -/
theorem legalMoves?_eq (s : State) (hl : LegalPos s = true) (hd : DisjointBoard s.pieces) :
    legalMoves? s = some (legalMoves s) := by
  obtain ⟨L, hL⟩ := (legalMoves_results_of applyCorrect s hl hd).1
  rw [legalMoves_of_some hL]
  exact hL

/-- every entry `(mv, next)` of the list reads as a legal move `sm` of the rules; `next` is the rules' successor, again
without overlaps and a legal position -/
theorem legalMoves_entry (s : State) (hl : LegalPos s = true) (hd : DisjointBoard s.pieces) :
    ∀ r ∈ legalMoves s, ∃ sm, toSpecMove r.1 = some sm ∧ sm ∈ Spec.legalMoves (abs s) ∧
      abs r.2 = Spec.applyMove (abs s) sm ∧ DisjointBoard r.2.pieces ∧ LegalPos r.2 = true := fun r hr =>
  let ⟨sm, a, b, c, d⟩ := (legalMoves_results_of applyCorrect s hl hd).2 r hr
  ⟨sm, a, b, c, d, legalClosed s hl hd r hr⟩

/-- the list, each move read through all its accessors, is a permutation of the rules' legal moves without duplicates -/
theorem legalMoves_perm (s : State) (hl : LegalPos s = true) (hd : DisjointBoard s.pieces) :
    ((legalMoves s).map (toSpecMove ∘ (·.1))).Perm ((Spec.legalMoves (abs s)).map some) ∧
    ((legalMoves s).map (toSpecMove ∘ (·.1))).Nodup :=
  legalMoves_perm_of applyCorrect s hl hd

theorem legalMoves_length (s : State) (hl : LegalPos s = true) (hd : DisjointBoard s.pieces) :
    (legalMoves s).length = (Spec.legalMoves (abs s)).length := by
  have := (legalMoves_perm s hl hd).1.length_eq
  simpa using this

/-- the positions the C01/C02 theorems talk about: a legal position whose bitboards do not overlap -/
def _root_.Wee.SearchCtl.Good (s : State) : Prop := LegalPos s = true ∧ DisjointBoard s.pieces

theorem _root_.Wee.SearchCtl.Good.legalMoves? {s : State} (h : SearchCtl.Good s) : ∃ L, legalMoves? s = some L :=
  ⟨_, legalMoves?_eq s h.1 h.2⟩

/-- the listed successors of such a position are such positions -/
theorem _root_.Wee.SearchCtl.Good.succ {s : State} (h : SearchCtl.Good s) {r : Move × State} (hr : r ∈ legalMoves s) :
    SearchCtl.Good r.2 :=
  let ⟨_, _, _, _, hd, hl⟩ := legalMoves_entry s h.1 h.2 r hr
  ⟨hl, hd⟩

/-- a legal position has a king of either colour on the board -/
theorem _root_.Wee.SearchCtl.Good.king {s : State} (h : SearchCtl.Good s) (c : Color) : s.pieces.get c .king ≠ 0 := fun h0 => by
  have := oneKingEach_of_legal s h.1 h.2 c
  rw [h0, popcount_zero] at this; cases this

end Wee.C02
