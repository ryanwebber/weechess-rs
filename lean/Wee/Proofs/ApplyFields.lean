import Wee.Proofs.ApplyCells
/-!
# C02: the cells of the rule-level successor `Spec.applyMove (abs s) sm` are the abstraction of `expectedF`
(`spec_cells`), the scalar fields of the successor (side, clocks, en-passant target, rights) and the assembly
-/
namespace Wee.C02

/-- **placement**: the rule-level cells after the move are the abstraction of `expectedF` -/
theorem spec_cells {s : State} {mv : Move} {sm : Spec.SMove} {p : Piece} (h : MoveFits s mv sm)
    (hm : MFits s mv p) (hk : absKind p = some sm.kind) :
    cellsFn (Spec.applyMove (abs s) sm).cells = fun n => cellAbs (expectedF s mv p n) := by
  have e := ((toSpecMove_eq_some mv sm).1 h.spec).2
  have hcol := h.color
  generalize sm.kind = k at e hk
  subst e
  simp only [] at hcol hk
  have hcs3 : Move.castleSide mv ≠ Option.none → Move.origin mv + 3 < 64 := by
    intro hc
    cases hcs : Move.castleSide mv with
    | none => exact absurd hcs hc
    | some sd =>
      have := (hm.castle sd hcs).2.2.2.1
      have := homeSq_cases s.turn
      omega
  have hx : cellAbs (some (s.turn, (Move.promotion mv).getD p)) =
      some (absColor s.turn, ((Move.promotion mv).bind absKind).getD k) := by
    cases hpr : Move.promotion mv with
    | none => exact cellAbs_some _ _ _ hk
    | some r =>
      obtain ⟨kr, hkr⟩ := Wee.C10.absKind_some r (promotion_ne_none hpr)
      simp only [Option.getD_some, Option.bind_some, hkr]
      exact cellAbs_some _ _ _ hkr
  rw [applyMove_cellsFn _ (by simp [abs]) _ hm.o_lt hm.d_lt (by simpa using hcs3), specFn, cellsFn_abs]
  unfold expectedF
  simp only [hcol]
  exact (moved_map _ _ _ cellAbs rfl _ _ hx (cellAbs_some _ _ _ rfl) _ _ _ _).symm


/-! ## the scalar fields and the assembly -/

open Wee.C10 (pieceAt_iff absColor_opp)

theorem absColor_eq_black (c : Color) : (absColor c == Spec.Color.black) = (c == Color.black) := by
  cases c <;> rfl

theorem absKind_beq {p q : Piece} {k k' : Spec.Kind} (h : absKind p = some k) (h' : absKind q = some k') :
    (k == k') = (p == q) := by
  cases (absKind_eq_some p k).1 h
  cases (absKind_eq_some q k').1 h'
  rw [Bool.eq_iff_iff, beq_iff_eq, beq_iff_eq]
  exact ⟨congrArg SanP.kindPiece, kindPiece_inj⟩

theorem turn_agree {s : State} {mv : Move} {sm : Spec.SMove} (hcol : sm.color = absColor s.turn)
    (p : Piece) (map : PieceMap) :
    (abs (finish s mv p map)).turn = (Spec.applyMove (abs s) sm).turn := by
  show absColor s.turn.opp = sm.color.opp
  rw [hcol, absColor_opp]

theorem fullmove_agree {s : State} {mv : Move} {sm : Spec.SMove} (hcol : sm.color = absColor s.turn)
    (p : Piece) (map : PieceMap) :
    (abs (finish s mv p map)).fullmove = (Spec.applyMove (abs s) sm).fullmove := by
  show (if s.turn == Color.black then clockSucc s.fullmove else s.fullmove) =
    (if sm.color == Spec.Color.black then Spec.clockSucc s.fullmove else s.fullmove)
  rw [hcol, absColor_eq_black]
  rfl

theorem halfmove_agree {s : State} {mv : Move} {sm : Spec.SMove} (hspec : toSpecMove mv = some sm)
    (hc : CodesOk mv) (p : Piece) (hp : Move.piece? mv = some p) (map : PieceMap) :
    (abs (finish s mv p map)).halfmove = (Spec.applyMove (abs s) sm).halfmove := by
  obtain ⟨p', hp', hk, _, _, _, hcap, _⟩ := toSpecMove_some hspec
  rw [hp] at hp'; cases hp'
  show (if (Move.isCapture mv || p == Piece.pawn) then 0 else clockSucc s.halfmove) =
    (if (sm.kind == Spec.Kind.pawn || sm.capture.isSome) then 0 else Spec.clockSucc s.halfmove)
  have h1 : sm.capture.isSome = Move.isCapture mv := by
    rw [isCapture_eq hc, hcap]
    cases hq : Move.capture mv with
    | none => rfl
    | some q =>
      obtain ⟨k, hk⟩ := Wee.C10.absKind_some q (capture_ne_none hq)
      simp [hk]
  rw [h1, absKind_beq hk (q := .pawn) rfl, Bool.or_comm]
  rfl

theorem ep_agree {s : State} {mv : Move} {sm : Spec.SMove} (hspec : toSpecMove mv = some sm)
    (hcol : sm.color = absColor s.turn) (hs : sm.src < 64) (hd : sm.dst < 64)
    (hdbl : sm.dbl = true → (sm.dst : Int) = (sm.src : Int) + 16 * sm.color.fwd)
    (p : Piece) (map : PieceMap) :
    (abs (finish s mv p map)).ep = (Spec.applyMove (abs s) sm).ep := by
  obtain ⟨_, _, _, _, hsrc, hdst, _, _, _, _, hd'⟩ := toSpecMove_some hspec
  show (if Move.isDoublePawn mv then offset (Move.dest mv) 0 s.turn.backward else Option.none) =
    (if sm.dbl then some ((sm.src + sm.dst) / 2) else Option.none)
  rw [← hd', ← hdst]
  cases hb : sm.dbl with
  | false => rfl
  | true =>
    have := hdbl hb
    rw [hcol] at this
    simp only [if_true]
    exact offset_back_mid hs hd this

theorem right_agree {s : State} {mv : Move} {sm : Spec.SMove} {p : Piece} (h : MoveFits s mv sm) (hm : MFits s mv p)
    (hk : absKind p = some sm.kind) {map : PieceMap}
    (hr : Repr map (expectedF s mv p)) (col : Color) (sq : Nat) (hlt : sq < 64) (held : Bool)
    (hsound : held = true → test (s.pieces.get col Piece.rook) sq = true) (cr : CastleRights) (f : CastleRights → Bool)
    (hf : f CastleRights.noRights = false) (hheld : f cr = held) :
    (f (if p == Piece.king ∧ s.turn == col then CastleRights.noRights else cr) && test (map.get col Piece.rook) sq) =
      (held && !(sm.kind == Spec.Kind.king && sm.color == absColor col) && !(sm.src == sq || sm.dst == sq)) := by
  obtain ⟨_, _, _, _, hsrc, hdst, _⟩ := toSpecMove_some h.spec
  have hcb : (sm.color == absColor col) = (s.turn == col) := by rw [h.color]; cases s.turn <;> cases col <;> rfl
  rw [absKind_beq hk (q := .king) rfl, hcb, hsrc, hdst]
  by_cases hk : p = Piece.king ∧ s.turn = col
  · obtain ⟨rfl, rfl⟩ := hk
    simp [hf]
  · have hk' : ¬ ((p == Piece.king) = true ∧ (s.turn == col) = true) := by simpa using hk
    rw [if_neg hk', hheld]
    cases held with
    | false => simp
    | true =>
      have hsq := (pieceAt_iff hm.disjoint sq col Piece.rook).2 (hsound rfl)
      rw [corner_rook hm hr sq hlt col hsq hk]
      have : (p == Piece.king && s.turn == col) = false := by
        cases hb : (p == Piece.king && s.turn == col) with
        | false => rfl
        | true => simp at hb; exact absurd hb hk
      rw [this]; simp

/-- castling rights: the four flags recomputed by the engine are the four flags of the rules -/
theorem rights_agree {s : State} {mv : Move} {sm : Spec.SMove} {p : Piece} (h : MoveFits s mv sm)
    (hm : MFits s mv p) (hk : absKind p = some sm.kind) (hrs : RightsSound s) {map : PieceMap}
    (hr : Repr map (expectedF s mv p)) :
    (abs (finish s mv p map)).wk = (Spec.applyMove (abs s) sm).wk ∧
    (abs (finish s mv p map)).wq = (Spec.applyMove (abs s) sm).wq ∧
    (abs (finish s mv p map)).bk = (Spec.applyMove (abs s) sm).bk ∧
    (abs (finish s mv p map)).bq = (Spec.applyMove (abs s) sm).bq :=
  ⟨right_agree h hm hk hr Color.white 7 (by decide) _ (fun e => (hrs.wk e).2) s.castleW CastleRights.kingside rfl rfl,
    right_agree h hm hk hr Color.white 0 (by decide) _ (fun e => (hrs.wq e).2) s.castleW CastleRights.queenside rfl rfl,
    right_agree h hm hk hr Color.black 63 (by decide) _ (fun e => (hrs.bk e).2) s.castleB CastleRights.kingside rfl rfl,
    right_agree h hm hk hr Color.black 56 (by decide) _ (fun e => (hrs.bq e).2) s.castleB CastleRights.queenside rfl rfl⟩

/-- `RightsSound` is carried to the successor -/
theorem rightsSound_finish {s : State} {mv : Move} {p : Piece} (hm : MFits s mv p) (hrs : RightsSound s)
    {map : PieceMap} (hr : Repr map (expectedF s mv p)) : RightsSound (finish s mv p map) := by
  have key : ∀ (col : Color) (sq ksq : Nat) (f : CastleRights → Bool) (cr : CastleRights),
      f CastleRights.noRights = false → ksq < 64 →
      (f cr = true → test (s.pieces.get col Piece.king) ksq = true) →
      (f (if p == Piece.king ∧ s.turn == col then CastleRights.noRights else cr) &&
        test (map.get col Piece.rook) sq) = true →
      test (map.get col Piece.king) ksq = true ∧ test (map.get col Piece.rook) sq = true := by
    intro col sq ksq f cr hf hlt hsound hb
    rw [Bool.and_eq_true] at hb
    obtain ⟨h1, h2⟩ := hb
    refine ⟨?_, h2⟩
    by_cases hk : p = Piece.king ∧ s.turn = col
    · obtain ⟨rfl, rfl⟩ := hk
      simp [hf] at h1
    · have hk' : ¬ ((p == Piece.king) = true ∧ (s.turn == col) = true) := by simpa using hk
      rw [if_neg hk'] at h1
      exact king_stays hm hr ksq hlt col ((pieceAt_iff hm.disjoint ksq col Piece.king).2 (hsound h1)) hk
  exact
    { wk := key Color.white 7 4 CastleRights.kingside s.castleW rfl (by decide) (fun e => (hrs.wk e).1)
      wq := key Color.white 0 4 CastleRights.queenside s.castleW rfl (by decide) (fun e => (hrs.wq e).1)
      bk := key Color.black 63 60 CastleRights.kingside s.castleB rfl (by decide) (fun e => (hrs.bk e).1)
      bq := key Color.black 56 60 CastleRights.queenside s.castleB rfl (by decide) (fun e => (hrs.bq e).1) }

theorem pos_ext (a b : Spec.Pos) (h1 : a.cells = b.cells) (h2 : a.turn = b.turn) (h3 : a.wk = b.wk)
    (h4 : a.wq = b.wq) (h5 : a.bk = b.bk) (h6 : a.bq = b.bq) (h7 : a.ep = b.ep)
    (h8 : a.halfmove = b.halfmove) (h9 : a.fullmove = b.fullmove) : a = b := by
  cases a; cases b; simp only [Spec.Pos.mk.injEq]; exact ⟨h1, h2, h3, h4, h5, h6, h7, h8, h9⟩

theorem cells_agree {s : State} {mv : Move} {sm : Spec.SMove} {p : Piece} (h : MoveFits s mv sm)
    (hm : MFits s mv p) (hk : absKind p = some sm.kind) {map : PieceMap}
    (hr : Repr map (expectedF s mv p)) :
    (abs (finish s mv p map)).cells = (Spec.applyMove (abs s) sm).cells := by
  have hsz : (abs (finish s mv p map)).cells.size = 64 := by simp [abs]
  apply array_ext_cellsFn
  · rw [applyMove_cells_size, hsz]; simp [abs]
  · intro n hn
    rw [hsz] at hn
    rw [spec_cells h hm hk, cellsFn_abs]
    show cellAbs (map.pieceAt n) = _
    rw [pieceAt_of_cellIs (hr n hn)]

/-- **all fields**: the abstraction of the engine's successor is the rule-level successor -/
theorem abs_finish {s : State} {mv : Move} {sm : Spec.SMove} {p : Piece} (h : MoveFits s mv sm)
    (hm : MFits s mv p) (hk : absKind p = some sm.kind) (hrs : RightsSound s) {map : PieceMap}
    (hr : Repr map (expectedF s mv p)) :
    abs (finish s mv p map) = Spec.applyMove (abs s) sm := by
  obtain ⟨r1, r2, r3, r4⟩ := rights_agree h hm hk hrs hr
  exact pos_ext _ _ (cells_agree h hm hk hr) (turn_agree h.color p map) r1 r2 r3 r4
    (ep_agree h.spec h.color h.src_lt h.dst_lt (fun e => (h.dbl.1 e).2) p map)
    (halfmove_agree h.spec h.codes p hm.piece map) (fullmove_agree h.color p map)

end Wee.C02
