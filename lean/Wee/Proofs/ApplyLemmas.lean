import Wee.Proofs.BitLemmas
import Wee.Proofs.AttackLemmas
import Wee.Proofs.RulesClosed
/-!
# Lemmas for C02 (make-move): `by_performing_move` cut into its steps (`performMove_eq`, `performMove_nf`), `MoveFits`
and its reading on the bitboards
-/
namespace Wee.C02
open Wee.C10 (DisjointBoard absKind_some absColor_opp)

/-! ## `by_performing_move` cut into its steps -/

/-- en-passant victim / captured piece removed -/
def capStep (s : State) (mv : Move) (map : PieceMap) : Except MoveErr PieceMap :=
  if Move.isEnPassant mv then
    match s.ep with
    | Option.none => .error .illegalEnPassant
    | some t =>
      match offset t 0 s.turn.backward with
      | Option.none => .error .illegalEnPassant
      | some csq => .ok (map.assign s.turn.opp .pawn csq false)
  else match Move.capture mv with
    | some cap => .ok (map.assign s.turn.opp cap (Move.dest mv) false)
    | Option.none => .ok map

/-- pawn replaced by the promotion piece -/
def promoStep (us : Color) (p : Piece) (d : Nat) (pr : Option Piece) (map : PieceMap) : PieceMap :=
  match pr with
  | some pr => (map.assign us p d false).assign us pr d true
  | Option.none => map

/-- rook relocated -/
def castleStep (us : Color) (o : Nat) (cs : Option Side) (map : PieceMap) : PieceMap :=
  match cs with
  | some .king => (map.assign us .rook (mkSq (rankOf o) 7) false).assign us .rook (mkSq (rankOf o) 5) true
  | some .queen => (map.assign us .rook (mkSq (rankOf o) 0) false).assign us .rook (mkSq (rankOf o) 3) true
  | Option.none => map

/-- rights, side, ep target, clocks from the final placement -/
def finish (s : State) (mv : Move) (p : Piece) (map : PieceMap) : State :=
  let us := s.turn
  let cw := if p == .king ∧ us == .white then CastleRights.noRights else s.castleW
  let cb := if p == .king ∧ us == .black then CastleRights.noRights else s.castleB
  { pieces := map
    turn := us.opp
    castleW := ⟨cw.kingside && test (map.get .white .rook) 7, cw.queenside && test (map.get .white .rook) 0⟩
    castleB := ⟨cb.kingside && test (map.get .black .rook) 63, cb.queenside && test (map.get .black .rook) 56⟩
    ep := if Move.isDoublePawn mv then offset (Move.dest mv) 0 us.backward else Option.none
    halfmove := if Move.isCapture mv || p == .pawn then 0 else clockSucc s.halfmove
    fullmove := if us == .black then clockSucc s.fullmove else s.fullmove }

/-- the codes in the capture / promotion fields are piece discriminants (`unwrap` does not panic) -/
def CodesOk (mv : Move) : Prop :=
  (Move.captureCode mv = 0 ∨ (Piece.ofCode? (Move.captureCode mv)).isSome) ∧
  (Move.promotionCode mv = 0 ∨ (Piece.ofCode? (Move.promotionCode mv)).isSome)

instance (mv : Move) : Decidable (CodesOk mv) := by unfold CodesOk; infer_instance

/-- the piece discriminants are `0 … 6` -/
theorem ofCode?_isSome_iff (n : Nat) : (Piece.ofCode? n).isSome = true ↔ n ≤ 6 := by
  match n with
  | 0 | 1 | 2 | 3 | 4 | 5 | 6 => decide
  | n + 7 => simp [Piece.ofCode?]

/-- the three ways valid codes are written: `= 0 ∨ isSome` here, `≤ 6` in `GenFns.WFMove`, `< 7` in `SanP.AccOK` -/
theorem codesOk_iff_le (mv : Move) : CodesOk mv ↔ Move.captureCode mv ≤ 6 ∧ Move.promotionCode mv ≤ 6 := by
  unfold CodesOk
  rw [ofCode?_isSome_iff, ofCode?_isSome_iff]
  omega

def baseMap (s : State) (mv : Move) (p : Piece) : PieceMap :=
  (s.pieces.assign s.turn p (Move.origin mv) false).assign s.turn p (Move.dest mv) true

def finalMap (s : State) (mv : Move) (p : Piece) (map : PieceMap) : PieceMap :=
  castleStep s.turn (Move.origin mv) (Move.castleSide mv) (promoStep s.turn p (Move.dest mv) (Move.promotion mv) map)

theorem castleStep_eq (us : Color) (o : Nat) (mv : Move) (map : PieceMap) :
    castleStep us o (Move.castleSide mv) map =
      if Move.isCastle mv .king then
        (map.assign us .rook (mkSq (rankOf o) 7) false).assign us .rook (mkSq (rankOf o) 5) true
      else if Move.isCastle mv .queen then
        (map.assign us .rook (mkSq (rankOf o) 0) false).assign us .rook (mkSq (rankOf o) 3) true
      else map := by
  unfold Move.isCastle castleStep
  cases Move.castleSide mv with
  | none => rfl
  | some sd => cases sd <;> rfl

/-- `CodesOk` is the negation of the test under which `by_performing_move` panics -/
theorem codesOk_iff (mv : Move) : CodesOk mv ↔
    ¬ ((Move.captureCode mv ≠ 0 ∧ (Piece.ofCode? (Move.captureCode mv)).isNone) ∨
       (Move.promotionCode mv ≠ 0 ∧ (Piece.ofCode? (Move.promotionCode mv)).isNone)) := by
  unfold CodesOk
  cases Piece.ofCode? (Move.captureCode mv) <;> cases Piece.ofCode? (Move.promotionCode mv) <;> simp

theorem performMove_eq (s : State) (mv : Move) (p : Piece) (hp : Move.piece? mv = some p) (hc : CodesOk mv) :
    performMove s mv =
      match capStep s mv (baseMap s mv p) with
      | .error e => some (.error e)
      | .ok map => some (.ok (finish s mv p (finalMap s mv p map))) := by
  have hbad := (codesOk_iff mv).1 hc
  unfold performMove
  simp only [hp, if_neg hbad]
  unfold capStep baseMap
  cases hep : Move.isEnPassant mv
  · simp only [Bool.false_eq_true, if_false]
    cases hcap : Move.capture mv
    · simp only [finish, finalMap, promoStep, castleStep_eq]; rfl
    · simp only [finish, finalMap, promoStep, castleStep_eq]; rfl
  · simp only [if_true]
    cases hs : s.ep with
    | none => rfl
    | some t =>
      simp only []
      cases ho : offset t 0 s.turn.backward with
      | none => rfl
      | some csq => simp only [finish, finalMap, promoStep, castleStep_eq]; rfl

/-- `by_performing_move`, every branch: `none` (a panic) on a bad discriminant, else the steps -/
theorem performMove_nf (s : State) (mv : Move) :
    performMove s mv = match Move.piece? mv with
      | Option.none => Option.none
      | some p => if CodesOk mv then
          (match capStep s mv (baseMap s mv p) with
           | .error e => some (.error e)
           | .ok map => some (.ok (finish s mv p (finalMap s mv p map))))
        else Option.none := by
  cases hp : Move.piece? mv with
  | none => unfold performMove; rw [hp]
  | some p =>
    by_cases hc : CodesOk mv
    · rw [performMove_eq s mv p hp hc]; dsimp only; rw [if_pos hc]
    · unfold performMove; rw [hp]; dsimp only
      rw [if_pos (Classical.not_not.1 (mt (codesOk_iff mv).2 hc)), if_neg hc]

/-- if `by_performing_move` returns `Ok(next)`, the move's codes were valid and `next` was
assembled by `finish` from some placement -/
theorem performMove_ok_inv {s : State} {mv : Move} {next : State} (h : performMove s mv = some (.ok next)) :
    ∃ p map, Move.piece? mv = some p ∧ CodesOk mv ∧ next = finish s mv p map := by
  rw [performMove_nf] at h
  split at h
  · cases h
  · rename_i p hp
    split at h
    · rename_i hc
      split at h
      · cases h
      · exact ⟨p, _, hp, hc, (Except.ok.inj (Option.some.inj h)).symm⟩
    · cases h

/-! ## the vocabulary of C02: `MoveFits`, `RightsSound` -/

/-- **`MoveFits s mv sm`** : the packed move `mv` is well formed and describes the rule-level move `sm` in position `s`:
the getters of `mv` read `sm` (`spec`), the capture / promotion fields hold piece codes (`codes`), no square of `s` holds
two pieces (`disjoint`), and `sm` fits the mailbox `abs s` — the remaining clauses are those of `Spec.Fits (abs s) sm`
(`Wee/Proofs/RulesClosed.lean`, where each is explained; `moveFits_iff`, `Wee/Proofs/ApplyBridge.lean`). -/
structure MoveFits (s : State) (mv : Move) (sm : Spec.SMove) : Prop where
  spec : toSpecMove mv = some sm
  codes : CodesOk mv
  disjoint : DisjointBoard s.pieces
  color : sm.color = absColor s.turn
  src_lt : sm.src < 64
  dst_lt : sm.dst < 64
  mover : (abs s).at sm.src = some (sm.color, sm.kind)
  quiet : sm.capture = Option.none → sm.ep = false ∧ (abs s).at sm.dst = Option.none
  capture : ∀ k, sm.capture = some k → sm.ep = false →
    (abs s).at sm.dst = some (sm.color.opp, k) ∧ k ≠ Spec.Kind.king
  enPassant : sm.ep = true →
    sm.capture = some Spec.Kind.pawn ∧ sm.kind = Spec.Kind.pawn ∧ sm.promo = Option.none ∧ sm.castle = Option.none ∧
    (abs s).at sm.dst = Option.none ∧ s.ep = some sm.dst ∧
    ((sm.dst / 8 : Nat) : Int) = ((sm.src / 8 : Nat) : Int) + sm.color.fwd ∧
    (abs s).at (sm.src / 8 * 8 + sm.dst % 8) = some (sm.color.opp, Spec.Kind.pawn)
  promo : ∀ k, sm.promo = some k →
    sm.kind = Spec.Kind.pawn ∧ sm.dst / 8 = Spec.lastRank sm.color ∧ k ∈ Spec.promoKinds
  castle : ∀ b, sm.castle = some b →
    sm.kind = Spec.Kind.king ∧ sm.src = Spec.kingHome sm.color ∧ sm.capture = Option.none ∧
    (match b with
     | true => sm.dst = sm.src + 2 ∧ (abs s).at (sm.src + 3) = some (sm.color, Spec.Kind.rook) ∧
               (abs s).at (sm.src + 1) = Option.none
     | false => sm.dst = sm.src - 2 ∧ (abs s).at (sm.src - 4) = some (sm.color, Spec.Kind.rook) ∧
               (abs s).at (sm.src - 1) = Option.none)
  dbl : sm.dbl = true ↔ (sm.kind = Spec.Kind.pawn ∧ (sm.dst : Int) = (sm.src : Int) + 16 * sm.color.fwd)

/-- a held castling right implies king and rook on their home squares (the clause of `LegalPos`) -/
structure RightsSound (s : State) : Prop where
  wk : s.castleW.kingside = true → test (s.pieces.get .white .king) 4 = true ∧ test (s.pieces.get .white .rook) 7 = true
  wq : s.castleW.queenside = true → test (s.pieces.get .white .king) 4 = true ∧ test (s.pieces.get .white .rook) 0 = true
  bk : s.castleB.kingside = true → test (s.pieces.get .black .king) 60 = true ∧ test (s.pieces.get .black .rook) 63 = true
  bq : s.castleB.queenside = true → test (s.pieces.get .black .king) 60 = true ∧ test (s.pieces.get .black .rook) 56 = true

/-! ## from the mailbox facts of `MoveFits` to bitboard facts -/

theorem toSpecMove_some {mv : Move} {sm : Spec.SMove} (h : toSpecMove mv = some sm) :
    ∃ p, Move.piece? mv = some p ∧ absKind p = some sm.kind ∧ sm.color = absColor (Move.color mv) ∧
      sm.src = Move.origin mv ∧ sm.dst = Move.dest mv ∧
      sm.capture = (Move.capture mv).bind absKind ∧ sm.promo = (Move.promotion mv).bind absKind ∧
      sm.ep = Move.isEnPassant mv ∧ sm.castle = (Move.castleSide mv).map (fun s => s == Side.king) ∧
      sm.dbl = Move.isDoublePawn mv := by
  obtain ⟨hp, e⟩ := (toSpecMove_eq_some mv sm).1 h
  have hk := (absKind_eq_some _ _).2 hp
  unfold Move.piece at hk
  cases hq : Move.piece? mv with
  | none => rw [hq] at hk; cases hk
  | some p => rw [hq] at hk; rw [e]; exact ⟨p, rfl, hk, rfl, rfl, rfl, rfl, rfl, rfl, rfl, rfl⟩

theorem ofCode_ne_none {n : Nat} {q : Piece} (h0 : n ≠ 0) (h : Piece.ofCode? n = some q) : q ≠ Piece.none := by
  rintro rfl
  unfold Piece.ofCode? at h
  split at h <;> first | exact h0 rfl | cases h

theorem capture_ne_none {mv : Move} {q : Piece} (h : Move.capture mv = some q) : q ≠ Piece.none := by
  unfold Move.capture at h
  by_cases h0 : Move.captureCode mv = 0
  · rw [if_pos h0] at h; cases h
  · rw [if_neg h0] at h; exact ofCode_ne_none h0 h

theorem promotion_ne_none {mv : Move} {q : Piece} (h : Move.promotion mv = some q) : q ≠ Piece.none := by
  unfold Move.promotion at h
  by_cases h0 : Move.promotionCode mv = 0
  · rw [if_pos h0] at h; cases h
  · rw [if_neg h0] at h; exact ofCode_ne_none h0 h

theorem isCapture_eq {mv : Move} (hc : CodesOk mv) : Move.isCapture mv = (Move.capture mv).isSome := by
  unfold Move.isCapture Move.capture
  by_cases h0 : Move.captureCode mv = 0
  · simp [h0]
  · rcases hc.1 with h | h
    · exact absurd h h0
    · simp [h0, h]

/-! ## the hypotheses of `MoveFits` restated on the bitboards (`MFits`) -/

/-- one rank back from `d`, for a pawn of `c` that went from the rank of `o` to the next: the square beside `o` -/
theorem offset_back_victim {o d : Nat} {c : Color} (ho : o < 64) (hd : d < 64)
    (h : ((d / 8 : Nat) : Int) = ((o / 8 : Nat) : Int) + (absColor c).fwd) :
    offset d 0 c.backward = some (o / 8 * 8 + d % 8) := by
  cases c <;> simp only [absColor, Spec.Color.fwd, Color.backward] at h ⊢
  · rw [offset_eq_step, step_down _ (by omega) hd]; congr 1; omega
  · rw [offset_eq_step, step_up _ (by omega)]; congr 1; omega

/-- one rank back from `d`, for a pawn of `c` that advanced two ranks from `o`: the square passed over -/
theorem offset_back_mid {o d : Nat} {c : Color} (ho : o < 64) (hd : d < 64)
    (h : (d : Int) = (o : Int) + 16 * (absColor c).fwd) : offset d 0 c.backward = some ((o + d) / 2) := by
  cases c <;> simp only [absColor, Spec.Color.fwd, Color.backward] at h ⊢
  · rw [offset_eq_step, step_down _ (by omega) hd]; congr 1; omega
  · rw [offset_eq_step, step_up _ (by omega)]; congr 1; omega

def homeSq : Color → Nat | .white => 4 | .black => 60

/-- model-level reading of `MoveFits` -/
structure MFits (s : State) (mv : Move) (p : Piece) : Prop where
  piece : Move.piece? mv = some p
  p_ne : p ≠ Piece.none
  codes : CodesOk mv
  disjoint : DisjointBoard s.pieces
  o_lt : Move.origin mv < 64
  d_lt : Move.dest mv < 64
  mover : s.pieces.pieceAt (Move.origin mv) = some (s.turn, p)
  quiet : Move.capture mv = Option.none →
    Move.isEnPassant mv = false ∧ s.pieces.pieceAt (Move.dest mv) = Option.none
  capture : ∀ q, Move.capture mv = some q → Move.isEnPassant mv = false →
    s.pieces.pieceAt (Move.dest mv) = some (s.turn.opp, q) ∧ q ≠ Piece.king
  enPassant : Move.isEnPassant mv = true →
    Move.capture mv = some Piece.pawn ∧ p = Piece.pawn ∧ Move.promotion mv = Option.none ∧
    Move.castleSide mv = Option.none ∧ s.pieces.pieceAt (Move.dest mv) = Option.none ∧
    s.ep = some (Move.dest mv) ∧
    offset (Move.dest mv) 0 s.turn.backward = some (Move.origin mv / 8 * 8 + Move.dest mv % 8) ∧
    s.pieces.pieceAt (Move.origin mv / 8 * 8 + Move.dest mv % 8) = some (s.turn.opp, Piece.pawn)
  promo : ∀ r, Move.promotion mv = some r → p = Piece.pawn ∧ Move.castleSide mv = Option.none
  castle : ∀ sd, Move.castleSide mv = some sd →
    p = Piece.king ∧ Move.capture mv = Option.none ∧ Move.promotion mv = Option.none ∧
    Move.origin mv = homeSq s.turn ∧
    (match sd with
     | .king => Move.dest mv = Move.origin mv + 2 ∧
         s.pieces.pieceAt (Move.origin mv + 3) = some (s.turn, Piece.rook) ∧
         s.pieces.pieceAt (Move.origin mv + 1) = Option.none
     | .queen => Move.dest mv = Move.origin mv - 2 ∧
         s.pieces.pieceAt (Move.origin mv - 4) = some (s.turn, Piece.rook) ∧
         s.pieces.pieceAt (Move.origin mv - 1) = Option.none)

theorem bind_absKind_none {x : Option Piece} (hx : ∀ q, x = some q → q ≠ Piece.none) :
    x.bind absKind = Option.none ↔ x = Option.none := by
  cases x with
  | none => simp
  | some q =>
    obtain ⟨k, hk⟩ := absKind_some q (hx q rfl)
    simp [hk]

theorem bind_absKind_some {x : Option Piece} {k : Spec.Kind} (h : x.bind absKind = some k) :
    ∃ q, x = some q ∧ absKind q = some k := by
  cases x with
  | none => cases h
  | some q => exact ⟨q, rfl, h⟩

theorem absKind_pawn {q : Piece} (h : absKind q = some Spec.Kind.pawn) : q = Piece.pawn :=
  (absKind_eq_some q .pawn).1 h
theorem absKind_king {q : Piece} (h : absKind q = some Spec.Kind.king) : q = Piece.king :=
  (absKind_eq_some q .king).1 h

theorem kingHome_abs (c : Color) : Spec.kingHome (absColor c) = homeSq c := by cases c <;> rfl

theorem fits_model {s : State} {mv : Move} {sm : Spec.SMove} (h : MoveFits s mv sm) :
    ∃ p, MFits s mv p ∧ absKind p = some sm.kind := by
  obtain ⟨p, hp, hk, hcol, hsrc, hdst, hcap, hpr, hep, hcs, hdbl⟩ := toSpecMove_some h.spec
  have hd := h.disjoint
  have hpn : p ≠ Piece.none := by rintro rfl; cases hk
  have hcapnone : sm.capture = Option.none ↔ Move.capture mv = Option.none := by
    rw [hcap]; exact bind_absKind_none (fun q hq => capture_ne_none hq)
  have hprnone : sm.promo = Option.none ↔ Move.promotion mv = Option.none := by
    rw [hpr]; exact bind_absKind_none (fun q hq => promotion_ne_none hq)
  have hcsnone : sm.castle = Option.none ↔ Move.castleSide mv = Option.none := by
    rw [hcs]; cases Move.castleSide mv <;> simp
  have hus : sm.color = absColor s.turn := h.color
  have hthem : sm.color.opp = absColor s.turn.opp := by rw [hus, ← absColor_opp]
  refine ⟨p, ?_, hk⟩
  refine
    { piece := hp, p_ne := hpn, codes := h.codes, disjoint := hd,
      o_lt := hsrc ▸ h.src_lt, d_lt := hdst ▸ h.dst_lt,
      mover := ?_, quiet := ?_, capture := ?_, enPassant := ?_, promo := ?_, castle := ?_ }
  · have := h.mover
    rw [hus, at_some_iff hd hk, hsrc] at this
    exact this
  · intro hc
    obtain ⟨h1, h2⟩ := h.quiet (hcapnone.2 hc)
    rw [at_none_iff, hdst] at h2
    exact ⟨hep ▸ h1, h2⟩
  · intro q hq hne
    obtain ⟨k, hkq⟩ := absKind_some q (capture_ne_none hq)
    have hc : sm.capture = some k := by rw [hcap, hq]; exact hkq
    obtain ⟨h1, h2⟩ := h.capture k hc (hep ▸ hne)
    rw [hthem, at_some_iff hd hkq, hdst] at h1
    refine ⟨h1, ?_⟩
    rintro rfl
    cases hkq; exact h2 rfl
  · intro he
    obtain ⟨h1, h2, h3, h4, h5, h6, h7, h8⟩ := h.enPassant (hep ▸ he)
    rw [hcap] at h1
    obtain ⟨q, hq, hq'⟩ := bind_absKind_some h1
    rw [absKind_pawn hq'] at hq
    rw [h2] at hk
    rw [at_none_iff, hdst] at h5
    rw [hthem, at_some_iff hd (p := .pawn) rfl, hsrc, hdst] at h8
    refine ⟨hq, absKind_pawn hk, hprnone.1 h3, hcsnone.1 h4, h5, hdst ▸ h6, ?_, h8⟩
    rw [hsrc, hdst, hus] at h7
    exact offset_back_victim (hsrc ▸ h.src_lt) (hdst ▸ h.dst_lt) h7
  · intro r hr
    obtain ⟨k, hkr⟩ := absKind_some r (promotion_ne_none hr)
    have hc : sm.promo = some k := by rw [hpr, hr]; exact hkr
    obtain ⟨h1, _, _⟩ := h.promo k hc
    rw [h1] at hk
    refine ⟨absKind_pawn hk, ?_⟩
    cases hcs' : Move.castleSide mv with
    | none => rfl
    | some sd =>
      have : sm.castle = some (sd == Side.king) := by rw [hcs, hcs']; rfl
      have := (h.castle _ this).1
      rw [h1] at this; cases this
  · intro sd hsd
    have hc : sm.castle = some (sd == Side.king) := by rw [hcs, hsd]; rfl
    obtain ⟨h1, h2, h3, h4⟩ := h.castle _ hc
    rw [h1] at hk
    have hpk := absKind_king hk
    have hprn : Move.promotion mv = Option.none := by
      cases hr : Move.promotion mv with
      | none => rfl
      | some r =>
        obtain ⟨k, hkr⟩ := absKind_some r (promotion_ne_none hr)
        have : sm.promo = some k := by rw [hpr, hr]; exact hkr
        have := (h.promo k this).1
        rw [h1] at this; cases this
    refine ⟨hpk, hcapnone.1 h3, hprn, ?_, ?_⟩
    · rw [← hsrc, h2, hus, kingHome_abs]
    · cases sd
      · simp only [show (Side.king == Side.king) = true from rfl] at h4
        obtain ⟨a, b, c⟩ := h4
        rw [hus, at_some_iff hd (p := .rook) rfl, hsrc] at b
        rw [at_none_iff, hsrc] at c
        exact ⟨by rw [← hdst, ← hsrc]; exact a, b, c⟩
      · simp only [show (Side.queen == Side.king) = false from rfl] at h4
        obtain ⟨a, b, c⟩ := h4
        rw [hus, at_some_iff hd (p := .rook) rfl, hsrc] at b
        rw [at_none_iff, hsrc] at c
        exact ⟨by rw [← hdst, ← hsrc]; exact a, b, c⟩

end Wee.C02
