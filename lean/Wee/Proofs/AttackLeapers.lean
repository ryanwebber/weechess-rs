import Wee.Proofs.AttackLemmas
import Wee.Proofs.Slide
/-!
# The leaper fields of `Wee.C10.AttackTablesCorrect`

`knightAttacks`, `kingAttacks`, `pawnAttacks` set one bit for each offset whose `Square::offset` exists,
and `Square::offset` is the specification's coordinate step (`offset_eq_step`), so each table entry has
exactly the bits of the specification's list, with the same offsets in the same order.  This leaves only
the two slider fields (property C09) to be supplied: `C10_tables_of_sliders` in `Wee/Props/C10.lean`.
-/
namespace Wee.C10

/-- `leaper offs sq` has exactly the bits that `Spec.step` reaches from `sq` with one of the offsets -/
theorem test_leaper (offs : List (Int × Int)) (sq t : Nat) :
    test (leaper offs sq) t = (offs.filterMap fun d => Spec.step sq d.1 d.2).contains t := by
  have fold : ∀ (f : UInt64 → Int × Int → UInt64),
      (∀ acc o, f acc o = (offset sq o.1 o.2).elim acc (setBit acc)) → ∀ (offs : List (Int × Int)) acc,
      test (offs.foldl f acc) t = (test acc t || (offs.filterMap fun d => Spec.step sq d.1 d.2).contains t) := by
    intro f hf offs
    induction offs with
    | nil => intro acc; simp
    | cons o rest ih =>
      intro acc
      rw [List.foldl_cons, ih, List.filterMap_cons, ← offset_eq_step, hf]
      cases h : offset sq o.1 o.2 with
      | none => rfl
      | some n =>
        simp only [Option.elim, test_setBit _ _ _ (offset_lt h), List.contains_cons, Bool.or_assoc]
        have : decide (n = t) = (t == n) := by
          by_cases e : n = t
          · subst e; simp
          · have e' : ¬ t = n := fun h => e h.symm
            simp [e, e']
        rw [this]
  rw [leaper, fold _ (fun acc o => by cases offset sq o.1 o.2 <;> rfl), test_zero, Bool.false_or]

theorem knight_table : ∀ sq : Fin 64, ∀ t : Fin 64,
    test (knightAttacks sq.val) t.val =
      (Spec.knightJumps.filterMap fun d => Spec.step sq.val d.1 d.2).contains t.val := by
  intro sq t
  rw [knightAttacks, test_leaper]
  rfl

theorem king_table : ∀ sq : Fin 64, ∀ t : Fin 64,
    test (kingAttacks sq.val) t.val =
      (Spec.kingSteps.filterMap fun d => Spec.step sq.val d.1 d.2).contains t.val := by
  intro sq t
  rw [kingAttacks, test_leaper]
  rfl

theorem pawn_table : ∀ w : Bool, ∀ sq : Fin 64, ∀ t : Fin 64,
    test (pawnAttacks (if w then .white else .black) sq.val) t.val =
      ([((-1 : Int), (absColor (if w then .white else .black)).fwd),
        (1, (absColor (if w then .white else .black)).fwd)].filterMap
          fun d => Spec.step sq.val d.1 d.2).contains t.val := by
  intro w sq t
  cases w
  all_goals
    simp only [Bool.false_eq_true, if_false, if_true, pawnAttacks]
    rw [test_leaper]
    rfl

end Wee.C10
