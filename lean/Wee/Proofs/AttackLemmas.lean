import Wee.Model.AttackCache
import Wee.Proofs.BitLemmas
import Wee.Spec.Abs
import Wee.Proofs.AbsLemmas
/-!
# Lemmas for C10 (attack sets, check detection, the `OnceCell` cache)

In order: the cache as a state machine (`CacheInv`: a filled cell holds the pure value) and the heap of a position with its
clones; `colored_attacks` read bit by bit (`test_coloredAttacks`, no hypothesis on the placement); `AttackTablesCorrect`,
DEFINED HERE — the facts of C09 about the five attack lookups that every statement of C10 is relative to — with
`attacksOf_spec`; and from it the attack sets and the check test against the mailbox cells (`attackers_abs`, `attacks_abs`).
-/
namespace Wee.C10

/-! ## the cache state machine -/

/-- each cell is empty or holds the pure value for the object's placement -/
def CacheInv (b : CachedBoard) : Prop :=
  ∀ c, b.cell c = Option.none ∨ b.cell c = some (attackMap b.pieces c)

/-- what a caller can observe of an answer (of a cloned board: its placement; the cells are private) -/
inductive Obs
  | bb (v : UInt64)
  | bool (v : Bool)
  | pieces (m : PieceMap)
deriving DecidableEq, Repr

def Answer.obs : Answer → Obs
  | .bb v => .bb v
  | .bool v => .bool v
  | .board b => .pieces b.pieces

/-- the answer computed from the placement alone, without any cache -/
def pureAnswer (m : PieceMap) : Query → Obs
  | .attacks c => .bb (coloredAttacks m c)
  | .pawnAttacks c => .bb (coloredPawnAttacks m c)
  | .isCheck c => .bool (isCheckB m c)
  | .clone => .pieces m

/-- an answer is good: it shows the pure value, and a returned clone is itself a sound object -/
def AnswerOK (m : PieceMap) (q : Query) (a : Answer) : Prop :=
  Answer.obs a = pureAnswer m q ∧ ∀ b, a = .board b → b.pieces = m ∧ CacheInv b

theorem cacheInv_new (m : PieceMap) : CacheInv (CachedBoard.new m) := by
  intro c; cases c <;> simp [CachedBoard.new, CachedBoard.cell]

theorem cell_setCell (b : CachedBoard) (c c' : Color) (v : UInt64 × UInt64) :
    (b.setCell c v).cell c' = if c' = c then some v else b.cell c' := by
  cases c <;> cases c' <;> simp [CachedBoard.setCell, CachedBoard.cell]

theorem pieces_setCell (b : CachedBoard) (c : Color) (v : UInt64 × UInt64) :
    (b.setCell c v).pieces = b.pieces := by
  cases c <;> rfl

/-- `get_or_init` keeps the placement, keeps the invariant and returns the pure value -/
theorem attackMapCached_spec (b : CachedBoard) (c : Color) (h : CacheInv b) :
    (b.attackMapCached c).1.pieces = b.pieces ∧ CacheInv (b.attackMapCached c).1 ∧
    (b.attackMapCached c).2 = attackMap b.pieces c ∧
    (b.attackMapCached c).1.cell c = some (attackMap b.pieces c) := by
  unfold CachedBoard.attackMapCached
  cases hc : b.cell c with
  | some v =>
    have hv : v = attackMap b.pieces c := by
      rcases h c with h0 | h1
      · rw [hc] at h0; cases h0
      · rw [hc] at h1; exact Option.some.inj h1
    subst hv
    exact ⟨rfl, h, rfl, hc⟩
  | none =>
    refine ⟨pieces_setCell _ _ _, ?_, rfl, ?_⟩
    · intro c'
      simp only [cell_setCell, pieces_setCell]
      by_cases e : c' = c
      · subst e; simp
      · simp only [if_neg e]; exact h c'
    · simp [cell_setCell]

theorem step_spec (b : CachedBoard) (q : Query) (h : CacheInv b) :
    (b.step q).1.pieces = b.pieces ∧ CacheInv (b.step q).1 ∧ AnswerOK b.pieces q (b.step q).2 := by
  cases q with
  | attacks c =>
    obtain ⟨h1, h2, h3, _⟩ := attackMapCached_spec b c h
    refine ⟨h1, h2, ?_, ?_⟩
    · simp [CachedBoard.step, CachedBoard.attacks, Answer.obs, pureAnswer, coloredAttacks, h3]
    · intro b' hb'; simp [CachedBoard.step] at hb'
  | pawnAttacks c =>
    obtain ⟨h1, h2, h3, _⟩ := attackMapCached_spec b c h
    refine ⟨h1, h2, ?_, ?_⟩
    · simp [CachedBoard.step, CachedBoard.pawnAttacks, Answer.obs, pureAnswer, coloredPawnAttacks, h3]
    · intro b' hb'; simp [CachedBoard.step] at hb'
  | isCheck c =>
    obtain ⟨h1, h2, h3, _⟩ := attackMapCached_spec b c.opp h
    refine ⟨h1, h2, ?_, ?_⟩
    · simp [CachedBoard.step, CachedBoard.isCheck, CachedBoard.attacks, Answer.obs, pureAnswer,
        isCheckB, coloredAttacks, h3]
    · intro b' hb'; simp [CachedBoard.step] at hb'
  | clone =>
    refine ⟨rfl, h, rfl, ?_⟩
    intro b' hb'
    simp [CachedBoard.step, CachedBoard.clone] at hb'
    subst hb'; exact ⟨rfl, h⟩

theorem run_spec (qs : List Query) : ∀ (b : CachedBoard), CacheInv b →
    (b.run qs).1.pieces = b.pieces ∧ CacheInv (b.run qs).1 ∧
    (b.run qs).2.map Answer.obs = qs.map (pureAnswer b.pieces) ∧
    ∀ b', Answer.board b' ∈ (b.run qs).2 → b'.pieces = b.pieces ∧ CacheInv b' := by
  induction qs with
  | nil => intro b h; exact ⟨rfl, h, rfl, by intro b' hb'; cases hb'⟩
  | cons q qs ih =>
    intro b h
    obtain ⟨s1, s2, s3, s4⟩ := step_spec b q h
    obtain ⟨r1, r2, r3, r4⟩ := ih (b.step q).1 s2
    rw [s1] at r3 r4
    refine ⟨?_, r2, ?_, ?_⟩
    · simp only [CachedBoard.run]; rw [r1, s1]
    · simp only [CachedBoard.run, List.map_cons, r3, s3]
    · intro b' hb'
      simp only [CachedBoard.run] at hb'
      rcases List.mem_cons.1 hb' with e | e
      · exact s4 b' e.symm
      · exact r4 b' e

theorem run_append (qs₁ qs₂ : List Query) : ∀ b : CachedBoard,
    b.run (qs₁ ++ qs₂) = ((b.run qs₁).1.run qs₂ |>.1, (b.run qs₁).2 ++ ((b.run qs₁).1.run qs₂).2) := by
  induction qs₁ with
  | nil => intro b; rfl
  | cons q qs ih => intro b; simp only [List.cons_append, CachedBoard.run, ih]

/-! ### the heap of objects (a position and all its clones) -/

def HeapInv (m : PieceMap) (h : Heap) : Prop := ∀ b ∈ h, b.pieces = m ∧ CacheInv b

theorem heap_step_spec (m : PieceMap) (h : Heap) (i : Nat) (q : Query) (hi : HeapInv m h) :
    HeapInv m (Heap.step h i q).1 ∧
    (∀ a, (Heap.step h i q).2 = some a → Answer.obs a = pureAnswer m q) ∧
    ((Heap.step h i q).2 = Option.none ↔ h.length ≤ i) := by
  unfold Heap.step
  cases hb : h[i]? with
  | none =>
    refine ⟨hi, by simp, ?_⟩
    simp at hb ⊢; exact hb
  | some b =>
    have hbm : b ∈ h := List.mem_of_getElem? hb
    obtain ⟨hp, hinv⟩ := hi b hbm
    obtain ⟨s1, s2, s3, s4⟩ := step_spec b q hinv
    have hset : HeapInv m (h.set i (b.step q).1) := by
      intro x hx
      rcases List.mem_or_eq_of_mem_set hx with hx | hx
      · exact hi x hx
      · subst hx; exact ⟨by rw [s1, hp], s2⟩
    have hlt : ¬ h.length ≤ i := by
      have := (List.getElem?_eq_some_iff.1 hb).1; omega
    simp only []
    cases ha : (b.step q).2 with
    | bb v => simp only [ha] at s3 ⊢; exact ⟨hset, by intro a e; cases e; rw [s3, hp], by simp [hlt]⟩
    | bool v => simp only [ha] at s3 ⊢; exact ⟨hset, by intro a e; cases e; rw [s3, hp], by simp [hlt]⟩
    | board cl =>
      simp only [ha] at s3 s4 ⊢
      refine ⟨?_, by intro a e; cases e; rw [s3, hp], by simp [hlt]⟩
      intro x hx
      rcases List.mem_append.1 hx with hx | hx
      · exact hset x hx
      · simp at hx; subst hx
        obtain ⟨c1, c2⟩ := s4 x rfl
        exact ⟨by rw [c1, hp], c2⟩

theorem heap_run_spec (m : PieceMap) (ops : List (Nat × Query)) : ∀ (h : Heap), HeapInv m h →
    HeapInv m (Heap.run h ops).1 ∧ (Heap.run h ops).2.length = ops.length ∧
    ∀ p ∈ ops.zip (Heap.run h ops).2, ∀ x, p.2 = some x → Answer.obs x = pureAnswer m p.1.2 := by
  induction ops with
  | nil => intro h hi; exact ⟨hi, rfl, by intro p hp; cases hp⟩
  | cons op ops ih =>
    intro h hi
    obtain ⟨i, q⟩ := op
    obtain ⟨s1, s2, _⟩ := heap_step_spec m h i q hi
    obtain ⟨r1, r2, r3⟩ := ih _ s1
    refine ⟨r1, by simp only [Heap.run, List.length_cons, r2], ?_⟩
    intro p hp x hx
    simp only [Heap.run, List.zip_cons_cons] at hp
    rcases List.mem_cons.1 hp with e | e
    · subst e; exact s2 x hx
    · exact r3 p e x hx

/-! ## bit-level reading of `AttackMap::from_occupancy`

`C10.test_and` and `C10.test_lt` are `Wee.test_and` and `Wee.test_lt` of `Wee/Proofs/BitLemmas.lean` under the names the C10 files
use. -/
theorem test_and (a b : UInt64) (n : Nat) : test (a &&& b) n = (test a n && test b n) := Wee.test_and a b n

theorem test_lt (a : UInt64) (n : Nat) (h : test a n = true) : n < 64 := Wee.test_lt a n h

/-- bit-level reading of `colored_attacks` (no hypothesis on the placement) -/
theorem test_coloredAttacks (m : PieceMap) (c : Color) (t : Nat) (ht : t < 64) :
    test (coloredAttacks m c) t = true ↔
      (∃ p ∈ Piece.all, ∃ s ∈ bitsOf (m.get c p), test (attacksOf c p s m.occ) t = true) ∧
      ¬ test (m.colorOcc c) t = true := by
  unfold coloredAttacks
  rw [Fast.attackMap_eq]
  simp only [Fast.attackMapFast, test_and, test_not _ _ ht, Bool.and_eq_true, Bool.not_eq_true']
  rw [test_foldl_foldl_or]
  simp [test_zero]

theorem test_coloredPawnAttacks (m : PieceMap) (c : Color) (t : Nat) (ht : t < 64) :
    test (coloredPawnAttacks m c) t = true ↔
      (∃ s ∈ bitsOf (m.get c .pawn), test (attacksOf c .pawn s m.occ) t = true) ∧
      ¬ test (m.colorOcc c) t = true := by
  unfold coloredPawnAttacks
  rw [Fast.attackMap_eq]
  simp only [Fast.attackMapFast, test_and, test_not _ _ ht, Bool.and_eq_true, Bool.not_eq_true']
  rw [test_foldl_or]
  simp [test_zero]


/-! ## the C09 interface and `AttackGenerator::compute` -/
/-- The facts of C09 that C10 uses: every attack lookup of the engine, read bit by bit, is the
coordinate-geometry list of the specification. -/
structure AttackTablesCorrect : Prop where
  rook : ∀ sq, sq < 64 → ∀ (occ : UInt64) (t : Nat), t < 64 →
    test (rookAttacks sq occ) t = (Spec.slide (fun n => test occ n) Spec.rookDirs sq).contains t
  bishop : ∀ sq, sq < 64 → ∀ (occ : UInt64) (t : Nat), t < 64 →
    test (bishopAttacks sq occ) t = (Spec.slide (fun n => test occ n) Spec.bishopDirs sq).contains t
  knight : ∀ sq, sq < 64 → ∀ (t : Nat), t < 64 →
    test (knightAttacks sq) t = (Spec.knightJumps.filterMap fun d => Spec.step sq d.1 d.2).contains t
  king : ∀ sq, sq < 64 → ∀ (t : Nat), t < 64 →
    test (kingAttacks sq) t = (Spec.kingSteps.filterMap fun d => Spec.step sq d.1 d.2).contains t
  pawn : ∀ (c : Color) sq, sq < 64 → ∀ (t : Nat), t < 64 →
    test (pawnAttacks c sq) t =
      ([((-1 : Int), (absColor c).fwd), (1, (absColor c).fwd)].filterMap fun d => Spec.step sq d.1 d.2).contains t

theorem attacksOf_spec (T : AttackTablesCorrect) (c : Color) (p : Piece) (k : Spec.Kind)
    (hk : absKind p = some k) (s : Nat) (hs : s < 64) (occ : UInt64) (t : Nat) (ht : t < 64) :
    test (attacksOf c p s occ) t =
      (Spec.attacksFrom (fun n => test occ n) (absColor c) k s).contains t := by
  cases (absKind_eq_some p k).1 hk
  cases k <;> simp only [SanP.kindPiece, attacksOf, Spec.attacksFrom]
  · exact T.pawn c s hs t ht
  · exact T.knight s hs t ht
  · exact T.bishop s hs occ t ht
  · exact T.rook s hs occ t ht
  · simp only [queenAttacks, test_or, T.rook s hs occ t ht, T.bishop s hs occ t ht, Spec.slide,
      List.flatMap_append, List.contains_eq_mem, List.mem_append, Bool.decide_or]
  · exact T.king s hs t ht

/-! ## attack sets and check against the mailbox cells -/
/-- the set "squares attacked by some piece of colour `c`", bitboard side = mailbox side -/
theorem attackers_abs (T : AttackTablesCorrect) {m : PieceMap} (hd : DisjointBoard m) (c : Color)
    (t : Nat) (ht : t < 64) :
    (∃ p ∈ Piece.all, ∃ s ∈ bitsOf (m.get c p), test (attacksOf c p s m.occ) t = true) ↔
    (∃ s, s < 64 ∧ ∃ k, absCell m s = some (absColor c, k) ∧
        t ∈ Spec.attacksFrom (fun n => (absCell m n).isSome) (absColor c) k s) := by
  rw [← occ_abs]
  constructor
  · rintro ⟨p, hp, s, hs, ha⟩
    obtain ⟨hs64, hts⟩ := (mem_bitsOf _ _).1 hs
    obtain ⟨k, hk⟩ := absKind_some p ((mem_pieceAll p).1 hp)
    refine ⟨s, hs64, k, (absCell_iff hd s c k).2 ⟨p, hk, hts⟩, ?_⟩
    rw [attacksOf_spec T c p k hk s hs64 m.occ t ht] at ha
    simpa using ha
  · rintro ⟨s, hs64, k, hc, hmem⟩
    obtain ⟨p, hk, hts⟩ := (absCell_iff hd s c k).1 hc
    refine ⟨p, (mem_pieceAll p).2 (absKind_ne_none hk), s, (mem_bitsOf _ _).2 ⟨hs64, hts⟩, ?_⟩
    rw [attacksOf_spec T c p k hk s hs64 m.occ t ht]
    simpa using hmem

theorem attacks_abs (T : AttackTablesCorrect) {m : PieceMap} (hd : DisjointBoard m) (c : Color)
    (t : Nat) (ht : t < 64) :
    test (coloredAttacks m c) t = true ↔
      (∃ s, s < 64 ∧ ∃ k, absCell m s = some (absColor c, k) ∧
        t ∈ Spec.attacksFrom (fun n => (absCell m n).isSome) (absColor c) k s) ∧
      ¬ ∃ k, absCell m t = some (absColor c, k) := by
  rw [test_coloredAttacks m c t ht, attackers_abs T hd c t ht, test_colorOcc_abs hd]

theorem isCheckB_iff (m : PieceMap) (c : Color) :
    isCheckB m c = true ↔
      ∃ x, x < 64 ∧ test (m.get c .king) x = true ∧ test (coloredAttacks m c.opp) x = true := by
  unfold isCheckB
  rw [bbAny_iff]
  simp only [test_and, Bool.and_eq_true]

theorem pieceAt_none_of_vac (m : PieceMap) (t : Nat) (h : ¬ test m.occ t = true) : m.pieceAt t = Option.none := by
  rw [← absCell_eq_none_iff, ← Option.not_isSome_iff_eq_none]
  exact congrFun (occ_abs m) t ▸ h

end Wee.C10
