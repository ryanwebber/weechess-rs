import Wee.Model.Bits
import Wee.Model.Types
/-!
# Bit-level lemmas for `UInt64` bitboards (`test`, `bit`, `setBit`, `clearBit`, shifts, `bitsOf`,
`firstOne`, `lastOne`)

Everything is phrased with `test b n = b.toNat.testBit n`, so the core `Nat.testBit_*` lemmas apply.
After the bitboards, what the other proof files share about the types of `Model/Types`: the enumerations `Color` / `Side` /
`Piece`, squares (rank, file, the rank flip, distances), `popcount`, one king of either colour as a bit count
(`C05.OneKingEach`, `OneKing`), and writes into a `PieceMap` read through `get` (`C02.get_set … assign_comm`).
-/
namespace Wee

theorem toNat_toUInt64 (k : Nat) (hk : k < 2 ^ 64) : (k.toUInt64).toNat = k := by
  simp [Nat.toUInt64, UInt64.toNat_ofNat', Nat.mod_eq_of_lt hk]

theorem test_or (a b : UInt64) (n : Nat) : test (a ||| b) n = (test a n || test b n) := by
  simp [test, UInt64.toNat_or, Nat.testBit_or]

theorem test_and (a b : UInt64) (n : Nat) : test (a &&& b) n = (test a n && test b n) := by
  simp [test, UInt64.toNat_and, Nat.testBit_and]

theorem test_xor (a b : UInt64) (n : Nat) : test (a ^^^ b) n = (test a n != test b n) := by
  simp [test, UInt64.toNat_xor, Nat.testBit_xor]

@[simp] theorem test_zero (n : Nat) : test 0 n = false := by simp [test]

theorem test_lt (b : UInt64) (n : Nat) (h : test b n = true) : n < 64 := by
  unfold test at h
  apply Classical.byContradiction
  intro hn
  have : b.toNat < 2 ^ n := Nat.lt_of_lt_of_le b.toNat_lt (Nat.pow_le_pow_right (by omega) (by omega))
  rw [Nat.testBit_lt_two_pow this] at h
  cases h

theorem test_ge (b : UInt64) (n : Nat) (h : 64 ≤ n) : test b n = false := by
  cases hb : test b n with
  | false => rfl
  | true => have := test_lt b n hb; omega

theorem test_bit (m n : Nat) (hm : m < 64) : test (bit m) n = decide (m = n) := by
  unfold test bit
  rw [UInt64.toNat_shiftLeft]
  have h1 : (m.toUInt64).toNat = m := toNat_toUInt64 m (by omega)
  simp only [h1, Nat.mod_eq_of_lt hm]
  have h2 : (1 : UInt64).toNat <<< m % 2^64 = 2^m := by
    simp [Nat.shiftLeft_eq]
    have := Nat.pow_lt_pow_right (by decide : 1 < 2) hm; simpa using this
  rw [h2, Nat.testBit_two_pow]

theorem test_not (b : UInt64) (n : Nat) (hn : n < 64) : test (~~~b) n = !test b n := by
  unfold test
  rw [UInt64.toNat_not]
  have hb := b.toNat_lt
  have : UInt64.size - 1 - b.toNat = 2^64 - 1 - b.toNat := by simp [UInt64.size]
  rw [this]
  have h2 : 2^64 - 1 - b.toNat = 2^64 - (b.toNat + 1) := by omega
  rw [h2, Nat.testBit_two_pow_sub_succ hb]
  simp [hn]

theorem ext (a b : UInt64) (h : ∀ n, n < 64 → test a n = test b n) : a = b := by
  apply UInt64.toNat_inj.1
  apply Nat.eq_of_testBit_eq
  intro i
  by_cases hi : i < 64
  · exact h i hi
  · have ha := test_ge a i (by omega); have hb := test_ge b i (by omega)
    unfold test at ha hb
    rw [ha, hb]

/-! ## emptiness -/

theorem eq_zero_of_test (a : UInt64) (h : ∀ n, n < 64 → test a n = false) : a = 0 :=
  ext a 0 (fun n hn => by rw [h n hn, test_zero])

theorem ne_zero_iff (a : UInt64) : a ≠ 0 ↔ ∃ n, n < 64 ∧ test a n = true := by
  constructor
  · intro h
    apply Classical.byContradiction
    intro hn
    refine h (eq_zero_of_test a fun n hn' => ?_)
    cases ht : test a n with
    | false => rfl
    | true => exact absurd ⟨n, hn', ht⟩ hn
  · rintro ⟨n, _, ht⟩ h0
    rw [h0, test_zero] at ht; cases ht

theorem bbAny_iff (x : UInt64) : bbAny x = true ↔ ∃ n, n < 64 ∧ test x n = true := by
  unfold bbAny
  rw [bne_iff_ne]
  exact ne_zero_iff x

theorem bbNone_iff (x : UInt64) : bbNone x = true ↔ ∀ n, n < 64 → test x n = false := by
  unfold bbNone
  rw [beq_iff_eq]
  exact ⟨fun h n _ => by rw [h, test_zero], eq_zero_of_test x⟩

theorem bbNone_eq_not_bbAny (x : UInt64) : bbNone x = !bbAny x := by
  unfold bbNone bbAny; cases h : x == 0 <;> simp [bne, h]

/-! ## setting, clearing and shifting bits -/

theorem test_setBit (b : UInt64) (m n : Nat) (hm : m < 64) :
    test (setBit b m) n = (test b n || decide (m = n)) := by
  rw [setBit, test_or, test_bit m n hm]

theorem test_clearBit (b : UInt64) (m n : Nat) (hm : m < 64) :
    test (clearBit b m) n = (test b n && !decide (m = n)) := by
  by_cases hn : n < 64
  · rw [clearBit, test_and, test_not _ _ hn, test_bit m n hm]
  · have h1 := test_ge (clearBit b m) n (by omega)
    have h2 := test_ge b n (by omega)
    rw [h1, h2]; rfl

theorem test_assignBit (b : UInt64) (m n : Nat) (v : Bool) (hm : m < 64) :
    test (assignBit b m v) n = if m = n then v else test b n := by
  unfold assignBit
  cases v
  · simp only [Bool.false_eq_true, if_false]; rw [test_clearBit b m n hm]
    by_cases h : m = n <;> simp [h]
  · simp only [if_true]; rw [test_setBit b m n hm]
    by_cases h : m = n <;> simp [h]

theorem test_shl (b : UInt64) (k n : Nat) (hk : k < 64) :
    test (b <<< k.toUInt64) n = (decide (k ≤ n ∧ n < 64) && test b (n - k)) := by
  unfold test
  rw [UInt64.toNat_shiftLeft]
  have h1 : (k.toUInt64).toNat = k := toNat_toUInt64 k (by omega)
  rw [h1, Nat.mod_eq_of_lt hk, Nat.testBit_mod_two_pow, Nat.testBit_shiftLeft]
  by_cases h : n < 64 <;> by_cases h' : k ≤ n <;> simp [h, h']

theorem test_shr (b : UInt64) (k n : Nat) (hk : k < 64) :
    test (b >>> k.toUInt64) n = test b (n + k) := by
  unfold test
  rw [UInt64.toNat_shiftRight]
  have h1 : (k.toUInt64).toNat = k := toNat_toUInt64 k (by omega)
  rw [h1, Nat.mod_eq_of_lt hk, Nat.testBit_shiftRight, Nat.add_comm]

/-! ## `bitsOf` (`iter_ones`), `firstOne`, `lastOne` -/

theorem mem_bitsOf (b : UInt64) (n : Nat) : n ∈ bitsOf b ↔ n < 64 ∧ test b n = true := by
  simp [bitsOf, List.mem_filter, List.mem_range]

theorem mem_bitsOf' (b : UInt64) (n : Nat) : n ∈ bitsOf b ↔ test b n = true :=
  ⟨fun h => ((mem_bitsOf b n).1 h).2, fun h => (mem_bitsOf b n).2 ⟨test_lt b n h, h⟩⟩

/-- `iter_ones` yields the set bits in strictly ascending order -/
theorem bitsOf_sorted (b : UInt64) : (bitsOf b).Pairwise (· < ·) :=
  List.Pairwise.filter _ List.pairwise_lt_range

theorem bitsOf_nodup (b : UInt64) : (bitsOf b).Nodup :=
  (bitsOf_sorted b).imp (fun h => Nat.ne_of_lt h)

theorem bitsOf_zero : bitsOf 0 = [] := by
  simp [bitsOf]

theorem bitsOf_eq_nil (b : UInt64) : bitsOf b = [] ↔ b = 0 := by
  constructor
  · intro h
    apply eq_zero_of_test
    intro n hn
    cases ht : test b n with
    | false => rfl
    | true => have := (mem_bitsOf b n).2 ⟨hn, ht⟩; rw [h] at this; cases this
  · intro h; subst h; exact bitsOf_zero

theorem head?_sorted {l : List Nat} (hs : l.Pairwise (· < ·)) (n : Nat) :
    l.head? = some n ↔ n ∈ l ∧ ∀ m ∈ l, n ≤ m := by
  cases l with
  | nil => simp
  | cons a t =>
    rw [List.pairwise_cons] at hs
    simp only [List.head?_cons, Option.some.injEq, List.mem_cons]
    constructor
    · intro h; subst h
      exact ⟨Or.inl rfl, fun m hm => by
        rcases hm with rfl | hm
        · exact Nat.le_refl _
        · exact Nat.le_of_lt (hs.1 m hm)⟩
    · intro ⟨hn, hmin⟩
      rcases hn with rfl | hn
      · rfl
      · have h1 := hs.1 n hn
        have h2 := hmin a (Or.inl rfl)
        omega

theorem getLast?_sorted {l : List Nat} (hs : l.Pairwise (· < ·)) (n : Nat) :
    l.getLast? = some n ↔ n ∈ l ∧ ∀ m ∈ l, m ≤ n := by
  induction l with
  | nil => simp
  | cons a t ih =>
    rw [List.pairwise_cons] at hs
    cases t with
    | nil =>
      simp only [List.getLast?_singleton, Option.some.injEq, List.mem_singleton]
      constructor
      · intro h; subst h; exact ⟨rfl, fun m hm => by rw [hm]; exact Nat.le_refl _⟩
      · intro ⟨h, _⟩; exact h.symm
    | cons c t' =>
      rw [List.getLast?_cons_cons, ih hs.2]
      constructor
      · intro ⟨hn, hmax⟩
        refine ⟨List.mem_cons_of_mem _ hn, fun m hm => ?_⟩
        rcases List.mem_cons.1 hm with rfl | hm
        · exact Nat.le_of_lt (hs.1 n hn)
        · exact hmax m hm
      · intro ⟨hn, hmax⟩
        have hc := hmax c (List.mem_cons_of_mem _ (List.mem_cons_self))
        have hac := hs.1 c List.mem_cons_self
        rcases List.mem_cons.1 hn with rfl | hn
        · omega
        · exact ⟨hn, fun m hm => hmax m (List.mem_cons_of_mem _ hm)⟩

/-- `first_one` (`trailing_zeros`) is the least set bit -/
theorem firstOne_eq_some (b : UInt64) (n : Nat) :
    firstOne b = some n ↔ test b n = true ∧ ∀ m, test b m = true → n ≤ m := by
  unfold firstOne
  rw [head?_sorted (bitsOf_sorted b)]
  simp only [mem_bitsOf']

/-- `last_one` (`63 - leading_zeros`) is the greatest set bit -/
theorem lastOne_eq_some (b : UInt64) (n : Nat) :
    lastOne b = some n ↔ test b n = true ∧ ∀ m, test b m = true → m ≤ n := by
  unfold lastOne
  rw [getLast?_sorted (bitsOf_sorted b)]
  simp only [mem_bitsOf']

theorem firstOne_eq_none (b : UInt64) : firstOne b = none ↔ b = 0 := by
  unfold firstOne
  rw [List.head?_eq_none_iff, bitsOf_eq_nil]

theorem lastOne_eq_none (b : UInt64) : lastOne b = none ↔ b = 0 := by
  unfold lastOne
  rw [List.getLast?_eq_none_iff, bitsOf_eq_nil]

theorem firstOne_lt (b : UInt64) (n : Nat) (h : firstOne b = some n) : n < 64 :=
  test_lt b n ((firstOne_eq_some b n).1 h).1

theorem lastOne_lt (b : UInt64) (n : Nat) (h : lastOne b = some n) : n < 64 :=
  test_lt b n ((lastOne_eq_some b n).1 h).1

/-! ## one-step shifts of `BitBoard::shift` -/

theorem test_fileH (i : Nat) (hi : i < 64) : test fileH i = decide (i % 8 = 7) := by
  have : ∀ j : Fin 64, test fileH j.val = decide (j.val % 8 = 7) := by decide +kernel
  exact this ⟨i, hi⟩

theorem test_fileA (i : Nat) (hi : i < 64) : test fileA i = decide (i % 8 = 0) := by
  have : ∀ j : Fin 64, test fileA j.val = decide (j.val % 8 = 0) := by decide +kernel
  exact this ⟨i, hi⟩

/-- east: bit `t` of the result is bit `t-1` of the input, and nothing arrives on file A -/
theorem test_shiftE (b : UInt64) (t : Nat) (ht : t < 64) :
    test (shiftE b) t = (decide (t % 8 ≠ 0) && test b (t - 1)) := by
  unfold shiftE
  rw [test_shl _ 1 t (by omega), test_and]
  by_cases h0 : t = 0
  · subst h0; simp
  · have h1 : 1 ≤ t := by omega
    rw [test_not _ _ (by omega), test_fileH _ (by omega)]
    have : (t - 1) % 8 = 7 ↔ t % 8 = 0 := by omega
    by_cases h8 : t % 8 = 0 <;> simp [h8, h1, ht, this] <;> omega

/-- west: bit `t` of the result is bit `t+1` of the input, and nothing arrives on file H -/
theorem test_shiftW (b : UInt64) (t : Nat) (ht : t < 64) :
    test (shiftW b) t = (decide (t % 8 ≠ 7) && test b (t + 1)) := by
  unfold shiftW
  rw [test_shr _ 1 t (by omega), test_and]
  by_cases h63 : t = 63
  · subst h63; simp [test_ge]
  · rw [test_not _ _ (by omega), test_fileA _ (by omega)]
    have : (t + 1) % 8 = 0 ↔ t % 8 = 7 := by omega
    by_cases h8 : t % 8 = 7 <;> simp [h8, this]

/-- north: bit `t` of the result is bit `t-8` of the input (rank 1 receives nothing) -/
theorem test_shiftN (b : UInt64) (t : Nat) (ht : t < 64) :
    test (shiftN b) t = (decide (8 ≤ t) && test b (t - 8)) := by
  unfold shiftN
  rw [test_shl _ 8 t (by omega)]
  by_cases h : 8 ≤ t <;> simp [h, ht]

/-- south: bit `t` of the result is bit `t+8` of the input (rank 8 receives nothing) -/
theorem test_shiftS (b : UInt64) (t : Nat) (_ht : t < 64) :
    test (shiftS b) t = test b (t + 8) := by
  unfold shiftS
  rw [test_shr _ 8 t (by omega)]

/-! ## the enumerations of `Model/Types` -/

theorem opp_opp (c : Color) : c.opp.opp = c := by cases c <;> rfl

theorem Color.mem_all (c : Color) : c ∈ Color.all := by cases c <;> simp [Color.all]
theorem Piece.mem_allIncludingNone (p : Piece) : p ∈ Piece.allIncludingNone := by
  cases p <;> simp [Piece.allIncludingNone]
theorem Side.mem_all (s : Side) : s ∈ Side.all := by cases s <;> simp [Side.all]

theorem Color.idx_lt (c : Color) : c.idx < 2 := by cases c <;> decide
theorem Color.idx_inj {c c' : Color} (h : c.idx = c'.idx) : c = c' := by
  cases c <;> cases c' <;> first | rfl | cases h
theorem Side.idx_lt (s : Side) : s.idx < 2 := by cases s <;> decide
theorem Side.idx_inj {s s' : Side} (h : s.idx = s'.idx) : s = s' := by
  cases s <;> cases s' <;> first | rfl | cases h

/-! ## squares: rank, file, the rank flip, distances -/

theorem fileOf_lt (n : Nat) : fileOf n < 8 := Nat.mod_lt _ (by decide)

theorem rankOf_lt {n : Nat} (h : n < 64) : rankOf n < 8 := by
  unfold rankOf; omega

theorem mkSq_lt {r f : Nat} (hr : r < 8) (hf : f < 8) : mkSq r f < 64 := by
  unfold mkSq; omega

theorem flipRank_lt {n : Nat} (_h : n < 64) : flipRank n < 64 :=
  mkSq_lt (by omega) (fileOf_lt n)
theorem flipRank_flipRank {n : Nat} (h : n < 64) : flipRank (flipRank n) = n := by
  unfold flipRank mkSq rankOf fileOf; omega
theorem rankOf_flipRank {n : Nat} (_h : n < 64) : rankOf (flipRank n) = 7 - rankOf n := by
  unfold flipRank mkSq rankOf fileOf; omega
theorem fileOf_flipRank {n : Nat} (_h : n < 64) : fileOf (flipRank n) = fileOf n := by
  unfold flipRank mkSq rankOf fileOf; omega

theorem absDist_zero (a : Nat) : absDist a 0 = a := by simp [absDist]
theorem absDist_seven {a : Nat} (h : a ≤ 7) : absDist a 7 = 7 - a := by
  unfold absDist; split <;> omega
theorem absDist_le {a b : Nat} (ha : a ≤ 7) (hb : b ≤ 7) : absDist a b ≤ 7 := by
  unfold absDist; split <;> omega

/-! ## bit counts -/

theorem popcount_le (b : UInt64) : popcount b ≤ 64 := by
  unfold popcount bitsOf
  exact Nat.le_trans (List.length_filter_le _ _) (by simp)

theorem bitsOf_length_le (b : UInt64) : (bitsOf b).length ≤ 64 := popcount_le b

theorem popcount_zero : popcount 0 = 0 := by
  unfold popcount; rw [bitsOf_zero]; rfl

theorem filter_or_length_le {α : Type} (p q : α → Bool) (l : List α) :
    (l.filter (fun x => p x || q x)).length ≤ (l.filter p).length + (l.filter q).length := by
  induction l with
  | nil => simp
  | cons x xs ih =>
    simp only [List.filter_cons]
    cases hp : p x <;> cases hq : q x <;> simp <;> omega

theorem popcount_or_le (a b : UInt64) : popcount (a ||| b) ≤ popcount a + popcount b := by
  unfold popcount bitsOf
  have : test (a ||| b) = (fun n => test a n || test b n) := by
    funext n; exact test_or a b n
  rw [this]
  exact filter_or_length_le (test a) (test b) _

theorem length_filter_decide_eq (q N : Nat) :
    ((List.range N).filter fun n => decide (q = n)).length = if q < N then 1 else 0 := by
  induction N with
  | zero => rfl
  | succ N ih =>
    rw [List.range_succ, List.filter_append, List.length_append, ih]
    by_cases h : q = N
    · subst h; simp
    · rw [show List.filter (fun n => decide (q = n)) [N] = [] by simp [h]]
      by_cases h1 : q < N
      · rw [if_pos h1, if_pos (by omega)]; rfl
      · rw [if_neg h1, if_neg (by omega)]; rfl

theorem popcount_bit (q : Nat) (hq : q < 64) : popcount (bit q) = 1 := by
  unfold popcount bitsOf
  rw [List.filter_congr (q := fun n => decide (q = n)) fun n _ => test_bit q n hq, length_filter_decide_eq, if_pos hq]

/-! ## a bit of a fold of ORs comes from one of its terms -/

theorem test_foldl_or {α : Type} (f : α → UInt64) (n : Nat) (l : List α) : ∀ (init : UInt64),
    test (l.foldl (fun acc x => acc ||| f x) init) n = true ↔
      test init n = true ∨ ∃ x ∈ l, test (f x) n = true := by
  induction l with
  | nil => intro init; simp
  | cons x xs ih =>
    intro init
    simp only [List.foldl_cons, ih, test_or, Bool.or_eq_true, List.mem_cons, exists_eq_or_imp, or_assoc]

theorem test_foldl_foldl_or {α β : Type} (ss : α → List β) (f : α → β → UInt64) (n : Nat) (ps : List α) :
    ∀ (init : UInt64),
    test (ps.foldl (fun acc p => (ss p).foldl (fun acc s => acc ||| f p s) acc) init) n = true ↔
      test init n = true ∨ ∃ p ∈ ps, ∃ s ∈ ss p, test (f p s) n = true := by
  induction ps with
  | nil => intro init; simp
  | cons p ps ih =>
    intro init
    simp only [List.foldl_cons, ih, test_foldl_or, List.mem_cons, exists_eq_or_imp, or_assoc]

/-! ## one king of either colour, as bit counts -/

/-- each side has exactly one king -/
def C05.OneKingEach (s : State) : Prop := ∀ c, popcount (s.pieces.get c .king) = 1

/-- each side has at most one king (part of every legality predicate; needed because
`first_one` of a two-king bitboard does not commute with the rank flip) -/
def OneKing (s : State) : Prop := ∀ c, popcount (s.pieces.get c .king) ≤ 1

theorem C05.OneKingEach.oneKing {s : State} (h : C05.OneKingEach s) : OneKing s := fun c => Nat.le_of_eq (h c)

end Wee

/-! ## `PieceMap.set` / `assign` read through `get` -/
namespace Wee.C02

theorem get_set (m : PieceMap) (c c' : Color) (p p' : Piece) (v : UInt64) :
    (m.set c p v).get c' p' = if c' = c ∧ p' = p ∧ p ≠ Piece.none then v else m.get c' p' := by
  cases c <;> cases p <;> cases c' <;> cases p' <;> rfl

theorem get_none (m : PieceMap) (c : Color) : m.get c Piece.none = 0 := by cases c <;> rfl

/-- a placement is its twelve bitboards -/
theorem ext_get {m m' : PieceMap} (h : ∀ c p, m.get c p = m'.get c p) : m = m' := by
  cases m; cases m'
  rw [PieceMap.mk.injEq]
  exact ⟨h .white .pawn, h .white .knight, h .white .bishop, h .white .rook, h .white .queen, h .white .king,
    h .black .pawn, h .black .knight, h .black .bishop, h .black .rook, h .black .queen, h .black .king⟩

theorem set_comm (m : PieceMap) {c c' : Color} {p p' : Piece} (x y : UInt64) (h : ¬ (c = c' ∧ p = p')) :
    (m.set c p x).set c' p' y = (m.set c' p' y).set c p x := by
  apply ext_get
  intro d q
  simp only [get_set]
  by_cases h1 : d = c' ∧ q = p' ∧ p' ≠ Piece.none
  · have h2 : ¬ (d = c ∧ q = p ∧ p ≠ Piece.none) := fun e => h ⟨e.1.symm.trans h1.1, e.2.1.symm.trans h1.2.1⟩
    rw [if_pos h1, if_neg h2, if_pos h1]
  · rw [if_neg h1, if_neg h1]

/-- bit `n` of bitboard `(c', p')` after `map[(c, p)].set(sq, v)` -/
theorem test_get_assign (m : PieceMap) (c c' : Color) (p p' : Piece) (sq n : Nat) (v : Bool) (hsq : sq < 64) :
    test ((m.assign c p sq v).get c' p') n =
      if c' = c ∧ p' = p ∧ p ≠ Piece.none ∧ sq = n then v else test (m.get c' p') n := by
  unfold PieceMap.assign
  rw [get_set]
  by_cases h : c' = c ∧ p' = p ∧ p ≠ Piece.none
  · rw [if_pos h, test_assignBit _ _ _ _ hsq]
    obtain ⟨rfl, rfl, hp⟩ := h
    by_cases e : sq = n
    · simp [e, hp]
    · simp [e]
  · rw [if_neg h]
    have : ¬ (c' = c ∧ p' = p ∧ p ≠ Piece.none ∧ sq = n) := fun ⟨a, b, c, _⟩ => h ⟨a, b, c⟩
    rw [if_neg this]

/-- two writes into different bitboards commute -/
theorem assign_comm (m : PieceMap) (c c' : Color) (p p' : Piece) (a b : Nat) (v w : Bool) (h : ¬ (c = c' ∧ p = p')) :
    (m.assign c p a v).assign c' p' b w = (m.assign c' p' b w).assign c p a v := by
  have e1 : (m.set c p (assignBit (m.get c p) a v)).get c' p' = m.get c' p' := by
    rw [get_set, if_neg (fun e => h ⟨e.1.symm, e.2.1.symm⟩)]
  have e2 : (m.set c' p' (assignBit (m.get c' p') b w)).get c p = m.get c p := by
    rw [get_set, if_neg (fun e => h ⟨e.1, e.2.1⟩)]
  unfold PieceMap.assign
  rw [e1, e2]
  exact set_comm m _ _ h

end Wee.C02

namespace Wee

theorem get_set_same (m : PieceMap) (c : Color) (p : Piece) (hp : p ≠ .none) (v : UInt64) :
    (m.set c p v).get c p = v := by
  rw [C02.get_set, if_pos ⟨rfl, rfl, hp⟩]

theorem get_set_other (m : PieceMap) (c c' : Color) (p p' : Piece) (v : UInt64) (h : c ≠ c' ∨ p ≠ p') :
    (m.set c p v).get c' p' = m.get c' p' := by
  rw [C02.get_set, if_neg]
  rintro ⟨rfl, rfl, _⟩
  rcases h with h | h <;> exact h rfl

end Wee
