import Wee.Model.Bits
/-!
# The set bits of a board without scanning it

`bitsOf b` tests all 64 squares, whatever `b` holds, which is dear in the kernel; and the move generator, the evaluator and
the ray tables of the magic check call it (or `popcount`, `firstOne`, its length and head) all the time.  `bitsFast b` halves the board and gives up a half without a set bit after one test.
-/
namespace Wee

/-- the set bits of `n` among the `2 ^ d` positions from `lo`, in ascending order: a block without a set bit is given up at
once, any other is halved -/
def bitsIn : Nat → Nat → Nat → List Nat
  | 0, lo, n => if n.testBit lo then [lo] else []
  | d + 1, lo, n => if (n >>> lo) % 2 ^ 2 ^ (d + 1) = 0 then [] else bitsIn d lo n ++ bitsIn d (lo + 2 ^ d) n

theorem bitsIn_eq (n : Nat) : ∀ d lo, bitsIn d lo n = (List.range' lo (2 ^ d)).filter n.testBit
  | 0, lo => by simp [bitsIn, List.filter_cons]
  | d + 1, lo => by
    rw [bitsIn, bitsIn_eq n d, bitsIn_eq n d, ← List.filter_append, List.range'_append_1, ← Nat.two_mul, ← Nat.pow_succ']
    split
    · rename_i h
      symm
      refine List.filter_eq_nil_iff.2 fun x hx => ?_
      obtain ⟨h1, h2⟩ := List.mem_range'_1.1 hx
      have := congrArg (fun m => m.testBit (x - lo)) h
      simp only [Nat.testBit_mod_two_pow, Nat.testBit_shiftRight, Nat.zero_testBit] at this
      rw [show lo + (x - lo) = x by omega, decide_eq_true (by omega : x - lo < 2 ^ (d + 1)), Bool.true_and] at this
      rw [this]; exact Bool.false_ne_true
    · rfl

def bitsFast (b : UInt64) : List Nat := bitsIn 6 0 b.toNat

theorem bitsOf_eq_bitsFast : bitsOf = bitsFast := by
  funext b; rw [bitsFast, bitsIn_eq, bitsOf, List.range_eq_range']; rfl

end Wee
