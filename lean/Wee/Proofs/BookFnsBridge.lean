import Wee.Gen.BookFns
import Wee.Proofs.TextFnsBridge2
import Wee.Proofs.GenMovesBridge
import Wee.Proofs.BookLemmas
import Wee.Proofs.StateOKLemmas
/-!
# Bridge, stage 4b: the opening book translated from the Rust source text = the hand model `Wee/Model/Book.lean`

`Wee/Gen/BookFns.lean` is generated by `tools/rs2lean_book.py` from `weechess-core/src/book.rs`, `moves.rs` (`MoveSet::find`),
`state.rs` (`State::default`), `weechess-engine/build.rs` and `weechess-engine/src/book.rs`.  This file proves the generated
functions equal to the functions the C16 theorems are about (`Book.moveTokensChars`, `Book.stepToken`, `Book.scanMoves`,
`Book.parseMovetext`, `Book.playMovetext`, `Book.gamesOfFileChars`, `Book.append`, `Book.buildBook`, `Book.lookup`).

Used from the earlier bridges: `San.try_from_notation_eq`, `MoveQuery.test_eq`, `parseSanChars_queryOk` (`TextFnsBridge2.lean`),
`Fen.try_from_notation_model` (`TextFnsBridge.lean`), `MoveGenerator.compute_legal_moves_model` (`GenMovesBridge.lean`),
`ZobristHasher.hash_keyTable` (`CoreFnsBridge.lean`).
-/
namespace Wee.GenFns
open Wee

/-! ## generic facts about `Iter` -/

/-- pure map over an iterator (bridge vocabulary) -/
def Iter.mapP {α β : Type} (g : α → β) : Iter α → Iter β
  | .nil => .nil
  | .panic => .panic
  | .cons a r => .cons (g a) (Iter.mapP g r)

theorem Iter.filter_pure {α : Type} (p : α → Panics Bool) (q : α → Bool) (l : List α) (h : ∀ a ∈ l, p a = some (q a)) :
    Iter.filter p (Iter.ofList l) = Iter.ofList (l.filter q) := by
  induction l with
  | nil => rfl
  | cons a r ih =>
    have ha := h a (by simp)
    have ih' := ih (fun b hb => h b (List.mem_cons_of_mem _ hb))
    simp only [Iter.ofList, Iter.filter, ha, List.filter_cons]
    cases q a
    · simpa using ih'
    · simp only [if_true, Iter.ofList]; rw [ih']

theorem Iter.map_pure {α β : Type} (f : α → Panics β) (g : α → β) (l : List α) (h : ∀ a ∈ l, f a = some (g a)) :
    Iter.map f (Iter.ofList l) = Iter.ofList (l.map g) := by
  induction l with
  | nil => rfl
  | cons a r ih =>
    have ha := h a (by simp)
    simp only [Iter.ofList, Iter.map, ha, List.map_cons]
    rw [ih (fun b hb => h b (List.mem_cons_of_mem _ hb))]

theorem Iter.take_ofList {α : Type} (n : Nat) (l : List α) : Iter.take n (Iter.ofList l) = Iter.ofList (l.take n) := by
  induction l generalizing n with
  | nil => cases n <;> rfl
  | cons a r ih =>
    cases n with
    | zero => rfl
    | succ n => simp only [Iter.ofList, Iter.take, List.take_succ_cons, ih]

theorem Iter.take_mapP {α β : Type} (g : α → β) (n : Nat) (it : Iter α) :
    Iter.take n (Iter.mapP g it) = Iter.mapP g (Iter.take n it) := by
  induction it generalizing n with
  | nil => cases n <;> rfl
  | panic => cases n <;> rfl
  | cons a r ih =>
    cases n with
    | zero => rfl
    | succ n => simp only [Iter.mapP, Iter.take, ih]

/-! ## text: tokens of the movetext -/

theorem char.is_whitespace_eq (c : Char) : char.is_whitespace c = Book.isWhitespace c := rfl

theorem str.split_whitespace_go_eq (s cur : List Char) : str.split_whitespace.go s cur = Book.tokensChars s cur := by
  induction s generalizing cur with
  | nil => rfl
  | cons c r ih => simp only [str.split_whitespace.go, Book.tokensChars, char.is_whitespace_eq, ih]

/-- `str::split_whitespace` is the model's tokenizer `Book.tokensChars` -/
theorem str.split_whitespace_eq (s : List Char) : str.split_whitespace s = Book.tokensChars s [] :=
  str.split_whitespace_go_eq s []

theorem str.trim_start_eq (s : List Char) : str.trim_start s = Book.trimStartChars s := by
  unfold str.trim_start Book.trimStartChars
  congr 1

theorem str.trim_eq (s : List Char) : str.trim s = Book.trimChars s := by
  unfold str.trim Book.trimChars
  have : char.is_whitespace = Book.isWhitespace := funext char.is_whitespace_eq
  rw [this]

theorem splitBlank_step (c : Char) (r cur : List Char) (h : ∀ rest, c :: r ≠ '\n' :: '\n' :: rest) :
    Book.splitBlank (c :: r) cur = Book.splitBlank r (c :: cur) := by
  rw [Book.splitBlank]
  intro rest
  intros
  apply h rest
  simp_all

theorem str.split_go_blank (n : Nat) (s cur : List Char) (h : s.length < n) :
    str.split.go ['\n', '\n'] n s cur = Book.splitBlank s cur := by
  induction n generalizing s cur with
  | zero => omega
  | succ n ih =>
    match s with
    | [] => simp [str.split.go, Book.splitBlank]
    | c :: r =>
      by_cases hp : ∃ rest, c :: r = '\n' :: '\n' :: rest
      · obtain ⟨rest, hr⟩ := hp
        rw [hr]
        have e1 : List.isPrefixOf ['\n', '\n'] ('\n' :: '\n' :: rest) = true := by simp [List.isPrefixOf]
        rw [str.split.go, e1]
        simp only [if_true, List.length_cons, List.length_nil, List.drop_succ_cons, List.drop_zero]
        rw [Book.splitBlank, ih rest [] (by rw [hr] at h; simp at h; omega)]
      · have hne : ∀ rest, c :: r ≠ '\n' :: '\n' :: rest := fun rest e => hp ⟨rest, e⟩
        have e1 : List.isPrefixOf ['\n', '\n'] (c :: r) = false := by
          cases r with
          | nil => simp [List.isPrefixOf]
          | cons d r =>
            simp only [List.isPrefixOf, Bool.and_true, Bool.and_eq_false_imp, beq_iff_eq]
            intro h1
            by_cases h2 : d = '\n'
            · exact absurd (by rw [← h1, h2]) (hne r)
            · simpa using fun e => h2 e.symm
        rw [str.split.go, e1]
        simp only [Bool.false_eq_true, if_false]
        rw [ih r (c :: cur) (by simp at h; omega), splitBlank_step c r cur hne]

/-- `str::split("\n\n")` is the model's `Book.splitBlank` -/
theorem str.split_blank (s : List Char) : str.split s ['\n', '\n'] = Book.splitBlank s [] :=
  str.split_go_blank _ s [] (Nat.lt_succ_self _)

/-- the `.filter(|t| match *t { "1/2-1/2" => false, "1-0" => false, "0-1" => false, _ => !t.ends_with('.') })` closure -/
theorem keep_spec (t : List Char) :
    (if (t == ['1', '/', '2', '-', '1', '/', '2']) = true then (some false : Panics Bool)
      else if (t == ['1', '-', '0']) = true then some false
      else if (t == ['0', '-', '1']) = true then some false
      else some (!(str.ends_with_char t '.'))) = some (Book.keepToken t) := by
  have e1 : "1/2-1/2".toList = ['1', '/', '2', '-', '1', '/', '2'] := String.toList_ofList
  have e2 : "1-0".toList = ['1', '-', '0'] := String.toList_ofList
  have e3 : "0-1".toList = ['0', '-', '1'] := String.toList_ofList
  unfold Book.keepToken str.ends_with_char
  rw [e1, e2, e3]
  simp only [beq_iff_eq]
  split
  · rfl
  · split
    · rfl
    · split <;> rfl

theorem strip_none (t : List Char) (h : str.find_char t '.' = none) : t.dropWhile (fun c => c != '.') = [] := by
  induction t with
  | nil => rfl
  | cons c r ih =>
    unfold str.find_char at h
    by_cases hc : (c == '.') = true
    · rw [if_pos hc] at h; cases h
    · rw [if_neg hc] at h
      have hr : str.find_char r '.' = none := by
        cases hf : str.find_char r '.' with
        | none => rfl
        | some k => rw [hf] at h; cases h
      rw [List.dropWhile_cons]
      simp only [bne, Bool.not_eq_true] at hc ⊢
      simp only [hc, Bool.not_false, if_true]
      exact ih hr

theorem strip_some (t : List Char) (k : Nat) (h : str.find_char t '.' = some k) :
    ∃ r, t.dropWhile (fun c => c != '.') = '.' :: r ∧ str.slice_from t (k + 1) = some r := by
  induction t generalizing k with
  | nil => cases h
  | cons c r ih =>
    unfold str.find_char at h
    by_cases hc : (c == '.') = true
    · rw [if_pos hc] at h
      cases h
      have hc' : c = '.' := by simpa using hc
      subst hc'
      refine ⟨r, by simp, ?_⟩
      show str.slice_from ('.' :: r) (0 + 1) = some r
      rw [str.slice_from]
      have : '.'.utf8Size = 1 := by decide
      simp only [this, Nat.zero_add, Nat.le_refl, if_true, Nat.sub_self]
      cases r <;> rfl
    · rw [if_neg hc] at h
      cases hf : str.find_char r '.' with
      | none => rw [hf] at h; cases h
      | some k' =>
        rw [hf] at h
        simp only [Option.map_some, Option.some.injEq] at h
        subst h
        obtain ⟨r', h1, h2⟩ := ih k' hf
        refine ⟨r', ?_, ?_⟩
        · rw [List.dropWhile_cons]
          simp only [bne, Bool.not_eq_true] at hc ⊢
          simp only [hc, Bool.not_false, if_true]
          exact h1
        · show str.slice_from (c :: r) (k' + c.utf8Size + 1) = some r'
          rw [str.slice_from]
          have hle : c.utf8Size ≤ k' + c.utf8Size + 1 := by omega
          rw [if_pos hle]
          have : k' + c.utf8Size + 1 - c.utf8Size = k' + 1 := by omega
          rw [this]
          exact h2

/-- the `.map(|c| if let Some(dot_index) = c.find('.') { &c[dot_index + 1..] } else { c })` closure: never panics (the byte
after the first `.` is a character boundary) and is the model's `stripDot` -/
theorem strip_spec (c : List Char) (f : Nat → Panics (List Char)) (hf : ∀ i, f i = str.slice_from c (i + 1)) :
    (match str.find_char c '.' with
      | some dot_index => f dot_index
      | none => some c) = some (Book.stripDot c) := by
  unfold Book.stripDot
  cases hfc : str.find_char c '.' with
  | none => simp only [strip_none c hfc]
  | some k =>
    obtain ⟨r, h1, h2⟩ := strip_some c k hfc
    simp only [h1, hf, h2]

/-! ## `State::default`, `MoveSet::find` -/

/-- a string literal is `String.ofList` of its characters -/
theorem Fen.DEFAULT_eq : Fen.DEFAULT = Gen.fenDefault.toList := (String.toList_ofList (l := Fen.DEFAULT)).symm

/-- the checked FEN reader on the default FEN text gives `startState` -/
theorem parse_default : parseFenChars true Gen.fenDefault.toList = .ok startState := by
  rw [startState_eq]
  exact parse_fenDefault

/-- **`State::default()`** (`try_from_notation::<_, Fen>(Fen::DEFAULT).unwrap()`) is the model's `startState`; no panic -/
theorem State.default_eq (rx : RegexCaptures) (hrx : RxOK rx) : State.default rx = some (stateOf startState) := by
  obtain ⟨nd, hnd, hplus, hs⟩ := hrx
  unfold State.default
  show (do let t_1 ← (Fen.try_from_notation rx Fen.DEFAULT).toResult; Result.unwrap t_1) = _
  rw [Fen.try_from_notation_model nd hnd hplus true rx hs, Fen.DEFAULT_eq, parse_default]
  rfl

/-- **`MoveSet::find`** (`self.0.iter().find(|m| query.test(&m.0)).cloned()`): the FIRST element passing the query
(`MoveSet::filter` is translated with the resolver: `MoveSet.filter_eq` in `SeamFnsBridge.lean`) -/
theorem MoveSet.find_eq (L : List (Wee.Move × Wee.State)) (q : Wee.MoveQuery) (hq : QueryOk q) (hL : ∀ r ∈ L, MoveOk r.1) :
    MoveSet.find (L.map resOf).toArray (mqOf q) = some ((L.find? (fun r => q.test r.1)).map resOf) := by
  unfold MoveSet.find
  induction L with
  | nil => rfl
  | cons r L ih =>
    have h1 : TRes.toPanics (MoveQuery.test (mqOf q) (resOf r).1) = some (q.test r.1) := by
      rw [show MoveQuery.test (mqOf q) (resOf r).1 = .ok (q.test r.1) from MoveQuery.test_eq q hq r.1 (hL r (by simp))]
      rfl
    simp only [List.map_cons, Iter.ofList, Iter.find, h1, List.find?_cons]
    cases q.test r.1
    · simpa using ih (fun r' hr' => hL r' (List.mem_cons_of_mem _ hr'))
    · rfl

/-! ## the `scan` closure and `BookParser::parse_movetext` -/

/-- the model's error of a `BookParseError` (the model keeps the move string only) -/
def errOf : BookParseError → Book.BookErr
  | .InvalidMoveStr t => .invalidMoveStr (String.ofList t)
  | .UnknownMove t _ => .unknownMove (String.ofList t)

/-- the items of the model's scan as a lazy iterator: the hash applied; the model's `.error .panic` item (an `unwrap` inside
`compute_legal_moves`) is a pull that panics -/
def itemsOf (K : Keys) : List (Except Book.BookErr (Wee.State × Wee.Move)) → Iter (Except Book.BookErr (UInt64 × Wee.Move))
  | [] => .nil
  | .error .panic :: _ => .panic
  | .error (.invalidMoveStr t) :: r => .cons (.error (.invalidMoveStr t)) (itemsOf K r)
  | .error (.unknownMove t) :: r => .cons (.error (.unknownMove t)) (itemsOf K r)
  | .ok (s, m) :: r => .cons (.ok (Wee.hash K s, m)) (itemsOf K r)

/-- what one call of the `scan` closure answers, in terms of the model -/
def stepGen (K : Keys) (s : Wee.State) (t : List Char) : Panics (State × Option (Except BookParseError (Hash × Move))) :=
  match parseSanChars t with
  | Option.none => some (stateOf s, some (.error (.InvalidMoveStr t)))
  | some q =>
    match legalMoves? s with
    | Option.none => none
    | some ms =>
      match ms.find? (fun r => q.test r.1) with
      | Option.none => some (stateOf s, some (.error (.UnknownMove t (mqOf q))))
      | some r => some (stateOf r.2, some (.ok (Wee.hash K s, r.1)))

/-- the loop lemma, for ANY closure with the point-wise specification `stepGen`: the scan over move strings is the model's
`scanMoves` (a rewritten closure only has to re-prove the specification) -/
theorem scan_eq (K : Keys) (f : State → List Char → Panics (State × Option (Except BookParseError (Hash × Move))))
    (hf : ∀ s t, StateOK s → f (stateOf s) t = stepGen K s t) (s : Wee.State) (ok : StateOK s) (ts : List (List Char)) :
    Iter.mapP (Except.mapError errOf) (Iter.scan f (stateOf s) (Iter.ofList ts)) = itemsOf K (Book.scanMoves s ts) := by
  induction ts generalizing s with
  | nil => rfl
  | cons t ts ih =>
    simp only [Iter.ofList, Iter.scan, hf s t ok, Book.scanMoves, Book.stepToken, stepGen]
    cases hp : parseSanChars t with
    | none =>
      simp only [Iter.mapP, itemsOf, Except.mapError, errOf]
      rw [ih s ok]
    | some q =>
      simp only []
      cases hl : legalMoves? s with
      | none => simp only [itemsOf]; rfl
      | some ms =>
        simp only []
        cases hfd : ms.find? (fun r => q.test r.1) with
        | none =>
          simp only [Iter.mapP, itemsOf, Except.mapError, errOf]
          rw [ih s ok]
        | some r =>
          simp only [Iter.mapP, itemsOf, Except.mapError]
          rw [ih r.2 (legalMoves?_stateOK s ok ms hl r (List.mem_of_find?_eq_some hfd))]

/-- **`BookParser::parse_movetext`** — token splitting, result tokens and move numbers dropped, everything after the first dot,
then the scan from `State::default()`: SAN scanner (`TextFnsBridge2.lean`), `compute_legal_moves` (`GenMovesBridge.lean`), FIRST match
of `MoveQuery::test`, the Zobrist hash of the position BEFORE the move (`CoreFnsBridge.lean`), the state replaced by the successor — is the
model's `parseMovetext`: the same items in the same order (`Err` items included), a panic exactly where the model says
`.error .panic`.  For every key table with 2 turn keys and 8 en-passant file keys, every regex seam `RxOK` and every text. -/
theorem BookParser.parse_movetext_eq (k : KeyTable) (ht : k.turn.size = 2) (he : k.epFile.size = 8)
    (rx : RegexCaptures) (hrx : RxOK rx) (mt : List Char) :
    ∃ it, BookParser.parse_movetext rx mt (zobristOf k) = some it ∧
      Iter.mapP (Except.mapError errOf) it = itemsOf k.keys (Book.parseMovetext (String.ofList mt)) := by
  unfold BookParser.parse_movetext
  simp only [State.default_eq rx hrx, str.split_whitespace_eq, some_bind', Option.pure_def]
  refine ⟨_, rfl, ?_⟩
  rw [Iter.filter_pure (q := Book.keepToken), Iter.map_pure (g := Book.stripDot)]
  rotate_left
  · exact fun a _ => strip_spec a _ (fun i => by simp)
  · exact fun a _ => keep_spec a
  have hm : Book.parseMovetext (String.ofList mt) =
      Book.scanMoves startState (((Book.tokensChars mt []).filter Book.keepToken).map Book.stripDot) := by
    unfold Book.parseMovetext Book.moveTokensChars
    rw [String.toList_ofList]
  rw [hm]
  apply scan_eq k.keys _ _ startState startState_ok
  intro s t ok
  rw [San.try_from_notation_eq]
  unfold stepGen
  cases hp : parseSanChars t with
  | none => rfl
  | some q =>
    simp only [Option.map_some, TRes.okOr, TRes.toResult, some_bind']
    rw [MoveGenerator.compute_legal_moves_model s ok]
    cases hl : legalMoves? s with
    | none => rfl
    | some ms =>
      simp only [Option.map_some, some_bind']
      rw [MoveSet.find_eq ms q (parseSanChars_queryOk t q hp)
        (fun r hr => moveOk_of_wf _ (legalMoves?_mem s ms hl r hr).1)]
      simp only [some_bind']
      cases hfd : ms.find? (fun r => q.test r.1) with
      | none => rfl
      | some r =>
        simp only [Option.map_some, ZobristHasher.hash_keyTable k ht he s ok.ep, some_bind']
        rfl

/-! ## the consumer `take(BOOK_DEPTH).collect::<Result<Vec<_>, _>>()` -/

/-- what the collected game looks like on the Rust side: the hash applied; the model's `.error .panic` is a panic -/
def playedOf (K : Keys) : Except Book.BookErr (List (Wee.State × Wee.Move)) → Panics (Except Book.BookErr (List (UInt64 × Wee.Move)))
  | .error .panic => none
  | .error (.invalidMoveStr t) => some (.error (.invalidMoveStr t))
  | .error (.unknownMove t) => some (.error (.unknownMove t))
  | .ok l => some (.ok (l.map fun r => (Wee.hash K r.1, r.2)))

/-- `playedOf` read backwards: a panic is the model's panic, an error is the model's error, a game is the model's game with
the hash applied -/
theorem playedOf_cases (K : Keys) (pm : Except Book.BookErr (List (Wee.State × Wee.Move))) :
    (playedOf K pm = none ∧ pm = .error .panic) ∨
    (∃ e, playedOf K pm = some (.error e) ∧ pm = .error e ∧ e ≠ .panic) ∨
    ∃ l, playedOf K pm = some (.ok (l.map fun r => (Wee.hash K r.1, r.2))) ∧ pm = .ok l := by
  match pm with
  | .error .panic => exact .inl ⟨rfl, rfl⟩
  | .error (.invalidMoveStr t) => exact .inr (.inl ⟨_, rfl, rfl, fun h => nomatch h⟩)
  | .error (.unknownMove t) => exact .inr (.inl ⟨_, rfl, rfl, fun h => nomatch h⟩)
  | .ok l => exact .inr (.inr ⟨l, rfl, rfl⟩)

theorem take_itemsOf (K : Keys) (n : Nat) (L : List (Except Book.BookErr (Wee.State × Wee.Move))) :
    Iter.take n (itemsOf K L) = itemsOf K (L.take n) := by
  induction L generalizing n with
  | nil => cases n <;> rfl
  | cons a L ih =>
    cases n with
    | zero => rfl
    | succ n =>
      rw [List.take_succ_cons]
      match a with
      | .error .panic => rfl
      | .error (.invalidMoveStr t) | .error (.unknownMove t) => simp only [itemsOf, Iter.take, ih]
      | .ok (s, m) => simp only [itemsOf, Iter.take, ih]

theorem collect_itemsOf (K : Keys) (L : List (Except Book.BookErr (Wee.State × Wee.Move))) :
    Iter.collect_result (itemsOf K L) = playedOf K (Book.collect L) := by
  induction L with
  | nil => rfl
  | cons a L ih =>
    match a with
    | .error .panic => rfl
    | .error (.invalidMoveStr t) | .error (.unknownMove t) => rfl
    | .ok (s, m) =>
      simp only [itemsOf, Iter.collect_result, Book.collect, ih]
      match Book.collect L with
      | .error .panic => rfl
      | .error (.invalidMoveStr t) | .error (.unknownMove t) => rfl
      | .ok l => rfl

theorem collect_mapP {ε ε' α : Type} (g : ε → ε') (it : Iter (Except ε α)) :
    Iter.collect_result (Iter.mapP (Except.mapError g) it) = (Iter.collect_result it).map (Except.mapError g) := by
  induction it with
  | nil => rfl
  | panic => rfl
  | cons a r ih =>
    cases a with
    | error e => rfl
    | ok a =>
      simp only [Iter.mapP, Except.mapError, Iter.collect_result, ih]
      cases Iter.collect_result r with
      | none => rfl
      | some x => cases x <;> rfl

theorem BOOK_DEPTH_eq : UInt64.toNat build.BOOK_DEPTH = Gen.bookDepth := by decide

/-- **`parse_movetext(movetext, &hasher).take(BOOK_DEPTH).collect::<Result<Vec<_>, _>>()`** is the model's `playMovetext` -/
theorem BookParser.parse_take_collect (k : KeyTable) (ht : k.turn.size = 2) (he : k.epFile.size = 8)
    (rx : RegexCaptures) (hrx : RxOK rx) (mt : List Char) :
    ((BookParser.parse_movetext rx mt (zobristOf k)).bind fun it =>
        Iter.collect_result (Iter.take (UInt64.toNat build.BOOK_DEPTH) it)).map (Except.mapError errOf) =
      playedOf k.keys (Book.playMovetext (String.ofList mt)) := by
  obtain ⟨it, h1, h2⟩ := BookParser.parse_movetext_eq k ht he rx hrx mt
  rw [h1, Option.bind_some, ← collect_mapP, ← Iter.take_mapP, h2, take_itemsOf, collect_itemsOf, BOOK_DEPTH_eq,
    Book.playMovetext_eq]

/-! ## the table: `Book` (`BTreeMap<Hash, HashSet<Move>>`) and the model's `Std.HashMap UInt64 (List Move)` -/

theorem BTreeMap.get_map_update {ν : Type} (m : BTreeMap UInt64 ν) (k k' : UInt64) (f : ν → ν) :
    BTreeMap.get (m.map (fun e => if e.1 == k then (e.1, f e.2) else e)) k' =
      if k' = k then (BTreeMap.get m k).map f else BTreeMap.get m k' := by
  induction m with
  | nil => unfold BTreeMap.get; simp
  | cons e r ih =>
    unfold BTreeMap.get at ih ⊢
    simp only [List.map_cons, List.find?_cons]
    by_cases h1 : e.1 = k <;> by_cases h2 : e.1 = k'
    · have hb1 : (e.1 == k) = true := by simpa using h1
      have hb2 : (e.1 == k') = true := by simpa using h2
      have hk : k' = k := by rw [← h1, ← h2]
      rw [if_pos hk]
      simp only [hb1, hb2, if_true, Option.map_some]
    · have hb1 : (e.1 == k) = true := by simpa using h1
      have hb2 : (e.1 == k') = false := by simpa using h2
      have hk : ¬ k' = k := fun e' => h2 (by rw [h1, e'])
      rw [if_neg hk] at ih ⊢
      simp only [hb1, hb2, if_true]
      exact ih
    · have hb1 : (e.1 == k) = false := by simpa using h1
      have hb2 : (e.1 == k') = true := by simpa using h2
      have hk : ¬ k' = k := fun e' => h1 (by rw [h2, e'])
      rw [if_neg hk]
      simp only [hb1, hb2, Bool.false_eq_true, if_false]
    · have hb1 : (e.1 == k) = false := by simpa using h1
      have hb2 : (e.1 == k') = false := by simpa using h2
      simp only [hb1, hb2, Bool.false_eq_true, if_false]
      exact ih

theorem BTreeMap.get_none_iff {ν : Type} (m : BTreeMap UInt64 ν) (k : UInt64) :
    BTreeMap.get m k = none ↔ m.any (fun e => e.1 == k) = false := by
  unfold BTreeMap.get
  induction m with
  | nil => simp
  | cons e r ih =>
    rw [List.find?_cons, List.any_cons]
    cases h : (e.1 == k)
    · simp [ih]
    · simp

theorem BTreeMap.get_append {ν : Type} (m : BTreeMap UInt64 ν) (k k' : UInt64) (v : ν) :
    BTreeMap.get (m ++ [(k, v)]) k' = (BTreeMap.get m k').or (if k' = k then some v else none) := by
  unfold BTreeMap.get
  induction m with
  | nil =>
    simp only [List.nil_append, List.find?_cons, List.find?_nil, Option.map_none, Option.none_or]
    by_cases h : k' = k
    · subst h; simp
    · have : (k == k') = false := by simpa using fun e => h e.symm
      simp [this, h]
  | cons e r ih =>
    rw [List.cons_append, List.find?_cons, List.find?_cons]
    cases h : (e.1 == k')
    · simpa using ih
    · simp

/-- `m.entry(k).or_insert_with(d).f()` as a point update -/
theorem BTreeMap.get_entry {ν : Type} (m : BTreeMap UInt64 ν) (k k' : UInt64) (d : Unit → ν) (f : ν → ν) :
    BTreeMap.get (BTreeMap.entry_or_insert_with m k d f) k' =
      if k' = k then some (f ((BTreeMap.get m k).getD (d ()))) else BTreeMap.get m k' := by
  unfold BTreeMap.entry_or_insert_with
  cases ha : m.any (fun e => e.1 == k)
  · have hn := (BTreeMap.get_none_iff m k).2 ha
    simp only [Bool.false_eq_true, if_false]
    rw [BTreeMap.get_append, hn]
    by_cases hk : k' = k
    · subst hk; simp [hn]
    · simp [hk]
  · simp only [if_true]
    rw [BTreeMap.get_map_update]
    by_cases hk : k' = k
    · rw [if_pos hk, if_pos hk]
      cases hg : BTreeMap.get m k with
      | none => rw [(BTreeMap.get_none_iff m k).1 hg] at ha; cases ha
      | some v => rfl
    · rw [if_neg hk, if_neg hk]

/-- the Rust-side table represents the model's table: the same move list under every key -/
def BookRep (b : core.Book) (t : Book.Table) : Prop := ∀ h, BTreeMap.get b.f_table h = t[h]?

theorem BookRep.new : ∃ b, core.Book.new = some b ∧ BookRep b ∅ :=
  ⟨_, rfl, fun _ => by simp [BTreeMap.get, BTreeMap.new]⟩

/-- **`Book::find`** on a book that represents the model's table is the model's `find`; no panic -/
theorem core.Book.find_rep (b : core.Book) (t : Book.Table) (hb : BookRep b t) (h : UInt64) :
    core.Book.find b h = some (Wee.Book.find t h) := by
  unfold core.Book.find Wee.Book.find
  rw [← hb h]; rfl

/-! ## `OpeningBook::lookup` -/

/-- **`OpeningBook::lookup`** (hash the position with the book's hasher, `Book::find`, `None` for an empty set) is the model's
`lookup`, for every book that represents the model's table whose sets are smaller than `2^64` (`len()` is a `usize`) -/
theorem OpeningBook.lookup_eq (k : KeyTable) (ht : k.turn.size = 2) (he : k.epFile.size = 8)
    (b : core.Book) (t : Book.Table) (hb : BookRep b t) (s : Wee.State) (hep : ∀ e, s.ep = some e → e < 64)
    (hlen : ∀ ms, t[Wee.hash k.keys s]? = some ms → ms.length < 2 ^ 64) :
    OpeningBook.lookup ⟨b, zobristOf k⟩ (stateOf s) = some (Book.lookup k.keys t s) := by
  unfold OpeningBook.lookup Book.lookup
  simp only [ZobristHasher.hash_keyTable k ht he s hep, core.Book.find_rep b t hb, some_bind', Option.pure_def]
  unfold Book.find
  cases hf : t[Wee.hash k.keys s]? with
  | none => rfl
  | some ms =>
    have hl := hlen ms hf
    simp only []
    cases ms with
    | nil => rfl
    | cons m ms =>
      have : decide (HashSet.len (m :: ms) > (0 : UInt64)) = true := by
        apply decide_eq_true
        show (0 : UInt64) < HashSet.len (m :: ms)
        unfold HashSet.len
        rw [UInt64.lt_iff_toNat_lt]
        simp only [List.length_cons] at hl ⊢
        simp [Nat.toUInt64, UInt64.toNat_ofNat', Nat.mod_eq_of_lt hl]
      rw [if_pos this]
      rfl

/-! ## `generate_book_data` (build.rs) -/

/-- `Book::append(hash, &[mov])` as a pure function on the Rust-side table -/
def appendGen (b : core.Book) (h : UInt64) (m : Wee.Move) : core.Book :=
  { b with f_table := BTreeMap.entry_or_insert_with b.f_table h (fun _ => HashSet.new) (fun v_ => HashSet.extend v_ [m]) }

theorem core.Book.append_gen (b : core.Book) (h : UInt64) (m : Wee.Move) : core.Book.append b h [m] = some (appendGen b h m) := rfl

/-- **`Book::append(hash, &[mov])`** is the model's `append` -/
theorem appendGen_rep (b : core.Book) (t : Book.Table) (hb : BookRep b t) (h : UInt64) (m : Wee.Move) :
    BookRep (appendGen b h m) (Wee.Book.append t h m) := by
  intro h'
  show BTreeMap.get (BTreeMap.entry_or_insert_with b.f_table h (fun _ => HashSet.new) (fun v_ => HashSet.extend v_ [m])) h' = _
  rw [BTreeMap.get_entry, hb h]
  unfold Wee.Book.append
  rw [Std.HashMap.getElem?_insert, Std.HashMap.getD_eq_getD_getElem?]
  by_cases hk : h' = h
  · subst hk
    simp only [if_true, beq_self_eq_true]
    rfl
  · have : (h == h') = false := by simpa using fun e => hk e.symm
    rw [if_neg hk, this, hb h']
    rfl

def addRecsGen (K : Keys) (b : core.Book) (l : List (Wee.State × Wee.Move)) : core.Book :=
  l.foldl (fun b r => appendGen b (Wee.hash K r.1) r.2) b

theorem addRecsGen_rep (K : Keys) (l : List (Wee.State × Wee.Move)) (b : core.Book) (t : Book.Table) (hb : BookRep b t) :
    BookRep (addRecsGen K b l) (Book.addRecords K t l) := by
  induction l generalizing b t with
  | nil => exact hb
  | cons r l ih => exact ih _ _ (appendGen_rep b t hb _ _)

/-- the loop `for (hash, mov) in moves.into_iter() { book.append(hash, &[mov]); }`, for ANY body with the point-wise
specification "append one record" -/
theorem foldlM_records (K : Keys) (f : core.Book → UInt64 × Wee.Move → Panics core.Book)
    (hf : ∀ b h m, f b (h, m) = some (appendGen b h m)) (l : List (Wee.State × Wee.Move)) (b : core.Book) :
    List.foldlM f b (l.map fun r => (Wee.hash K r.1, r.2)) = some (addRecsGen K b l) := by
  induction l generalizing b with
  | nil => rfl
  | cons r l ih =>
    rw [List.map_cons, List.foldlM_cons, hf]
    exact ih _

/-- the model's error of a `BuildError`; `Io` / `Serialization` are not produced by translated code (they belong to the
I/O frame) and have no model counterpart -/
def buildErrOf : build.BuildError → Book.BookErr
  | .BookParsing e => errOf e
  | .Io _ => .panic
  | .Serialization _ => .panic

/-- Rust-side mirror of the model's `buildFromPlayed` (the model's `.error .panic` is a panic) -/
def buildGen (K : Keys) : core.Book → List (Except Book.BookErr (List (Wee.State × Wee.Move))) → Panics (Except Book.BookErr core.Book)
  | b, [] => some (.ok b)
  | b, .ok l :: rest => buildGen K (addRecsGen K b l) rest
  | _, .error .panic :: _ => none
  | _, .error (.invalidMoveStr t) :: _ => some (.error (.invalidMoveStr t))
  | _, .error (.unknownMove t) :: _ => some (.error (.unknownMove t))

theorem buildGen_append (K : Keys) (p1 p2 : List (Except Book.BookErr (List (Wee.State × Wee.Move)))) (b : core.Book) :
    buildGen K b (p1 ++ p2) = (buildGen K b p1).bind fun r =>
      match r with
      | .ok b' => buildGen K b' p2
      | .error e => some (.error e) := by
  induction p1 generalizing b with
  | nil => rfl
  | cons a p1 ih =>
    match a with
    | .ok l => exact ih _
    | .error .panic => rfl
    | .error (.invalidMoveStr t) | .error (.unknownMove t) => rfl

/-- `buildGen` computes a representation of what the model's `buildFromPlayed` computes -/
theorem buildGen_rep (K : Keys) (ps : List (Except Book.BookErr (List (Wee.State × Wee.Move)))) (b : core.Book) (t : Book.Table)
    (hb : BookRep b t) :
    match Book.buildFromPlayed K t ps with
    | .error .panic => buildGen K b ps = none
    | .error e => buildGen K b ps = some (.error e)
    | .ok t' => ∃ b', buildGen K b ps = some (.ok b') ∧ BookRep b' t' := by
  induction ps generalizing b t with
  | nil => exact ⟨b, rfl, hb⟩
  | cons a ps ih =>
    match a with
    | .ok l => exact ih _ _ (addRecsGen_rep K l b t hb)
    | .error .panic => rfl
    | .error (.invalidMoveStr s) | .error (.unknownMove s) => rfl

/-- the move strings of a game given as a character list -/
def playC (cs : List Char) : Except Book.BookErr (List (Wee.State × Wee.Move)) := Book.playMovetext (String.ofList cs)

theorem buildGen_error (K : Keys) (b : core.Book) {e : Book.BookErr} (he : e ≠ .panic) :
    buildGen K b [.error e] = some (.error e) := by
  cases e <;> first | rfl | exact absurd rfl he

theorem try_fold_mapError {ε ε' α σ : Type} (g : ε → ε') (f : σ → α → Panics (Except ε σ)) (s : σ) (it : Iter α) :
    (Iter.try_fold f s it).map (Except.mapError g) = Iter.try_fold (fun s a => (f s a).map (Except.mapError g)) s it := by
  induction it generalizing s with
  | nil => rfl
  | panic => rfl
  | cons a r ih =>
    simp only [Iter.try_fold]
    cases f s a with
    | none => rfl
    | some x =>
      cases x with
      | error e => rfl
      | ok s' => exact ih s'

theorem for_try_mapError {ε ε' α σ : Type} (g : ε → ε') (f : σ → α → Panics (Except ε σ)) (s : σ) (l : List α) :
    (for_try f s l).map (Except.mapError g) = for_try (fun s a => (f s a).map (Except.mapError g)) s l := by
  induction l generalizing s with
  | nil => rfl
  | cons a r ih =>
    simp only [for_try]
    cases f s a with
    | none => rfl
    | some x =>
      cases x with
      | error e => rfl
      | ok s' => exact ih s'

/-- the `try_fold` over the games of a file, for ANY closure that answers `buildGen` of the one game -/
theorem try_fold_games (K : Keys) (G : core.Book → List Char → Panics (Except Book.BookErr core.Book))
    (hG : ∀ b mt, G b mt = buildGen K b [playC mt]) (games : List (List Char)) (b : core.Book) :
    Iter.try_fold G b (Iter.ofList games) = buildGen K b (games.map playC) := by
  induction games generalizing b with
  | nil => rfl
  | cons mt games ih =>
    simp only [Iter.ofList, Iter.try_fold, hG, List.map_cons]
    match hp : playC mt with
    | .ok l => simp only [buildGen]; exact ih _
    | .error .panic => rfl
    | .error (.invalidMoveStr t) | .error (.unknownMove t) => rfl

/-- the `for` over the files, for ANY body with the point-wise specification "the games of the file, folded" -/
theorem for_try_files (K : Keys) (F : core.Book → List Char → Panics (Except Book.BookErr core.Book))
    (hF : ∀ b c, F b c = buildGen K b ((Book.gamesOfFileChars c).map playC)) (dir : List (List Char)) (b : core.Book) :
    for_try F b dir = buildGen K b ((dir.flatMap Book.gamesOfFileChars).map playC) := by
  induction dir generalizing b with
  | nil => rfl
  | cons c dir ih =>
    rw [List.flatMap_cons, List.map_append, buildGen_append, for_try, hF]
    cases buildGen K b ((Book.gamesOfFileChars c).map playC) with
    | none => rfl
    | some r =>
      cases r with
      | error e => rfl
      | ok b' => exact ih b'

theorem games_ofList (c : List Char) :
    (Book.gamesOfFile (String.ofList c)).map Book.playMovetext = (Book.gamesOfFileChars c).map playC := by
  unfold Book.gamesOfFile playC
  rw [String.toList_ofList, List.map_map, Function.comp_def]

theorem buildBook_chars (K : Keys) (dir : List (List Char)) :
    Book.buildBook K (dir.map String.ofList) =
      Book.buildFromPlayed K ∅ ((dir.flatMap Book.gamesOfFileChars).map playC) := by
  unfold Book.buildBook Book.buildBookGames
  congr 1
  induction dir with
  | nil => rfl
  | cons c dir ih =>
    rw [List.map_cons, List.flatMap_cons, List.flatMap_cons, List.map_append, List.map_append, ih, games_ofList]

/-- the end of `generate_book_data`: `assert!(book.len() > 0)` -/
def finalK : Except Book.BookErr core.Book → Panics (Except Book.BookErr core.Book)
  | .error e => some (.error e)
  | .ok b => if decide (BTreeMap.len b.f_table > (0 : UInt64)) then some (.ok b) else none

/-- the game closure of `try_fold`: `parse_movetext(..).take(BOOK_DEPTH).collect()?`, then the records appended -/
theorem game_spec (k : KeyTable) (ht : k.turn.size = 2) (he : k.epFile.size = 8) (rx : RegexCaptures) (hrx : RxOK rx)
    (f : core.Book → UInt64 × Wee.Move → Panics core.Book) (hf : ∀ b h m, f b (h, m) = some (appendGen b h m))
    (b : core.Book) (mt : List Char) :
    (((BookParser.parse_movetext rx mt (zobristOf k)).bind fun t_4 =>
        (Iter.collect_result (Iter.take (UInt64.toNat build.BOOK_DEPTH) t_4)).bind fun t_5 =>
          match Except.mapError build.BuildError.BookParsing t_5 with
          | .error e_ => some (.error e_)
          | .ok moves => (List.foldlM f b moves).bind fun book => some (.ok book)).map (Except.mapError buildErrOf)) =
      buildGen k.keys b [playC mt] := by
  have h := BookParser.parse_take_collect k ht he rx hrx mt
  unfold playC
  rw [← Option.bind_assoc]
  generalize (BookParser.parse_movetext rx mt (zobristOf k)).bind _ = o at h ⊢
  -- the model's game by cases; `h` says what the collected game `o` is in each
  rcases playedOf_cases k.keys (Book.playMovetext (String.ofList mt)) with ⟨hn, hm⟩ | ⟨e, hs, hm, he⟩ | ⟨l, hs, hm⟩ <;> rw [hm]
  · rw [hn] at h
    cases o with
    | none => rfl
    | some r => cases h
  · rw [hs] at h
    rw [buildGen_error _ _ he]
    cases o with
    | none => cases h
    | some r =>
      cases r with
      | ok moves => cases h
      | error e' =>
        simp only [Option.map_some, Except.mapError, Option.some.injEq, Except.error.injEq] at h
        simp only [Option.bind_some, Except.mapError, Option.map_some, buildErrOf, h]
  · rw [hs] at h
    cases o with
    | none => cases h
    | some r =>
      cases r with
      | error e' => cases h
      | ok moves =>
        simp only [Option.map_some, Except.mapError, Option.some.injEq, Except.ok.injEq] at h
        simp only [Option.bind_some, Except.mapError, h, foldlM_records k.keys f hf]
        rfl

/-- **`generate_book_data`** (build.rs; the I/O frame replaced by the parameters `hasher`, `dir`): every file trimmed,
split at blank lines, every chunk `trim_start`ed (the repair of F7), the chunks starting with `1.` kept, each game
played over its first `BOOK_DEPTH` move strings and its records appended; the first `Err` or panic ends the build; an
empty book fails the final `assert!`.  Result, with errors read through `buildErrOf`: `buildGen` over the model's
`gamesOfFileChars` / `playMovetext`, then `finalK`. -/
theorem build.generate_book_data_gen (k : KeyTable) (ht : k.turn.size = 2) (he : k.epFile.size = 8)
    (rx : RegexCaptures) (hrx : RxOK rx) (dir : List (List Char)) :
    (build.generate_book_data rx (zobristOf k) dir).map (Except.mapError buildErrOf) =
      (buildGen k.keys ⟨BTreeMap.new⟩ ((dir.flatMap Book.gamesOfFileChars).map playC)).bind finalK := by
  unfold build.generate_book_data
  simp only [core.Book.new, some_bind', Option.pure_def]
  generalize hx : for_try _ _ dir = x
  have key : x.map (Except.mapError buildErrOf) =
      buildGen k.keys ⟨BTreeMap.new⟩ ((dir.flatMap Book.gamesOfFileChars).map playC) := by
    rw [← hx, for_try_mapError, for_try_files (K := k.keys)]
    intro b c
    rw [Iter.map_pure (g := Book.trimStartChars), Iter.filter_pure (q := fun c => "1.".toList.isPrefixOf c)]
    rotate_left
    · exact fun a _ => rfl
    · exact fun a _ => congrArg some (str.trim_start_eq a)
    rw [str.trim_eq, str.split_blank]
    generalize hy : Iter.try_fold _ b _ = y
    have key2 : y.map (Except.mapError buildErrOf) = buildGen k.keys b ((Book.gamesOfFileChars c).map playC) := by
      rw [← hy, try_fold_mapError, try_fold_games (K := k.keys)]
      · rfl
      · intro b mt
        exact game_spec k ht he rx hrx _ (fun b h m => rfl) b mt
    rw [← key2]
    cases y with
    | none => rfl
    | some r => cases r <;> rfl
  rw [← key]
  cases x with
  | none => rfl
  | some r =>
    cases r with
    | error e => rfl
    | ok b =>
      simp only [Option.map_some, Option.bind_some, some_bind', Except.mapError, finalK, core.Book.len, Panics.assert, Option.pure_def]
      cases hd : decide (BTreeMap.len b.f_table > (0 : UInt64)) <;> rfl

theorem mapError_eq_ok {ε ε' α : Type} (g : ε → ε') (r : Except ε α) (a : α) (h : Except.mapError g r = .ok a) : r = .ok a := by
  cases r with
  | error e => cases h
  | ok x => simp only [Except.mapError, Except.ok.injEq] at h; rw [h]

theorem mapError_eq_error {ε ε' α : Type} (g : ε → ε') (r : Except ε α) (e : ε') (h : Except.mapError g r = .error e) :
    ∃ e', r = .error e' ∧ g e' = e := by
  cases r with
  | error e' => simp only [Except.mapError, Except.error.injEq] at h; exact ⟨e', rfl, h⟩
  | ok x => cases h

/-- **build.rs = the model's `buildBook`.**  For every key table with 2 turn keys and 8 en-passant file keys, every regex seam
with the standard semantics and every directory (list of file contents): the build panics exactly when the model says `.error .panic` or the book is empty
(`assert!(book.len() > 0)`); it returns `Err(BuildError::BookParsing(e))` exactly when the model returns the error `e`
reads as; otherwise it returns a `Book` that represents the model's table. -/
theorem build.generate_book_data_eq (k : KeyTable) (ht : k.turn.size = 2) (he : k.epFile.size = 8)
    (rx : RegexCaptures) (hrx : RxOK rx) (dir : List (List Char)) :
    match Book.buildBook k.keys (dir.map String.ofList) with
    | .error .panic => build.generate_book_data rx (zobristOf k) dir = none
    | .error e => ∃ e', build.generate_book_data rx (zobristOf k) dir = some (.error e') ∧ buildErrOf e' = e
    | .ok t => ∃ b, BookRep b t ∧ build.generate_book_data rx (zobristOf k) dir =
        if decide (BTreeMap.len b.f_table > (0 : UInt64)) then some (.ok b) else none := by
  have hg := build.generate_book_data_gen k ht he rx hrx dir
  have hrep := buildGen_rep k.keys ((dir.flatMap Book.gamesOfFileChars).map playC) ⟨BTreeMap.new⟩ ∅
    (fun _ => by simp [BTreeMap.get, BTreeMap.new])
  rw [buildBook_chars]
  generalize build.generate_book_data rx (zobristOf k) dir = X at hg ⊢
  match hm : Book.buildFromPlayed k.keys ∅ ((dir.flatMap Book.gamesOfFileChars).map playC) with
  | .error .panic =>
    rw [hm] at hrep
    simp only [] at hrep ⊢
    rw [hrep] at hg
    cases X with
    | none => rfl
    | some r => cases hg
  | .error (.invalidMoveStr t) | .error (.unknownMove t) =>
    rw [hm] at hrep
    simp only [] at hrep ⊢
    rw [hrep] at hg
    cases X with
    | none => cases hg
    | some r =>
      simp only [Option.map_some, Option.bind_some, finalK, Option.some.injEq] at hg
      obtain ⟨e', h1, h2⟩ := mapError_eq_error _ _ _ hg
      exact ⟨e', by rw [h1], h2⟩
  | .ok t =>
    rw [hm] at hrep
    obtain ⟨b, h1, h2⟩ := hrep
    refine ⟨b, h2, ?_⟩
    rw [h1] at hg
    simp only [Option.bind_some, finalK] at hg
    cases hd : decide (BTreeMap.len b.f_table > (0 : UInt64))
    · rw [hd] at hg
      simp only [Bool.false_eq_true, if_false] at hg ⊢
      cases X with
      | none => rfl
      | some r => cases hg
    · rw [hd] at hg
      simp only [if_true] at hg ⊢
      cases X with
      | none => cases hg
      | some r =>
        simp only [Option.map_some, Option.some.injEq] at hg
        rw [mapError_eq_ok _ _ _ hg]

/-- a successful build ships a book that represents the model's table -/
theorem build.generate_book_data_ok (k : KeyTable) (ht : k.turn.size = 2) (he : k.epFile.size = 8)
    (rx : RegexCaptures) (hrx : RxOK rx) (dir : List (List Char)) (b : core.Book)
    (h : build.generate_book_data rx (zobristOf k) dir = some (.ok b)) :
    ∃ t, Book.buildBook k.keys (dir.map String.ofList) = .ok t ∧ BookRep b t := by
  have hg := build.generate_book_data_eq k ht he rx hrx dir
  match hm : Book.buildBook k.keys (dir.map String.ofList) with
  | .error .panic => rw [hm] at hg; simp only [] at hg; rw [h] at hg; cases hg
  | .error (.invalidMoveStr t) | .error (.unknownMove t) =>
    rw [hm] at hg; obtain ⟨e', h1, _⟩ := hg; rw [h] at h1; cases h1
  | .ok t =>
    rw [hm] at hg
    obtain ⟨b', h1, h2⟩ := hg
    rw [h] at h2
    refine ⟨t, rfl, ?_⟩
    split at h2
    · cases h2; exact h1
    · cases h2

/-- **the pipeline**: the book that `build.rs` ships, asked by `OpeningBook::lookup` with the same hasher, answers what the
model's `lookup` answers on the model's `buildBook` — the pair of functions all C16 theorems are stated for -/
theorem OpeningBook.lookup_built (k : KeyTable) (ht : k.turn.size = 2) (he : k.epFile.size = 8)
    (rx : RegexCaptures) (hrx : RxOK rx) (dir : List (List Char)) (b : core.Book)
    (h : build.generate_book_data rx (zobristOf k) dir = some (.ok b)) :
    ∃ t, Book.buildBook k.keys (dir.map String.ofList) = .ok t ∧
      ∀ s : Wee.State, (∀ e, s.ep = some e → e < 64) →
        (∀ ms, t[Wee.hash k.keys s]? = some ms → ms.length < 2 ^ 64) →
        OpeningBook.lookup ⟨b, zobristOf k⟩ (stateOf s) = some (Book.lookup k.keys t s) := by
  obtain ⟨t, h1, h2⟩ := build.generate_book_data_ok k ht he rx hrx dir b h
  exact ⟨t, h1, fun s hep hlen => OpeningBook.lookup_eq k ht he b t h2 s hep hlen⟩

/-- model ≠ code: an empty book (no file, or no chunk starting with `1.`) is `.ok ∅` in the model, the Rust build panics
(`assert!(book.len() > 0)`) -/
theorem build.generate_book_data_nil (rx : RegexCaptures) (hasher : ZobristHasher) :
    build.generate_book_data rx hasher [] = none ∧ ∀ K, Book.buildBook K [] = .ok ∅ :=
  ⟨rfl, fun _ => rfl⟩

/-- the seam hypothesis is satisfiable (the regex semantics itself, ASCII digits) -/
theorem rxOK_inhabited : ∃ rx, RxOK rx := by
  obtain ⟨nd, rx, h1, h2, h3⟩ := regexSeam_inhabited
  exact ⟨rx, nd, h1, h2, h3⟩

end Wee.GenFns
