import Wee.Proofs.ListLemmas
/-!
# Loops and arrays: facts the bridge proofs share

Nothing here mentions a translated function.  The translated loops of stages 1–3b are `List.foldlM` in `Option` (`none` = panic)
over `Array`s that are written with `setIfInBounds`; these lemmas turn such a loop into the pure fold and a table filled entry by
entry into `Array.map` over `Array.range`.  The later preludes have loop combinators of their own, each with its rule beside its
first user.

| loop as translated | rule | where |
|---|---|---|
| `List.foldlM` whose body never panics (under an invariant) | `foldlM_eq_foldl_of_inv`, `foldlM_map_some` | here |
| … whose body appends / pushes (or panics as the model does) | `foldlM_append`, `foldlM_push`, `foldlM_append_of_opt`, `foldlM_append_opt`, `foldlM_push_opt` | here |
| … "when it returns", against a fold of the model | `foldlM_sim`, `foldlM_inv` | here |
| … that must be shown to return | `foldlM_total`, `bind_total` | here |
| a loop inside a loop | `foldlM_nested` | here |
| `iter_collect` over `iter_ones()` / `pop()` | `iter_ones_collect_65`, `pop_collect_65` | CoreFnsBridge, GenMovesBridge1 |
| `for_early` (search of the first hit) | `for_early_findSome` | GenMovesBridge1 |
| `for_early` (scan of a bucket) | `for_early_scanL` | TTFnsBridge |
| `for_loop` in `TRes` (with `break`) | `for_loop_abs`, `for_loop_bind` | TextFnsBridge |
| `while_let_next` (the arguments of `go`) | `go_loop` | UciFnsBridge |
| `Iter.scan`, `Iter.try_fold`, `for_try` | `scan_eq`, `try_fold_games`, `for_try_files` | BookFnsBridge |
| `SeamFor` (the resolver) | `SeamFor_resolve` | SeamFnsBridge |
| `SPrim.for_early` in `QM` / `SM` | `for_early_qloop`, `for_early_childLoop` | SearchFnsBridge, SearchFnsBridge2 |
| `SPrim.for_range_early` (the deepening loop) | `for_range_iterLoop` | SearchIterBridge |

The bridge files refer to each other by the stage of the translator:

| stage | tool | generated | bridge |
|---|---|---|---|
| 1 | `rs2lean.py` | `Gen/MoveFns` | MoveFnsBridge (checked primitives: Returns) |
| 2 | `rs2lean2.py` | `Gen/CoreFns` | CoreFnsBridge |
| 3a | `rs2lean3.py` | `Gen/GenMoves` | GenMovesBridge1, 2, 3, GenMovesBridge |
| 3b | `rs2lean_eval.py` | `Gen/EvalFns` | EvalFnsBridge, EvalFnsTotal |
| 3c | `rs2lean_tt.py` | `Gen/TTFns` | TTFnsBridge |
| 3d | `rs2lean_text.py` | `Gen/TextFns` | TextFnsBridge, TextFnsBridge2 (which also bridges the text primitives of stage 4c's prelude, `Gen/UciFns`) |
| 4a, 4e | `rs2lean_search.py` | `Gen/SearchFns` | SearchFnsBridge, SearchFnsBridge2; SearchIterBridge |
| 4b | `rs2lean_book.py` | `Gen/BookFns` | BookFnsBridge |
| 4c | `rs2lean_uci.py` | `Gen/UciFns` | UciFnsBridge |
| 5 | `rs2lean_seams.py` | `Gen/SeamFns` | SeamFnsBridge |
| 6 | `rs2lean_iterate.py` | `Gen/IterateFns` | IterateFnsBridge (its names carry the prefix `Iter5` / `iter5`, which keeps them apart from stage 4c's opaque `SearchArtifact` and its likes; the `5` is part of the prefix, not a stage number) |
-/
namespace Wee
namespace GenFns

/-- a loop whose body does not panic while an invariant holds is the pure fold -/
theorem foldlM_eq_foldl_of_inv {α β : Type} (P : β → Prop) (f : β → α → Option β) (g : β → α → β) (l : List α) (b : β)
    (hb : P b) (h : ∀ x ∈ l, ∀ acc, P acc → f acc x = some (g acc x) ∧ P (g acc x)) :
    List.foldlM f b l = some (List.foldl g b l) := by
  induction l generalizing b with
  | nil => rfl
  | cons x t ih =>
    obtain ⟨e, hp⟩ := h x List.mem_cons_self b hb
    rw [List.foldlM_cons, e]
    exact ih _ hp (fun y hy => h y (List.mem_cons_of_mem _ hy))

theorem setIfInBounds_getD_self {α : Type} (a : Array α) (i : Nat) (d : α) : a.setIfInBounds i (a.getD i d) = a := by
  apply Array.ext
  · simp
  · intro j h1 h2
    rw [Array.getElem_setIfInBounds]
    split
    · subst_vars; simp [Array.getD, h2]
    · rfl

theorem getD_ofFn {α : Type} {n : Nat} (f : Fin n → α) (i : Nat) (h : i < n) (d : α) :
    (Array.ofFn f).getD i d = f ⟨i, h⟩ := by
  simp [Array.getD, h]

/-- reading the list view of an array (`toList.map f`, as the model sees a Rust-side array) at an index in range -/
theorem getD_map_toList' {α β : Type} (f : α → β) (a : Array α) (i : Nat) (d : β) (h : i < a.size) :
    (a.toList.map f).getD i d = f a[i] := by
  simp [List.getD, h]

/-- a table filled entry by entry, each entry from its initial value `d`: after the first `k` entries -/
theorem foldl_set_range {α : Type} (g : Nat → α → α) (d : α) (n k : Nat) (hk : k ≤ n) :
    (List.range k).foldl (fun (a : Array α) i => a.setIfInBounds i (g i (a.getD i d))) (Array.replicate n d)
      = (Array.range n).map fun i => if i < k then g i d else d := by
  induction k with
  | zero =>
    apply Array.ext
    · simp
    · intro i h1 h2; simp
  | succ k ih =>
    rw [List.range_succ, List.foldl_append, ih (by omega)]
    apply Array.ext
    · simp
    · intro i h1 h2
      simp at h1 h2
      simp [Array.getElem_setIfInBounds, Array.getD, h2]
      by_cases e : k = i
      · subst e; simp
      · have : (i < k + 1) = (i < k) := by apply propext; omega
        simp [e, this]

/-- a loop over a two-row table that treats the rows independently is two loops -/
theorem foldl_pair {α γ : Type} (f g : Array α → γ → Array α) (l : List γ) (w b : Array α) :
    l.foldl (fun arr n => #[f (arr.getD 0 #[]) n, g (arr.getD 1 #[]) n]) #[w, b] = #[l.foldl f w, l.foldl g b] := by
  induction l generalizing w b with
  | nil => rfl
  | cons x t ih => exact ih _ _

/-! ## the `Option` monad of the translated code and its loops -/

theorem some_bind' {α β : Type} (a : α) (f : α → Option β) : (some a >>= f) = f a := rfl

theorem pure_bind' {α β : Type} (a : α) (f : α → Option β) : ((pure a : Option α) >>= f) = f a := rfl

theorem bind_pure' {α : Type} (x : Option α) : (x >>= fun a => pure a) = x := by cases x <;> rfl

/-! "`x` returns `r`" through `>>=`, `pure` and `if`: with the equivalences of the primitives (`Wee/Proofs/Returns.lean`) these
read a hypothesis `block = some r` as the intermediate results with what each step guarantees (`Option.bind_eq_some_iff` is
the same for `Option.bind`) -/

theorem bind_eq_some {α β : Type} {x : Option α} {f : α → Option β} {r : β} :
    (x >>= f) = some r ↔ ∃ a, x = some a ∧ f a = some r := Option.bind_eq_some_iff

theorem pure_eq_some {α : Type} {a r : α} : (pure a : Option α) = some r ↔ a = r := by
  rw [Option.pure_def, Option.some.injEq]

theorem ite_eq_some {α : Type} {c : Prop} [Decidable c] {x y : Option α} {r : α} :
    (if c then x else y) = some r ↔ if c then x = some r else y = some r := by
  by_cases h : c
  · rw [if_pos h, if_pos h]
  · rw [if_neg h, if_neg h]

/-- a fold whose body never panics on the elements of the list is the pure fold -/
theorem foldlM_eq_foldl {α β : Type} (f : β → α → Option β) (g : β → α → β) (l : List α) (b : β)
    (h : ∀ x ∈ l, ∀ acc, f acc x = some (g acc x)) : List.foldlM f b l = some (List.foldl g b l) :=
  foldlM_eq_foldl_of_inv (fun _ => True) f g l b trivial (fun x hx acc _ => ⟨h x hx acc, trivial⟩)

theorem foldlM_some {α β : Type} (g : β → α → β) (l : List α) (b : β) :
    List.foldlM (fun acc x => some (g acc x)) b l = some (List.foldl g b l) :=
  foldlM_eq_foldl _ g l b (fun _ _ _ => rfl)

theorem foldlM_map_some {α β γ : Type} (f : β → γ → Option β) (g : β → α → β) (m : α → γ) (l : List α) (b : β)
    (h : ∀ x ∈ l, ∀ acc, f acc (m x) = some (g acc x)) : List.foldlM f b (l.map m) = some (List.foldl g b l) := by
  rw [List.foldlM_map]
  exact foldlM_eq_foldl _ g l b h

/-- a `do` block whose first step is rewritten to `X'`, which may still panic (the step is given as a goal) -/
theorem bind_eq_of2 {α β : Type} {X : Option α} {K : α → Option β} {R : Option β} (X' : Option α) (h1 : X = X')
    (h2 : (X' >>= K) = R) : (X >>= K) = R := by
  rw [h1]; exact h2

/-- a `do` block whose first step returns `v` is what the rest does with `v` -/
theorem bind_eq_of {α β : Type} {X : Option α} {K : α → Option β} {R : Option β} (v : α) (h1 : X = some v)
    (h2 : K v = R) : (X >>= K) = R :=
  bind_eq_of2 (some v) h1 h2

theorem foldl_append_flatMap {α β : Type} (g : α → List β) (l : List α) (r : Array β) :
    l.foldl (fun acc x => acc ++ (g x).toArray) r = r ++ (l.flatMap g).toArray := by
  induction l generalizing r with
  | nil => simp
  | cons x t ih => rw [List.foldl_cons, ih]; simp [Array.append_assoc]

/-- a loop whose body appends the list `g x` -/
theorem foldlM_append {α β γ : Type} (f : Array β → γ → Option (Array β)) (m : α → γ) (g : α → List β) (l : List α)
    (r : Array β) (h : ∀ x ∈ l, ∀ acc, f acc (m x) = some (acc ++ (g x).toArray)) :
    List.foldlM f r (l.map m) = some (r ++ (l.flatMap g).toArray) := by
  rw [foldlM_map_some f (fun acc x => acc ++ (g x).toArray) m l r h, foldl_append_flatMap]

theorem arr_app {β : Type} (r : Array β) (a b : List β) : r ++ a.toArray ++ b.toArray = r ++ (a ++ b).toArray := by
  simp [Array.append_assoc]

/-- a loop whose body pushes `g x` -/
theorem foldlM_push {α β γ : Type} (f : Array β → γ → Option (Array β)) (m : α → γ) (g : α → β) (l : List α)
    (r : Array β) (h : ∀ x ∈ l, ∀ acc, f acc (m x) = some (acc.push (g x))) :
    List.foldlM f r (l.map m) = some (r ++ (l.map g).toArray) := by
  rw [foldlM_append f m (fun x => [g x]) l r (by intro x hx acc; rw [h x hx acc]; simp), flatMap_single]

/-- a loop whose body appends the list `k y` made of the result `y` of `g x`, or panics when `g x` is `none` -/
theorem foldlM_append_of_opt {α β γ δ : Type} (f : Array β → γ → Option (Array β)) (m : α → γ) (g : α → Option δ)
    (k : δ → List β) (l : List α) (r : Array β)
    (h : ∀ x ∈ l, ∀ acc, f acc (m x) = (g x).map (fun y => acc ++ (k y).toArray)) :
    List.foldlM f r (l.map m) = (l.mapM g).map (fun ys => r ++ (ys.flatMap k).toArray) := by
  induction l generalizing r with
  | nil => simp
  | cons x t ih =>
    rw [List.map_cons, List.foldlM_cons, h x (List.mem_cons_self) r, List.mapM_cons]
    cases hg : g x with
    | none => rfl
    | some y =>
      simp only [Option.map_some, some_bind']
      rw [ih _ (fun y hy acc => h y (List.mem_cons_of_mem _ hy) acc)]
      cases t.mapM g with
      | none => rfl
      | some ys => simp [Array.append_assoc]

/-- a loop whose body appends the list `g x`, or panics when `g x` is `none` -/
theorem foldlM_append_opt {α β γ : Type} (f : Array β → γ → Option (Array β)) (m : α → γ) (g : α → Option (List β))
    (l : List α) (r : Array β) (h : ∀ x ∈ l, ∀ acc, f acc (m x) = (g x).map (fun ys => acc ++ ys.toArray)) :
    List.foldlM f r (l.map m) = (l.mapM g).map (fun yss => r ++ yss.flatten.toArray) := by
  rw [foldlM_append_of_opt f m g id l r h]
  simp only [List.flatMap_id]

/-- a loop whose body pushes `g x`, or panics when `g x` is `none` -/
theorem foldlM_push_opt {α β γ : Type} (f : Array β → γ → Option (Array β)) (m : α → γ) (g : α → Option β)
    (l : List α) (r : Array β) (h : ∀ x ∈ l, ∀ acc, f acc (m x) = (g x).map (fun y => acc.push y)) :
    List.foldlM f r (l.map m) = (l.mapM g).map (fun ys => r ++ ys.toArray) := by
  rw [foldlM_append_of_opt f m g (fun y => [y]) l r (by intro x hx acc; rw [h x hx acc]; simp)]
  simp only [flatMap_single, List.map_id']

/-- brings a loop over the list itself into the form `l.map m` of the rules above -/
theorem foldlM_id_map {α β : Type} (f : β → α → Option β) (l : List α) (b : β) :
    List.foldlM f b l = List.foldlM f b (l.map id) := by simp

theorem flatMap_toList {α β : Type} (l : List α) (o : α → Option β) : l.flatMap (fun a => (o a).toList) = l.filterMap o := by
  induction l with
  | nil => rfl
  | cons x t ih =>
    rw [List.flatMap_cons, List.filterMap_cons, ih]
    cases o x <;> rfl

/-- a translated loop simulates a fold of the model: the loop runs over the model's list seen through `m`; if each
iteration that returns takes related accumulators to related accumulators, a loop that returns ends in an accumulator
related to the model's fold -/
theorem foldlM_sim {α γ σ τ : Type} (R : σ → τ → Prop) (body : σ → γ → Option σ) (f : τ → α → τ) (m : α → γ) :
    ∀ (l : List α), (∀ x ∈ l, ∀ a b a', R a b → body a (m x) = some a' → R a' (f b x)) →
      ∀ a b r, R a b → List.foldlM body a (l.map m) = some r → R r (l.foldl f b)
  | [], _, a, b, r, hR, h => by
    simp only [List.map_nil, List.foldlM_nil, Option.pure_def, Option.some.injEq] at h
    subst h; exact hR
  | x :: t, hs, a, b, r, hR, h => by
    rw [List.map_cons, List.foldlM_cons] at h
    cases hb : body a (m x) with
    | none => rw [hb] at h; cases h
    | some a1 =>
      rw [hb] at h
      exact foldlM_sim R body f m t (fun y hy => hs y (List.mem_cons_of_mem _ hy)) a1 _ r
        (hs x List.mem_cons_self a b a1 hR hb) h

/-- what every iteration keeps, the loop keeps: the simulation of the fold that collects the elements done -/
theorem foldlM_inv {σ α : Type} (f : σ → α → Option σ) (P : List α → σ → Prop)
    (step : ∀ d st x st', P d st → f st x = some st' → P (d ++ [x]) st')
    (l : List α) (d : List α) (st r : σ) (hP : P d st) (h : List.foldlM f st l = some r) : P (d ++ l) r := by
  have := foldlM_sim (fun st d => P d st) f (fun d x => d ++ [x]) id l (fun x _ a b a' hR hb => step b a x a' hR hb)
    st d r hP (by rwa [List.map_id])
  have e : ∀ (l d : List α), l.foldl (fun d x => d ++ [x]) d = d ++ l := fun l => by
    induction l with
    | nil => simp
    | cons x t ih => intro d; simp [ih]
  rwa [e] at this

/-- a loop inside a loop is one loop over the pairs, in the order of the loops (`F`: the body of the outer loop as the
translation writes it) -/
theorem foldlM_nested {σ α β : Type} (F : σ → α → Option σ) (f : α → σ → β → Option σ) (la : List α) (lb : List β)
    (hF : ∀ st a, F st a = List.foldlM (f a) st lb) :
    ∀ st : σ, List.foldlM F st la
      = List.foldlM (fun st (ab : α × β) => f ab.1 st ab.2) st (la.flatMap fun a => lb.map fun b => (a, b)) := by
  induction la with
  | nil => intro st; rfl
  | cons a la ih =>
    intro st
    rw [List.flatMap_cons, List.foldlM_append, List.foldlM_map, List.foldlM_cons, hF]
    exact bind_congr ih

/-- a monadic fold succeeds and establishes `P full` when every step succeeds under the invariant; the step knows the
position `d ++ x :: t = full` in the list -/
theorem foldlM_total {σ α : Type} (f : σ → α → Option σ) (P : List α → σ → Prop) (full : List α)
    (step : ∀ d x t st, d ++ x :: t = full → P d st → ∃ st', f st x = some st' ∧ P (d ++ [x]) st') :
    ∀ (l d : List α) (st : σ), d ++ l = full → P d st → ∃ r, List.foldlM f st l = some r ∧ P full r
  | [], d, st, hd, hP => by
    rw [List.append_nil] at hd
    subst hd
    exact ⟨st, rfl, hP⟩
  | x :: t, d, st, hd, hP => by
    obtain ⟨st1, h1, hP1⟩ := step d x t st hd hP
    obtain ⟨r, hr, hPr⟩ := foldlM_total f P full step t (d ++ [x]) st1 (by rw [List.append_assoc]; exact hd) hP1
    exact ⟨r, by rw [List.foldlM_cons, h1]; exact hr, hPr⟩

theorem bind_total {α β : Type} {X : Option α} {K : α → Option β} (Q : α → Prop) (h1 : ∃ a, X = some a ∧ Q a)
    (h2 : ∀ a, Q a → ∃ b, K a = some b) : ∃ b, X.bind K = some b := by
  obtain ⟨a, ha, hq⟩ := h1
  rw [ha, Option.bind_some]
  exact h2 a hq

theorem bind_total2 {α β : Type} {X : Option α} {K : α → Option β} (Q : α → Prop) (R : β → Prop)
    (h1 : ∃ a, X = some a ∧ Q a) (h2 : ∀ a, Q a → ∃ b, K a = some b ∧ R b) : ∃ b, X.bind K = some b ∧ R b := by
  obtain ⟨a, ha, hq⟩ := h1
  rw [ha, Option.bind_some]
  exact h2 a hq

end GenFns
end Wee
