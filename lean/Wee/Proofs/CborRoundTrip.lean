import Wee.Model.Cbor
/-!
# Round trip of the CBOR unsigned-integer form (helper for C20)
-/
namespace Wee.Cbor

theorem fitU32_eq (raw : UInt32) (n : Nat) (rest : List UInt8) (h : n = raw.toNat) :
    fitU32 n rest = some (raw, rest) := by
  subst h
  have := raw.toNat_lt
  simp [fitU32]; omega

/-- reading back what the encoder wrote returns the value and leaves the following bytes unread -/
theorem decodeU32Prefix_encodeU32 (raw : UInt32) (rest : List UInt8) :
    decodeU32Prefix (encodeU32 raw ++ rest) = some (raw, rest) := by
  have hlt := raw.toNat_lt
  have b0 : raw.toUInt8.toNat = raw.toNat % 256 := by simp
  have b1 : (raw >>> 8).toUInt8.toNat = raw.toNat / 256 % 256 := by simp [Nat.shiftRight_eq_div_pow]
  have b2 : (raw >>> 16).toUInt8.toNat = raw.toNat / 65536 % 256 := by simp [Nat.shiftRight_eq_div_pow]
  have b3 : (raw >>> 24).toUInt8.toNat = raw.toNat / 16777216 % 256 := by simp [Nat.shiftRight_eq_div_pow]
  unfold encodeU32
  by_cases h1 : raw < 24
  · have h' : raw.toNat < 24 := by simpa [UInt32.lt_iff_toNat_lt] using h1
    have h8 : raw.toUInt8 < 24 := by simp [UInt8.lt_iff_toNat_lt]; omega
    have he : raw.toUInt8.toUInt32 = raw := by
      apply UInt32.toNat_inj.1; simp; omega
    simp only [if_pos h1, List.cons_append, List.nil_append, decodeU32Prefix, if_pos h8, he]
  rw [if_neg h1]
  by_cases h2 : raw < 256
  · have h' : raw.toNat < 256 := by simpa [UInt32.lt_iff_toNat_lt] using h2
    simp only [if_pos h2, List.cons_append, List.nil_append, decodeU32Prefix,
      show ¬ ((0x18 : UInt8) < 24) by decide, if_false, if_true]
    exact fitU32_eq _ _ _ (by simp only [beNat, List.foldl]; omega)
  rw [if_neg h2]
  by_cases h3 : raw < 65536
  · have h' : raw.toNat < 65536 := by simpa [UInt32.lt_iff_toNat_lt] using h3
    simp only [if_pos h3, List.cons_append, List.nil_append, decodeU32Prefix,
      show ¬ ((0x19 : UInt8) < 24) by decide, show ¬ ((0x19 : UInt8) = 0x18) by decide, if_false, if_true]
    exact fitU32_eq _ _ _ (by simp only [beNat, List.foldl]; omega)
  simp only [if_neg h3, List.cons_append, List.nil_append, decodeU32Prefix,
    show ¬ ((0x1a : UInt8) < 24) by decide, show ¬ ((0x1a : UInt8) = 0x18) by decide,
    show ¬ ((0x1a : UInt8) = 0x19) by decide, if_false, if_true]
  exact fitU32_eq _ _ _ (by simp only [beNat, List.foldl]; omega)

/-- the encoder always produces 1, 2, 3 or 5 bytes, the shortest form -/
theorem encodeU32_length (raw : UInt32) :
    (encodeU32 raw).length =
      if raw.toNat < 24 then 1 else if raw.toNat < 256 then 2 else if raw.toNat < 65536 then 3 else 5 := by
  unfold encodeU32
  simp only [UInt32.lt_iff_toNat_lt]
  have e1 : (24 : UInt32).toNat = 24 := rfl
  have e2 : (256 : UInt32).toNat = 256 := rfl
  have e3 : (65536 : UInt32).toNat = 65536 := rfl
  rw [e1, e2, e3]
  split
  · rfl
  · split
    · rfl
    · split <;> rfl

end Wee.Cbor
