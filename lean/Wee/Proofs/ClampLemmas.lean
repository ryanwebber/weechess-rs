import Wee.Model.Eval
/-!
# The mate score, the clamp, and the normal form of `evaluate`

1. the mate score `mate_in_ply` in closed form (`C05.mateInPly_eq`) and `POS_INF ≤ mate_in_ply d`;
2. `clampHeuristic`, the clamp at the end of `Evaluator::evaluate` (repair of defect F10):
   `eval.clamp(Evaluation(NEG_INF.0 + 1), Evaluation(POS_INF.0 - 1))` is applied to the HEURISTIC result only, so a
   heuristic score never looks like a mate score (`clampHeuristic_not_terminal`);
3. `evaluate_eq` states `Evaluator::evaluate` in terms of what it consults (the `king_has_move` shortcut, the check test,
   whether there are legal moves, the heuristic sum) with `terminalOr` for the value once the moves are known; its
   congruences and its case analysis for any perspective (`evaluate_cases_any`, `evaluate_terminal`, `evaluate_values`)
   are read off that.
-/
namespace Wee

/-- `omega` after unfolding `Eval`: `abbrev Eval := Int` leaves `Eval` as the type argument of `<`, `≤`, `+` on scores, and
`omega` recognises `Int` there only syntactically -/
macro "eomega" : tactic => `(tactic| (unfold Eval at *; omega))

/-! ## 1. the mate score -/

theorem posInf_eq : Ev.posInf = 10000 := rfl
theorem negInf_eq : Ev.negInf = -10000 := rfl

/-- `ply as i32` (two's-complement wrap of a `usize`) as used by `mate_in_ply` -/
def C05.plyAsI32 (ply : Nat) : Int := ((ply % 2^32 + 2^31) % 2^32 : Nat) - 2^31

theorem C05.mateInPly_eq (d : Nat) :
    Ev.mateInPly d = 10000 + 100 * max (10 - C05.plyAsI32 d) 0 := rfl

theorem C05.plyAsI32_small {d : Nat} (h : d < 2^31) : C05.plyAsI32 d = d := by
  unfold C05.plyAsI32; omega

/-- `POS_INF ≤ mate_in_ply d` for every `d : usize` (the wrap of `ply as i32` included): the bonus is floored at 0 -/
theorem Ev.posInf_le_mateInPly (d : Nat) : Ev.posInf ≤ Ev.mateInPly d := by
  rw [C05.mateInPly_eq]; show (10000 : Int) ≤ _; omega

/-! ## 2. the clamp -/

theorem clampHeuristic_eq (e : Eval) : clampHeuristic e = max (-9999) (min 9999 e) := rfl

theorem clampHeuristic_range (e : Eval) : -9999 ≤ clampHeuristic e ∧ clampHeuristic e ≤ 9999 := by
  rw [clampHeuristic_eq]; eomega

/-- strictly inside `(NEG_INF, POS_INF) = (−10000, 10000)`: since the repair of F10 true of the heuristic score `evaluate`
returns for EVERY state (no material bound needed) -/
theorem clampHeuristic_strict (e : Eval) : -10000 < clampHeuristic e ∧ clampHeuristic e < 10000 := by
  have := clampHeuristic_range e; eomega

/-- oddness: the bounds `NEG_INF + 1 = −(POS_INF − 1)` are symmetric, so clamping commutes with negation -/
theorem clampHeuristic_neg (e : Eval) : clampHeuristic (-e) = - clampHeuristic e := by
  rw [clampHeuristic_eq, clampHeuristic_eq]; eomega

theorem clampHeuristic_id {e : Eval} (h1 : -10000 < e) (h2 : e < 10000) : clampHeuristic e = e := by
  rw [clampHeuristic_eq]; eomega

theorem clampHeuristic_id_natAbs {e : Eval} (h : e.natAbs < 10000) : clampHeuristic e = e :=
  clampHeuristic_id (by eomega) (by eomega)

theorem clampHeuristic_sat_hi {e : Eval} (h : 9999 ≤ e) : clampHeuristic e = 9999 := by
  rw [clampHeuristic_eq]; eomega
theorem clampHeuristic_sat_lo {e : Eval} (h : e ≤ -9999) : clampHeuristic e = -9999 := by
  rw [clampHeuristic_eq]; eomega

theorem clampHeuristic_idem (e : Eval) : clampHeuristic (clampHeuristic e) = clampHeuristic e := by
  obtain ⟨h1, h2⟩ := clampHeuristic_range e
  exact clampHeuristic_id (by eomega) (by eomega)

theorem clampHeuristic_natAbs_le (e : Eval) : (clampHeuristic e).natAbs ≤ e.natAbs := by
  rw [clampHeuristic_eq]; eomega

theorem clampHeuristic_natAbs_lt (e : Eval) : (clampHeuristic e).natAbs < 10000 := by
  have := clampHeuristic_range e; eomega

/-- a score is terminal when it is at or beyond `±POS_INF` -/
theorem Ev.isTerminal_iff {e : Eval} : Ev.isTerminal e = true ↔ e ≤ -10000 ∨ 10000 ≤ e := by
  unfold Ev.isTerminal
  rw [posInf_eq, negInf_eq, Bool.or_eq_true, decide_eq_true_eq, decide_eq_true_eq]

theorem Ev.isTerminal_eq_false {e : Eval} (h1 : -10000 < e) (h2 : e < 10000) : Ev.isTerminal e = false :=
  Bool.eq_false_iff.2 fun h => by have := Ev.isTerminal_iff.1 h; eomega

/-- **a clamped heuristic score never looks like a mate score** -/
theorem clampHeuristic_not_terminal (e : Eval) : Ev.isTerminal (clampHeuristic e) = false := by
  obtain ⟨h1, h2⟩ := clampHeuristic_range e
  exact Ev.isTerminal_eq_false (by eomega) (by eomega)

/-! ## 3. `evaluate` in terms of what it consults -/

/-- what `Evaluator::evaluate` returns once it has consulted the move generator: the mate score with the sign of the
perspective (`mover`: the side to move is the perspective), the draw score, or the heuristic value -/
def terminalOr (mover check : Bool) (d : Nat) (heur : Eval) (empty : Bool) : Eval :=
  if empty && check then (if mover then - Ev.mateInPly d else Ev.mateInPly d) else if empty then 0 else heur

theorem terminalOr_moves (mover check : Bool) (d : Nat) (heur : Eval) : terminalOr mover check d heur false = heur := rfl
theorem terminalOr_mate (mover : Bool) (d : Nat) (heur : Eval) :
    terminalOr mover true d heur true = if mover then - Ev.mateInPly d else Ev.mateInPly d := by
  simp only [terminalOr, Bool.and_self, if_true]
theorem terminalOr_stalemate (mover : Bool) (d : Nat) (heur : Eval) : terminalOr mover false d heur true = 0 := rfl

theorem terminalOr_neg (mover check : Bool) (d : Nat) (heur : Eval) (empty : Bool) :
    terminalOr (!mover) check d (-heur) empty = - terminalOr mover check d heur empty := by
  cases mover <;> cases check <;> cases empty <;> simp [terminalOr]

/-- **`Evaluator::evaluate(state, perspective, depth)` in terms of what it consults**: the `king_has_move` shortcut
(`none` = panic), the check test, whether `compute_legal_moves` returns moves (`none` = panic), and the clamped
heuristic sum -/
theorem evaluate_eq (s : State) (c : Color) (d : Nat) : evaluate s c d =
    (kingHasMove s).bind fun khm =>
      if !khm || s.isCheck then
        ((legalMoves? s).map List.isEmpty).map
          (terminalOr (s.turn == c) s.isCheck d (clampHeuristic (evalHeuristic (Variation.of s) c)))
      else some (clampHeuristic (evalHeuristic (Variation.of s) c)) := by
  unfold evaluate
  cases kingHasMove s with
  | none => rfl
  | some khm =>
    cases legalMoves? s with
    | none => rfl
    | some ms => simp only [Option.bind_some, Option.map_some, terminalOr, apply_ite some]

theorem evaluate_congr {s s' : State} {c c' : Color} (d : Nat) (hk : kingHasMove s' = kingHasMove s)
    (hc : s'.isCheck = s.isCheck) (hm : (legalMoves? s').map List.isEmpty = (legalMoves? s).map List.isEmpty)
    (ht : (s'.turn == c') = (s.turn == c))
    (hh : evalHeuristic (Variation.of s') c' = evalHeuristic (Variation.of s) c) :
    evaluate s' c' d = evaluate s c d := by
  rw [evaluate_eq, evaluate_eq, hk, hc, hm, ht, hh]

theorem evaluate_neg {s : State} {c c' : Color} (d : Nat) (ht : (s.turn == c') = !(s.turn == c))
    (hh : evalHeuristic (Variation.of s) c' = - evalHeuristic (Variation.of s) c) :
    evaluate s c' d = (evaluate s c d).map (- ·) := by
  rw [evaluate_eq, evaluate_eq, ht, hh, clampHeuristic_neg]
  cases kingHasMove s with
  | none => rfl
  | some khm =>
    rw [Option.bind_some, Option.bind_some]
    by_cases hc : (!khm || s.isCheck) = true
    · rw [if_pos hc, if_pos hc]
      cases legalMoves? s with
      | none => rfl
      | some ms => exact congrArg some (terminalOr_neg ..)
    · rw [if_neg hc, if_neg hc]; rfl

theorem evaluate_of_moves {s : State} {khm : Bool} {ms : List (Move × State)} (hk : kingHasMove s = some khm)
    (hc : (!khm || s.isCheck) = true) (hl : legalMoves? s = some ms) (c : Color) (d : Nat) :
    evaluate s c d = some (terminalOr (s.turn == c) s.isCheck d
      (clampHeuristic (evalHeuristic (Variation.of s) c)) ms.isEmpty) := by
  rw [evaluate_eq, hk, Option.bind_some, if_pos hc, hl]; rfl

/-- the three kinds of result of `Evaluator::evaluate(state, perspective, depth)` for ANY perspective: the mate branch,
the stalemate branch, or the CLAMPED heuristic sum (`C06.evaluate_cases` of `Proofs/MateBase.lean` is the case of the
side to move) -/
theorem evaluate_cases_any {s : State} {c : Color} {d : Nat} {e : Eval} (h : evaluate s c d = some e) :
    (legalMoves? s = some [] ∧ s.isCheck = true ∧
        e = (if s.turn = c then - Ev.mateInPly d else Ev.mateInPly d)) ∨
    (legalMoves? s = some [] ∧ s.isCheck = false ∧ e = 0) ∨
    e = clampHeuristic (evalHeuristic (Variation.of s) c) := by
  rw [evaluate_eq] at h
  cases hk : kingHasMove s with
  | none => rw [hk] at h; cases h
  | some khm =>
    rw [hk, Option.bind_some] at h
    by_cases hc : (!khm || s.isCheck) = true
    · rw [if_pos hc] at h
      cases hl : legalMoves? s with
      | none => rw [hl] at h; cases h
      | some ms =>
        rw [hl] at h
        obtain rfl := Option.some.inj h
        cases ms with
        | cons m ms => exact Or.inr (Or.inr (terminalOr_moves ..))
        | nil =>
          cases hchk : s.isCheck with
          | true => exact Or.inl ⟨rfl, rfl, by rw [List.isEmpty_nil, terminalOr_mate]; simp only [beq_iff_eq]⟩
          | false => exact Or.inr (Or.inl ⟨rfl, rfl, terminalOr_stalemate ..⟩)
    · rw [if_neg hc] at h
      exact Or.inr (Or.inr (Option.some.inj h).symm)

/-- with at least one legal move the result is the clamped heuristic sum (whatever the `king_has_move` shortcut said) -/
theorem evaluate_of_move {s : State} {c : Color} {d : Nat} {e : Eval} {m : Move × State} {ms : List (Move × State)}
    (hm : legalMoves? s = some (m :: ms)) (h : evaluate s c d = some e) :
    e = clampHeuristic (evalHeuristic (Variation.of s) c) := by
  rcases evaluate_cases_any h with h1 | h1 | h1
  · rw [hm] at h1; exact nomatch h1.1
  · rw [hm] at h1; exact nomatch h1.1
  · exact h1

/-- **a terminal result of `evaluate` is the checkmate branch** — for every state, perspective and depth -/
theorem evaluate_terminal {s : State} {c : Color} {d : Nat} {e : Eval} (h : evaluate s c d = some e)
    (ht : Ev.isTerminal e = true) :
    legalMoves? s = some [] ∧ s.isCheck = true ∧ e = (if s.turn = c then - Ev.mateInPly d else Ev.mateInPly d) := by
  rcases evaluate_cases_any h with h1 | h1 | h1
  · exact h1
  · rw [h1.2.2] at ht; exact absurd ht (by decide)
  · rw [h1, clampHeuristic_not_terminal] at ht; exact nomatch ht

/-- the four possible values of `Evaluator::evaluate`, from any perspective (the heuristic sum is clamped to
`[NEG_INF + 1, POS_INF - 1]` since the repair of F10) -/
theorem evaluate_values {s : State} {p : Color} {d : Nat} {e : Eval} (h : evaluate s p d = some e) :
    e = - Ev.mateInPly d ∨ e = Ev.mateInPly d ∨ e = 0 ∨ e = clampHeuristic (evalHeuristic (Variation.of s) p) := by
  rcases evaluate_cases_any h with ⟨_, _, h⟩ | ⟨_, _, h⟩ | h
  · rw [h]; split
    · exact Or.inl rfl
    · exact Or.inr (Or.inl rfl)
  · exact Or.inr (Or.inr (Or.inl h))
  · exact Or.inr (Or.inr (Or.inr h))

/-- with a king move at hand and no check `evaluate` does not generate moves: it is the clamped heuristic sum -/
theorem evaluate_quiet {s : State} (hk : kingHasMove s = some true) (hc : s.isCheck = false) (c : Color) (d : Nat) :
    evaluate s c d = some (clampHeuristic (evalHeuristic (Variation.of s) c)) := by
  rw [evaluate_eq, hk, hc]; rfl

example : clampHeuristic 125 = 125 ∧ clampHeuristic 123456 = 9999 ∧ clampHeuristic (-123456) = -9999 ∧
    clampHeuristic 9999 = 9999 ∧ clampHeuristic 10000 = 9999 ∧ clampHeuristic (-10000) = -9999 := by decide

end Wee
