import Wee.Proofs.WfMoves
import Wee.Proofs.SanLemmas
/-!
# Helper lemmas for the composed theorems of `Wee/Props/Compose.lean`

C02: a coordinate query `(origin, destination, letter)` read on the specification side
(`coordsMatch`), and the transfer of "how many entries match" from the generated legal-move list
to `Spec.legalMoves` through the permutation of C01.
-/
namespace Wee
open Wee.C10 (DisjointBoard)
open Wee.C02 (coordQuery coordQuery_test)
open Wee.SanP (AccOK kindPiece)

/-- what the token `(o, d, letter)` asks of a move of the rules: origin, destination and — if a letter
is given — that the letter names the promotion kind, or (the resolver's leniency) the kind of the
moving piece itself when the move does not promote -/
def coordsMatch (o d : Nat) (pr : Option Piece) (m : Spec.SMove) : Bool :=
  m.src == o && m.dst == d &&
    (match pr with
     | Option.none => true
     | some X => absKind X == some (m.promo.getD m.kind))

theorem test_eq_coordsMatch (o d : Nat) (pr : Option Piece) (m : Move) (sm : Spec.SMove)
    (hsm : toSpecMove m = some sm) (hacc : AccOK m) :
    (coordQuery o d pr).test m = coordsMatch o d pr sm := by
  obtain ⟨hpiece, hsrc, hdst, hpromo, _, _⟩ := toSpecMove_fields hsm
  rw [Bool.eq_iff_iff, coordQuery_test]
  unfold coordsMatch
  simp only [Bool.and_eq_true, beq_iff_eq]
  rw [hsrc, hdst]
  cases pr with
  | none => simp
  | some X =>
    simp only [Option.some.injEq, forall_eq', beq_iff_eq]
    have key : X = (Move.promotion m).getD (Move.piece m) ↔ absKind X = some (sm.promo.getD sm.kind) := by
      rcases hacc.promotion' with h | ⟨k, _, h⟩
      · rw [hpromo, h, hpiece]
        simp only [Option.getD_none, Option.bind_none]
        exact (absKind_eq_some X sm.kind).symm
      · rw [hpromo, h]
        simp only [Option.getD_some, Option.bind_some, absKind_kindPiece]
        exact (absKind_eq_some X k).symm
    constructor
    · rintro ⟨a, b, c⟩; exact ⟨⟨a, b⟩, key.1 c⟩
    · rintro ⟨⟨a, b⟩, c⟩; exact ⟨a, b, key.2 c⟩

theorem coords_filter_perm (s : State) (hl : LegalPos s = true) (hd : DisjointBoard s.pieces)
    (o d : Nat) (pr : Option Piece) :
    (((legalMoves s).filter fun r => (coordQuery o d pr).test r.1).map (toSpecMove ∘ (·.1))).Perm
      (((Spec.legalMoves (abs s)).filter (coordsMatch o d pr)).map some) := by
  have hperm := (C02.legalMoves_perm s hl hd).1
  have h1 : ((legalMoves s).filter fun r => (coordQuery o d pr).test r.1).map (toSpecMove ∘ (·.1)) =
      ((legalMoves s).map (toSpecMove ∘ (·.1))).filter (Option.any (coordsMatch o d pr)) := by
    rw [List.filter_map]
    refine congrArg _ (List.filter_congr fun r hr => ?_)
    obtain ⟨sm, hsm, _, _, hacc⟩ := WfM.mem_data s hl hd r.1 (List.mem_map_of_mem hr)
    show (coordQuery o d pr).test r.1 = Option.any (coordsMatch o d pr) (toSpecMove r.1)
    rw [hsm]
    exact test_eq_coordsMatch o d pr r.1 sm hsm hacc
  have h2 : ((Spec.legalMoves (abs s)).map some).filter (Option.any (coordsMatch o d pr)) =
      ((Spec.legalMoves (abs s)).filter (coordsMatch o d pr)).map some := List.filter_map
  rw [h1, ← h2]
  exact hperm.filter _

theorem specLegal_coords_inj (P : Spec.Pos) (hP : Spec.LegalPos P = true) (a b : Spec.SMove)
    (ha : a ∈ Spec.legalMoves P) (hb : b ∈ Spec.legalMoves P)
    (hs : a.src = b.src) (hd : a.dst = b.dst) (hp : a.promo = b.promo) : a = b := by
  have hok := WfM.posOK_of_legal P hP
  have fa := WfM.facts_of_pseudo P hok a (Spec.mem_legalMoves.1 ha).1
  have fb := WfM.facts_of_pseudo P hok b (Spec.mem_legalMoves.1 hb).1
  have hk : a.kind = b.kind := by
    have h1 := fa.mover
    have h2 := fb.mover
    rw [hs, h2] at h1
    simp only [Option.some.injEq, Prod.mk.injEq, true_and] at h1
    exact h1.symm
  exact WfM.pseudo_inj fa fb hk hs hd hp

/-- `hpr` is the usual convention for the letter: given exactly when a pawn of the side to move goes to its
last rank.  Under it the leniency of `coordsMatch` never applies. -/
theorem coordsMatch_iff_of_letter (P : Spec.Pos) (hP : Spec.LegalPos P = true) (o d : Nat) (pr : Option Piece)
    (hpr : pr.isSome = true ↔ (P.at o = some (P.turn, Spec.Kind.pawn) ∧ d / 8 = Spec.lastRank P.turn))
    (m : Spec.SMove) (hm : m ∈ Spec.legalMoves P) :
    coordsMatch o d pr m = true ↔ (m.src = o ∧ m.dst = d ∧ m.promo = pr.bind absKind) := by
  have hok := WfM.posOK_of_legal P hP
  have f := WfM.facts_of_pseudo P hok m (Spec.mem_legalMoves.1 hm).1
  have hsome : m.src = o → m.dst = d → m.promo.isSome = pr.isSome := by
    intro hs hd
    have hmover := f.mover
    rw [hs] at hmover
    rw [Bool.eq_iff_iff, hpr, f.promoSome, hd, hmover]
    simp only [Bool.and_eq_true, decide_eq_true_eq, Option.some.injEq, Prod.mk.injEq, true_and]
  unfold coordsMatch
  simp only [Bool.and_eq_true, beq_iff_eq]
  constructor
  · rintro ⟨⟨hs, hd⟩, hx⟩
    refine ⟨hs, hd, ?_⟩
    have h := hsome hs hd
    cases pr with
    | none => exact Option.not_isSome_iff_eq_none.1 (by rw [h]; exact Bool.false_ne_true)
    | some X =>
      obtain ⟨k, hk⟩ := Option.isSome_iff_exists.1 h
      rw [hk] at hx ⊢
      exact (beq_iff_eq.1 hx).symm
  · rintro ⟨hs, hd, hp⟩
    refine ⟨⟨hs, hd⟩, ?_⟩
    have h := hsome hs hd
    cases pr with
    | none => rfl
    | some X =>
      obtain ⟨k, hk⟩ := Option.isSome_iff_exists.1 h
      rw [hk] at hp ⊢
      exact beq_iff_eq.2 hp.symm

end Wee
