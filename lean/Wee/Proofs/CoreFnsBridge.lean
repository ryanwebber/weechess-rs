import Wee.Gen.CoreFns
import Wee.Proofs.MoveFnsBridge
import Wee.Proofs.BridgeBasics
import Wee.Proofs.BitLemmas
import Wee.Model.Hash
import Wee.Model.MoveGen
import Wee.Proofs.HashLemmas
import Wee.Proofs.ApplyLemmas
import Wee.Proofs.MoveWF
/-!
# Bridge, stage 2: the functions of `Wee/Gen/CoreFns.lean` (translated from the Rust text) equal the hand model

`Wee/Gen/CoreFns.lean` (namespace `Wee.GenFns`, regenerated by `tools/rs2lean2.py`) holds Lean definitions translated from
the source text of `board.rs` (`impl BitBoard` with its operator impls, `BitIterator::next`, `Board::new` and accessors),
`hasher.rs` (`ZobristHasher::hash`), `attacks.rs` (`AttackGenerator::compute_*_attacks`, the leaper-table builders
`compute_knight/king/pawn_attacks`), `state.rs` (`CastleRights` helpers, `State` accessors, `State::by_performing_move`) and
the small conversions these call.  This file proves each of them equal to the hand-written model
(`Model/Bits.lean`, `Attacks.lean`, `Hash.lean`, `Board.lean`) **for all inputs** of the stated domain (squares `< 64`,
move words with valid piece codes …); a result `… = some v` also says that the Rust function does not panic there.

The Rust-side values the later bridges are stated at (`stateOf`, `boardOf`, `arrOf`, `crOf`, `zobristOf`) and `StateOK` (what a Rust
`State` can hold) are defined in the section of that name, after the hash.
Nothing is assumed beyond the kernel: axioms `propext`, `Classical.choice`, `Quot.sound` only.
-/
set_option linter.unusedSimpArgs false
namespace Wee
namespace GenFns
open Wee.Gen

/-! ## Primitives of the prelude: `trailing_zeros`, `leading_zeros`, `count_ones` are the model's list-based definitions -/

theorem tz_go_eq (x : UInt64) (fuel i : Nat) :
    u64.tz_go x fuel i = match ((List.range' i fuel).filter (test x)).head? with
      | some n => n
      | Option.none => i + fuel := by
  induction fuel generalizing i with
  | zero => simp [u64.tz_go]
  | succ f ih =>
    rw [u64.tz_go, List.range'_succ, List.filter_cons]
    by_cases h : x.toNat.testBit i = true
    · have h' : test x i = true := h
      rw [if_pos h, if_pos h']; rfl
    · have h' : ¬ test x i = true := h
      rw [if_neg h, if_neg h', ih]
      cases ((List.range' (i + 1) f).filter (test x)).head? with
      | none => simp only; omega
      | some n => rfl

open Wee.Move (nat_toUInt32_toNat)

theorem toUInt32_beq (a b : Nat) (ha : a < 2 ^ 32) (hb : b < 2 ^ 32) : (a.toUInt32 == b.toUInt32) = decide (a = b) := by
  by_cases h : a = b
  · subst h; simp
  · rw [decide_eq_false h, beq_eq_false_iff_ne]
    intro e
    have := congrArg UInt32.toNat e
    rw [nat_toUInt32_toNat a ha, nat_toUInt32_toNat b hb] at this
    exact h this

theorem trailing_zeros_eq (x : UInt64) :
    u64.trailing_zeros x = match firstOne x with
      | some n => n.toUInt32
      | Option.none => 64 := by
  unfold u64.trailing_zeros firstOne bitsOf
  rw [tz_go_eq, List.range_eq_range']
  cases ((List.range' 0 64).filter (test x)).head? with
  | none => rfl
  | some n => rfl

theorem lz_go_eq (x : UInt64) (n : Nat) :
    u64.lz_go x n = match ((List.range n).filter (test x)).getLast? with
      | some k => 63 - k
      | Option.none => 64 := by
  induction n with
  | zero => simp [u64.lz_go]
  | succ n ih =>
    rw [u64.lz_go, List.range_succ, List.filter_append, List.getLast?_append]
    by_cases h : x.toNat.testBit n = true
    · have h' : test x n = true := h
      rw [if_pos h]; simp [h']
    · have h' : ¬ test x n = true := h
      rw [if_neg h, ih]; simp [h']

theorem leading_zeros_eq (x : UInt64) :
    u64.leading_zeros x = match lastOne x with
      | some n => (63 - n).toUInt32
      | Option.none => 64 := by
  unfold u64.leading_zeros lastOne bitsOf
  rw [lz_go_eq]
  cases ((List.range 64).filter (test x)).getLast? with
  | none => rfl
  | some n => rfl

theorem pc_go_eq (x : UInt64) (n : Nat) : u64.pc_go x n = ((List.range n).filter (test x)).length := by
  induction n with
  | zero => simp [u64.pc_go]
  | succ n ih =>
    rw [u64.pc_go, List.range_succ, List.filter_append, List.length_append, ih]
    by_cases h : x.toNat.testBit n = true
    · have h' : test x n = true := h
      rw [if_pos h]; simp [h']; omega
    · have h' : ¬ test x n = true := h
      rw [if_neg h]; simp [h']

theorem count_ones_prim_eq (x : UInt64) : u64.count_ones x = (popcount x).toUInt32 := by
  unfold u64.count_ones popcount bitsOf
  rw [pc_go_eq]

/-! ## Checked shifts -/

theorem checked_shl_ofNat (a : UInt64) (n : Nat) (h : n < 64) :
    UInt64.checked_shl a (n : Int) = some (a <<< n.toUInt64) := by
  unfold UInt64.checked_shl
  rw [if_pos ⟨by omega, by omega⟩]; simp

theorem checked_shl_ofNat_none (a : UInt64) (n : Nat) (h : 64 ≤ n) :
    UInt64.checked_shl a (n : Int) = Option.none := by
  unfold UInt64.checked_shl
  rw [if_neg]; omega

theorem checked_shr_ofNat (a : UInt64) (n : Nat) (h : n < 64) :
    UInt64.checked_shr a (n : Int) = some (a >>> n.toUInt64) := by
  unfold UInt64.checked_shr
  rw [if_pos ⟨by omega, by omega⟩]; simp

/-! ## `impl BitBoard` -/

theorem BitBoard.new_eq (v : UInt64) : BitBoard.new v = v := rfl
theorem BitBoard.ZERO_eq : BitBoard.ZERO = 0 := rfl
theorem BitBoard.BIT_COUNT_eq : BitBoard.BIT_COUNT = 64 := rfl
theorem BitBoard.from_u64_eq (v : UInt64) : BitBoard.from_u64 v = v := rfl
theorem BitBoard.into_u64_eq (v : BitBoard) : BitBoard.into_u64 v = v := rfl
theorem BitBoard.not_eq (a : BitBoard) : BitBoard.not a = ~~~a := rfl
theorem BitBoard.bitor_eq (a b : BitBoard) : BitBoard.bitor a b = a ||| b := rfl
theorem BitBoard.bitand_eq (a b : BitBoard) : BitBoard.bitand a b = a &&& b := rfl
theorem BitBoard.bitor_assign_eq (a b : BitBoard) : BitBoard.bitor_assign a b = a ||| b := rfl
theorem BitBoard.bitand_assign_eq (a b : BitBoard) : BitBoard.bitand_assign a b = a &&& b := rfl
theorem BitBoard.iter_ones_eq (a : BitBoard) : BitBoard.iter_ones a = a := rfl

theorem BitBoard.just_eq (sq : Square) (h : sq.toNat < 64) : BitBoard.just sq = some (bit sq.toNat) := by
  simp [BitBoard.just, checked_shl_ofNat _ _ h, bit]

/-- ... and on a raw square `≥ 64` the debug profile panics (the release profile computes `1 << (sq % 64)`) -/
theorem BitBoard.just_panics (sq : Square) (h : 64 ≤ sq.toNat) : BitBoard.just sq = Option.none := by
  simp [BitBoard.just, checked_shl_ofNat_none _ _ h]

theorem BitBoard.any_eq (b : BitBoard) : BitBoard.any b = bbAny b := rfl
theorem BitBoard.none_eq (b : BitBoard) : BitBoard.none b = bbNone b := rfl

theorem BitBoard.first_one_eq (b : BitBoard) : BitBoard.first_one b = (firstOne b).map Nat.toUInt32 := by
  unfold BitBoard.first_one
  simp only [trailing_zeros_eq, BitBoard.BIT_COUNT_eq]
  cases h : firstOne b with
  | none => rfl
  | some n =>
    have hn := firstOne_lt b n h
    have ne : (n.toUInt32 == (64 : UInt32)) = false :=
      (toUInt32_beq n 64 (by omega) (by omega)).trans (decide_eq_false (by omega))
    simp only [ne]; rfl

/-- a bit index `< 64` taken as a square: `Square::from(bit)` / `bit as u8` -/
theorem from_u32_nat (t : Nat) (h : t < 64) : Square.from_u32 (Nat.toUInt32 t) = Nat.toUInt8 t := by
  apply UInt8.toNat_inj.1
  show (UInt32.toUInt8 t.toUInt32).toNat = _
  rw [UInt32.toNat_toUInt8, nat_toUInt32_toNat t (by omega), nat_toUInt8_toNat t (by omega)]
  omega

theorem BitBoard.first_square_eq (b : BitBoard) : BitBoard.first_square b = some ((firstOne b).map Nat.toUInt8) := by
  unfold BitBoard.first_square
  rw [BitBoard.first_one_eq]
  cases h : firstOne b with
  | none => rfl
  | some n =>
    have hn := firstOne_lt b n h
    have e : UInt32.toUInt8 (Nat.toUInt32 n) = n.toUInt8 := from_u32_nat n hn
    have t : Square.try_from_u8 n.toUInt8 = some n.toUInt8 :=
      try_from_u8_of_lt _ (by rw [nat_toUInt8_toNat n (by omega)]; exact hn)
    simp only [Option.map, e, t, unwrap, some_bind', Option.pure_def]

/-- `BitBoard::last_one` = the model's `lastOne`; the two `u32` subtractions never overflow -/
theorem BitBoard.last_one_eq (b : BitBoard) : BitBoard.last_one b = some ((lastOne b).map Nat.toUInt32) := by
  unfold BitBoard.last_one
  simp only [leading_zeros_eq, BitBoard.BIT_COUNT_eq]
  cases h : lastOne b with
  | none => rfl
  | some n =>
    have hn := lastOne_lt b n h
    have ne : ((63 - n).toUInt32 == (64 : UInt32)) = false :=
      (toUInt32_beq (63 - n) 64 (by omega) (by omega)).trans (decide_eq_false (by omega))
    have e1 := nat_toUInt32_toNat (63 - n) (by omega)
    have e2 := nat_toUInt32_toNat (n + 1) (by omega)
    have e3 := nat_toUInt32_toNat n (by omega)
    have s1 : UInt32.checked_sub 64 (63 - n).toUInt32 = some (n + 1).toUInt32 :=
      UInt32.checked_sub_eq_some.2 (by rw [e1, e2]; show _ = 64; omega)
    have s2 : UInt32.checked_sub (n + 1).toUInt32 1 = some n.toUInt32 :=
      UInt32.checked_sub_eq_some.2 (by rw [e2, e3]; rfl)
    simp only [ne, s1, s2, some_bind']
    rfl

theorem BitBoard.set_raw_eq (b : BitBoard) (i : UInt32) (v : Bool) (h : i.toNat < 64) :
    BitBoard.set_raw b i v = some (assignBit b i.toNat v) := by
  unfold BitBoard.set_raw
  cases v <;> simp [checked_shl_ofNat _ _ h, assignBit, setBit, clearBit, bit]

theorem BitBoard.set_raw_panics (b : BitBoard) (i : UInt32) (v : Bool) (h : 64 ≤ i.toNat) :
    BitBoard.set_raw b i v = Option.none := by
  unfold BitBoard.set_raw
  cases v <;> simp [checked_shl_ofNat_none _ _ h]

theorem Square.into_u32_toNat (sq : Square) : (Square.into_u32 sq).toNat = sq.toNat := by
  simp [Square.into_u32]

theorem Square.from_u32_toNat (x : UInt32) (h : x.toNat < 256) : (Square.from_u32 x).toNat = x.toNat := by
  simp [Square.from_u32, Nat.mod_eq_of_lt h]

theorem BitBoard.set_eq (b : BitBoard) (sq : Square) (v : Bool) (h : sq.toNat < 64) :
    BitBoard.set b sq v = some (assignBit b sq.toNat v) := by
  unfold BitBoard.set
  rw [BitBoard.set_raw_eq b _ v (by rw [Square.into_u32_toNat]; exact h), Square.into_u32_toNat]
  rfl

theorem test_eq_and_bit (b : UInt64) (n : Nat) (h : n < 64) : ((b &&& bit n) != 0) = test b n := by
  by_cases ht : test b n = true
  · rw [ht]
    rw [bne_iff_ne]; intro e
    have := congrArg (fun x => test x n) e
    simp only [test_and, test_bit n n h, ht, decide_true, Bool.and_self] at this
    simp [test] at this
  · have hf : test b n = false := by simpa using ht
    rw [hf]
    have : b &&& bit n = 0 := by
      apply eq_zero_of_test
      intro m hm
      rw [test_and, test_bit n m h]
      by_cases e : n = m
      · subst e; simp [hf]
      · simp [e]
    simp [this]

theorem BitBoard.test_raw_eq (b : BitBoard) (i : UInt32) (h : i.toNat < 64) :
    BitBoard.test_raw b i = some (Wee.test b i.toNat) := by
  unfold BitBoard.test_raw
  simp [checked_shl_ofNat _ _ h, ← test_eq_and_bit b _ h, bit]

theorem BitBoard.test_eq (b : BitBoard) (sq : Square) (h : sq.toNat < 64) :
    BitBoard.test b sq = some (Wee.test b sq.toNat) := by
  unfold BitBoard.test
  rw [BitBoard.test_raw_eq b _ (by rw [Square.into_u32_toNat]; exact h), Square.into_u32_toNat]

theorem BitBoard.count_ones_eq (b : BitBoard) : BitBoard.count_ones b = (popcount b).toUInt32 :=
  count_ones_prim_eq b

theorem BitBoard.pop_eq (b : BitBoard) :
    BitBoard.pop b = some (match firstOne b with
      | some n => (some n.toUInt8, clearBit b n)
      | Option.none => (Option.none, b)) := by
  unfold BitBoard.pop
  rw [BitBoard.first_one_eq]
  cases h : firstOne b with
  | none => rfl
  | some n =>
    have hn := firstOne_lt b n h
    have hz : (n.toUInt32).toNat = n := nat_toUInt32_toNat _ (by omega)
    have e : UInt32.toUInt8 (Nat.toUInt32 n) = n.toUInt8 := from_u32_nat n hn
    have t : Square.try_from_u8 n.toUInt8 = some n.toUInt8 :=
      try_from_u8_of_lt _ (by rw [nat_toUInt8_toNat n (by omega)]; exact hn)
    simp only [Option.map, BitBoard.set_raw_eq b _ false (by rw [hz]; exact hn), hz, e, t, unwrap, some_bind',
      Option.pure_def, assignBit]
    rfl

theorem BitIterator.next_eq (b : BitIterator) :
    BitIterator.next b = some (match firstOne b with
      | some n => (some n.toUInt32, clearBit b n)
      | Option.none => (Option.none, b)) := by
  unfold BitIterator.next
  rw [BitBoard.first_one_eq]
  cases h : firstOne b with
  | none => rfl
  | some n =>
    have hn := firstOne_lt b n h
    have hz : (n.toUInt32).toNat = n := nat_toUInt32_toNat _ (by omega)
    simp [hz, checked_shl_ofNat _ _ hn, clearBit, bit]

/-! ## `for` over `iter_ones()` -/

theorem bitsOf_clear_first (b : UInt64) (n : Nat) (h : firstOne b = some n) :
    bitsOf b = n :: bitsOf (clearBit b n) := by
  have hn := firstOne_lt b n h
  have e : bitsOf (clearBit b n) = (bitsOf b).filter (fun m => !decide (n = m)) := by
    unfold bitsOf
    rw [List.filter_filter]
    apply List.filter_congr
    intro m _
    rw [test_clearBit b n m hn, Bool.and_comm]
  unfold firstOne at h
  have nd := bitsOf_nodup b
  cases hl : bitsOf b with
  | nil => rw [hl] at h; cases h
  | cons x t =>
    rw [hl] at h nd e
    have hx : x = n := by simpa using h
    subst hx
    rw [e, List.filter_cons]
    simp only [decide_true, Bool.not_true, Bool.false_eq_true, if_false]
    congr 1
    symm
    apply List.filter_eq_self.2
    intro a ha
    have : x ≠ a := fun e => (List.nodup_cons.1 nd).1 (e ▸ ha)
    simp [this]

/-- an iterator whose `next` takes the lowest set bit and clears it (`BitIterator::next`, `BitBoard::pop`) yields the
model's `bitsOf` (ascending), for every fuel larger than the number of set bits (the translator passes 65): repeated
`next` never panics and never runs out -/
theorem collect_bits {α : Type} (next : BitBoard → Panics (Option α × BitBoard)) (f : Nat → α)
    (hnext : ∀ b, next b = some (match firstOne b with
      | some n => (some (f n), clearBit b n)
      | Option.none => (Option.none, b)))
    (fuel : Nat) (b : BitBoard) (hf : (bitsOf b).length < fuel) :
    iter_collect next fuel b = some ((bitsOf b).map f) := by
  induction fuel generalizing b with
  | zero => omega
  | succ k ih =>
    rw [iter_collect, hnext]
    cases h : firstOne b with
    | none =>
      have : bitsOf b = [] := (bitsOf_eq_nil b).2 ((firstOne_eq_none b).1 h)
      simp [this]
    | some n =>
      have e := bitsOf_clear_first b n h
      rw [e] at hf
      simp only [List.length_cons] at hf
      simp only [ih (clearBit b n) (by omega), e, List.map_cons]

/-- the items of `for x in b.iter_ones()` -/
theorem iter_ones_collect_65 (b : BitBoard) :
    iter_collect BitIterator.next 65 (BitBoard.iter_ones b) = some ((bitsOf b).map Nat.toUInt32) :=
  collect_bits _ _ BitIterator.next_eq 65 b (by have := bitsOf_length_le b; omega)

/-! ## `BitBoard::shift(Offset)` -/

def iterN {α : Type} (f : α → α) : Nat → α → α
  | 0, x => x
  | n+1, x => iterN f n (f x)

/-- what `BitBoard::shift` computes, over the model's one-step shifts: first the rank part in ONE shift by `8·|dr|`
(equal to `|dr|` steps of `shiftN`/`shiftS`: `shl8_steps`, `shr8_steps`), then `|df|` masked single steps east / west -/
def shiftSpec (b : UInt64) (df dr : Int) : UInt64 :=
  let b := if dr > 0 then b <<< (8 * dr.toNat).toUInt64 else if dr < 0 then b >>> (8 * (-dr).toNat).toUInt64 else b
  if df > 0 then iterN shiftE df.toNat b else if df < 0 then iterN shiftW (-df).toNat b else b

theorem FILE_MASKS_H : ArrayMap.index common.FILE_MASKS (Index.from_File File.H) = some fileH := by decide
theorem FILE_MASKS_A : ArrayMap.index common.FILE_MASKS (Index.from_File File.A) = some fileA := by decide
theorem FILE_MASKS_eq : common.FILE_MASKS = Gen.fileMasks := by decide
theorem RANK_MASKS_eq : common.RANK_MASKS = Gen.rankMasks := by decide

theorem foldlM_const {α β : Type} (f : β → β) (l : List α) (b : β) :
    List.foldlM (fun acc (_ : α) => some (f acc)) b l = some (iterN f l.length b) := by
  induction l generalizing b with
  | nil => rfl
  | cons x t ih => rw [List.foldlM_cons]; exact ih _

theorem i8_toInt_neg1 : (-(1 : Int8)).toInt = -1 := by decide
theorem i8_toInt_1 : (1 : Int8).toInt = 1 := by decide
theorem i8_toInt_0 : (0 : Int8).toInt = 0 := by decide

theorem Int8.range_zero_length (n : Int8) : (Int8.range 0 n).length = n.toInt.toNat := by
  simp [Int8.range, i8_toInt_0]

theorem i8_mul8 (r : Int8) (h1 : -16 ≤ r.toInt) (h2 : r.toInt < 16) :
    Int8.checked_mul r 8 = some (r * 8) ∧ (r * 8).toInt = r.toInt * 8 := by
  have e8 : (8 : Int8).toInt = 8 := by decide
  have : (r * 8).toInt = r.toInt * 8 := by
    rw [int8_mul_toInt r 8 (by rw [e8]; omega) (by rw [e8]; omega), e8]
  exact ⟨Int8.checked_mul_eq_some.2 (by rw [this, e8]), this⟩

theorem i8_neg (r : Int8) (h : -128 < r.toInt) :
    Int8.checked_neg r = some (-r) ∧ (-r).toInt = -r.toInt := by
  have l := Int8.toInt_lt r
  have : (-r).toInt = -r.toInt := by
    rw [Int8.toInt_neg, Int.bmod_eq_of_le (by omega) (by omega)]
  exact ⟨Int8.checked_neg_eq_some.2 this, this⟩

theorem shift_step_E (bb : BitBoard) :
    (do let tmp6 : BitBoard ← ArrayMap.index common.FILE_MASKS (Index.from_File File.H)
        let bb : BitBoard := (BitBoard.bitand bb (BitBoard.not tmp6)) <<< (1 : UInt64)
        pure bb : Panics BitBoard) = some (shiftE bb) := by
  rw [FILE_MASKS_H]; rfl

theorem shift_step_W (bb : BitBoard) :
    (do let tmp6 : BitBoard ← ArrayMap.index common.FILE_MASKS (Index.from_File File.A)
        let bb : BitBoard := (BitBoard.bitand bb (BitBoard.not tmp6)) >>> (1 : UInt64)
        pure bb : Panics BitBoard) = some (shiftW bb) := by
  rw [FILE_MASKS_A]; rfl

/-- `BitBoard::shift` for every offset with `|rank| ≤ 7` and `file > -128`: no panic (no `i8` overflow in `rank * 8`,
`-rank`, `-file`; shift amounts `< 64`) and the result is `shiftSpec` -/
theorem BitBoard.shift_eq (b : BitBoard) (off : Offset) (hr1 : -8 < off.rank.toInt) (hr2 : off.rank.toInt < 8)
    (hf : -128 < off.file.toInt) :
    BitBoard.shift b off = some (shiftSpec b off.file.toInt off.rank.toInt) := by
  unfold BitBoard.shift shiftSpec
  simp only [gt_iff_lt, Int8.lt_iff_toInt_lt, i8_toInt_0]
  -- the rank part in one shift, then the file part on its result
  refine bind_eq_of (if 0 < off.rank.toInt then b <<< (8 * off.rank.toInt.toNat).toUInt64
    else if off.rank.toInt < 0 then b >>> (8 * (-off.rank.toInt).toNat).toUInt64 else b) ?_ ?_
  · by_cases hp : 0 < off.rank.toInt
    · obtain ⟨m1, m2⟩ := i8_mul8 off.rank (by omega) (by omega)
      have : UInt64.checked_shl b (off.rank * 8).toInt = some (b <<< (8 * off.rank.toInt.toNat).toUInt64) := by
        unfold UInt64.checked_shl
        rw [m2, if_pos (by omega)]
        congr 3; omega
      simp only [hp, decide_true, if_true, m1, this, some_bind', Option.pure_def]
    · by_cases hn : off.rank.toInt < 0
      · obtain ⟨n1, n2⟩ := i8_neg off.rank (by omega)
        obtain ⟨m1, m2⟩ := i8_mul8 (-off.rank) (by omega) (by omega)
        have : UInt64.checked_shr b (-off.rank * 8).toInt = some (b >>> (8 * (-off.rank.toInt).toNat).toUInt64) := by
          unfold UInt64.checked_shr
          rw [m2, n2, if_pos (by omega)]
          congr 3; omega
        simp only [hp, hn, decide_true, decide_false, if_true, if_false, Bool.false_eq_true, n1, m1, this, some_bind',
          Option.pure_def]
      · simp only [hp, hn, decide_false, if_false, Bool.false_eq_true, some_bind', Option.pure_def]
  · generalize (if 0 < off.rank.toInt then b <<< (8 * off.rank.toInt.toNat).toUInt64
      else if off.rank.toInt < 0 then b >>> (8 * (-off.rank.toInt).toNat).toUInt64 else b) = bb
    simp only [shift_step_E, shift_step_W, foldlM_const]
    by_cases hp : 0 < off.file.toInt
    · simp only [hp, decide_true, if_true, Int8.range_zero_length, some_bind', Option.pure_def]
    · by_cases hn : off.file.toInt < 0
      · obtain ⟨n1, n2⟩ := i8_neg off.file (by omega)
        simp only [hp, hn, decide_true, decide_false, if_true, if_false, Bool.false_eq_true, n1, n2,
          Int8.range_zero_length, some_bind', Option.pure_def]
      · simp only [hp, hn, decide_false, if_false, Bool.false_eq_true, some_bind', Option.pure_def]

theorem BitBoard.shift_NORTH (b : BitBoard) : BitBoard.shift b Offset.NORTH = some (shiftN b) := by
  rw [BitBoard.shift_eq b _ (by decide) (by decide) (by decide)]; rfl
theorem BitBoard.shift_SOUTH (b : BitBoard) : BitBoard.shift b Offset.SOUTH = some (shiftS b) := by
  rw [BitBoard.shift_eq b _ (by decide) (by decide) (by decide)]; rfl
theorem BitBoard.shift_EAST (b : BitBoard) : BitBoard.shift b Offset.EAST = some (shiftE b) := by
  rw [BitBoard.shift_eq b _ (by decide) (by decide) (by decide)]; rfl
theorem BitBoard.shift_WEST (b : BitBoard) : BitBoard.shift b Offset.WEST = some (shiftW b) := by
  rw [BitBoard.shift_eq b _ (by decide) (by decide) (by decide)]; rfl

theorem BitBoard.shift_forward (b : BitBoard) (c : Color) :
    BitBoard.shift b (Color.forward c) = some (shiftFwd c b) := by
  cases c
  · exact BitBoard.shift_NORTH b
  · exact BitBoard.shift_SOUTH b

theorem Color.opposing_color_eq (c : Color) : Color.opposing_color c = c.opp := by cases c <;> rfl
theorem Color.not_eq (c : Color) : Color.not c = c.opp := by cases c <;> rfl
theorem Color.forward_eq (c : Color) : (Color.forward c).file.toInt = 0 ∧ (Color.forward c).rank.toInt = c.forward := by
  cases c <;> decide
theorem Color.backward_eq (c : Color) : (Color.backward c).file.toInt = 0 ∧ (Color.backward c).rank.toInt = c.backward := by
  cases c <;> decide

/-- the rank part of `shiftSpec` in single steps -/
theorem shl8_steps (b : UInt64) (k : Nat) (hk : k ≤ 7) : b <<< (8 * k).toUInt64 = iterN shiftN k b := by
  induction k generalizing b with
  | zero => show b <<< (0 : Nat).toUInt64 = b; apply ext; intro n hn; rw [test_shl _ 0 n (by omega)]; simp [hn]
  | succ k ih =>
    rw [iterN, ← ih _ (by omega)]
    apply ext; intro n hn
    rw [test_shl _ _ n (by omega), test_shl _ _ n (by omega)]
    by_cases h : 8 * k ≤ n
    · rw [test_shiftN _ _ (by omega)]
      by_cases h2 : 8 * (k + 1) ≤ n
      · have : 8 ≤ n - 8 * k := by omega
        simp [h, h2, hn, this]
        rw [show n - 8 * (k + 1) = n - 8 * k - 8 by omega]
      · have : ¬ 8 ≤ n - 8 * k := by omega
        simp [h, h2, hn, this]
    · have h2 : ¬ 8 * (k + 1) ≤ n := by omega
      simp [h, h2]

theorem shr8_steps (b : UInt64) (k : Nat) (hk : k ≤ 7) : b >>> (8 * k).toUInt64 = iterN shiftS k b := by
  induction k generalizing b with
  | zero => show b >>> (0 : Nat).toUInt64 = b; apply ext; intro n hn; rw [test_shr _ 0 n (by omega)]; simp
  | succ k ih =>
    rw [iterN, ← ih _ (by omega)]
    apply ext; intro n hn
    rw [test_shr _ _ n (by omega), test_shr _ _ n (by omega)]
    by_cases h : n + 8 * k < 64
    · rw [test_shiftS _ _ h, Nat.add_assoc]; rfl
    · rw [test_ge _ _ (by omega), test_ge _ _ (by omega)]

/-! ## `attacks.rs`: leaper tables (TRANSLATED from `compute_knight_attacks`, `compute_king_attacks`,
`compute_pawn_attacks`): the loops over all 64 squares build the model's tables, for any list of offsets that keeps the
`i8` additions of `Square::offset` in range -/

theorem Index.from_Square_toNat (sq : Square) : (Index.from_Square sq).toNat = sq.toNat := by
  simp [Index.from_Square]

/-- `map[i]` returns `v` exactly when `v` is the entry at `i` (out of bounds is the panic) -/
theorem ArrayMap.index_eq_some {α : Type} {a : Array α} {i : Index} {v : α} :
    ArrayMap.index a i = some v ↔ a[i.toNat]? = some v := Iff.rfl

theorem index_range_map {α : Type} (f : Nat → α) (sq : Square) (h : sq.toNat < 64) :
    ArrayMap.index ((Array.range 64).map f) (Index.from_Square sq) = some (f sq.toNat) := by
  simp [ArrayMap.index_eq_some, Index.from_Square_toNat, h]

theorem index_getD {α : Type} (a : Array α) (d : α) (i : Index) (h : i.toNat < a.size) :
    ArrayMap.index a i = some (a.getD i.toNat d) := by
  simp [ArrayMap.index_eq_some, h]

theorem set_of_lt {α : Type} (a : Array α) (i : Index) (v : α) (h : i.toNat < a.size) :
    ArrayMap.set a i v = some (a.setIfInBounds i.toNat v) := if_pos h

theorem ArrayMap.set_eq_some {α : Type} {a a' : Array α} {i : Index} {v : α} :
    ArrayMap.set a i v = some a' ↔ i.toNat < a.size ∧ a.setIfInBounds i.toNat v = a' :=
  guarded_eq_some (fun t => (and_iff_right t).symm) And.left

theorem Square.ALL_eq : Square.ALL = (List.range 64).map Nat.toUInt8 := by decide

theorem pair_index (a b : α) (c : Color) :
    ArrayMap.index #[a, b] (Index.from_Color c) = some (match c with | .white => a | .black => b) := by
  cases c <;> rfl

theorem pair_set (a b v : α) (c : Color) :
    ArrayMap.set #[a, b] (Index.from_Color c) v = some (match c with | .white => #[v, b] | .black => #[a, v]) := by
  cases c <;> rfl

theorem pair_index_w {α : Type} (a b : α) : ArrayMap.index #[a, b] (Index.from_Color Color.white) = some a :=
  pair_index a b .white
theorem pair_index_b {α : Type} (a b : α) : ArrayMap.index #[a, b] (Index.from_Color Color.black) = some b :=
  pair_index a b .black
theorem pair_set_w {α : Type} (a b v : α) : ArrayMap.set #[a, b] (Index.from_Color Color.white) v = some #[v, b] :=
  pair_set a b v .white
theorem pair_set_b {α : Type} (a b v : α) : ArrayMap.set #[a, b] (Index.from_Color Color.black) v = some #[a, v] :=
  pair_set a b v .black

/-- the entry of square `sq` after one pass over the offsets, from the entry `acc`: the model's `leaper` with an
accumulator and `i8` offsets -/
def leaperFrom (offs : List Offset) (sq : Nat) (acc : UInt64) : UInt64 :=
  offs.foldl (fun acc o => match Wee.offset sq o.file.toInt o.rank.toInt with
    | some t => setBit acc t
    | Option.none => acc) acc

theorem leaperFrom_zero (offs : List Offset) (sq : Nat) :
    leaperFrom offs sq 0 = leaper (offs.map fun o => (o.file.toInt, o.rank.toInt)) sq := by
  unfold leaperFrom leaper
  rw [List.foldl_map]
  rfl

theorem leaper_fill (offs : List Offset) :
    (List.range 64).foldl (fun a n => a.setIfInBounds n (leaperFrom offs n (a.getD n 0))) (Array.replicate 64 0)
      = (Array.range 64).map (leaper (offs.map fun o => (o.file.toInt, o.rank.toInt))) := by
  rw [foldl_set_range (leaperFrom offs) 0 64 64 (Nat.le_refl _)]
  apply Array.ext
  · simp
  · intro i h1 h2
    simp at h1
    simp [h1, leaperFrom_zero]

/-- the body of the inner loop of `compute_knight_attacks` and of `compute_king_attacks` -/
def leaperStep (square : Square) (arr : Array BitBoard) (offset : Offset) : Panics (Array BitBoard) := do
  let tmp1 : Option Square ← Square.offset square offset
  match tmp1 with
  | Option.some attack => do
    let tmp2 : BitBoard ← ArrayMap.index arr (Index.from_Square square)
    let tmp3 : BitBoard ← BitBoard.set tmp2 attack true
    let tmp4 : Array BitBoard ← ArrayMap.set arr (Index.from_Square square) tmp3
    let arr : Array BitBoard := tmp4
    pure arr
  | Option.none => pure arr

/-- the inner loop for the square `sq`: the entry of `sq` gains the bit of every offset square that exists, the other
entries stay -/
theorem leaper_row (sq : Square) (h : sq.toNat < 64) (offs : List Offset)
    (ho : ∀ o ∈ offs, o.file.toInt ≤ 120 ∧ o.rank.toInt ≤ 120) (arr : Array BitBoard) (hs : arr.size = 64) :
    List.foldlM (leaperStep sq) arr offs
      = some (arr.setIfInBounds sq.toNat (leaperFrom offs sq.toNat (arr.getD sq.toNat 0))) := by
  unfold leaperFrom
  induction offs generalizing arr with
  | nil => rw [List.foldl_nil, setIfInBounds_getD_self]; rfl
  | cons o t ih =>
    obtain ⟨o1, o2⟩ := ho o List.mem_cons_self
    rw [List.foldlM_cons, List.foldl_cons, leaperStep, Square.offset_eq sq o h o1 o2, some_bind']
    cases ht : Wee.offset sq.toNat o.file.toInt o.rank.toInt with
    | none => exact ih (fun o ho' => ho o (List.mem_cons_of_mem _ ho')) arr hs
    | some a =>
      have ha := offset_lt ht
      have e : (a.toUInt8).toNat = a := nat_toUInt8_toNat a (by omega)
      have hi : (Index.from_Square sq).toNat < arr.size := by rw [Index.from_Square_toNat, hs]; exact h
      simp only [Option.map]
      rw [index_getD arr 0 _ hi, some_bind', BitBoard.set_eq _ _ _ (sq_toUInt8_lt ha), some_bind', set_of_lt _ _ _ hi,
        some_bind', pure_bind', e, Index.from_Square_toNat]
      rw [ih (fun o ho' => ho o (List.mem_cons_of_mem _ ho')) _ (by simp [hs])]
      simp [Array.getD, hs, h, assignBit]

/-- the double loop of `compute_knight_attacks` / `compute_king_attacks` over any list of offsets: entry `sq` is the
model's `leaper` of these offsets -/
theorem leaper_table (offs : List Offset) (ho : ∀ o ∈ offs, o.file.toInt ≤ 120 ∧ o.rank.toInt ≤ 120) :
    List.foldlM (fun arr square => List.foldlM (leaperStep square) arr offs) (Array.replicate 64 BitBoard.ZERO) Square.ALL
      = some ((Array.range 64).map (leaper (offs.map fun o => (o.file.toInt, o.rank.toInt)))) := by
  rw [Square.ALL_eq, List.foldlM_map, ← leaper_fill]
  refine foldlM_eq_foldl_of_inv (fun arr => arr.size = 64) _ _ _ _ (by simp) ?_
  intro n hn arr hs
  have e : (n.toUInt8).toNat = n := nat_toUInt8_toNat n (by have := List.mem_range.1 hn; omega)
  rw [leaper_row _ (sq_toUInt8_lt (List.mem_range.1 hn)) offs ho arr hs, e]
  exact ⟨rfl, by simp [hs]⟩

theorem KNIGHT_ATTACKS_eq : data.KNIGHT_ATTACKS = some ((Array.range 64).map knightAttacks) := by
  unfold data.KNIGHT_ATTACKS data.compute_knight_attacks
  exact leaper_table _ (by decide)

theorem KING_ATTACKS_eq : data.KING_ATTACKS = some ((Array.range 64).map kingAttacks) := by
  unfold data.KING_ATTACKS data.compute_king_attacks
  exact leaper_table _ (by decide)

/-- the loop body of `compute_pawn_attacks` is four times `Square::offset` followed by this step on its result `tmp1`,
for a colour `c` -/
def pawnStep (c : Color) (sq : Square) (arr : Array (Array BitBoard)) (tmp1 : Option Square) :
    Panics (Array (Array BitBoard)) :=
  match tmp1 with
  | Option.some attack => do
    let tmp2 : Array BitBoard ← ArrayMap.index arr (Index.from_Color c)
    let tmp3 : BitBoard ← ArrayMap.index tmp2 (Index.from_Square sq)
    let tmp4 : BitBoard ← BitBoard.set tmp3 attack true
    let tmp5 : Array BitBoard ← ArrayMap.index arr (Index.from_Color c)
    let tmp6 : Array BitBoard ← ArrayMap.set tmp5 (Index.from_Square sq) tmp4
    let tmp7 : Array (Array BitBoard) ← ArrayMap.set arr (Index.from_Color c) tmp6
    let arr : Array (Array BitBoard) := tmp7
    pure arr
  | Option.none => pure arr

theorem pawnStep_eq (c : Color) (sq : Square) (h : sq.toNat < 64) (w b : Array BitBoard) (hw : w.size = 64)
    (hb : b.size = 64) (o : Offset) :
    pawnStep c sq #[w, b] ((Wee.offset sq.toNat o.file.toInt o.rank.toInt).map Nat.toUInt8) = some (match c with
      | .white => #[w.setIfInBounds sq.toNat (leaperFrom [o] sq.toNat (w.getD sq.toNat 0)), b]
      | .black => #[w, b.setIfInBounds sq.toNat (leaperFrom [o] sq.toNat (b.getD sq.toNat 0))]) := by
  have hiw : (Index.from_Square sq).toNat < w.size := by rw [Index.from_Square_toNat, hw]; exact h
  have hib : (Index.from_Square sq).toNat < b.size := by rw [Index.from_Square_toNat, hb]; exact h
  unfold leaperFrom
  rw [List.foldl_cons, List.foldl_nil, List.foldl_cons, List.foldl_nil]
  cases ht : Wee.offset sq.toNat o.file.toInt o.rank.toInt with
  | none => cases c <;> simp only [setIfInBounds_getD_self] <;> rfl
  | some a =>
    have ha := offset_lt ht
    have e : (a.toUInt8).toNat = a := nat_toUInt8_toNat a (by omega)
    cases c <;>
      simp only [pawnStep, Option.map, pair_index_w, pair_set_w, pair_index_b, pair_set_b, some_bind', index_getD w 0 _ hiw,
        index_getD b 0 _ hib, BitBoard.set_eq _ _ _ (sq_toUInt8_lt ha), set_of_lt _ _ _ hiw, set_of_lt _ _ _ hib, e,
        Index.from_Square_toNat] <;>
      rfl

theorem PAWN_ATTACKS_eq : data.PAWN_ATTACKS =
    some #[(Array.range 64).map (pawnAttacks .white), (Array.range 64).map (pawnAttacks .black)] := by
  unfold data.PAWN_ATTACKS data.compute_pawn_attacks
  rw [Square.ALL_eq, List.foldlM_map]
  refine (foldlM_eq_foldl_of_inv (fun arr => ∃ w b, arr = #[w, b] ∧ w.size = 64 ∧ b.size = 64) _
    (fun arr n => #[(arr.getD 0 #[]).setIfInBounds n (leaperFrom [⟨-1, 1⟩, ⟨1, 1⟩] n ((arr.getD 0 #[]).getD n 0)),
      (arr.getD 1 #[]).setIfInBounds n (leaperFrom [⟨-1, -1⟩, ⟨1, -1⟩] n ((arr.getD 1 #[]).getD n 0))])
    _ _ ⟨_, _, rfl, by simp, by simp⟩ ?_).trans ?_
  · rintro n hn _ ⟨w, b, rfl, hw, hb⟩
    have hn := List.mem_range.1 hn
    have e : (n.toUInt8).toNat = n := nat_toUInt8_toNat n (by omega)
    have h := sq_toUInt8_lt hn
    refine ⟨?_, _, _, rfl, by simpa using hw, by simpa using hb⟩
    show (Square.offset n.toUInt8 ⟨-1, 1⟩ >>= fun t => pawnStep .white n.toUInt8 #[w, b] t >>= fun arr =>
      Square.offset n.toUInt8 ⟨1, 1⟩ >>= fun t => pawnStep .white n.toUInt8 arr t >>= fun arr =>
      Square.offset n.toUInt8 ⟨-1, -1⟩ >>= fun t => pawnStep .black n.toUInt8 arr t >>= fun arr =>
      Square.offset n.toUInt8 ⟨1, -1⟩ >>= fun t => pawnStep .black n.toUInt8 arr t) = _
    rw [Square.offset_eq _ _ h (by decide) (by decide), some_bind', pawnStep_eq _ _ h w b hw hb, some_bind',
      Square.offset_eq _ _ h (by decide) (by decide), some_bind', pawnStep_eq _ _ h _ b (by simp [hw]) hb, some_bind',
      Square.offset_eq _ _ h (by decide) (by decide), some_bind', pawnStep_eq _ _ h _ b (by simp [hw]) hb, some_bind',
      Square.offset_eq _ _ h (by decide) (by decide), some_bind', pawnStep_eq _ _ h _ _ (by simp [hw]) (by simp [hb])]
    rw [e]
    simp [leaperFrom, Array.getD, hw, hb, hn]
  · refine congrArg some ((foldl_pair
      (fun a n => a.setIfInBounds n (leaperFrom [⟨-1, 1⟩, ⟨1, 1⟩] n (a.getD n 0)))
      (fun a n => a.setIfInBounds n (leaperFrom [⟨-1, -1⟩, ⟨1, -1⟩] n (a.getD n 0))) _ _ _).trans ?_)
    rw [BitBoard.ZERO_eq, leaper_fill, leaper_fill]
    rfl

theorem AttackGenerator.compute_knight_attacks_eq (sq : Square) (h : sq.toNat < 64) :
    AttackGenerator.compute_knight_attacks sq = some (knightAttacks sq.toNat) := by
  rw [AttackGenerator.compute_knight_attacks, KNIGHT_ATTACKS_eq, some_bind', index_range_map _ sq h]

theorem AttackGenerator.compute_king_attacks_eq (sq : Square) (h : sq.toNat < 64) :
    AttackGenerator.compute_king_attacks sq = some (kingAttacks sq.toNat) := by
  rw [AttackGenerator.compute_king_attacks, KING_ATTACKS_eq, some_bind', index_range_map _ sq h]

theorem AttackGenerator.compute_pawn_attacks_eq (sq : Square) (c : Color) (h : sq.toNat < 64) :
    AttackGenerator.compute_pawn_attacks sq c = some (pawnAttacks c sq.toNat) := by
  rw [AttackGenerator.compute_pawn_attacks, PAWN_ATTACKS_eq, some_bind']
  cases c
  · rw [pair_index_w, some_bind', index_range_map _ sq h]
  · rw [pair_index_b, some_bind', index_range_map _ sq h]

/-! ## magic look-ups: the index computation is translated; the tables `data::ROOK_MAGICS`, `ROOK_MAGIC_INDEXES`,
`ROOK_MAGIC_TABLE` (and the bishop's) are defined in the prelude of `Wee/Gen/CoreFns.lean` as the model's tables -/

theorem rookBits_range : ∀ sq : Fin 64, 0 < rookBitsTab.getD sq.val 0 ∧ rookBitsTab.getD sq.val 0 ≤ 12 := by
  decide +kernel
theorem bishopBits_range : ∀ sq : Fin 64, 0 < bishopBitsTab.getD sq.val 0 ∧ bishopBitsTab.getD sq.val 0 ≤ 12 := by
  decide +kernel

theorem magic_key (x : UInt64) (bits : Nat) (h0 : 0 < bits) (h12 : bits ≤ 12) :
    (do let tmp4 : UInt8 ← UInt8.checked_sub (64 : UInt8) bits.toUInt8
        UInt64.checked_shr x (Int.ofNat (UInt8.toNat tmp4)) : Panics UInt64) = some (x >>> (64 - bits).toUInt64) := by
  have hb : (bits.toUInt8).toNat = bits := nat_toUInt8_toNat _ (by omega)
  have h64 : (64 : UInt8).toNat = 64 := rfl
  have hz : ((64 - bits).toUInt8).toNat = 64 - bits := nat_toUInt8_toNat _ (by omega)
  have s : UInt8.checked_sub 64 bits.toUInt8 = some (64 - bits).toUInt8 :=
    UInt8.checked_sub_eq_some.2 (by rw [hz, hb, h64]; omega)
  simp only [s, some_bind', hz]
  exact checked_shr_ofNat x (64 - bits) (by omega)

theorem rookMagics_size : rookMagics.size = 64 := by decide
theorem bishopMagics_size : bishopMagics.size = 64 := by decide
theorem rookBitsTab_size : rookBitsTab.size = 64 := by decide
theorem bishopBitsTab_size : bishopBitsTab.size = 64 := by decide

theorem index_ofFn (f : Nat → UInt64) (sq : Square) (h : sq.toNat < 64) :
    ArrayMap.index (Array.ofFn (n := 64) fun i => f i.val) (Index.from_Square sq) = some (f sq.toNat) := by
  simp [ArrayMap.index_eq_some, Index.from_Square_toNat, h]

theorem index_map_toUInt8 (a : Array Nat) (sq : Square) (h : sq.toNat < a.size) :
    ArrayMap.index (a.map Nat.toUInt8) (Index.from_Square sq) = some (a.getD sq.toNat 0).toUInt8 := by
  simp [ArrayMap.index_eq_some, Index.from_Square_toNat, h]

/-- the magic look-up of `compute_rook_attacks` / `compute_bishop_attacks`, over the tables as variables: mask, wrapping
multiplication, shift by `64 - bits` and table index never panic (`bits ≤ 12 ⇒ key < 4096`) -/
theorem magic_lookup (mask : Nat → UInt64) (magics : Array UInt64) (bits tables : Array Nat)
    (table : Index → UInt64 → Panics BitBoard) (hm : magics.size = 64) (hb : bits.size = 64)
    (hr : ∀ sq : Fin 64, 0 < bits.getD sq.val 0 ∧ bits.getD sq.val 0 ≤ 12)
    (ht : ∀ sq i, table sq i =
      if sq.toNat < 64 ∧ i.toNat < 4096 then some (tget (tables.getD sq.toNat 0) i.toNat) else Option.none)
    (sq : Square) (occ : BitBoard) (h : sq.toNat < 64) :
    (do
      let tmp1 : BitBoard ← ArrayMap.index (Array.ofFn (n := 64) fun i => mask i.val) (Index.from_Square sq)
      let occupancy : BitBoard := BitBoard.bitand occ tmp1
      let occupancy : UInt64 := BitBoard.into_u64 occupancy
      let tmp2 : BitBoard ← ArrayMap.index magics (Index.from_Square sq)
      let magic : UInt64 := BitBoard.into_u64 tmp2
      let tmp3 : UInt8 ← ArrayMap.index (bits.map Nat.toUInt8) (Index.from_Square sq)
      let tmp4 : UInt8 ← UInt8.checked_sub (64 : UInt8) tmp3
      let tmp5 : UInt64 ← UInt64.checked_shr (occupancy * magic) (Int.ofNat (UInt8.toNat tmp4))
      let key : UInt64 := tmp5
      let tmp6 : BitBoard ← table (Index.from_Square sq) key
      pure tmp6 : Panics BitBoard)
      = some (tget (tables.getD sq.toNat 0)
          (magicIndex (occ &&& mask sq.toNat) (magics.getD sq.toNat 0) (bits.getD sq.toNat 0))) := by
  obtain ⟨b0, b12⟩ : 0 < bits.getD sq.toNat 0 ∧ bits.getD sq.toNat 0 ≤ 12 := hr ⟨sq.toNat, h⟩
  have k := magic_key ((occ &&& mask sq.toNat) * magics.getD sq.toNat 0) _ b0 b12
  have lt := Fast.magicIndex_lt (occ &&& mask sq.toNat) (magics.getD sq.toNat 0) b0 (by omega : bits.getD sq.toNat 0 ≤ 64)
  have lt2 : magicIndex (occ &&& mask sq.toNat) (magics.getD sq.toNat 0) (bits.getD sq.toNat 0) < 4096 :=
    Nat.lt_of_lt_of_le lt (Nat.pow_le_pow_right (by decide) b12)
  rw [index_ofFn mask sq h, some_bind',
    index_getD magics 0 _ (by rw [Index.from_Square_toNat, hm]; exact h), some_bind',
    index_map_toUInt8 bits sq (by rw [hb]; exact h), some_bind',
    Index.from_Square_toNat, BitBoard.bitand_eq, BitBoard.into_u64_eq, BitBoard.into_u64_eq]
  -- `magic_key` speaks of the two checked operations together: name the result of the first to use it under the `bind`
  cases hs : UInt8.checked_sub 64 (bits.getD sq.toNat 0).toUInt8 with
  | none => rw [hs] at k; cases k
  | some d =>
    rw [hs, some_bind'] at k
    rw [some_bind', k, some_bind', ht, Index.from_Square_toNat]
    unfold magicIndex at lt2
    rw [if_pos ⟨h, lt2⟩]
    rfl

theorem AttackGenerator.compute_rook_attacks_eq (sq : Square) (occ : BitBoard) (h : sq.toNat < 64) :
    AttackGenerator.compute_rook_attacks sq occ = some (rookAttacks sq.toNat occ) :=
  magic_lookup rookMask rookMagics rookBitsTab rookTables data.ROOK_MAGIC_TABLE rookMagics_size rookBitsTab_size
    rookBits_range (fun _ _ => rfl) sq occ h

theorem AttackGenerator.compute_bishop_attacks_eq (sq : Square) (occ : BitBoard) (h : sq.toNat < 64) :
    AttackGenerator.compute_bishop_attacks sq occ = some (bishopAttacks sq.toNat occ) :=
  magic_lookup bishopMask bishopMagics bishopBitsTab bishopTables data.BISHOP_MAGIC_TABLE bishopMagics_size
    bishopBitsTab_size bishopBits_range (fun _ _ => rfl) sq occ h

theorem AttackGenerator.compute_queen_attacks_eq (sq : Square) (occ : BitBoard) (h : sq.toNat < 64) :
    AttackGenerator.compute_queen_attacks sq occ = some (queenAttacks sq.toNat occ) := by
  rw [AttackGenerator.compute_queen_attacks, AttackGenerator.compute_rook_attacks_eq sq occ h, some_bind',
    AttackGenerator.compute_bishop_attacks_eq sq occ h, some_bind']
  rfl

/-! ## `hasher.rs`: `ZobristHasher::hash` -/

/-- the Rust key tables (`ArrayMap`s of the struct) as the model's `Keys` -/
def keysOf (Z : ZobristHasher) : Keys :=
  { turn := fun c => Z.f_turn_hash.getD c.idx 0
    piece := fun sq c p => (Z.f_piece_hash.getD sq #[]).getD (PieceIndex.new c p).toNat 0
    castle := fun c side => (Z.f_castle_hash.getD c.idx #[]).getD side.idx 0
    epFile := fun f => Z.f_en_passant_hash.getD f 0 }

/-- the sizes the Rust types `ArrayMap<Color, _>`, `ArrayMap<Square, ArrayMap<PieceIndex, _>>` … guarantee -/
structure ZobristHasher.WF (Z : ZobristHasher) : Prop where
  turn : Z.f_turn_hash.size = 2
  piece : Z.f_piece_hash.size = 64
  pieceRow : ∀ sq, sq < 64 → (Z.f_piece_hash.getD sq #[]).size = 16
  castle : Z.f_castle_hash.size = 2
  castleRow : ∀ c, c < 2 → (Z.f_castle_hash.getD c #[]).size = 2
  ep : Z.f_en_passant_hash.size = 8

/-- the Rust `State` value `st` represents the model state `s` (the fields the hasher reads) -/
structure HashRep (st : State) (s : Wee.State) : Prop where
  size : st.f_board.f_piece_occupancy.size = 16
  pieces : ∀ c p, st.f_board.f_piece_occupancy.getD (PieceIndex.new c p).toNat 0 = s.pieces.get c p
  turn : st.f_turn_to_move = s.turn
  crSize : st.f_castle_rights.size = 2
  castle : ∀ c, st.f_castle_rights.getD c.idx CastleRights.NONE = ⟨(s.castle c).kingside, (s.castle c).queenside⟩
  ep : st.f_en_passant_target.map UInt8.toNat = s.ep
  epLt : ∀ t, s.ep = some t → t < 64

theorem PieceIndex.new_lt16 (c : Color) (p : Piece) : (PieceIndex.new c p).toNat < 16 := by
  cases c <;> cases p <;> decide

theorem Index.from_PieceIndex_toNat (pi : PieceIndex) : (Index.from_PieceIndex pi).toNat = pi.toNat := by
  simp [Index.from_PieceIndex, PieceIndex.index]

theorem Index.from_Color_toNat (c : Color) : (Index.from_Color c).toNat = c.idx := by cases c <;> rfl
theorem Index.from_Side_toNat (s : Side) : (Index.from_Side s).toNat = s.idx := by cases s <;> rfl
theorem Index.from_File_toNat (f : File) : (Index.from_File f).toNat = f.toNat := by simp [Index.from_File]

theorem pieceOcc {st : State} {s : Wee.State} (r : HashRep st s) (c : Color) (p : Piece) :
    Board.piece_occupancy (State.board st) (PieceIndex.new c p) = some (s.pieces.get c p) := by
  have h := PieceIndex.new_lt16 c p
  simp only [Board.piece_occupancy, State.board,
    index_getD st.f_board.f_piece_occupancy 0 _ (by rw [Index.from_PieceIndex_toNat, r.size]; exact h),
    Index.from_PieceIndex_toNat, r.pieces]

theorem hash_inner (Z : ZobristHasher) (wf : Z.WF) (c : Color) (p : Piece) (occ : UInt64) (acc : UInt64) :
    List.foldlM (fun (hash : UInt64) (square : UInt32) => do
        let square : Square := Square.from_u32 square
        let tmp3 : Array UInt64 ← ArrayMap.index (ZobristHasher.f_piece_hash Z) (Index.from_Square square)
        let tmp4 : UInt64 ← ArrayMap.index tmp3 (Index.from_PieceIndex (PieceIndex.new c p))
        let hash : UInt64 := hash ^^^ tmp4
        pure hash) acc ((bitsOf occ).map Nat.toUInt32)
      = some ((bitsOf occ).foldl (fun h sq => h ^^^ (keysOf Z).piece sq c p) acc) := by
  rw [List.foldlM_map]
  apply foldlM_eq_foldl
  intro n hn acc
  have hlt : n < 64 := ((mem_bitsOf occ n).1 hn).1
  have e : (Square.from_u32 n.toUInt32).toNat = n := by rw [from_u32_nat n hlt, nat_toUInt8_toNat n (by omega)]
  have h16 := PieceIndex.new_lt16 c p
  simp only [some_bind', Option.pure_def,
    index_getD (ZobristHasher.f_piece_hash Z) #[] _ (by rw [Index.from_Square_toNat, e, wf.piece]; exact hlt),
    Index.from_Square_toNat, e,
    index_getD _ (0 : UInt64) _ (by rw [Index.from_PieceIndex_toNat, wf.pieceRow n hlt]; exact h16),
    Index.from_PieceIndex_toNat, keysOf]

theorem castleRights {st : State} {s : Wee.State} (r : HashRep st s) (c : Color) :
    State.castle_rights st c = some ⟨(s.castle c).kingside, (s.castle c).queenside⟩ := by
  have h := Color.idx_lt c
  simp only [State.castle_rights,
    index_getD st.f_castle_rights CastleRights.NONE _ (by rw [Index.from_Color_toNat, r.crSize]; exact h),
    Index.from_Color_toNat, r.castle]

theorem CastleRights.for_side_eq (k q : Bool) (side : Side) :
    CastleRights.for_side ⟨k, q⟩ side = Wee.CastleRights.forSide ⟨k, q⟩ side := by cases side <;> rfl

theorem castleKey {β : Type} (Z : ZobristHasher) (wf : Z.WF) (c : Color) (side : Side) (k : UInt64 → Option β) :
    (ArrayMap.index (ZobristHasher.f_castle_hash Z) (Index.from_Color c) >>= fun tmp7 =>
      ArrayMap.index tmp7 (Index.from_Side side) >>= fun tmp8 => k tmp8) = k ((keysOf Z).castle c side) := by
  have h := Color.idx_lt c
  have h2 := Side.idx_lt side
  simp only [some_bind',
    index_getD (ZobristHasher.f_castle_hash Z) #[] _ (by rw [Index.from_Color_toNat, wf.castle]; exact h),
    Index.from_Color_toNat,
    index_getD _ (0 : UInt64) _ (by rw [Index.from_Side_toNat, wf.castleRow _ h]; exact h2), Index.from_Side_toNat, keysOf]

theorem turnKey (Z : ZobristHasher) (wf : Z.WF) (c : Color) :
    ArrayMap.index (ZobristHasher.f_turn_hash Z) (Index.from_Color c) = some ((keysOf Z).turn c) := by
  have h := Color.idx_lt c
  simp only [index_getD (ZobristHasher.f_turn_hash Z) 0 _ (by rw [Index.from_Color_toNat, wf.turn]; exact h),
    Index.from_Color_toNat, keysOf]

theorem epKey (Z : ZobristHasher) (wf : Z.WF) (t : Square) (_h : t.toNat < 64) :
    ArrayMap.index (ZobristHasher.f_en_passant_hash Z) (Index.from_File (Square.file t))
      = some ((keysOf Z).epFile (fileOf t.toNat)) := by
  simp only [index_getD (ZobristHasher.f_en_passant_hash Z) 0 _ (by rw [Index.from_File_toNat, wf.ep]; exact file_lt8 t),
    Index.from_File_toNat, Square.file_toNat, keysOf]

theorem ite_some' {α : Type} (c : Prop) [Decidable c] (a b : α) :
    (if c then (pure a : Option α) else pure b) = some (if c then a else b) := by
  split <;> rfl

/-- `ZobristHasher::hash` = the model's `hash` over the same keys: no index is out of bounds, the iteration over
`iter_ones()` neither panics nor runs out, and the value is the model's -/
theorem ZobristHasher.hash_eq (Z : ZobristHasher) (wf : Z.WF) (st : State) (s : Wee.State) (r : HashRep st s) :
    ZobristHasher.hash Z st = some (Wee.hash (keysOf Z) s) := by
  unfold ZobristHasher.hash
  simp only [pieceOcc r, iter_ones_collect_65, some_bind', hash_inner Z wf, bind_pure', foldlM_some]
  simp only [State.turn_to_move, r.turn, turnKey Z wf, castleRights r, some_bind', CastleRights.for_side_eq, castleKey Z wf,
    ite_some', foldlM_some]
  have eta : ∀ c, (⟨(s.castle c).kingside, (s.castle c).queenside⟩ : Wee.CastleRights) = s.castle c := fun c => rfl
  simp only [eta]
  generalize hH : (List.foldl (fun acc x => List.foldl (fun acc x_1 =>
      if (s.castle x).forSide x_1 = true then acc ^^^ (keysOf Z).castle x x_1 else acc) acc Side.ALL)
    (List.foldl (fun acc x => List.foldl (fun acc x_1 =>
      List.foldl (fun h sq => h ^^^ (keysOf Z).piece sq x x_1) acc (bitsOf (s.pieces.get x x_1))) acc Piece.ALL_INCLUDING_NONE)
      0 Color.ALL ^^^ (keysOf Z).turn s.turn) Color.ALL) = H
  have hm : Wee.hash (keysOf Z) s = match epCapturable s with
      | some t => H ^^^ (keysOf Z).epFile (fileOf t)
      | Option.none => H := by
    rw [← hH]; rfl
  rw [hm]
  have hep := r.ep
  unfold State.en_passant_target
  unfold epCapturable
  cases he : st.f_en_passant_target with
  | none =>
    rw [he] at hep
    rw [← hep]; rfl
  | some t =>
    rw [he] at hep
    have ht : t.toNat < 64 := r.epLt _ hep.symm
    rw [← hep]
    simp only [Option.map, AttackGenerator.compute_pawn_attacks_eq t _ ht, some_bind', Color.not_eq, BitBoard.bitand_eq,
      BitBoard.any_eq, epKey Z wf t ht]
    by_cases hc : bbAny (pawnAttacks s.turn.opp t.toNat &&& s.pieces.get s.turn Piece.pawn) = true
    · simp only [hc, if_true]; rfl
    · simp only [hc]; rfl

/-! ## the Rust-side values of model data: `arrOf`, `boardOf`, `crOf`, `stateOf`, `zobristOf`; `StateOK`

Every later bridge is stated at `stateOf s` (and `zobristOf k`); `StateOK s` is what the Rust types guarantee of the model state
behind such a value.  They also show that the hypotheses `HashRep` / `ZobristHasher.WF` of `hash_eq` are
met (`hashRep_stateOf`, `wf_zobristOf`). -/

/-- the Rust-side `ArrayMap<PieceIndex, BitBoard>` of a model placement (indexed by `color << 3 | piece`; the slots
0, 7, 8, 15 that no piece uses are zero) -/
def arrOf (m : PieceMap) : Array BitBoard :=
  #[0, m.wp, m.wn, m.wb, m.wr, m.wq, m.wk, 0, 0, m.bp, m.bn, m.bb, m.br, m.bq, m.bk, 0]

/-- the Rust-side `Board` of a model placement (what `Board::new` builds, see `Board.new_eq`) -/
def boardOf (m : PieceMap) : Board :=
  { f_occupancy := m.occ, f_piece_occupancy := arrOf m, f_colored_occupancy := #[m.colorOcc .white, m.colorOcc .black] }

/-- the Rust-side `CastleRights` of the model's -/
def crOf (r : Wee.CastleRights) : CastleRights := ⟨r.kingside, r.queenside⟩

/-- the Rust-side `State` of a model state -/
def stateOf (s : Wee.State) : State :=
  { f_board := boardOf s.pieces
    f_turn_to_move := s.turn
    f_castle_rights := #[⟨s.castleW.kingside, s.castleW.queenside⟩, ⟨s.castleB.kingside, s.castleB.queenside⟩]
    f_en_passant_target := s.ep.map Nat.toUInt8
    f_clock := ⟨s.halfmove.toUInt64, s.fullmove.toUInt64⟩ }

/-- what the Rust `State` type guarantees of the model state it represents -/
structure StateOK (s : Wee.State) : Prop where
  ep : ∀ t, s.ep = some t → t < 64
  half : s.halfmove < 2 ^ 64
  full : s.fullmove < 2 ^ 64

theorem hashRep_stateOf (s : Wee.State) (hep : ∀ t, s.ep = some t → t < 64) : HashRep (stateOf s) s where
  size := rfl
  pieces := by intro c p; cases c <;> cases p <;> rfl
  turn := rfl
  crSize := rfl
  castle := by intro c; cases c <;> rfl
  ep := by
    show (s.ep.map Nat.toUInt8).map UInt8.toNat = s.ep
    cases h : s.ep with
    | none => rfl
    | some t => simp only [Option.map, nat_toUInt8_toNat t (by have := hep t h; omega)]
  epLt := hep

/-- the Rust-side `ZobristHasher` of the model's flat key table (generation order of `ZobristHasher::with`) -/
def zobristOf (k : KeyTable) : ZobristHasher :=
  { f_turn_hash := k.turn
    f_piece_hash := Array.ofFn (n := 64) fun sq => Array.ofFn (n := 16) fun i => k.piece.getD (sq.val * 16 + i.val) 0
    f_castle_hash := Array.ofFn (n := 2) fun c => Array.ofFn (n := 2) fun sd => k.castle.getD (c.val * 2 + sd.val) 0
    f_en_passant_hash := k.epFile }

theorem wf_zobristOf (k : KeyTable) (ht : k.turn.size = 2) (he : k.epFile.size = 8) : (zobristOf k).WF where
  turn := ht
  piece := Array.size_ofFn
  pieceRow := fun sq h => by rw [zobristOf, getD_ofFn _ sq h]; exact Array.size_ofFn
  castle := Array.size_ofFn
  castleRow := fun c h => by rw [zobristOf, getD_ofFn _ c h]; exact Array.size_ofFn
  ep := he

/-- on squares `< 64` and files `< 8` (all the hash ever reads) the keys of `zobristOf k` are the model's `k.keys` -/
theorem keysOf_zobristOf (k : KeyTable) :
    (keysOf (zobristOf k)).turn = k.keys.turn ∧ (keysOf (zobristOf k)).epFile = k.keys.epFile ∧
    (∀ c sd, (keysOf (zobristOf k)).castle c sd = k.keys.castle c sd) ∧
    (∀ sq c p, sq < 64 → (keysOf (zobristOf k)).piece sq c p = k.keys.piece sq c p) := by
  refine ⟨rfl, rfl, ?_, ?_⟩
  · intro c sd
    have hc := Color.idx_lt c
    have hs := Side.idx_lt sd
    simp only [keysOf, zobristOf, getD_ofFn _ _ hc, getD_ofFn _ _ hs]
    rfl
  · intro sq c p h
    have e : (PieceIndex.new c p).toNat = c.idx * 8 + p.code := PieceIndex.new_toNat c p
    have h16 : c.idx * 8 + p.code < 16 := e ▸ PieceIndex.new_lt16 c p
    simp only [keysOf, zobristOf, getD_ofFn _ _ h, e, getD_ofFn _ _ h16, KeyTable.keys]

/-- `ZobristHasher::hash` over the Rust-side values of a model key table and a model state = the model's `hash`
over the key function read back from `zobristOf k` -/
theorem ZobristHasher.hash_model (k : KeyTable) (ht : k.turn.size = 2) (he : k.epFile.size = 8) (s : Wee.State)
    (hep : ∀ t, s.ep = some t → t < 64) :
    ZobristHasher.hash (zobristOf k) (stateOf s) = some (Wee.hash (keysOf (zobristOf k)) s) :=
  ZobristHasher.hash_eq _ (wf_zobristOf k ht he) _ _ (hashRep_stateOf s hep)

/-- `ZobristHasher::hash` over the Rust-side values of a model key table `k` and a model state `s` is the model's
`hash k.keys s` — the function the theorems of `Wee/Props/C08` are about -/
theorem ZobristHasher.hash_keyTable (k : KeyTable) (ht : k.turn.size = 2) (he : k.epFile.size = 8) (s : Wee.State)
    (hep : ∀ t, s.ep = some t → t < 64) :
    ZobristHasher.hash (zobristOf k) (stateOf s) = some (Wee.hash k.keys s) := by
  rw [ZobristHasher.hash_model k ht he s hep]
  obtain ⟨a, b, c, d⟩ := keysOf_zobristOf k
  rw [hash_keys_congr _ _ s a b c d]

/-! ## constants and accessors -/

theorem Color.ALL_eq : Color.ALL = Wee.Color.all := rfl
theorem Piece.ALL_eq : Piece.ALL = Wee.Piece.all := rfl
theorem Piece.ALL_INCLUDING_NONE_eq : Piece.ALL_INCLUDING_NONE = Wee.Piece.allIncludingNone := rfl
theorem Side.ALL_eq : Side.ALL = Wee.Side.all := rfl
theorem File.ALL_eq : File.ALL = (List.range 8).map Nat.toUInt8 := by decide
theorem Rank.ALL_eq : Rank.ALL = (List.range 8).map Nat.toUInt8 := by decide
theorem Offset.consts_eq : Offset.NORTH = ⟨0, 1⟩ ∧ Offset.SOUTH = ⟨0, -1⟩ ∧ Offset.EAST = ⟨1, 0⟩ ∧ Offset.WEST = ⟨-1, 0⟩ :=
  ⟨rfl, rfl, rfl, rfl⟩

theorem PieceIndex.index_toNat (pi : PieceIndex) : (PieceIndex.index pi).toNat = pi.toNat := by
  simp [PieceIndex.index]
theorem PieceIndex.some_eq (pi : PieceIndex) : PieceIndex.some pi = (pi.toNat != 0) := by
  unfold PieceIndex.some PieceIndex.NONE
  by_cases h : pi = 0
  · subst h; rfl
  · have : pi.toNat ≠ 0 := fun e => h (UInt8.toNat_inj.1 e)
    rw [bne_iff_ne.2 h, bne_iff_ne.2 this]
theorem Index.from_Rank_toNat (r : Rank) : (Index.from_Rank r).toNat = r.toNat := by simp [Index.from_Rank]
theorem Index.from_Piece_toNat (p : Piece) : (Index.from_Piece p).toNat = p.code := by cases p <;> rfl

theorem CastleRights.NONE_eq : CastleRights.NONE = crOf Wee.CastleRights.noRights := rfl
theorem CastleRights.BOTH_eq : CastleRights.BOTH = crOf Wee.CastleRights.both := rfl
theorem CastleRights.for_side_crOf (r : Wee.CastleRights) (sd : Side) :
    CastleRights.for_side (crOf r) sd = r.forSide sd := by cases sd <;> rfl
theorem CastleRights.both_crOf (r : Wee.CastleRights) :
    CastleRights.both (crOf r) = decide (r = Wee.CastleRights.both) := by
  rcases r with ⟨k, q⟩; cases k <;> cases q <;> decide
theorem CastleRights.none_crOf (r : Wee.CastleRights) :
    CastleRights.none (crOf r) = decide (r = Wee.CastleRights.noRights) := by
  rcases r with ⟨k, q⟩; cases k <;> cases q <;> decide

/-! accessors of `Board` / `State`, on the Rust-side value `stateOf s` of a model state -/

theorem Board.occupancy_stateOf (s : Wee.State) : Board.occupancy (State.board (stateOf s)) = s.pieces.occ := rfl
theorem Board.vacancy_stateOf (s : Wee.State) : Board.vacancy (State.board (stateOf s)) = ~~~s.pieces.occ := rfl
theorem boardOf_piece_occ (m : PieceMap) (c : Color) (p : Piece) :
    Board.piece_occupancy (boardOf m) (PieceIndex.new c p) = some (m.get c p) := by
  cases c <;> cases p <;> rfl
theorem Board.piece_occupancy_stateOf (s : Wee.State) (c : Color) (p : Piece) :
    Board.piece_occupancy (State.board (stateOf s)) (PieceIndex.new c p) = some (s.pieces.get c p) :=
  boardOf_piece_occ s.pieces c p
theorem Board.colored_occupancy_stateOf (s : Wee.State) (c : Color) :
    Board.colored_occupancy (State.board (stateOf s)) c = some (s.pieces.colorOcc c) := by
  cases c <;> rfl
theorem Board.piece_map_stateOf (s : Wee.State) : Board.piece_map (State.board (stateOf s)) = arrOf s.pieces := rfl
theorem State.board_stateOf (s : Wee.State) : State.board (stateOf s) = boardOf s.pieces := by rfl
theorem State.turn_to_move_stateOf (s : Wee.State) : State.turn_to_move (stateOf s) = s.turn := rfl
theorem State.castle_rights_stateOf (s : Wee.State) (c : Color) :
    State.castle_rights (stateOf s) c = some (crOf (s.castle c)) := by
  cases c <;> rfl
theorem State.en_passant_target_stateOf (s : Wee.State) :
    State.en_passant_target (stateOf s) = s.ep.map Nat.toUInt8 := rfl
theorem State.clock_stateOf (s : Wee.State) :
    State.clock (stateOf s) = ⟨s.halfmove.toUInt64, s.fullmove.toUInt64⟩ := rfl

/-! ## `Board::new`, `State::by_performing_move` -/

theorem arrOf_index (m : PieceMap) (c : Color) (p : Piece) :
    ArrayMap.index (arrOf m) (Index.from_PieceIndex (PieceIndex.new c p)) = some (m.get c p) := by
  cases c <;> cases p <;> rfl

theorem replicate2 {α : Type} (v : α) : Array.replicate 2 v = #[v, v] := rfl

theorem Board.new_eq (m : PieceMap) : Board.new (arrOf m) = some (boardOf m) := by
  unfold Board.new boardOf
  simp only [Color.ALL, Piece.ALL, List.foldlM_cons, List.foldlM_nil, arrOf_index, pair_index, pair_set, some_bind',
    pure_bind', BitBoard.bitor_assign_eq, BitBoard.ZERO_eq, replicate2]
  simp [PieceMap.occ, PieceMap.colorOcc, Piece.all, PieceMap.get, UInt64.or_assoc]

theorem arrOf_set (m : PieceMap) (c : Color) (p : Piece) (hp : p ≠ Piece.none) (x : UInt64) :
    ArrayMap.set (arrOf m) (Index.from_PieceIndex (PieceIndex.new c p)) x = some (arrOf (m.set c p x)) := by
  cases c <;> cases p <;> first | exact absurd rfl hp | rfl

/-- `map[PieceIndex::new(c, p)].set(sq, v)` on the array of a model placement is the model's `assign` (for a real piece
`p` and a square `< 64`); no panic -/
theorem assign_seq {β : Type} (m : PieceMap) (c : Color) (p : Piece) (hp : p ≠ Piece.none) (n : Nat) (hn : n < 64)
    (v : Bool) (k : Array BitBoard → Option β) :
    (ArrayMap.index (arrOf m) (Index.from_PieceIndex (PieceIndex.new c p)) >>= fun t =>
      BitBoard.set t n.toUInt8 v >>= fun t2 =>
      ArrayMap.set (arrOf m) (Index.from_PieceIndex (PieceIndex.new c p)) t2 >>= k)
      = k (arrOf (m.assign c p n v)) := by
  have e : (n.toUInt8).toNat = n := nat_toUInt8_toNat n (by omega)
  rw [arrOf_index, some_bind', BitBoard.set_eq _ _ _ (sq_toUInt8_lt hn), some_bind', e, arrOf_set m c p hp, some_bind']
  rfl

/-- outcome of the Rust function for an outcome of the model (`Err(_)` payload dropped by the translation) -/
def resultOf : Option (Except MoveErr Wee.State) → Option (Option State)
  | Option.none => Option.none
  | some (.ok s') => some (some (stateOf s'))
  | some (.error _) => some Option.none

theorem offset_backward (t : Nat) (ht : t < 64) (c : Color) :
    Square.offset t.toUInt8 (Color.backward c) = some ((offset t 0 c.backward).map Nat.toUInt8) := by
  have e : (t.toUInt8).toNat = t := nat_toUInt8_toNat t (by omega)
  obtain ⟨b1, b2⟩ := Color.backward_eq c
  rw [Square.offset_eq _ _ (sq_toUInt8_lt ht) (by rw [b1]; decide) (by rw [b2]; cases c <;> decide), e, b1, b2]

theorem rook_square (o : Nat) (ho : o < 64) (f : File) (hf : f.toNat < 8) :
    Square.from_Rank_File (Square.rank o.toUInt8, f) = some (mkSq (rankOf o) f.toNat).toUInt8 := by
  have e : (o.toUInt8).toNat = o := nat_toUInt8_toNat o (by omega)
  rw [Square.from_Rank_File_eq _ _ (rank_lt8 _ (sq_toUInt8_lt ho)) hf, Square.rank_toNat, e]

/-- the en-passant target after the move: the square behind the destination of a double pawn step -/
theorem ep_after_double (dbl : Bool) {d : Nat} (hd : d < 64) (c : Color) :
    (if dbl = true then Square.offset d.toUInt8 (Color.backward c) else pure Option.none)
      = some ((if dbl then offset d 0 c.backward else Option.none).map Nat.toUInt8) := by
  cases dbl with
  | true => exact offset_backward d hd c
  | false => rfl

/-- `clock.saturating_add(1)` is the model's `clockSucc` -/
theorem saturating_succ (n : Nat) (hn : n < 2 ^ 64) : UInt64.saturating_add n.toUInt64 1 = (clockSucc n).toUInt64 := by
  have e := toNat_toUInt64 n hn
  have h1 : (1 : UInt64).toNat = 1 := rfl
  unfold UInt64.saturating_add clockSucc
  rw [e, h1]
  by_cases hlt : n + 1 < 2 ^ 64
  · rw [if_pos hlt, if_pos hlt]
    apply UInt64.toNat_inj.1
    rw [UInt64.toNat_add, e, h1, toNat_toUInt64 _ hlt, Nat.mod_eq_of_lt hlt]
  · rw [if_neg hlt, if_neg hlt]
    have : n = 2 ^ 64 - 1 := by omega
    subst this
    rfl

/-- `State::by_performing_move` on the Rust-side value of a model state = the model's `performMove` (read through `resultOf`:
panic ↦ `none`, `Err(_)` ↦ `some none`), for every move word with a real moving piece and capture / promotion codes ≤ 6 and every
state whose en-passant target is a square and whose clocks fit `u64`.  The proof follows the steps of `C02.performMove_eq`:
capture, promotion, castling rook, castling rights, en-passant target and clocks. -/
theorem State.by_performing_move_eq (s : Wee.State) (mv : UInt32) (p : Piece)
    (hv : Wee.Move.piece? mv = some p) (hp : p ≠ Piece.none)
    (hc : Wee.Move.captureCode mv ≤ 6) (hpr : Wee.Move.promotionCode mv ≤ 6)
    (hep : ∀ t, s.ep = some t → t < 64) (hh : s.halfmove < 2 ^ 64) (hf : s.fullmove < 2 ^ 64) :
    State.by_performing_move (stateOf s) mv = resultOf (performMove s mv) := by
  have ho := Wee.Move.origin_lt mv
  have hd := Wee.Move.dest_lt mv
  have e1 : Board.piece_map (State.board (stateOf s)) = arrOf s.pieces := rfl
  have e2 : State.f_turn_to_move (stateOf s) = s.turn := rfl
  unfold State.by_performing_move
  simp only [e1, e2, Move.piece_eq, hv, some_bind', Move.origin_eq, Move.destination_eq, Color.opposing_color_eq,
    assign_seq _ _ _ hp _ ho, assign_seq _ _ _ hp _ hd, Move.is_en_passant_eq]
  rw [C02.performMove_eq s mv p hv
    ⟨Or.inr (by rw [ofCode_isSome_iff]; exact decide_eq_true hc), Or.inr (by rw [ofCode_isSome_iff]; exact decide_eq_true hpr)⟩]
  -- the capture step
  generalize hseg : (ite (Wee.Move.isEnPassant mv = true) _ _ : Option (Early (Option State) (Array BitBoard))) = seg
  have hseg' : seg = some (match C02.capStep s mv (C02.baseMap s mv p) with
      | .error _ => Early.ret Option.none
      | .ok m1 => Early.cont (arrOf m1)) := by
    rw [← hseg]
    unfold C02.capStep C02.baseMap
    have e3 : State.f_en_passant_target (stateOf s) = s.ep.map Nat.toUInt8 := rfl
    by_cases hE : Wee.Move.isEnPassant mv = true
    · simp only [hE, if_true, e3]
      cases hs : s.ep with
      | none => rfl
      | some t =>
        have ht := hep t hs
        simp only [Option.map, offset_backward t ht, some_bind']
        cases ho2 : offset t 0 s.turn.backward with
        | none => rfl
        | some csq =>
          simp only [assign_seq _ _ _ (by decide : Piece.pawn ≠ Piece.none) _ (offset_lt ho2)]
          rfl
    · simp only [hE, if_false, Move.capture_of_le6 mv hc, some_bind', Bool.false_eq_true]
      cases hcap : Wee.Move.capture mv with
      | none => rfl
      | some cap =>
        simp only [assign_seq _ _ _ (C02.capture_ne_none hcap) _ hd]
        rfl
  rw [hseg', some_bind']
  cases hmE : C02.capStep s mv (C02.baseMap s mv p) with
  | error e => rfl
  | ok m1 =>
    simp only []
    clear hseg hseg' seg
    rw [Move.promotion_of_le6 mv hpr, some_bind']
    -- promotion
    refine bind_eq_of (arrOf (C02.promoStep s.turn p (Wee.Move.dest mv) (Wee.Move.promotion mv) m1)) ?_ ?_
    · cases hprm : Wee.Move.promotion mv with
      | none => rfl
      | some pr =>
        simp only [assign_seq _ _ _ hp _ hd, assign_seq _ _ _ (C02.promotion_ne_none hprm) _ hd]
        rfl
    -- castling rook
    have hsq : ∀ f, f < 8 → mkSq (rankOf (Wee.Move.origin mv)) f < 64 := fun f hf => mkSq_lt (rankOf_lt ho) hf
    refine bind_eq_of (arrOf (C02.finalMap s mv p m1)) ?_ ?_
    · unfold C02.finalMap
      rw [C02.castleStep_eq]
      simp only [Move.is_castle_eq, rook_square _ ho File.H (by decide), rook_square _ ho File.F (by decide),
        rook_square _ ho File.A (by decide), rook_square _ ho File.D (by decide), some_bind',
        show File.H.toNat = 7 from rfl, show File.F.toNat = 5 from rfl, show File.A.toNat = 0 from rfl,
        show File.D.toNat = 3 from rfl,
        assign_seq _ _ _ (by decide : Piece.rook ≠ Piece.none) _ (hsq 7 (by decide)),
        assign_seq _ _ _ (by decide : Piece.rook ≠ Piece.none) _ (hsq 5 (by decide)),
        assign_seq _ _ _ (by decide : Piece.rook ≠ Piece.none) _ (hsq 0 (by decide)),
        assign_seq _ _ _ (by decide : Piece.rook ≠ Piece.none) _ (hsq 3 (by decide))]
      by_cases hK : Wee.Move.isCastle mv Side.king = true
      · simp only [hK, if_true]; rfl
      · by_cases hQ : Wee.Move.isCastle mv Side.queen = true
        · simp only [hK, hQ, if_true, if_false, Bool.false_eq_true]; rfl
        · simp only [hK, hQ, if_false, Bool.false_eq_true]; rfl
    simp only [Board.new_eq, some_bind']
    -- castling rights
    have e4 : State.f_castle_rights (stateOf s) = #[crOf s.castleW, crOf s.castleB] := rfl
    refine bind_eq_of #[crOf (if p == .king ∧ s.turn == .white then Wee.CastleRights.noRights else s.castleW),
        crOf (if p == .king ∧ s.turn == .black then Wee.CastleRights.noRights else s.castleB)] ?_ ?_
    · rw [e4]
      by_cases hk : (p == Piece.king) = true
      · cases hT : s.turn <;> simp [hk, pair_set, CastleRights.NONE_eq]
      · cases hT : s.turn <;> simp [hk]
    simp only [boardOf_piece_occ, some_bind', BitBoard.test_eq _ Square.H8 (by decide), BitBoard.test_eq _ Square.A8 (by decide),
      BitBoard.test_eq _ Square.H1 (by decide), BitBoard.test_eq _ Square.A1 (by decide),
      pair_index_w, pair_index_b, pair_set_w, pair_set_b,
      show Square.H8.toNat = 63 from rfl, show Square.A8.toNat = 56 from rfl, show Square.H1.toNat = 7 from rfl,
      show Square.A1.toNat = 0 from rfl]
    have e7 : State.f_clock (stateOf s) = ⟨s.halfmove.toUInt64, s.fullmove.toUInt64⟩ := rfl
    simp only [Move.is_double_pawn_eq, ep_after_double _ hd, some_bind', Move.is_capture_of_le6 mv hc, e7, saturating_succ _ hh,
      saturating_succ _ hf]
    unfold resultOf stateOf C02.finish crOf
    simp only [pure]
    cases hcap : Wee.Move.isCapture mv <;> cases hpw : (p == Piece.pawn) <;> cases hbl : (s.turn == Color.black) <;> rfl

/-- the same for a representable state and a well-formed move word -/
theorem State.by_performing_move_of_wf (s : Wee.State) (mv : UInt32) (ok : StateOK s) (wf : WFMove mv) :
    State.by_performing_move (stateOf s) mv = resultOf (performMove s mv) := by
  obtain ⟨p, hv, hp, hc, hpr⟩ := wf
  exact State.by_performing_move_eq s mv p hv hp hc hpr ok.ep ok.half ok.full

/-- a move word whose piece field holds 7‥15 makes `mv.piece()` panic — in the model too -/
theorem State.by_performing_move_panics (s : State) (mv : UInt32) (hv : Wee.Move.piece? mv = Option.none) :
    State.by_performing_move s mv = Option.none := by
  unfold State.by_performing_move
  rw [Move.piece_eq, hv]; rfl

end GenFns
end Wee
