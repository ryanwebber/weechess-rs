import Wee.Model.SearchEnv
import Wee.Proofs.SearchCtlBase
/-!
# The worker in an environment

`searchNodeE` is cut like `searchNode` (`nodeBodyE` / `probeE` / `tailE`, the recursive call abstracted), and its probe is
the same function `SearchCtl.probe`, carried out (`probeK_eq`): so in the empty environment the worker is the sequential
model (`searchNodeE_empty`), and a property of the recursion is shown node by node (`searchNodeE_induct`).  What is claimed
of a worker computation is a `Spec`: an invariant `I` of the worker state, what holds of the state at an interrupt (`J`),
the outcomes that may be thrown (`A`) and a guarantee `G` (a predicate on the logged own inserts); the rely is the separate
predicate `Rely V env` (`V.I` is stable under the environment's batches).  `HoldsE` says so of a computation, `PostE` of an
outcome.
The rules of the logic are those of `HoldsP` (`Wee/Proofs/HoldsP.lean`, of which `HoldsE` is a case: `holdsE_iff`).
-/
namespace Wee.Env
open Wee Wee.Search

/-! ## run equations of `ME` -/

theorem pure_run {α : Type} (a : α) (n : Nat) (st : St) : (pure a : ME α) n st = (.ok a, st, []) := rfl
theorem throw_run {α : Type} (e : Stop) (n : Nat) (st : St) : (throw e : ME α) n st = (.error e, st, []) := rfl
theorem get_run (n : Nat) (st : St) : (get : ME St) n st = (.ok st, st, []) := rfl
theorem set_run (s : St) (n : Nat) (st : St) : (set s : ME PUnit) n st = (.ok ⟨⟩, s, []) := rfl
theorem modify_run (f : St → St) (n : Nat) (st : St) : (modify f : ME PUnit) n st = (.ok ⟨⟩, f st, []) := rfl
theorem bind_run {α β : Type} (x : ME α) (f : α → ME β) (n : Nat) (st : St) :
    (x >>= f) n st = match x n st with
      | (.ok a, st', l1) =>
        (match f a (n + l1.length) st' with
         | (r, st'', l2) => (r, st'', l1 ++ l2))
      | (.error e, st', l1) => (.error e, st', l1) := by rfl
theorem liftE_run {α : Type} (x : M α) (n : Nat) (st : St) :
    liftE x n st = ((x.run.run st).1, (x.run.run st).2, []) := rfl
theorem findE_run (env : Env) (k : Nat) (n : Nat) (st : St) :
    findE env k n st = (.ok ((applyInserts st.tt (env.script n)).find k),
      { st with tt := applyInserts st.tt (env.script n) }, [.find k ((applyInserts st.tt (env.script n)).find k)]) := rfl
theorem insertE_run (env : Env) (k : Nat) (e : TT.Entry) (n : Nat) (st : St) :
    insertE env k e n st = (.ok ⟨⟩, { st with tt := (applyInserts st.tt (env.script n)).insert k e }, [.insert k e]) := rfl

/-- a step that returns normally without a table operation does not move the operation count -/
theorem bind_run_ok {α β : Type} {x : ME α} (f : α → ME β) {n : Nat} {st st' : St} {a : α}
    (h : x n st = (.ok a, st', [])) : (x >>= f) n st = f a n st' := by
  rw [bind_run, h]
  rfl

/-! ## `searchNodeE` in three pieces -/

/-- the part after the table probe, with the (possibly tightened) window -/
def tailE (env : Env) (ctx : Ctx) (a : NodeArgs) (hash : UInt64) (alpha beta : Eval) :
    Option (NodeArgs → ME Eval) → ME Eval
  | Option.none =>
      match quiesce evaluate (quiesceFuel a.s) a.s a.curDepth alpha beta with
      | .ok v => pure v
      | .error e => throw e
  | some child =>
      match pseudoLegalMoves a.s with
      | Option.none => throw (.panic "move generation: Square::offset(..).unwrap()")
      | some pseudo => do
        let sorted ← liftE (sortByCachedKey pseudo fun mv => do
          let j ← jitter
          pure (estimate a.s mv + j))
        let buffer := match a.prioritized with | some m => sorted ++ [m] | Option.none => sorted
        let before := (← get).nodes
        let a' := { a with alpha := alpha, beta := beta }
        match ← childLoopE env ctx child a' hash buffer.reverse alpha Option.none kindUpper with
        | .error b => return b
        | .ok (alpha', best, kind) =>
          if (← get).nodes == before then
            match evaluate a.s a.s.turn a.curDepth with
            | some e => return e
            | Option.none => throw (.panic "evaluate: no king")
          match best with
          | some m =>
            let e : TT.Entry := { kind := kind, mv := m.toNat, depth := a.curDepth, maxDepth := a.maxDepth, eval := alpha' }
            insertE env hash.toNat e
          | Option.none => pure ()
          return alpha'

/-- what the probe does with the result of the lookup -/
def probeK (env : Env) (ctx : Ctx) (a : NodeArgs) (hash : UInt64) (rec : Option (NodeArgs → ME Eval)) :
    Option TT.Entry → ME Eval
  | some e => do
      if a.maxDepth < a.curDepth ∨ e.maxDepth < e.depth then throw (.panic "usize subtraction underflow")
      if e.maxDepth - e.depth ≥ a.maxDepth - a.curDepth then
        if e.kind == kindExact then return e.eval
        else if e.kind == kindUpper then
          if a.alpha ≥ min a.beta e.eval then return e.eval else tailE env ctx a hash a.alpha (min a.beta e.eval) rec
        else
          if max a.alpha e.eval ≥ a.beta then return e.eval else tailE env ctx a hash (max a.alpha e.eval) a.beta rec
      else tailE env ctx a hash a.alpha a.beta rec
  | Option.none => tailE env ctx a hash a.alpha a.beta rec

def probeE (env : Env) (ctx : Ctx) (a : NodeArgs) (hash : UInt64) (rec : Option (NodeArgs → ME Eval)) : ME Eval :=
  findE env hash.toNat >>= probeK env ctx a hash rec

/-- `searchNodeE` with the recursive call abstracted -/
def nodeBodyE (env : Env) (ctx : Ctx) (rec : Option (NodeArgs → ME Eval)) (a : NodeArgs) : ME Eval := do
    modify fun st => { st with nodes := st.nodes + 1 }
    let st ← get
    if st.nodes % Gen.pollInterval == 0 then
      let cancelled := match ctx.cancelAt with | some k => decide (st.polls ≥ k) | Option.none => false
      set { st with polls := st.polls + 1 }
      if cancelled then throw .interrupt
    let hash := Wee.hash ctx.keys a.s
    if a.curDepth > 0 && ctx.history.contains hash then return 0
    probeE env ctx a hash rec

/-- what the probe does with the result of the lookup is `SearchCtl.probe`'s decision, carried out -/
theorem probeK_eq (env : Env) (ctx : Ctx) (a : NodeArgs) (hash : UInt64) (rec : Option (NodeArgs → ME Eval))
    (r : Option TT.Entry) :
    probeK env ctx a hash rec r =
      match SearchCtl.probe a r with
      | .underflow => throw (.panic "usize subtraction underflow")
      | .cut v => pure v
      | .window alpha beta => tailE env ctx a hash alpha beta rec := by
  cases r with
  | none => rfl
  | some e =>
    unfold probeK SearchCtl.probe
    by_cases hu : a.maxDepth < a.curDepth ∨ e.maxDepth < e.depth
    · simp only [if_pos hu]; rfl
    by_cases hd : e.maxDepth - e.depth ≥ a.maxDepth - a.curDepth
    · by_cases hx : (e.kind == kindExact) = true
      · simp only [if_neg hu, if_pos hd, if_pos hx]
      by_cases hk : (e.kind == kindUpper) = true
      · by_cases hc : a.alpha ≥ min a.beta e.eval
        · simp only [if_neg hu, if_pos hd, if_neg hx, if_pos hk, if_pos hc]
        · simp only [if_neg hu, if_pos hd, if_neg hx, if_pos hk, if_neg hc]
      · by_cases hc : max a.alpha e.eval ≥ a.beta
        · simp only [if_neg hu, if_pos hd, if_neg hx, if_neg hk, if_pos hc]
        · simp only [if_neg hu, if_pos hd, if_neg hx, if_neg hk, if_neg hc]
    · simp only [if_neg hu, if_neg hd]

theorem searchNodeE_zero (env : Env) (ctx : Ctx) (a : NodeArgs) :
    searchNodeE env ctx 0 a = nodeBodyE env ctx Option.none a := by rfl
theorem searchNodeE_succ (env : Env) (ctx : Ctx) (rem : Nat) (a : NodeArgs) :
    searchNodeE env ctx (rem+1) a = nodeBodyE env ctx (some (searchNodeE env ctx rem)) a := by rfl

/-- induction over the recursion of the worker: what a node does, given what its children do -/
theorem searchNodeE_induct {env : Env} {ctx : Ctx} {Pre : Nat → NodeArgs → Prop} {T : Nat → NodeArgs → ME Eval → Prop}
    (body : ∀ rem a (rec : Option (NodeArgs → ME Eval)), Pre rem a → (rec = Option.none → rem = 0) →
      (∀ child, rec = some child → ∃ r, rem = r + 1 ∧ ∀ args, Pre r args → T r args (child args)) →
      T rem a (nodeBodyE env ctx rec a)) :
    ∀ rem a, Pre rem a → T rem a (searchNodeE env ctx rem a)
  | 0, a, h => by
    rw [searchNodeE_zero]; exact body 0 a Option.none h (fun _ => rfl) (fun _ h => nomatch h)
  | rem + 1, a, h => by
    rw [searchNodeE_succ]
    exact body (rem + 1) a (some _) h (fun h => nomatch h) fun child hc =>
      ⟨rem, rfl, fun args ha => by cases hc; exact searchNodeE_induct body rem args ha⟩

/-- flat form of the node entry: count/poll (`SearchCtl.tick`), the history cut, then the probe -/
theorem nodeBodyE_run (env : Env) (ctx : Ctx) (rec : Option (NodeArgs → ME Eval)) (a : NodeArgs) (n : Nat) (st : St) :
    nodeBodyE env ctx rec a n st =
      match SearchCtl.tick ctx st with
      | (.error e, st1) => (.error e, st1, [])
      | (.ok _, st1) =>
        if (decide (a.curDepth > 0) && ctx.history.contains (Wee.hash ctx.keys a.s)) = true then (.ok 0, st1, [])
        else probeE env ctx a (Wee.hash ctx.keys a.s) rec n st1 := by
  unfold nodeBodyE SearchCtl.tick
  rw [bind_run_ok _ (modify_run _ n st), bind_run_ok _ (get_run n _)]
  dsimp only
  split
  · rw [bind_run_ok _ (set_run _ n _)]
    cases ctx.cancelAt
    all_goals
      dsimp only
      split
      · rfl
      · split <;> rfl
  · split <;> rfl

/-- two computations that branch on the same condition are related if their branches are -/
theorem rel_ite {γ δ : Type} {R : γ → δ → Prop} {c : Prop} [Decidable c] {x y : γ} {x' y' : δ}
    (ht : c → R x x') (hf : ¬ c → R y y') : R (if c then x else y) (if c then x' else y') := by
  split
  · exact ht ‹c›
  · exact hf ‹¬ c›

/-! ## the empty environment: `searchNodeE Env.empty` is `searchNode` -/

/-- `x` (worker monad) and `y` (monad of the sequential model) have the same outcome and the same final state, from
every state and whatever the number of earlier table operations -/
def Sim {α : Type} (x : ME α) (y : M α) : Prop := ∀ n st, ((x n st).1, (x n st).2.1) = y.run.run st

section sim
variable {α β : Type}

theorem sim_pure (a : α) : Sim (pure a : ME α) (pure a : M α) := fun _ _ => rfl
theorem sim_throw (e : Stop) : Sim (throw e : ME α) (throw e : M α) := fun _ _ => rfl
theorem sim_get : Sim (get : ME St) (get : M St) := fun _ _ => rfl
theorem sim_liftE (x : M α) : Sim (liftE x) x := fun _ _ => rfl

theorem sim_bind {x : ME α} {y : M α} {f : α → ME β} {g : α → M β} (hx : Sim x y) (hf : ∀ a, Sim (f a) (g a)) :
    Sim (x >>= f) (y >>= g) := by
  intro n st
  rw [bind_run, SearchCtl.bind_run]
  have h := hx n st
  rcases hxo : x n st with ⟨r, st', l1⟩
  rw [hxo] at h
  rw [← h]
  cases r with
  | error e => rfl
  | ok a =>
    simp only
    have h2 := hf a (n + l1.length) st'
    rcases hfo : f a (n + l1.length) st' with ⟨r2, st2, l2⟩
    rw [hfo] at h2
    exact h2

theorem applyInserts_nil (tt : TT.Access) : applyInserts tt [] = tt := rfl

theorem sim_throw_bind {γ : Type} (e : Stop) (f : γ → ME β) (g : γ → M β) :
    Sim ((throw e : ME γ) >>= f) ((throw e : M γ) >>= g) := fun _ _ => rfl

/-- a store in the empty environment is a store into the worker's own table -/
theorem sim_insert (k : Nat) (e : TT.Entry) :
    Sim (insertE Env.empty k e) (modify fun st => { st with tt := st.tt.insert k e } : M PUnit) := fun _ _ => rfl

end sim

theorem childLoopE_sim (ctx : Ctx) (childE : NodeArgs → ME Eval) (child : NodeArgs → M Eval)
    (hc : ∀ a, Sim (childE a) (child a)) (a : NodeArgs) (hash : UInt64) :
    ∀ (l : List Move) (alpha : Eval) (best : Option Move) (kind : Nat),
      Sim (childLoopE Env.empty ctx childE a hash l alpha best kind) (childLoop ctx child a hash l alpha best kind) := by
  intro l
  induction l with
  | nil => intro alpha best kind; rw [childLoopE, childLoop]; exact sim_pure _
  | cons mv rest ih =>
    intro alpha best kind
    rw [childLoopE, childLoop]
    cases tryAsLegal a.s mv with
    | none => exact sim_throw _
    | some o =>
      cases o with
      | none => exact ih alpha best kind
      | some r =>
        obtain ⟨m, next⟩ := r
        simp only
        refine sim_bind (hc _) fun v => rel_ite (fun _ => sim_bind (sim_insert _ _) fun _ => sim_pure _) fun _ => ?_
        exact rel_ite (fun _ => ih _ _ _) fun _ => ih _ _ _

theorem tailE_sim_leaf (ctx : Ctx) (a : NodeArgs) (hash : UInt64) (alpha beta : Eval) :
    Sim (tailE Env.empty ctx a hash alpha beta Option.none) (SearchCtl.leafM a alpha beta) := by
  unfold tailE SearchCtl.leafM
  cases quiesce evaluate (quiesceFuel a.s) a.s a.curDepth alpha beta with
  | ok v => exact sim_pure _
  | error e => exact sim_throw _

theorem tailE_sim_expand (ctx : Ctx) (a : NodeArgs) (hash : UInt64) (alpha beta : Eval)
    (cE : NodeArgs → ME Eval) (c : NodeArgs → M Eval) (hrec : ∀ a, Sim (cE a) (c a)) :
    Sim (tailE Env.empty ctx a hash alpha beta (some cE)) (SearchCtl.expandM ctx c a hash alpha beta) := by
  unfold tailE SearchCtl.expandM
  cases pseudoLegalMoves a.s with
  | none => exact sim_throw _
  | some pseudo =>
    simp only
    refine sim_bind (sim_liftE _) fun sorted => ?_
    refine sim_bind sim_get fun st0 => ?_
    refine sim_bind (childLoopE_sim ctx cE c hrec _ hash _ _ _ _) fun res => ?_
    rcases res with b | ⟨alpha', best, kind⟩
    · exact sim_pure _
    · simp only
      refine sim_bind sim_get fun st1 => rel_ite (fun _ => ?_) fun _ => ?_
      · cases evaluate a.s a.s.turn a.curDepth with
        | some e => exact sim_pure _
        | none => exact sim_throw_bind _ _ _
      · cases best with
        | none => exact sim_pure _
        | some m => exact sim_bind (sim_insert _ _) fun _ => sim_pure _

/-- the probe, run: the environment's batch, the lookup, logged with its result -/
theorem probeE_run (env : Env) (ctx : Ctx) (a : NodeArgs) (hash : UInt64) (rec : Option (NodeArgs → ME Eval))
    (n : Nat) (st : St) :
    probeE env ctx a hash rec n st =
      match probeK env ctx a hash rec ((applyInserts st.tt (env.script n)).find hash.toNat) (n + 1)
          { st with tt := applyInserts st.tt (env.script n) } with
      | (r, st2, l2) => (r, st2, TOp.find hash.toNat ((applyInserts st.tt (env.script n)).find hash.toNat) :: l2) := by rfl

/-- the node entry: both sides flat (`nodeBodyE_run`, `SearchCtl.nodeM_run`), and the probe is the same function
(`probeK_eq`) -/
theorem nodeBodyE_sim (ctx : Ctx) (a : NodeArgs) (recE : Option (NodeArgs → ME Eval)) (k : Eval → Eval → M Eval)
    (hk : ∀ alpha beta, Sim (tailE Env.empty ctx a (Wee.hash ctx.keys a.s) alpha beta recE) (k alpha beta)) :
    Sim (nodeBodyE Env.empty ctx recE a) (SearchCtl.nodeM ctx a k) := by
  intro n st
  rw [nodeBodyE_run]
  show _ = (SearchCtl.nodeM ctx a k).run.run st
  rw [SearchCtl.nodeM_run]
  rcases SearchCtl.tick ctx st with ⟨r, st1⟩
  cases r with
  | error e => rfl
  | ok u =>
    dsimp only
    by_cases hc : (decide (a.curDepth > 0) && ctx.history.contains (Wee.hash ctx.keys a.s)) = true
    · rw [if_pos hc, if_pos hc]
    · rw [if_neg hc, if_neg hc, probeE_run, probeK_eq, show applyInserts st1.tt (Env.empty.script n) = st1.tt from rfl]
      cases SearchCtl.probe a (st1.tt.find (Wee.hash ctx.keys a.s).toNat) with
      | underflow => rfl
      | cut v => rfl
      | window alpha beta => exact hk alpha beta (n + 1) st1

/-- **`searchNodeE_empty`.**  In the empty environment the worker of the interleaving semantics is the sequential
model's `searchNode`: same outcome (value, interrupt or panic) and same final state (table, generator, node and poll
counters), from every state and for every number of earlier table operations.  (The log of table operations is extra
information the sequential model does not produce.) -/
theorem searchNodeE_empty (ctx : Ctx) : ∀ (rem : Nat) (a : NodeArgs) (n : Nat) (st : St),
    ((searchNodeE Env.empty ctx rem a n st).1, (searchNodeE Env.empty ctx rem a n st).2.1) =
      (searchNode ctx rem a).run.run st := by
  intro rem
  induction rem with
  | zero =>
    intro a
    rw [searchNodeE_zero, SearchCtl.searchNode_zero]
    exact nodeBodyE_sim ctx a Option.none _ fun alpha beta => tailE_sim_leaf ctx a _ alpha beta
  | succ rem ih =>
    intro a
    rw [searchNodeE_succ, SearchCtl.searchNode_succ]
    exact nodeBodyE_sim ctx a (some _) _ fun alpha beta => tailE_sim_expand ctx a _ alpha beta _ _ ih

/-- the same for a worker's whole run of an iteration -/
theorem runWorkerE_empty (ctx : Ctx) (root : State) (w : Worker) (tt : TT.Access) :
    ((runWorkerE Env.empty ctx root w tt).1, (runWorkerE Env.empty ctx root w tt).2.1) =
      runWorker ctx root w.searchDepth w.best tt w.rng w.polls :=
  searchNodeE_empty ctx _ _ _ _

/-! ## what is claimed of a worker computation (`Spec`), the rely (`Rely`), what it says of an outcome (`PostE`) -/

/-- what is claimed of a worker computation:
`I` — invariant of the worker state (in particular of the shared table), kept at a normal return and at a panic;
`J` — what holds of the state at an interrupt; `A` — the outcomes that may be thrown;
`G` — the guarantee: what holds of every table insert the worker performs. -/
structure Spec where
  I : St → Prop
  J : St → Prop
  A : Stop → Prop
  G : Nat → TT.Entry → Prop

/-- the invariant-only specification: `I` everywhere, anything may be thrown -/
def Spec.inv (I : St → Prop) (G : Nat → TT.Entry → Prop) : Spec := { I := I, J := I, A := fun _ => True, G := G }

/-- every logged insert satisfies `G` -/
def LogOK (G : Nat → TT.Entry → Prop) (l : List TOp) : Prop := ∀ k e, TOp.insert k e ∈ l → G k e

theorem LogOK.nil {G : Nat → TT.Entry → Prop} : LogOK G [] := fun _ _ h => nomatch h
theorem LogOK.append {G : Nat → TT.Entry → Prop} {l1 l2 : List TOp} (h1 : LogOK G l1) (h2 : LogOK G l2) :
    LogOK G (l1 ++ l2) := fun k e h => (List.mem_append.1 h).elim (h1 k e) (h2 k e)

def PostE (V : Spec) {α : Type} (Q : α → Prop) : Except Stop α × St × List TOp → Prop
  | (.ok r, st, l) => V.I st ∧ Q r ∧ LogOK V.G l
  | (.error .interrupt, st, l) => V.A .interrupt ∧ V.J st ∧ LogOK V.G l
  | (.error (.panic w), st, l) => V.A (.panic w) ∧ V.I st ∧ LogOK V.G l

/-- from every state satisfying the invariant — and whatever the number of earlier table operations — `x` ends in
an outcome satisfying `PostE`: invariant kept, normal results satisfy `Q`, only allowed outcomes thrown, every own
insert satisfies the guarantee -/
def HoldsE (V : Spec) {α : Type} (x : ME α) (Q : α → Prop) : Prop := ∀ n st, V.I st → PostE V Q (x n st)

/-- **rely**: the invariant is stable under every batch of the environment -/
def Rely (V : Spec) (env : Env) : Prop :=
  ∀ st j, V.I st → V.I { st with tt := applyInserts st.tt (env.script j) }

/-- how a rely is shown: what every admissible insert keeps, a batch of admissible inserts keeps -/
theorem applyInserts_inv {P : TT.Access → Prop} {Adm : Nat → TT.Entry → Prop}
    (hstep : ∀ tt k e, P tt → Adm k e → P (tt.insert k e)) :
    ∀ (b : List (Nat × TT.Entry)) (tt : TT.Access), P tt → (∀ p ∈ b, Adm p.1 p.2) → P (applyInserts tt b) :=
  fun b _ h hall => b.foldlRecOn _ h fun t ht p hp => hstep t p.1 p.2 ht (hall p hp)

theorem PostE.log {V : Spec} {α : Type} {Q : α → Prop} {o : Except Stop α × St × List TOp} (h : PostE V Q o) :
    LogOK V.G o.2.2 := by
  obtain ⟨r, st, l⟩ := o
  cases r with
  | ok v => exact h.2.2
  | error e => cases e with
    | interrupt => exact h.2.2
    | panic w => exact h.2.2

theorem PostE.ok {V : Spec} {α : Type} {Q : α → Prop} {o : Except Stop α × St × List TOp} (h : PostE V Q o)
    {r : α} (hr : o.1 = .ok r) : V.I o.2.1 ∧ Q r := by
  obtain ⟨r', st, l⟩ := o
  cases hr
  exact ⟨h.1, h.2.1⟩

theorem PostE.allowed {V : Spec} {α : Type} {Q : α → Prop} {o : Except Stop α × St × List TOp} (h : PostE V Q o)
    {e : Stop} (he : o.1 = .error e) : V.A e := by
  obtain ⟨r', st, l⟩ := o
  cases he
  cases e with
  | interrupt => exact h.1
  | panic w => exact h.1

/-- when `V.J` implies `V.I`, the invariant holds of the final state whatever the outcome -/
theorem PostE.same {V : Spec} (hJ : ∀ st, V.J st → V.I st) {α : Type} {Q : α → Prop}
    {o : Except Stop α × St × List TOp} (h : PostE V Q o) : V.I o.2.1 := by
  obtain ⟨r, st, l⟩ := o
  cases r with
  | ok v => exact h.1
  | error e => cases e with
    | interrupt => exact hJ _ h.2.1
    | panic w => exact h.2.1

/-- an outcome of the interleaving semantics without its log, as an outcome of the sequential model -/
theorem PostE.post {V : Spec} {α : Type} {Q : α → Prop} {o : Except Stop α × St × List TOp} (h : PostE V Q o) :
    SearchCtl.Post V.I V.J V.A (o.1, o.2.1) := by
  obtain ⟨r, st, l⟩ := o
  cases r with
  | ok v => exact h.1
  | error e => cases e with
    | interrupt => exact ⟨h.1, h.2.1⟩
    | panic w => exact ⟨h.1, h.2.1⟩

/-! Three rules of `HoldsE` stated directly; the proofs of the development use the rules of `HoldsP` instead. -/

section rules
variable {V : Spec} {α β : Type}

theorem holdsE_set {st' : St} (h : V.I st') : HoldsE V (set st' : ME PUnit) (fun _ => True) :=
  fun _ _ _ => ⟨h, trivial, LogOK.nil⟩

theorem holdsE_modify {f : St → St} (h : ∀ st, V.I st → V.I (f st)) : HoldsE V (modify f : ME PUnit) (fun _ => True) :=
  fun _ st hi => ⟨h st hi, trivial, LogOK.nil⟩

theorem throw_bindE_holds {γ : Type} {e : Stop} {f : γ → ME β} {Q : β → Prop} (h : V.A e)
    (hJ : ∀ st, V.I st → V.J st) : HoldsE V ((throw e : ME γ) >>= f) Q := by
  intro n st hi
  cases e with
  | interrupt => exact ⟨h, hJ st hi, LogOK.nil⟩
  | panic w => exact ⟨h, hi, LogOK.nil⟩

end rules

/-! ## count and poll as one step of the worker (`tickE`) -/

open Wee.SearchCtl (tick)

/-- count and poll (`SearchCtl.tick`) as a step of the worker -/
def tickE (ctx : Ctx) : ME Unit := fun _ st => ((tick ctx st).1, (tick ctx st).2, [])

/-- the node entry is `tickE`, the history cut, the probe -/
theorem nodeBodyE_eq (env : Env) (ctx : Ctx) (rec : Option (NodeArgs → ME Eval)) (a : NodeArgs) :
    nodeBodyE env ctx rec a = tickE ctx >>= fun _ =>
      if (decide (a.curDepth > 0) && ctx.history.contains (Wee.hash ctx.keys a.s)) = true then pure 0
      else probeE env ctx a (Wee.hash ctx.keys a.s) rec := by
  funext n st
  rw [nodeBodyE_run, bind_run]
  unfold tickE
  generalize SearchCtl.tick ctx st = o
  obtain ⟨r, st1⟩ := o
  cases r with
  | error e => rfl
  | ok u => dsimp only; split <;> rfl

end Wee.Env
