import Wee.Proofs.EnvCore
/-!
# Flat run equations of the worker in an environment

The pieces of `searchNodeE` after the probe (`tailE`, `childLoopE`) as equations between outcome triples, with the
environment's batches applied where the table is read — for executing a worker symbolically on a concrete position and
for statements about what exactly a node logs.  They continue the run equations of `Wee/Proofs/EnvCore.lean`.
-/
namespace Wee.Env
open Wee.Search
open Wee.SearchCtl (childArgs entryOf)

section flat
open Wee.SearchCtl (bufferOf)

theorem tailE_none_run (env : Env) (ctx : Ctx) (a : NodeArgs) (hash : UInt64) (alpha beta : Eval) (n : Nat) (st : St) :
    tailE env ctx a hash alpha beta Option.none n st =
      (match quiesce evaluate (quiesceFuel a.s) a.s a.curDepth alpha beta with
       | .ok v => .ok v | .error e => .error e, st, []) := by
  unfold tailE
  cases quiesce evaluate (quiesceFuel a.s) a.s a.curDepth alpha beta <;> rfl

theorem childLoopE_nil_run (env : Env) (ctx : Ctx) (child : NodeArgs → ME Eval) (a : NodeArgs) (hash : UInt64)
    (alpha : Eval) (best : Option Move) (kind : Nat) (n : Nat) (st : St) :
    childLoopE env ctx child a hash [] alpha best kind n st = (.ok (.ok (alpha, best, kind)), st, []) := by
  rw [childLoopE]; rfl

theorem childLoopE_cons_run (env : Env) (ctx : Ctx) (child : NodeArgs → ME Eval) (a : NodeArgs) (hash : UInt64)
    (mv : Move) (rest : List Move) (alpha : Eval) (best : Option Move) (kind : Nat) (n : Nat) (st : St) :
    childLoopE env ctx child a hash (mv :: rest) alpha best kind n st =
      match tryAsLegal a.s mv with
      | Option.none => (.error (.panic "try_as_legal_move: by_performing_move(..).unwrap()"), st, [])
      | some Option.none => childLoopE env ctx child a hash rest alpha best kind n st
      | some (some (m, next)) =>
        match child (childArgs a next alpha) n st with
        | (.error e, st', l1) => (.error e, st', l1)
        | (.ok v, st', l1) =>
          if -v ≥ a.beta then
            (.ok (.error a.beta),
             { st' with tt := (applyInserts st'.tt (env.script (n + l1.length))).insert hash.toNat (entryOf a kindLower m a.beta) },
             l1 ++ [TOp.insert hash.toNat (entryOf a kindLower m a.beta)])
          else if -v > alpha then
            (match childLoopE env ctx child a hash rest (-v) (some m) kindExact (n + l1.length) st' with
             | (r, st2, l2) => (r, st2, l1 ++ l2))
          else
            (match childLoopE env ctx child a hash rest alpha best kind (n + l1.length) st' with
             | (r, st2, l2) => (r, st2, l1 ++ l2)) := by
  rw [childLoopE]
  cases h : tryAsLegal a.s mv with
  | none => rfl
  | some o =>
    cases o with
    | none => rfl
    | some r =>
      obtain ⟨m, next⟩ := r
      simp only
      rw [bind_run]
      unfold childArgs
      generalize child _ n st = out
      obtain ⟨r, st', l1⟩ := out
      cases r with
      | error e => rfl
      | ok v =>
        simp only
        by_cases c1 : -v ≥ a.beta
        · simp only [c1, ↓reduceIte]; rfl
        · by_cases c2 : -v > alpha <;> simp only [c1, c2, ↓reduceIte]

theorem tailE_some_run (env : Env) (ctx : Ctx) (child : NodeArgs → ME Eval) (a : NodeArgs) (hash : UInt64)
    (alpha beta : Eval) (n : Nat) (st : St) (pseudo sorted : List Move) (st1 : St)
    (hp : pseudoLegalMoves a.s = some pseudo)
    (hs : (sortByCachedKey pseudo fun mv => do let j ← jitter; pure (estimate a.s mv + j)).run.run st = (.ok sorted, st1)) :
    tailE env ctx a hash alpha beta (some child) n st =
      match childLoopE env ctx child { a with alpha := alpha, beta := beta } hash
              (bufferOf a.prioritized sorted).reverse alpha Option.none kindUpper n st1 with
      | (.error e, st2, l) => (.error e, st2, l)
      | (.ok (.error b), st2, l) => (.ok b, st2, l)
      | (.ok (.ok (alpha', best, kind)), st2, l) =>
        if st2.nodes == st1.nodes then
          (match evaluate a.s a.s.turn a.curDepth with
           | some e => (.ok e, st2, l)
           | Option.none => (.error (.panic "evaluate: no king"), st2, l))
        else match best with
          | some m =>
            (.ok alpha',
             { st2 with tt := (applyInserts st2.tt (env.script (n + l.length))).insert hash.toNat (entryOf a kind m alpha') },
             l ++ [TOp.insert hash.toNat (entryOf a kind m alpha')])
          | Option.none => (.ok alpha', st2, l) := by
  unfold tailE
  rw [hp]
  dsimp only
  rw [bind_run_ok _ (show liftE _ n st = (.ok sorted, st1, []) by rw [liftE_run, hs]), bind_run_ok _ (get_run n st1),
    bind_run]
  unfold bufferOf
  generalize childLoopE env ctx child _ hash _ alpha Option.none kindUpper _ st1 = out2
  obtain ⟨r2, st2, l⟩ := out2
  rcases r2 with e | b | ⟨alpha', best, kind⟩
  · rfl
  · simp only [pure_run, List.append_nil]
  · dsimp only
    rw [bind_run_ok _ (get_run _ st2)]
    split
    · cases evaluate a.s a.s.turn a.curDepth <;> simp only [pure_run, throw_run, bind_run, List.append_nil]
    · cases best <;> simp only [pure_run, bind_run, insertE_run, entryOf, List.append_nil]

end flat

end Wee.Env
