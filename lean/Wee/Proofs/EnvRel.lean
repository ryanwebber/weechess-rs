import Wee.Proofs.EnvCore
/-!
# The worker in two environments: relations that the recursion carries, and causality

The worker (`searchNodeE`) meets its environment at the table operations only.  So a relation `R` between computations
that holds of the steps touching neither table nor log (`Quiet`), is a congruence for `>>=`, and relates `findE` / `insertE`
of two environments (`QuietRel`; `StructRel` is the reflexive case) relates the whole worker in them:
`searchNodeE_srel`, one induction over the recursion.  Its instances are causality here (the first `K` own operations of
a worker depend on the first `K` batches of its environment only: `runWorkerE_causal`), the replayed table
(`Wee/Proofs/ReadsFrom.lean`) and the shifted environment (`Wee/Proofs/SeqHistory.lean`).
-/
namespace Wee.Env
open Wee.Search
open Wee.SearchCtl (tick)

/-! ## 1. structural relations between the worker in two environments -/

/-- a step of the worker that performs no table operation and leaves the table as it is -/
def Quiet {α : Type} (x : ME α) : Prop := ∀ n st, (x n st).2.2 = [] ∧ (x n st).2.1.tt = st.tt

theorem quiet_tickE (ctx : Ctx) : Quiet (tickE ctx) := fun _ st => by
  obtain ⟨polls, h⟩ := SearchCtl.tick_state ctx st
  exact ⟨rfl, by show (tick ctx st).2.tt = st.tt; rw [h]⟩

theorem quiet_liftE {α : Type} {x : M α} {P : α → Prop} (h : SearchCtl.RngOnly x P) : Quiet (liftE x) := fun n st => by
  obtain ⟨v, r, hrun, _⟩ := h st
  rw [liftE_run, hrun]
  exact ⟨rfl, rfl⟩

/-- a relation between worker computations that is reflexive, compatible with `>>=`, and relates the table operations
of the two environments: it then relates the whole worker (`searchNodeE_srel`) -/
structure StructRel (R : {α : Type} → ME α → ME α → Prop) (env env' : Env) : Prop where
  refl : ∀ {α : Type} (x : ME α), R x x
  bind : ∀ {α β : Type} {x x' : ME α} {f f' : α → ME β}, R x x' → (∀ a, R (f a) (f' a)) → R (x >>= f) (x' >>= f')
  find : ∀ k, R (findE env k) (findE env' k)
  insert : ∀ k e, R (insertE env k e) (insertE env' k e)

/-- the same with reflexivity asked of the quiet steps only (so that unary properties such as `TableOK` qualify) -/
structure QuietRel (R : {α : Type} → ME α → ME α → Prop) (env env' : Env) : Prop where
  quiet : ∀ {α : Type} (x : ME α), Quiet x → R x x
  bind : ∀ {α β : Type} {x x' : ME α} {f f' : α → ME β}, R x x' → (∀ a, R (f a) (f' a)) → R (x >>= f) (x' >>= f')
  find : ∀ k, R (findE env k) (findE env' k)
  insert : ∀ k e, R (insertE env k e) (insertE env' k e)

theorem StructRel.toQuiet {R : {α : Type} → ME α → ME α → Prop} {env env' : Env} (S : StructRel R env env') :
    QuietRel R env env' :=
  ⟨fun x _ => S.refl x, S.bind, S.find, S.insert⟩

section srel
variable {R : {α : Type} → ME α → ME α → Prop} {env env' : Env} (S : QuietRel R env env') (ctx : Ctx)
include S

/-- a step that returns or throws at once -/
theorem QuietRel.now {α : Type} (x : ME α) (h : ∀ n st, x n st = ((x n st).1, st, []) := by intros; rfl) : R x x :=
  S.quiet x fun n st => by rw [h n st]; exact ⟨rfl, rfl⟩

theorem childLoopE_srel (child child' : NodeArgs → ME Eval) (hc : ∀ a, R (child a) (child' a))
    (a : NodeArgs) (hash : UInt64) :
    ∀ (l : List Move) (alpha : Eval) (best : Option Move) (kind : Nat),
      R (childLoopE env ctx child a hash l alpha best kind) (childLoopE env' ctx child' a hash l alpha best kind) := by
  intro l
  induction l with
  | nil => intro alpha best kind; rw [childLoopE, childLoopE]; exact S.now _
  | cons mv rest ih =>
    intro alpha best kind
    rw [childLoopE, childLoopE]
    cases tryAsLegal a.s mv with
    | none => exact S.now _
    | some o =>
      cases o with
      | none => exact ih alpha best kind
      | some r =>
        obtain ⟨m, next⟩ := r
        simp only
        refine S.bind (hc _) fun v => rel_ite (fun _ => S.bind (S.insert _ _) fun _ => S.now _) fun _ => ?_
        exact rel_ite (fun _ => ih _ _ _) fun _ => ih _ _ _

/-- the two recursive calls correspond -/
def RecSRel (R : {α : Type} → ME α → ME α → Prop) : Option (NodeArgs → ME Eval) → Option (NodeArgs → ME Eval) → Prop
  | Option.none, Option.none => True
  | some c, some c' => ∀ a, R (c a) (c' a)
  | _, _ => False

theorem tailE_srel (a : NodeArgs) (hash : UInt64) (alpha beta : Eval)
    (rec rec' : Option (NodeArgs → ME Eval)) (hrec : RecSRel R rec rec') :
    R (tailE env ctx a hash alpha beta rec) (tailE env' ctx a hash alpha beta rec') := by
  cases rec with
  | none =>
    cases rec' with
    | some c => exact hrec.elim
    | none =>
      unfold tailE
      cases quiesce evaluate (quiesceFuel a.s) a.s a.curDepth alpha beta <;> exact S.now _
  | some c =>
    cases rec' with
    | none => exact hrec.elim
    | some c' =>
      replace hrec : ∀ a, R (c a) (c' a) := hrec
      unfold tailE
      cases pseudoLegalMoves a.s with
      | none => exact S.now _
      | some pseudo =>
        simp only
        refine S.bind (S.quiet _ (quiet_liftE (SearchCtl.sort_rngOnly a.s pseudo))) fun sorted => ?_
        refine S.bind (S.now _) fun st0 => ?_
        refine S.bind (childLoopE_srel S ctx c c' hrec _ hash _ _ _ _) fun res => ?_
        rcases res with b | ⟨alpha', best, kind⟩
        · exact S.now _
        · simp only
          refine S.bind (S.now _) fun st1 => rel_ite (fun _ => ?_) fun _ => ?_
          · cases evaluate a.s a.s.turn a.curDepth with
            | some e => exact S.now _
            | none => exact S.now (throw (.panic "evaluate: no king") : ME Eval)
          · cases best with
            | none => exact S.now _
            | some m => exact S.bind (S.insert _ _) fun _ => S.now _

theorem probeK_srel (a : NodeArgs) (hash : UInt64) (rec rec' : Option (NodeArgs → ME Eval)) (hrec : RecSRel R rec rec')
    (r : Option TT.Entry) : R (probeK env ctx a hash rec r) (probeK env' ctx a hash rec' r) := by
  rw [probeK_eq, probeK_eq]
  cases SearchCtl.probe a r with
  | underflow => exact S.now _
  | cut v => exact S.now _
  | window alpha beta => exact tailE_srel S ctx a hash alpha beta rec rec' hrec

theorem probeE_srel (a : NodeArgs) (hash : UInt64) (rec rec' : Option (NodeArgs → ME Eval)) (hrec : RecSRel R rec rec') :
    R (probeE env ctx a hash rec) (probeE env' ctx a hash rec') := by
  unfold probeE
  exact S.bind (S.find _) fun r => probeK_srel S ctx a hash rec rec' hrec r

theorem nodeBodyE_srel (a : NodeArgs) (rec rec' : Option (NodeArgs → ME Eval)) (hrec : RecSRel R rec rec') :
    R (nodeBodyE env ctx rec a) (nodeBodyE env' ctx rec' a) := by
  rw [nodeBodyE_eq, nodeBodyE_eq]
  exact S.bind (S.quiet _ (quiet_tickE ctx)) fun _ =>
    rel_ite (fun _ => S.now _) fun _ => probeE_srel S ctx a (hash ctx.keys a.s) rec rec' hrec

theorem searchNodeE_srel : ∀ (rem : Nat) (a : NodeArgs), R (searchNodeE env ctx rem a) (searchNodeE env' ctx rem a) := by
  intro rem
  induction rem with
  | zero =>
    intro a
    rw [searchNodeE_zero, searchNodeE_zero]
    exact nodeBodyE_srel S ctx a Option.none Option.none trivial
  | succ rem ih =>
    intro a
    rw [searchNodeE_succ, searchNodeE_succ]
    exact nodeBodyE_srel S ctx a (some _) (some _) ih

end srel

/-! ## 2. causality: the first `K` own operations depend on the first `K` batches only -/

/-- two outcomes of runs started with `n` earlier operations agree up to operation number `K` (counted from the
worker's start): if the first run performs no operation beyond number `K` the outcomes are equal; otherwise both go
beyond it and their logs agree on the operations before number `K` -/
def Agree {α : Type} (K n : Nat) (o o' : Except Stop α × St × List TOp) : Prop :=
  (n + o.2.2.length ≤ K → o = o') ∧
  (K < n + o.2.2.length → K < n + o'.2.2.length ∧ o.2.2.take (K - n) = o'.2.2.take (K - n))

/-- the two computations agree up to operation number `K` from every start: the relation of `searchNodeE_causal` -/
def Rel {α : Type} (K : Nat) (x x' : ME α) : Prop := ∀ n st, Agree K n (x n st) (x' n st)

theorem Agree.refl {α : Type} (K n : Nat) (o : Except Stop α × St × List TOp) : Agree K n o o :=
  ⟨fun _ => rfl, fun h => ⟨h, rfl⟩⟩

theorem rel_refl {α : Type} (K : Nat) (x : ME α) : Rel K x x := fun _ _ => Agree.refl _ _ _

theorem bind_log {α β : Type} (x : ME α) (f : α → ME β) (n : Nat) (st : St) :
    ∃ l2, ((x >>= f) n st).2.2 = (x n st).2.2 ++ l2 := by
  rw [bind_run]
  rcases x n st with ⟨r, st1, l1⟩
  cases r with
  | error e => exact ⟨[], (List.append_nil _).symm⟩
  | ok a =>
    simp only
    rcases f a (n + l1.length) st1 with ⟨r2, st2, l2⟩
    exact ⟨l2, rfl⟩

theorem rel_bind {α β : Type} {K : Nat} {x x' : ME α} {f f' : α → ME β} (hx : Rel K x x')
    (hf : ∀ a, Rel K (f a) (f' a)) : Rel K (x >>= f) (x' >>= f') := by
  intro n st
  have h := hx n st
  by_cases hle : n + (x n st).2.2.length ≤ K
  · have heq := h.1 hle
    rw [bind_run, bind_run, ← heq]
    generalize x n st = o at hle ⊢
    obtain ⟨r, st1, l1⟩ := o
    cases r with
    | error e => exact Agree.refl _ _ _
    | ok a =>
      simp only
      have h2 := hf a (n + l1.length) st1
      generalize f a (n + l1.length) st1 = o2 at h2 ⊢
      generalize f' a (n + l1.length) st1 = o2' at h2 ⊢
      obtain ⟨r2, st2, l2⟩ := o2
      obtain ⟨r2', st2', l2'⟩ := o2'
      obtain ⟨ha, hb⟩ := h2
      dsimp only at hle ha hb ⊢
      refine ⟨fun hl => ?_, fun hl => ?_⟩
      · rw [List.length_append] at hl
        have := ha (by omega)
        cases this
        rfl
      · rw [List.length_append] at hl
        obtain ⟨hb1, hb2⟩ := hb (by omega)
        refine ⟨by rw [List.length_append]; omega, ?_⟩
        rw [List.take_append, List.take_append, List.take_of_length_le (by omega),
          show K - n - l1.length = K - (n + l1.length) by omega, hb2]
  · obtain ⟨hb1, hb2⟩ := h.2 (by omega)
    obtain ⟨l2, e2⟩ := bind_log x f n st
    obtain ⟨l2', e2'⟩ := bind_log x' f' n st
    refine ⟨fun hl => ?_, fun _ => ⟨?_, ?_⟩⟩
    · rw [e2, List.length_append] at hl; omega
    · rw [e2', List.length_append]; omega
    · rw [e2, e2', List.take_append_of_le_length (by omega), List.take_append_of_le_length (by omega), hb2]

theorem rel_find {K : Nat} {env env' : Env} (h : ∀ j, j < K → env.script j = env'.script j) (k : Nat) :
    Rel K (findE env k) (findE env' k) := by
  intro n st
  by_cases hn : n < K
  · rw [findE_run, findE_run, h n hn]; exact Agree.refl _ _ _
  · rw [findE_run, findE_run]
    refine ⟨fun hl => ?_, fun _ => ⟨?_, ?_⟩⟩
    · simp only [List.length_singleton] at hl; omega
    · simp only [List.length_singleton]; omega
    · rw [Nat.sub_eq_zero_of_le (by omega), List.take_zero, List.take_zero]

theorem rel_insert {K : Nat} {env env' : Env} (h : ∀ j, j < K → env.script j = env'.script j) (k : Nat) (e : TT.Entry) :
    Rel K (insertE env k e) (insertE env' k e) := by
  intro n st
  by_cases hn : n < K
  · rw [insertE_run, insertE_run, h n hn]; exact Agree.refl _ _ _
  · rw [insertE_run, insertE_run]
    refine ⟨fun hl => ?_, fun _ => ⟨?_, rfl⟩⟩
    · simp only [List.length_singleton] at hl; omega
    · simp only [List.length_singleton]; omega

section causal
variable {K : Nat} {env env' : Env} (hagree : ∀ j, j < K → env.script j = env'.script j) (ctx : Ctx)
include hagree

/-- **causality.**  If two environments have the same first `K` batches, the worker behaves in both in the same way
up to its operation number `K`: started with `n` earlier operations, either it performs no operation beyond number `K`
and the two runs are identical (outcome, state, log), or both runs go beyond number `K` and their logs agree on the
operations before it. -/
theorem searchNodeE_causal (rem : Nat) (a : NodeArgs) :
    Rel K (searchNodeE env ctx rem a) (searchNodeE env' ctx rem a) :=
  searchNodeE_srel (R := fun {α} => Rel (α := α) K) (StructRel.toQuiet
    { refl := rel_refl K, bind := rel_bind, find := rel_find hagree, insert := rel_insert hagree }) ctx rem a

/-- the first `K` logged operations of a worker's run depend on the first `K` batches of the environment only -/
theorem runWorkerE_causal (root : State) (w : Worker) (tt : TT.Access) :
    (runWorkerE env ctx root w tt).2.2.take K = (runWorkerE env' ctx root w tt).2.2.take K := by
  have h : Agree K 0 (runWorkerE env ctx root w tt) (runWorkerE env' ctx root w tt) :=
    searchNodeE_causal hagree ctx _ _ 0 _
  by_cases hle : 0 + (runWorkerE env ctx root w tt).2.2.length ≤ K
  · rw [h.1 hle]
  · exact (h.2 (by omega)).2

end causal

end Wee.Env
