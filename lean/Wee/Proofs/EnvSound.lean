import Wee.Proofs.HoldsP
/-!
# C06 for the worker in an environment of sound inserts (`searchNodeE_sound`)

A run of a node is a `NodeOut` (`nodeE_outP`) whose children keep the fail-hard contract under the reading
`Bounds.sound`; `NodeOut.ab` is the rest.  The sequential `C06.searchNode_sound` is the instance at `Env.empty`.
-/
namespace Wee.Env
open Wee Wee.Search

section sound
open Wee.C06 Wee.Outcome
variable {env : Env}

/-- C06's admissible insert: under the key of a position of the domain, an entry that is sound for that position -/
def SoundInsert (K : Keys) (D : State → Prop) (k : Nat) (e : TT.Entry) : Prop :=
  ∃ s, D s ∧ k = (hash K s).toNat ∧ SoundEntry s e

/-- the C06 specification of a worker: the table invariant `C06.TTInv` (shape + every entry sound) at every outcome,
every own insert a `SoundInsert` -/
def soundSpec (K : Keys) (D : State → Prop) (L nT nB : Nat) : Spec :=
  Spec.inv (fun st => C06.TTInv K D L nT nB st.tt) (SoundInsert K D)

theorem TTInv_soundInsert {K : Keys} {D : State → Prop} {L nT nB : Nat} (g : Geo L nT nB) (dom : Domain K D)
    (tt : TT.Access) (k : Nat) (e : TT.Entry) (h : C06.TTInv K D L nT nB tt) (ha : SoundInsert K D k e) :
    C06.TTInv K D L nT nB (tt.insert k e) := by
  obtain ⟨s, hs, rfl, he⟩ := ha
  exact TTInv.insert g dom h hs he

theorem soundSpec_rely {K : Keys} {D : State → Prop} {L nT nB : Nat} (g : Geo L nT nB) (dom : Domain K D)
    (hadm : ∀ j, ∀ p ∈ env.script j, SoundInsert K D p.1 p.2) : Rely (soundSpec K D L nT nB) env :=
  fun _ j hi => applyInserts_inv (P := C06.TTInv K D L nT nB) (TTInv_soundInsert g dom) _ _ hi (hadm j)

/-- **`analyze_recursive` is sound in every environment of sound inserts** (the proof carries the node count, which the
statement does not mention: `holdsE_of_counting`) -/
theorem searchNodeE_sound {K : Keys} {D : State → Prop} {L nT nB : Nat} (g : Geo L nT nB) (dom : Domain K D)
    (hrely : Rely (soundSpec K D L nT nB) env) (ctx : Ctx) (hK : ctx.keys = K) :
    ∀ (rem : Nat) (a : NodeArgs), D a.s → a.alpha < a.beta → PrioOK a →
      HoldsE (soundSpec K D L nT nB) (searchNodeE env ctx rem a) (SoundVal a.s a.alpha a.beta) := by
  subst hK
  refine fun rem a hD hab hprio => holdsE_of_counting (searchNodeE_induct
    (Pre := fun _ a => D a.s ∧ a.alpha < a.beta ∧ PrioOK a)
    (T := fun _ a x => ∀ n, HoldsP (soundSpec ctx.keys D L nT nB) (fun st => C06.TTInv ctx.keys D L nT nB st.tt ∧ n ≤ st.nodes) x
      (fun r st' => (C06.TTInv ctx.keys D L nT nB st'.tt ∧ n < st'.nodes) ∧ SoundVal a.s a.alpha a.beta r))
    (fun _ a rec ⟨hD, hab, hprio⟩ _ hrec n => ?_) rem a ⟨hD, hab, hprio⟩)
  obtain ⟨ms, hms⟩ := dom.gen hD
  let B := Bounds.sound a.s
  have hstatic : legalMoves a.s = [] → ∀ e, evaluate a.s a.s.turn a.curDepth = some e → ∀ α β, B.Val α β e :=
    fun _ e he α β => Bounds.sound_val.2 (static_sound he)
  refine holdsP_conseq (nodeE_outP (P := fun st => C06.TTInv ctx.keys D L nT nB st.tt)
    (Q := fun _ _ st => C06.TTInv ctx.keys D L nT nB st.tt) (C := fun β => B.Child β) hrely (fun _ h => h) hrely
    (fun _ h => h) ctx a rec (.ofAll fun _ => trivial) (.lt hab)
    (SearchCtl.tick_post ctx trivial (fun _ h => h) fun _ _ h => h) (fun _ _ h => h) (fun _ => ⟨?child, fun _ => ?cut, fun _ => ?store⟩) n)
    (fun _ h => h) ?post
  case child =>
    intro child hc ps hps alpha beta mv hmv m next ht α k hα
    have hr := buffer_legal hms hps hprio hmv ht
    obtain ⟨_, _, hch⟩ := hrec child hc
    refine holdsP_conseq (hch _ ⟨dom.closed _ hD _ hr, by show -beta < -α; eomega, fun _ hm => nomatch (show Option.none = some _ from hm)⟩ k) (fun _ h => h)
      fun v st' h => ?_
    have hv := Bounds.sound_val.2 h.2
    exact ⟨h.1, hr, hv.2, hv.1⟩
  case cut =>
    intro beta m next α v hα hC hb
    exact ⟨a.s, hD, rfl, Bounds.sound_entry (B.low_of_succ hC.1 (hC.2.1 (by eomega)) hb) (Or.inl rfl)⟩
  case store =>
    intro ps alpha beta buf r e st hps hbuf hlt hout hp
    obtain ⟨k, m, rfl, hl, hu⟩ := (hout.ab B hms hps hprio hbuf hlt fun hn e he => hstatic hn e he _ _).2 e rfl
    have hse := Bounds.sound_entry hl hu
    exact ⟨TTInv.insert g dom hp hD hse, a.s, hD, rfl, hse⟩
  case post =>
    rintro r st' ⟨hn, found, stored, ⟨st0, hp0, hf⟩, hout, _, h1, h2⟩
    refine ⟨⟨?_, hn⟩, Bounds.sound_val.1 (hout.ab B hms hprio hab
      (fun _ _ => Bounds.sound_val.2 (SoundVal.of_nonterminal (by eomega) (by eomega)))
      (fun e he _ => (hp0.2 a.s e hD (hf.trans he)).bounds)
      (fun _ α β v hw hq => Bounds.sound_val.2 (quiesce_sound _ _ _ _ _ _
        ((Window.lt (P0 := fun _ => True) hab).probe found α β ⟨st0, trivial, hf⟩ hw) hq)) hstatic).1⟩
    cases stored with
    | none => exact h1 rfl
    | some e => exact h2 e rfl

end sound

end Wee.Env

namespace Wee.C06
open Wee Wee.Search Wee.Outcome

/-- **`analyze_recursive` is sound.**  For every remaining depth, every node argument whose
position lies in the domain, every window `alpha < beta`, every random generator state, poll
counter and cancellation point: the call keeps the table invariant (also when it is interrupted
or panics) and a returned value is `SoundVal` for the window it was called with. -/
theorem searchNode_sound {K : Keys} {D : State → Prop} {L nT nB : Nat} (g : Geo L nT nB) (dom : Domain K D) (ctx : Ctx)
    (hK : ctx.keys = K) : ∀ (rem : Nat) (a : NodeArgs), D a.s → a.alpha < a.beta → PrioOK a →
    ∀ st : St, TTInv K D L nT nB st.tt → TTInv K D L nT nB ((searchNode ctx rem a).run.run st).2.tt ∧
      ∀ r, ((searchNode ctx rem a).run.run st).1 = .ok r → SoundVal a.s a.alpha a.beta r := by
  intro rem a hD hab hprio st hst
  have h := Env.searchNodeE_sound g dom (Env.soundSpec_rely (env := Env.empty) g dom fun _ _ h => nomatch h) ctx hK
    rem a hD hab hprio 0 st hst
  have he : _ = (searchNode ctx rem a).run.run st := Env.searchNodeE_empty ctx rem a 0 st
  rw [← he]
  exact ⟨h.same (fun _ h => h), fun r hr => (h.ok hr).2⟩

end Wee.C06
