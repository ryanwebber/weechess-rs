import Wee.Proofs.EnvSound
import Wee.Proofs.MateRoot
import Wee.Proofs.SearchLemmas
import Wee.Proofs.SearchCtlSafe
/-!
# One worker in an environment: C03, C04, C06

What one run of `runWorkerE` keeps in ANY environment whose batches are admissible, and that its own inserts are
admissible — the two halves the rely/guarantee induction (`Wee/Proofs/Histories.lean`) asks of every worker — for C03
(`runWorkerE_legal`, from `Search.keeps_walk`), C04 (`runWorkerE_safe`) and C06 (`runWorkerE_sound`, from
`searchNodeE_sound`).  Each is the generic induction `searchNodeE_walk` or `HoldsE` at one specification.  The poll bound
(`searchNodeE_stop_bound`) needs no hypothesis on the environment.
-/
namespace Wee.Env
open Wee.Search

/-! ## 1. the root call (`rootArgsE`, `runWorkerE_eq`); C03 in an environment: the table invariant `TInv`, every store a legal insert -/

section legal
open Wee.C10 (DisjointBoard)

/-- an insert of the kind the search performs: key = hash of a position of the region, move legal there -/
def _root_.Wee.LegalInsert (K : Keys) (R : State → Prop) (k : Nat) (e : TT.Entry) : Prop :=
  ∃ s m, R s ∧ k = (hash K s).toNat ∧ LegalIn s m ∧ e.mv = m.toNat

theorem legal_insertG {G : Nat → State → Prop} (hG : Graded G) (D : Nat) (ctx : Ctx) (I : St → Prop) :
    InsertG ctx (Spec.inv I (LegalInsert ctx.keys (upTo G D))) (KeepN G D) := by
  intro rem a pseudo mv m next kind ev hN _ hp hmv ht
  have hr := hN.mem hG hp hmv ht
  obtain ⟨⟨k, hk, hle⟩, _⟩ := hN
  exact ⟨a.s, m, ⟨k, by omega, hk⟩, rfl, ⟨(m, next), hr, rfl⟩, rfl⟩

/-- the C03 specification of a worker: it keeps `TInv`, and its inserts are `LegalInsert`s -/
def legalSpec (K : Keys) (R : State → Prop) : Spec := Spec.inv (fun st => TInv K R st.tt) (LegalInsert K R)

theorem TInv_legalIns {K : Keys} {R : State → Prop} (hcf : CollisionFree K R) (tt : TT.Access) (k : Nat) (e : TT.Entry)
    (h : TInv K R tt) (ha : LegalInsert K R k e) : TInv K R (tt.insert k e) := by
  obtain ⟨s, m, hs, rfl, hm, he⟩ := ha
  exact insOK_TInv hcf s hs tt m e h hm he

/-- rely of C03: an environment of legal inserts keeps `TInv` -/
theorem legalSpec_rely {K : Keys} {R : State → Prop} (hcf : CollisionFree K R) {env : Env}
    (hadm : ∀ j, ∀ p ∈ env.script j, LegalInsert K R p.1 p.2) : Rely (legalSpec K R) env :=
  fun _ j hi => applyInserts_inv (P := TInv K R) (TInv_legalIns hcf) _ _ hi (hadm j)

/-- the arguments of a worker's root call (used by all three sections): the root at depth 0 with the full window
`(-mate_in_ply(0), mate_in_ply(0))`, the worker's depth and handed-over best move -/
def rootArgsE (root : State) (w : Worker) : NodeArgs :=
  { s := root, maxDepth := w.searchDepth, curDepth := 0, curExt := 0,
    alpha := - Ev.mateInPly 0, beta := Ev.mateInPly 0, prioritized := w.best }

/-- a worker's run is that root call, from its own generator and poll count and a node counter at 0 -/
theorem runWorkerE_eq (env : Env) (ctx : Ctx) (root : State) (w : Worker) (tt : TT.Access) :
    runWorkerE env ctx root w tt =
      searchNodeE env ctx w.searchDepth (rootArgsE root w) 0 { tt, rng := w.rng, nodes := 0, polls := w.polls } := rfl

/-- **one worker, C03** (rely ⇒ guarantee): in an environment of legal inserts, started on a table satisfying `TInv`,
the worker ends — normally, interrupted or with a panic — on a table satisfying `TInv`, and all its own inserts are
legal inserts -/
theorem runWorkerE_legal {G : Nat → State → Prop} (hG : Graded G) (D : Nat) (ctx : Ctx)
    (hcf : CollisionFree ctx.keys (upTo G D)) (root : State) (hroot : G 0 root) (env : Env)
    (hadm : ∀ j, ∀ p ∈ env.script j, LegalInsert ctx.keys (upTo G D) p.1 p.2)
    (w : Worker) (hsd : w.searchDepth ≤ D) (hbest : ∀ m, w.best = some m → LegalIn root m)
    (tt : TT.Access) (htt : TInv ctx.keys (upTo G D) tt) :
    TInv ctx.keys (upTo G D) (runWorkerE env ctx root w tt).2.1.tt ∧
    LogOK (LegalInsert ctx.keys (upTo G D)) (runWorkerE env ctx root w tt).2.2 := by
  rw [runWorkerE_eq]
  have h := searchNodeE_walk (V := legalSpec ctx.keys (upTo G D)) (N := KeepN G D)
    (keeps_walk hG D ctx (fun s hs => insOK_TInv hcf s hs)) (legalSpec_rely hcf hadm)
    (legal_insertG hG D ctx _) w.searchDepth (rootArgsE root w) ⟨⟨0, hroot, by omega⟩, hbest⟩
    0 { tt, rng := w.rng, nodes := 0, polls := w.polls } htt
  exact ⟨h.same (fun _ h => h), h.log⟩

end legal

/-! ## 2. C04 in an environment: no panic, the poll bound -/

section safe
open Wee.SearchCtl
open Wee.C10 (DisjointBoard)

/-- the C04 specification of a worker: `SafeI` is kept, the only outcome thrown is the interrupt -/
def safeSpec (ctx : Ctx) (root : State) (nT nB : Nat) : Spec :=
  { I := SafeI ctx root nT nB, J := SafeI ctx root nT nB, A := fun e => e = .interrupt, G := SafeInsert ctx root }

theorem safeSpec_rely {ctx : Ctx} {root : State} {nT nB : Nat} (hT : 0 < nT) (hB : 0 < nB) {env : Env}
    (hadm : ∀ j, ∀ p ∈ env.script j, SafeInsert ctx root p.1 p.2) : Rely (safeSpec ctx root nT nB) env :=
  fun _ j hi => applyInserts_inv
    (P := SafeT ctx root nT nB) (SafeI_safeInsert hT hB) _ _ hi (hadm j)

theorem safe_insertG (ctx : Ctx) (root : State) (nT nB : Nat)
    (hhist : ctx.history.contains (Wee.hash ctx.keys root) = true) :
    InsertG ctx (safeSpec ctx root nT nB) (SafeN root) := by
  intro rem a pseudo mv m next kind ev hN hcut hp hmv ht
  exact hN.stored hhist hcut hp hmv ht kind ev

/-- **one worker, C04** (rely ⇒ guarantee): in an environment of safe inserts the worker does not panic, keeps `SafeI`,
and performs only safe inserts -/
theorem runWorkerE_safe (ctx : Ctx) (root : State) (nT nB : Nat) (hT : 0 < nT) (hB : 0 < nB)
    (hhist : ctx.history.contains (Wee.hash ctx.keys root) = true) (hg : Good root) (env : Env)
    (hadm : ∀ j, ∀ p ∈ env.script j, SafeInsert ctx root p.1 p.2)
    (w : Worker) (hb : BestOK root w.best) (tt : TT.Access)
    (hI : SafeT ctx root nT nB tt) :
    (∀ why, (runWorkerE env ctx root w tt).1 ≠ .error (.panic why)) ∧
    SafeI ctx root nT nB (runWorkerE env ctx root w tt).2.1 ∧
    LogOK (SafeInsert ctx root) (runWorkerE env ctx root w tt).2.2 := by
  rw [runWorkerE_eq]
  have hN : SafeN root w.searchDepth (rootArgsE root w) :=
    ⟨by unfold RemInv rootArgsE; simp, hg, fun _ => rfl, fun m hm => ⟨rfl, hb m hm⟩⟩
  have h := searchNodeE_walk (V := safeSpec ctx root nT nB) (N := SafeN root)
    (safe_walk ctx root nT nB hT hB hhist) (safeSpec_rely hT hB hadm)
    (safe_insertG ctx root nT nB hhist) w.searchDepth (rootArgsE root w) hN
    0 { tt, rng := w.rng, nodes := 0, polls := w.polls } hI
  refine ⟨fun why he => ?_, h.same (fun _ h => h), h.log⟩
  have := h.allowed he
  cases this

/-- **the poll bound in an environment** (no hypothesis on the environment at all): once `Stop` is visible to the polls
a worker node is interrupted exactly at the next multiple of the poll interval of its node counter or ends before it -/
theorem searchNodeE_stop_bound (env : Env) (ctx : Ctx) (k : Nat) (hk : ctx.cancelAt = some k) (rem : Nat)
    (a : NodeArgs) (n : Nat) (st : St) (hp : k ≤ st.polls) :
    PostE { I := StopI k (st.nodes / Gen.pollInterval) st.nodes, J := StopJ (st.nodes / Gen.pollInterval),
            A := fun _ => True, G := fun _ _ => True } (fun _ : Eval => True) (searchNodeE env ctx rem a n st) :=
  searchNodeE_walk (N := fun _ _ => True) (stop_walk ctx k hk _ _) (fun _ _ h => h)
    (fun _ _ _ _ _ _ _ _ _ _ _ _ _ => trivial) rem a trivial n st ⟨hp, rfl, Nat.le_refl _⟩

end safe

/-! ## 3. C06: one worker of an iteration -/

section soundWorker
open Wee.C06 Wee.Outcome

/-- **one worker, C06** (rely ⇒ guarantee): in an environment of sound inserts, started on a sound table, the worker
ends — normally, interrupted or with a panic — on a sound table, all its own inserts are sound inserts, and a returned
value is `SoundVal` for the root window `(-11000, 11000)` -/
theorem runWorkerE_sound {K : Keys} {D : State → Prop} {L nT nB : Nat} (g : Geo L nT nB) (dom : Domain K D)
    (ctx : Ctx) (hK : ctx.keys = K) (root : State) (hD : D root) (env : Env)
    (hadm : ∀ j, ∀ p ∈ env.script j, SoundInsert K D p.1 p.2)
    (w : Worker) (hbest : C06.BestOK root w.best) (tt : TT.Access) (htt : C06.TTInv K D L nT nB tt) :
    C06.TTInv K D L nT nB (runWorkerE env ctx root w tt).2.1.tt ∧
    LogOK (SoundInsert K D) (runWorkerE env ctx root w tt).2.2 ∧
    ∀ e, (runWorkerE env ctx root w tt).1 = .ok e → SoundVal root (-11000) 11000 e := by
  rw [runWorkerE_eq]
  have h := searchNodeE_sound g dom (soundSpec_rely g dom hadm) ctx hK w.searchDepth (rootArgsE root w) hD
    (show - Ev.mateInPly 0 < Ev.mateInPly 0 by decide) hbest
    0 { tt, rng := w.rng, nodes := 0, polls := w.polls } htt
  refine ⟨h.same (fun _ h => h), h.log, fun e he => ?_⟩
  have := (h.ok he).2
  have hw := root_window
  show SoundVal (rootArgsE root w).s (-11000) 11000 e
  rw [← hw.1, ← hw.2]
  exact this

end soundWorker

end Wee.Env
