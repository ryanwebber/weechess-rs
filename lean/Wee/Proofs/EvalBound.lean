import Wee.Proofs.EvalLemmas
/-!
# The coupled material / positional bound of the evaluator (C05 non-terminal clause, C06 `TreeBounded`)

`Evaluation * f32` for a weight in `[0, 1]` is within one unit of the exact product.  The end-game weight is a function
`egwK k` of the single number `k = 6·pawns + 16·queens + occupied squares`; its sign and size follow from enclosing its
two roundings between grid points.  Piece-square values are exact for every piece but the king, whose value has two
regimes.  `squares_kingedge` turns all this into facts about integers (`Regime`, over the piece counts `Census` of the
two sides), from which the coupled bound (score ≤ 0.95·material + 1450) and the term-by-term bound under the promotion
potential are arithmetic.  (That the promotion potential never grows along a move is `Proofs/PieceCounts.lean`.)

The final integer arithmetic is `omega` throughout, but always inside small stand-alone lemmas over variables: with the
whole context of a position in scope `omega` has all its hypotheses to read and is far slower on the same goals.
-/
namespace Wee.Ev
open F32

/-- `Evaluation(e) * (n/d)` for a weight `0 ≤ n/d ≤ 1`: the result is strictly within one unit of the exact product
`n·e/d` (no rounding artefact can cross an integer). -/
theorem mulF_mkRat_bounds (e : Int) (n : Int) (d : Nat) (hd : 0 < d) (hn0 : 0 ≤ n) (hnd : n ≤ d)
    (he : e.natAbs < 8388608) :
    n * e - d < d * mulF e (mkRat n d) ∧ d * mulF e (mkRat n d) < n * e + d := by
  have hdq : (0 : Rat) < (d : Rat) := Rat.natCast_pos.2 hd
  have hw : mkRat n d = (n : Rat) / (d : Rat) := Rat.mkRat_eq_div ..
  rw [hw]
  generalize hwv : (n : Rat) / (d : Rat) = w
  have hwd : w * (d : Rat) = (n : Rat) := by rw [← hwv]; exact Rat.div_mul_cancel (by grind)
  have hn0q : ((0 : Int) : Rat) ≤ (n : Rat) := Rat.intCast_le_intCast.2 hn0
  have hndq : (n : Rat) ≤ ((d : Int) : Rat) := Rat.intCast_le_intCast.2 hnd
  rw [Rat.intCast_natCast] at hndq
  have hw01 : Btw (-1) 1 w := by
    constructor
    · apply Decidable.byContradiction; intro hc
      have : w * (d : Rat) < 0 * (d : Rat) := Rat.mul_lt_mul_of_pos_right (by simp at hc; grind) hdq
      simp at hn0q; grind
    · apply Decidable.byContradiction; intro hc
      have : 1 * (d : Rat) < w * (d : Rat) := Rat.mul_lt_mul_of_pos_right (by simp at hc; grind) hdq
      grind
  obtain ⟨hL, hU⟩ := mulF_floor_ceil he hw01
  generalize hqv : (e : Rat) * w = q at hL hU
  have hf := Rat.lt_floor_add_one q
  have hc : (q.ceil : Rat) < q + 1 := Rat.ceil_lt
  rw [Rat.intCast_add] at hf
  generalize mulF e w = m at hU hL
  have hUq : (m : Rat) ≤ (q.ceil : Rat) := Rat.intCast_le_intCast.2 hU
  have hLq : (q.floor : Rat) ≤ (m : Rat) := Rat.intCast_le_intCast.2 hL
  have hqd : q * (d : Rat) = (n : Rat) * (e : Rat) := by rw [← hqv, Rat.mul_assoc, hwd]; grind
  have u1 : (m : Rat) * (d : Rat) < (q + 1) * (d : Rat) := Rat.mul_lt_mul_of_pos_right (by grind) hdq
  have u2 : (q - 1) * (d : Rat) < (m : Rat) * (d : Rat) := Rat.mul_lt_mul_of_pos_right (by simp at hf; grind) hdq
  constructor
  · apply Rat.intCast_lt_intCast.1
    rw [Rat.intCast_sub, Rat.intCast_mul, Rat.intCast_mul, Rat.intCast_natCast]
    grind
  · apply Rat.intCast_lt_intCast.1
    rw [Rat.intCast_add, Rat.intCast_mul, Rat.intCast_mul, Rat.intCast_natCast]
    grind

end Wee.Ev

/-! ## the end-game weight is a function of `6·pawns + 16·queens + occupied` -/
namespace Wee
open Gen

def egwK (k : Nat) : Rat := F32.sub 1 (F32.div ((k : Rat) / 32) 5)

/-- the multiples of `1/32` below 32 are representable: an operation whose exact result `x` is one of them returns it -/
theorem r32 {x : Rat} {m : Nat} (h : m < 1024) (hx : x = (m : Rat) / 32) : F32.round32 x = (m : Rat) / 32 := by
  have h5 : F32.pow2 (-((5 : Nat) : Int)) = 1 / 32 := by decide +kernel
  have := F32.round32_grid (F32.Grid.dyadic (B := (m : Int)) 5 h5 (by omega) (by decide))
  rw [Rat.intCast_natCast] at this
  rw [hx, show (m : Rat) / 32 = (m : Rat) * (1 / 32) by grind]
  exact this

theorem egwF_eq (P Q O : Nat) (hP : P ≤ 32) (hQ : Q ≤ 32) (hO : O ≤ 64) :
    egwF P Q O = egwK (6 * P + 16 * Q + O) := by
  obtain ⟨w1, w2, w3, d1, d2, d3, hden⟩ := egConsts
  unfold egwF egwK
  rw [hden]
  simp only [w1, w2, w3, d1, d2, d3]
  rw [F32.ofInt_exact (by omega) (by omega), F32.ofInt_exact (by omega) (by omega), F32.ofInt_exact (by omega) (by omega)]
  simp only [Rat.intCast_natCast]
  have e1 : F32.div (P : Rat) 16 = ((2 * P : Nat) : Rat) / 32 :=
    r32 (by omega) (by rw [Rat.natCast_mul]; grind)
  have e2 : F32.div (Q : Rat) 2 = ((16 * Q : Nat) : Rat) / 32 :=
    r32 (by omega) (by rw [Rat.natCast_mul]; grind)
  have e3 : F32.div (O : Rat) 32 = (O : Rat) / 32 := r32 (by omega) rfl
  rw [e1, e2, e3]
  have m1 : F32.mul 3 (((2 * P : Nat) : Rat) / 32) = ((6 * P : Nat) : Rat) / 32 :=
    r32 (by omega) (by rw [Rat.natCast_mul, Rat.natCast_mul]; grind)
  have m2 : F32.mul 1 (((16 * Q : Nat) : Rat) / 32) = ((16 * Q : Nat) : Rat) / 32 :=
    r32 (by omega) (Rat.one_mul _)
  have m3 : F32.mul 1 ((O : Rat) / 32) = (O : Rat) / 32 := r32 (by omega) (Rat.one_mul _)
  rw [m1, m2, m3]
  have a1 : F32.add (((6 * P : Nat) : Rat) / 32) (((16 * Q : Nat) : Rat) / 32) = ((6 * P + 16 * Q : Nat) : Rat) / 32 :=
    r32 (by omega) (by rw [Rat.natCast_add]; grind)
  have a2 : F32.add (((6 * P + 16 * Q : Nat) : Rat) / 32) ((O : Rat) / 32) = ((6 * P + 16 * Q + O : Nat) : Rat) / 32 :=
    r32 (by omega) (by rw [Rat.natCast_add (6 * P + 16 * Q) O]; grind)
  rw [a1, a2]

open F32

/-- what is needed of the end-game weight as a function of `k = 6·pawns + 16·queens + occupied`.
`egwK k = round32 (1 - round32 (k/160))`: both roundings are enclosed between neighbouring points of a dyadic grid
(`round32_le_grid`, `grid_le_round32`), the grid `2^-8` for the threshold `3/4`, `2^-13` for the error bound -/
theorem egwK_facts {k : Nat} (h : k ≤ 512) :
    egwK k ≤ 1 ∧ (0 < egwK k → k < 160) ∧ 1 - ((k : Rat) + 1) / 160 ≤ egwK k ∧ (3 / 4 ≤ egwK k → k ≤ 40) := by
  have p8 : pow2 (-((8 : Nat) : Int)) = 1 / 256 := by decide +kernel
  have p13 : pow2 (-((13 : Nat) : Int)) = 1 / 8192 := by decide +kernel
  have hk0 : (0 : Rat) ≤ (k : Rat) := Rat.natCast_nonneg
  have hk512 : (k : Rat) ≤ 512 := by have := Rat.natCast_le_natCast.2 h; simpa using this
  unfold egwK F32.sub F32.div
  generalize hx : (k : Rat) / 32 / 5 = x
  have hx0 : 0 ≤ x := by grind
  have hx4 : x ≤ 4 := by grind
  have hr : Btw 0 4 (round32 x) := Btw.round32 ⟨by simpa using hx0, by simpa using hx4⟩ (by decide) (by decide)
  generalize hrx : round32 x = r at *
  have hr0 : 0 ≤ r := by simpa using hr.1
  have hr4 : r ≤ 4 := by simpa using hr.2
  refine ⟨?_, fun hpos => ?_, ?_, fun h34 => ?_⟩
  · have := round32_le_grid (q := 1 - r) (.intCast (i := 1) (by decide)) (by simp; grind)
    simpa using this
  · apply Decidable.byContradiction; intro hc
    have hk : (160 : Rat) ≤ (k : Rat) := by
      have := Rat.natCast_le_natCast.2 (show 160 ≤ k by omega); simpa using this
    have hr1 := grid_le_round32 (q := x) (.intCast (i := 1) (by decide)) (by simp; grind)
    rw [hrx] at hr1
    have := round32_nonpos (q := 1 - r) (by simp at hr1; grind)
    grind
  · -- `x` rounded up to the grid `2^-13`, `1 - r` rounded down: two grid steps are less than `1/160`
    have hc1 : x * 8192 ≤ ((x * 8192).ceil : Rat) := Rat.le_ceil
    have hc2 : ((x * 8192).ceil : Rat) < x * 8192 + 1 := Rat.ceil_lt
    generalize (x * 8192).ceil = a at *
    have ha : -1 < a ∧ a < 32770 := by
      have a1 : ((-1 : Int) : Rat) < (a : Rat) := by simp; grind
      have a2 : (a : Rat) < ((32770 : Int) : Rat) := by simp; grind
      exact ⟨Rat.intCast_lt_intCast.1 a1, Rat.intCast_lt_intCast.1 a2⟩
    have u := round32_le_grid (q := x) (Grid.dyadic (B := a) 13 p13 (by omega) (by decide)) (by grind)
    rw [hrx] at u
    have l := grid_le_round32 (q := 1 - r) (Grid.dyadic (B := 8192 - a) 13 p13 (by omega) (by decide))
      (by rw [Rat.intCast_sub]; simp; grind)
    rw [Rat.intCast_sub] at l
    simp at l
    grind
  · apply Decidable.byContradiction; intro hc
    have hk : (41 : Rat) ≤ (k : Rat) := by
      have := Rat.natCast_le_natCast.2 (show 41 ≤ k by omega); simpa using this
    have l := grid_le_round32 (q := x) (Grid.dyadic (B := 65) 8 p8 (by decide) (by decide)) (by simp; grind)
    rw [hrx] at l
    have u := round32_le_grid (q := 1 - r) (Grid.dyadic (B := 191) 8 p8 (by decide) (by decide))
      (by simp at l ⊢; grind)
    simp at u
    grind

/-! ## piece-square values -/

/-- the arithmetic core of `evaluate_piece_square`: the `f32` lerp, cast back to `i32`, stays between any two
integers that enclose the exact value `(e2 - e1)·w + e1` -/
theorem psq_core {e1 e2 : Int} {w : Rat} {L H : Int} (h1 : e1.natAbs ≤ 1000) (h2 : e2.natAbs ≤ 1000)
    (hL' : L.natAbs ≤ 1000000) (hH' : H.natAbs ≤ 1000000)
    (hL : (L : Rat) ≤ ((e2 - e1 : Int) : Rat) * w + (e1 : Rat))
    (hH : ((e2 - e1 : Int) : Rat) * w + (e1 : Rat) ≤ (H : Rat)) :
    L ≤ toI32 (add (mul (sub (ofInt e2) (ofInt e1)) w) (ofInt e1)) ∧
    toI32 (add (mul (sub (ofInt e2) (ofInt e1)) w) (ofInt e1)) ≤ H := by
  rw [ofInt_exact (i := e1) (by omega) (by omega), ofInt_exact (i := e2) (by omega) (by omega)]
  have hs : sub (e2 : Rat) (e1 : Rat) = ((e2 - e1 : Int) : Rat) := by
    unfold sub; rw [← Rat.intCast_sub]; exact round32_grid (.intCast (by omega))
  rw [hs]
  have hx : Btw (L - e1) (H - e1) (((e2 - e1 : Int) : Rat) * w) := by
    unfold Btw; rw [Rat.intCast_sub, Rat.intCast_sub]; exact ⟨by grind, by grind⟩
  have hm := (hx.round32 (by omega) (by omega)).add (Btw.intCast (Int.le_refl e1) (Int.le_refl e1))
  exact ((hm.mono (L' := L) (H' := H) (by omega) (by omega)).round32 (by omega) (by omega)).toI32 (by omega) (by omega)

/-- a piece whose middle-game and end-game tables coincide scores its table entry, whatever the weight -/
theorem pieceSquare_same (p : Piece) (sq : Nat) (c : Color) (w : Rat)
    (hsame : (pieceSquareMap.getD p.code (#[], #[])).2 = (pieceSquareMap.getD p.code (#[], #[])).1) :
    pieceSquare p sq c w = (pieceSquareMap.getD p.code (#[], #[])).1.getD (psqIndex sq c) 0 := by
  rw [pieceSquare_eq, hsame]
  obtain ⟨⟨a1, a2⟩, _⟩ := pieceSquareMap_bounds p (psqIndex sq c)
  generalize (pieceSquareMap.getD p.code (#[], #[])).1.getD (psqIndex sq c) 0 = e at *
  have := psq_core (e1 := e) (e2 := e) (w := w) (L := e) (H := e) (by omega) (by omega) (by omega) (by omega)
    (by rw [Int.sub_self]; simp; grind) (by rw [Int.sub_self]; simp; grind)
  exact Int.le_antisymm this.2 this.1

/-- extreme table entries per piece kind (from the mover's side of the board) -/
theorem pieceSquare_kind_bounds (sq : Nat) (c : Color) (w : Rat) :
    (-20 ≤ pieceSquare .pawn sq c w ∧ pieceSquare .pawn sq c w ≤ 50) ∧
    (-50 ≤ pieceSquare .knight sq c w ∧ pieceSquare .knight sq c w ≤ 20) ∧
    (-20 ≤ pieceSquare .bishop sq c w ∧ pieceSquare .bishop sq c w ≤ 10) ∧
    (-5 ≤ pieceSquare .rook sq c w ∧ pieceSquare .rook sq c w ≤ 10) ∧
    (-20 ≤ pieceSquare .queen sq c w ∧ pieceSquare .queen sq c w ≤ 5) := by
  rw [pieceSquare_same .pawn sq c w rfl, pieceSquare_same .knight sq c w rfl, pieceSquare_same .bishop sq c w rfl,
    pieceSquare_same .rook sq c w rfl, pieceSquare_same .queen sq c w rfl]
  exact ⟨array_getD_bounds PAWN_MAP (-20) 50 (by decide) (by decide) (by decide) _,
    array_getD_bounds KNIGHT_MAP (-50) 20 (by decide) (by decide) (by decide) _,
    array_getD_bounds BISHOP_MAP (-20) 10 (by decide) (by decide) (by decide) _,
    array_getD_bounds ROOK_MAP (-5) 10 (by decide) (by decide) (by decide) _,
    array_getD_bounds QUEEN_MAP (-20) 5 (by decide) (by decide) (by decide) _⟩


/-- the two king tables: ranges, and range of "middle-game minus end-game" square by square -/
theorem king_tables (i : Nat) :
    -50 ≤ KING_MIDDLE_GAME_MAP.getD i 0 ∧ KING_MIDDLE_GAME_MAP.getD i 0 ≤ 30 ∧
    -50 ≤ KING_END_GAME_MAP.getD i 0 ∧ KING_END_GAME_MAP.getD i 0 ≤ 40 ∧
    -90 ≤ KING_MIDDLE_GAME_MAP.getD i 0 - KING_END_GAME_MAP.getD i 0 ∧
    KING_MIDDLE_GAME_MAP.getD i 0 - KING_END_GAME_MAP.getD i 0 ≤ 70 := by
  by_cases h : i < 64
  · exact (by decide +kernel : ∀ j : Fin 64,
      -50 ≤ KING_MIDDLE_GAME_MAP.getD j.val 0 ∧ KING_MIDDLE_GAME_MAP.getD j.val 0 ≤ 30 ∧
      -50 ≤ KING_END_GAME_MAP.getD j.val 0 ∧ KING_END_GAME_MAP.getD j.val 0 ≤ 40 ∧
      -90 ≤ KING_MIDDLE_GAME_MAP.getD j.val 0 - KING_END_GAME_MAP.getD j.val 0 ∧
      KING_MIDDLE_GAME_MAP.getD j.val 0 - KING_END_GAME_MAP.getD j.val 0 ≤ 70) ⟨i, h⟩
  · have s1 : KING_MIDDLE_GAME_MAP.size = 64 := rfl
    have s2 : KING_END_GAME_MAP.size = 64 := rfl
    rw [Array.getD_eq_getD_getElem?, Array.getD_eq_getD_getElem?,
      Array.getElem?_eq_none (by omega), Array.getElem?_eq_none (by omega)]
    simp

theorem pieceSquare_king_eq (sq : Nat) (c : Color) (w : Rat) :
    pieceSquare .king sq c w =
      toI32 (add (mul (sub (ofInt (KING_END_GAME_MAP.getD (psqIndex sq c) 0))
        (ofInt (KING_MIDDLE_GAME_MAP.getD (psqIndex sq c) 0))) w)
        (ofInt (KING_MIDDLE_GAME_MAP.getD (psqIndex sq c) 0))) := rfl

/-- king, end-game weight in `[0, 1]`: a convex combination of the two tables -/
theorem pieceSquare_king_A (sq : Nat) (c : Color) {w : Rat} (h0 : 0 ≤ w) (h1 : w ≤ 1) :
    -50 ≤ pieceSquare .king sq c w ∧ pieceSquare .king sq c w ≤ 40 := by
  rw [pieceSquare_king_eq]
  obtain ⟨a1, a2, b1, b2, _, _⟩ := king_tables (psqIndex sq c)
  generalize KING_MIDDLE_GAME_MAP.getD (psqIndex sq c) 0 = e1 at *
  generalize KING_END_GAME_MAP.getD (psqIndex sq c) 0 = e2 at *
  have q1 : (-50 : Rat) ≤ (e1 : Rat) := by have := Rat.intCast_le_intCast.2 a1; simpa using this
  have q2 : (e1 : Rat) ≤ 40 := by have := Rat.intCast_le_intCast.2 (show e1 ≤ 40 by omega); simpa using this
  have q3 : (-50 : Rat) ≤ (e2 : Rat) := by have := Rat.intCast_le_intCast.2 b1; simpa using this
  have q4 : (e2 : Rat) ≤ 40 := by have := Rat.intCast_le_intCast.2 b2; simpa using this
  have p1 := Rat.mul_le_mul_of_nonneg_left q4 h0
  have p2 := Rat.mul_le_mul_of_nonneg_left q3 h0
  have p3 := Rat.mul_le_mul_of_nonneg_left q2 (show (0 : Rat) ≤ 1 - w by grind)
  have p4 := Rat.mul_le_mul_of_nonneg_left q1 (show (0 : Rat) ≤ 1 - w by grind)
  have := psq_core (e1 := e1) (e2 := e2) (w := w) (L := -50) (H := 40) (by omega) (by omega) (by omega) (by omega)
    (by rw [Rat.intCast_sub]; simp; grind) (by rw [Rat.intCast_sub]; simp; grind)
  exact this

/-- king, end-game weight `w ≤ 0` (160 or more units of `6·pawns + 16·queens + occupied` on the board; `egwK 160 = 0`):
the lerp extrapolates beyond the middle-game table by `-w` times "middle-game minus end-game" -/
theorem pieceSquare_king_B (sq : Nat) (c : Color) {w : Rat} (h0 : w ≤ 0) {L H : Int}
    (hL' : L.natAbs ≤ 1000000) (hH' : H.natAbs ≤ 1000000)
    (hL : (L : Rat) ≤ -50 + 90 * w) (hH : 30 - 70 * w ≤ (H : Rat)) :
    L ≤ pieceSquare .king sq c w ∧ pieceSquare .king sq c w ≤ H := by
  rw [pieceSquare_king_eq]
  obtain ⟨a1, a2, _, _, d1, d2⟩ := king_tables (psqIndex sq c)
  generalize KING_MIDDLE_GAME_MAP.getD (psqIndex sq c) 0 = e1 at *
  generalize KING_END_GAME_MAP.getD (psqIndex sq c) 0 = e2 at *
  have q1 : (-50 : Rat) ≤ (e1 : Rat) := by have := Rat.intCast_le_intCast.2 a1; simpa using this
  have q2 : (e1 : Rat) ≤ 30 := by have := Rat.intCast_le_intCast.2 a2; simpa using this
  have q3 : (-90 : Rat) ≤ (e1 : Rat) - (e2 : Rat) := by
    have := Rat.intCast_le_intCast.2 d1; rw [Rat.intCast_sub] at this; simpa using this
  have q4 : (e1 : Rat) - (e2 : Rat) ≤ 70 := by
    have := Rat.intCast_le_intCast.2 d2; rw [Rat.intCast_sub] at this; simpa using this
  have p1 := Rat.mul_le_mul_of_nonneg_left q4 (show (0 : Rat) ≤ -w by grind)
  have p2 := Rat.mul_le_mul_of_nonneg_left q3 (show (0 : Rat) ≤ -w by grind)
  exact psq_core (e1 := e1) (e2 := e2) (w := w) (L := L) (H := H) (by omega) (by omega) hL' hH'
    (by rw [Rat.intCast_sub]; grind) (by rw [Rat.intCast_sub]; grind)


/-! ## the piece-square term through piece counts -/

/-- `evaluate_piece_squares` of one side between the per-kind extremes times the piece counts, the king between
any bounds `KL ≤ · ≤ KH` valid for the position's end-game weight -/
theorem evalSquares_count_bounds (v : Variation) (c : Color) (KL KH : Int)
    (hking : ∀ sq, KL ≤ pieceSquare .king sq c v.egw ∧ pieceSquare .king sq c v.egw ≤ KH)
    (hK : pieceCount v.s c .king = 1) :
    -20 * (pieceCount v.s c .pawn : Int) - 50 * (pieceCount v.s c .knight : Int) - 20 * (pieceCount v.s c .bishop : Int)
      - 5 * (pieceCount v.s c .rook : Int) - 20 * (pieceCount v.s c .queen : Int) + KL ≤ evalSquares v c ∧
    evalSquares v c ≤ 50 * (pieceCount v.s c .pawn : Int) + 20 * (pieceCount v.s c .knight : Int)
      + 10 * (pieceCount v.s c .bishop : Int) + 10 * (pieceCount v.s c .rook : Int) + 5 * (pieceCount v.s c .queen : Int) + KH := by
  have hb := foldl_bounds
    (fun acc p => (bitsOf (v.s.pieces.get c p)).foldl (fun acc sq => acc + pieceSquare p sq c v.egw) acc)
    (fun p => (match p with | .pawn => -20 | .knight => -50 | .bishop => -20 | .rook => -5 | .queen => -20 | .king => KL | .none => 0)
      * ((bitsOf (v.s.pieces.get c p)).length : Int))
    (fun p => (match p with | .pawn => 50 | .knight => 20 | .bishop => 10 | .rook => 10 | .queen => 5 | .king => KH | .none => 0)
      * ((bitsOf (v.s.pieces.get c p)).length : Int))
    Piece.all 0 (fun acc p hp => foldl_add_bounds (fun sq => pieceSquare p sq c v.egw) _ _ _ acc fun sq _ => by
      obtain ⟨b1, b2, b3, b4, b5⟩ := pieceSquare_kind_bounds sq c v.egw
      cases p with
      | pawn => exact b1
      | knight => exact b2
      | bishop => exact b3
      | rook => exact b4
      | queen => exact b5
      | king => exact hking sq
      | none => simp [Piece.all] at hp)
  have len : ∀ p, ((bitsOf (v.s.pieces.get c p)).length : Int) = (pieceCount v.s c p : Int) := fun _ => rfl
  simp only [Piece.all, List.map_cons, List.map_nil, List.sum_cons, List.sum_nil, len, hK] at hb
  unfold evalSquares
  simp only [Piece.all]
  obtain ⟨x, y⟩ := hb
  constructor <;> eomega

/-! ## king-to-the-edge, pawn structure, occupancy -/

theorem kingEdgeThreshold_eq : kingEdgeThreshold = 3 / 4 := by decide +kernel

theorem evalKingEdge_ne_zero {v : Variation} {c : Color} (h : evalKingEdge v c ≠ 0) : 3 / 4 ≤ v.egw := by
  apply Decidable.byContradiction
  intro hn
  apply h
  rw [evalKingEdge_eq, if_pos (by rw [kingEdgeThreshold_eq]; grind)]

/-- a side without pawns pays the isolated-file penalty on all eight files and nothing else -/
theorem evalBadPawns_no_pawns (v : Variation) (c : Color) (h : pieceCount v.s c .pawn = 0) :
    evalBadPawns v c = -400 := by
  have hb : v.s.pieces.get c .pawn = 0 := by
    rw [← bitsOf_eq_nil]
    exact List.length_eq_zero_iff.1 h
  rw [evalBadPawns_eq, hb]
  decide +kernel

/-- all men of one colour, as in `StateVariation::color_counts` -/
def men (s : State) (c : Color) : Nat := (Piece.all.map (pieceCount s c)).sum

theorem men_eq (s : State) (c : Color) : men s c =
    pieceCount s c .pawn + pieceCount s c .knight + pieceCount s c .bishop + pieceCount s c .rook
      + pieceCount s c .queen + pieceCount s c .king := by
  simp only [men, Piece.all, List.map_cons, List.map_nil, List.sum_cons, List.sum_nil]; omega

theorem popcount_colorOcc_le (s : State) (c : Color) : popcount (s.pieces.colorOcc c) ≤ men s c := by
  rw [men_eq]
  unfold PieceMap.colorOcc
  simp only [Piece.all, List.foldl_cons, List.foldl_nil]
  have h1 := popcount_or_le (0 : UInt64) (s.pieces.get c .pawn)
  have h2 := popcount_or_le (0 ||| s.pieces.get c .pawn) (s.pieces.get c .knight)
  have h3 := popcount_or_le (0 ||| s.pieces.get c .pawn ||| s.pieces.get c .knight) (s.pieces.get c .bishop)
  have h4 := popcount_or_le (0 ||| s.pieces.get c .pawn ||| s.pieces.get c .knight ||| s.pieces.get c .bishop)
    (s.pieces.get c .rook)
  have h5 := popcount_or_le (0 ||| s.pieces.get c .pawn ||| s.pieces.get c .knight ||| s.pieces.get c .bishop
    ||| s.pieces.get c .rook) (s.pieces.get c .queen)
  have h6 := popcount_or_le (0 ||| s.pieces.get c .pawn ||| s.pieces.get c .knight ||| s.pieces.get c .bishop
    ||| s.pieces.get c .rook ||| s.pieces.get c .queen) (s.pieces.get c .king)
  rw [popcount_zero] at h1
  unfold pieceCount
  omega

theorem popcount_occ_le (s : State) : popcount s.pieces.occ ≤ men s .white + men s .black := by
  have := popcount_or_le (s.pieces.colorOcc .white) (s.pieces.colorOcc .black)
  have := popcount_colorOcc_le s .white
  have := popcount_colorOcc_le s .black
  unfold PieceMap.occ
  omega


/-! ## all four terms of one position through its piece counts -/

/-- the men of one side by kind, the king left out -/
structure Census where
  P : Nat
  N : Nat
  B : Nat
  R : Nat
  Q : Nat

def census (s : State) (c : Color) : Census :=
  ⟨pieceCount s c .pawn, pieceCount s c .knight, pieceCount s c .bishop, pieceCount s c .rook, pieceCount s c .queen⟩

namespace Census
/-- all men of the side, its one king (`+ 1`) included: `Wee.men` of a state with one king (`men_census`) -/
def men (a : Census) : Nat := a.P + a.N + a.B + a.R + a.Q + 1
/-- `evaluate_piece_worths` of a side with one king -/
def worth (a : Census) : Int := 100 * a.P + 300 * a.N + 350 * a.B + 500 * a.R + 900 * a.Q + 10000
/-- per-kind maxima of the piece-square tables times the counts (king excluded) -/
def sqHi (a : Census) : Int := 50 * a.P + 20 * a.N + 10 * a.B + 10 * a.R + 5 * a.Q
/-- per-kind minima of the piece-square tables times the counts (king excluded) -/
def sqLo (a : Census) : Int := -20 * (a.P : Int) - 50 * a.N - 20 * a.B - 5 * a.R - 20 * a.Q
/-- `6·pawns + 16·queens`: this side's share of the number `k` the end-game weight is a function of (`egwK k`) -/
def kShare (a : Census) : Nat := 6 * a.P + 16 * a.Q
/-- the promotion potential: piece worths with every pawn counted as a queen, the king left out; `Wee.phi` of the
state (`phi_census`) -/
def phi (a : Census) : Nat := 900 * a.P + 300 * a.N + 350 * a.B + 500 * a.R + 900 * a.Q
end Census

/-- **The two regimes**: what the analysis of the `f32` arithmetic delivers about a position seen from one side, as facts
about integers (`a` own men, `b` the opponent's; `SQ`, `KE` the piece-square and king-to-the-edge terms of either side).
There are a number `k` (`= 6·pawns + 16·queens + occupied squares`, which determines the end-game weight) and king
bounds `KL ≤ KH` with: the piece-square term of either side lies between the per-kind extremes plus the king bounds, and
either (A) `k < 160`: the weight is in `(0, 1]`, a king scores in `[-50, 40]`, king-to-the-edge is within `±60` and
vanishes unless `k ≤ 40`; or (B) `k ≥ 159`: the weight is `≤ 0`, king-to-the-edge vanishes, and the king bounds grow
linearly with `k`.  Both bounds of the evaluator are linear arithmetic over this. -/
def Regime (a b : Census) (k : Nat) (KL KH SQa SQb KEa KEb : Int) : Prop :=
  a.kShare + b.kShare ≤ k ∧ k ≤ a.kShare + b.kShare + (a.men + b.men) ∧
  (a.sqLo + KL ≤ SQa ∧ SQa ≤ a.sqHi + KH) ∧ (b.sqLo + KL ≤ SQb ∧ SQb ≤ b.sqHi + KH) ∧
  ((k < 160 ∧ KL = -50 ∧ KH = 40 ∧ (-60 ≤ KEa ∧ KEa ≤ 60) ∧ (-60 ≤ KEb ∧ KEb ≤ 60) ∧
      (KEa ≠ 0 → k ≤ 40) ∧ (KEb ≠ 0 → k ≤ 40)) ∨
   (159 ≤ k ∧ 160 * KH < 4960 + 70 * ((k : Int) - 159) ∧ -8160 - 90 * ((k : Int) - 159) < 160 * KL ∧
      KEa = 0 ∧ KEb = 0))

theorem men_census (s : State) (c : Color) (hk : pieceCount s c .king = 1) : men s c = (census s c).men := by
  rw [men_eq, hk]; rfl

theorem pieceCount_of (s : State) (c : Color) (p : Piece) : pieceCount (Variation.of s).s c p = pieceCount s c p := rfl

theorem evalWorths_census (s : State) (c : Color) (hk : pieceCount s c .king = 1) :
    evalWorths (Variation.of s) c = (census s c).worth := by
  rw [evalWorths_eq]; simp only [pieceCount_of, hk]; rfl

/-- the counts the end-game weight reads, for two sides of at most 16 men and `O` occupied squares -/
theorem Census.k_bounds {a b : Census} {O : Nat} (ha : a.men ≤ 16) (hb : b.men ≤ 16) (hO : O ≤ a.men + b.men) :
    a.P + b.P ≤ 32 ∧ a.Q + b.Q ≤ 32 ∧ O ≤ 64 ∧ 6 * (a.P + b.P) + 16 * (a.Q + b.Q) + O ≤ 512 ∧
    a.kShare + b.kShare ≤ 6 * (a.P + b.P) + 16 * (a.Q + b.Q) + O ∧
    6 * (a.P + b.P) + 16 * (a.Q + b.Q) + O ≤ a.kShare + b.kShare + (a.men + b.men) := by
  unfold Census.men Census.kShare at *; omega

/-- regime B as arithmetic: for a weight `w ≤ 0` with `1 - (k+1)/160 ≤ w`, the integers `KL = ⌊-50 + 90w⌋` and
`KH = ⌈30 - 70w⌉` between which a king then scores (`pieceSquare_king_B`) grow linearly with `k` -/
theorem king_range_B {w : Rat} {k : Nat} (hw0 : w ≤ 0) (hw : 1 - ((k : Rat) + 1) / 160 ≤ w) :
    ∃ KL KH : Int, KL ≤ 0 ∧ 0 ≤ KH ∧ (KL : Rat) ≤ -50 + 90 * w ∧ 30 - 70 * w ≤ (KH : Rat) ∧
      160 * KH < 4960 + 70 * ((k : Int) - 159) ∧ -8160 - 90 * ((k : Int) - 159) < 160 * KL := by
  have c1 : 30 - 70 * w ≤ ((30 - 70 * w).ceil : Rat) := Rat.le_ceil
  have c2 : ((30 - 70 * w).ceil : Rat) < 30 - 70 * w + 1 := Rat.ceil_lt
  have d1 : ((-50 + 90 * w).floor : Rat) ≤ -50 + 90 * w := Rat.floor_le _
  have d2 : -50 + 90 * w < (((-50 + 90 * w).floor + 1 : Int) : Rat) := Rat.lt_floor_add_one _
  rw [Rat.intCast_add] at d2
  simp only [Rat.intCast_ofNat] at d2
  refine ⟨(-50 + 90 * w).floor, (30 - 70 * w).ceil, ?_, ?_, d1, c1, ?_, ?_⟩
  · have : ((-50 + 90 * w).floor : Rat) ≤ ((0 : Int) : Rat) := by simp; grind
    exact Rat.intCast_le_intCast.1 this
  · have : ((0 : Int) : Rat) ≤ ((30 - 70 * w).ceil : Rat) := by simp; grind
    exact Rat.intCast_le_intCast.1 this
  · apply Rat.intCast_lt_intCast.1
    rw [Rat.intCast_add, Rat.intCast_mul, Rat.intCast_mul, Rat.intCast_sub, Rat.intCast_natCast]
    simp only [Rat.intCast_ofNat]
    grind
  · apply Rat.intCast_lt_intCast.1
    rw [Rat.intCast_sub, Rat.intCast_mul, Rat.intCast_mul, Rat.intCast_sub, Rat.intCast_natCast, Rat.intCast_neg]
    simp only [Rat.intCast_ofNat]
    grind

/-- the end-game weight reads both colours alike -/
theorem egw_census (s : State) (c : Color) : (Variation.of s).egw =
    egwF ((census s c).P + (census s c.opp).P) ((census s c).Q + (census s c.opp).Q) (popcount s.pieces.occ) := by
  rw [egw_eq_egwF]
  cases c
  · rfl
  · show egwF _ _ _ = egwF (pieceCount s .black .pawn + pieceCount s .white .pawn)
      (pieceCount s .black .queen + pieceCount s .white .queen) _
    rw [Nat.add_comm (pieceCount s .black .pawn), Nat.add_comm (pieceCount s .black .queen)]

theorem squares_kingedge (s : State) (c : Color) (hk : C05.OneKingEach s) (hmen : ∀ c, men s c ≤ 16) :
    ∃ (k : Nat) (KL KH : Int), Regime (census s c) (census s c.opp) k KL KH
      (evalSquares (Variation.of s) c) (evalSquares (Variation.of s) c.opp)
      (evalKingEdge (Variation.of s) c) (evalKingEdge (Variation.of s) c.opp) := by
  have ha := hmen c; have hb := hmen c.opp
  rw [men_census s c (hk.count c)] at ha; rw [men_census s c.opp (hk.count c.opp)] at hb
  have hocc : popcount s.pieces.occ ≤ (census s c).men + (census s c.opp).men := by
    rw [← men_census s c (hk.count c), ← men_census s c.opp (hk.count c.opp)]
    have := popcount_occ_le s
    cases c <;> simp only [Color.opp] <;> omega
  obtain ⟨b1, b2, b3, hk512, hk1, hk2⟩ := Census.k_bounds ha hb hocc
  have hegw := egw_census s c
  rw [egwF_eq _ _ _ b1 b2 b3] at hegw
  clear b1 b2 b3 hocc
  generalize 6 * ((census s c).P + (census s c.opp).P) + 16 * ((census s c).Q + (census s c.opp).Q)
    + popcount s.pieces.occ = k at *
  refine ⟨k, ?_⟩
  obtain ⟨f1, f2, f3, f4⟩ := egwK_facts hk512
  have sqb : ∀ (KL KH : Int), (∀ c sq, KL ≤ pieceSquare .king sq c (Variation.of s).egw ∧ pieceSquare .king sq c (Variation.of s).egw ≤ KH) →
      ∀ c, (census s c).sqLo + KL ≤ evalSquares (Variation.of s) c ∧ evalSquares (Variation.of s) c ≤ (census s c).sqHi + KH :=
    fun KL KH h c => evalSquares_count_bounds (Variation.of s) c KL KH (h c) (hk.count c)
  by_cases hpos : 0 < egwK k
  · have sq := sqb (-50) 40 fun c sq => by rw [hegw]; exact pieceSquare_king_A sq c (by grind) f1
    have ke : ∀ c, -60 ≤ evalKingEdge (Variation.of s) c ∧ evalKingEdge (Variation.of s) c ≤ 60 := fun c =>
      evalKingEdge_le _ c 1 (by decide) (by rw [hegw]; simp; grind) (by rw [hegw]; simpa using f1)
    have ke0 : ∀ c, evalKingEdge (Variation.of s) c ≠ 0 → k ≤ 40 := fun c hne =>
      f4 (by rw [← hegw]; exact evalKingEdge_ne_zero hne)
    exact ⟨-50, 40, hk1, hk2, sq c, sq c.opp,
      Or.inl ⟨f2 hpos, rfl, rfl, ke c, ke c.opp, ke0 c, ke0 c.opp⟩⟩
  · have hw0 : egwK k ≤ 0 := by grind
    have h159 : 159 ≤ k := by
      apply Decidable.byContradiction; intro hc
      have : ((k : Nat) : Rat) ≤ ((158 : Nat) : Rat) := Rat.natCast_le_natCast.2 (by omega)
      simp at this
      grind
    obtain ⟨KL, KH, hKL0, hKH0, d1, c1, hKH, hKL⟩ := king_range_B hw0 f3
    have sq := sqb KL KH fun c sq => by
      rw [hegw]; exact pieceSquare_king_B sq c hw0 (by omega) (by omega) d1 c1
    have ke : ∀ c, evalKingEdge (Variation.of s) c = 0 := fun c => Decidable.byContradiction fun hne => by
      have := evalKingEdge_ne_zero hne
      rw [hegw] at this
      grind
    exact ⟨KL, KH, hk1, hk2, sq c, sq c.opp, Or.inr ⟨h159, hKH, hKL, ke c, ke c.opp⟩⟩

/-- weight `1.0` is exact -/
theorem mulF_one {e : Int} (he : e.natAbs < 8388608) : Ev.mulF e (mkRat 1 1) = e := by
  have := Ev.mulF_mkRat_bounds e 1 1 (by decide) (by decide) (by decide) he
  eomega

/-- weight `0.8f32`: a value `≤ X` scores at most `(4X+5)/5` -/
theorem mulF_w8 {e : Int} (he : e.natAbs < 8388608) (X : Int) (h1 : e ≤ X) (h2 : X ≤ 100000) :
    5 * Ev.mulF e (mkRat 13421773 16777216) ≤ 4 * X + 5 := by
  have := Ev.mulF_mkRat_bounds e 13421773 16777216 (by decide) (by decide) (by decide) he
  eomega

/-- weight `0.2f32` -/
theorem mulF_w2 {e : Int} (he : e.natAbs < 8388608) (X : Int) (h1 : e ≤ X) (h2 : X ≤ 100000) :
    5 * Ev.mulF e (mkRat 13421773 67108864) ≤ X + 5 := by
  have := Ev.mulF_mkRat_bounds e 13421773 67108864 (by decide) (by decide) (by decide) he
  eomega

/-- the coupled bound as arithmetic over the regimes: `x2`, `x4` are the weighted piece-square and pawn-structure
terms.  Every own man contributes at most `0.8·max(table) + 0.05·worth ≤ 49`, every enemy man at most
`0.8·max(-table) - 0.05·worth ≤ 25`; kings, king-to-the-edge and pawn structure add less than 340 in either regime. -/
theorem Regime.coupled {a b : Census} {k : Nat} {KL KH SQa SQb KEa KEb : Int}
    (h : Regime a b k KL KH SQa SQb KEa KEb) (ha : a.men ≤ 16) (hb : b.men ≤ 16) {x2 x4 : Int}
    (h2 : ∀ X : Int, SQa - SQb ≤ X → X ≤ 100000 → 5 * x2 ≤ 4 * X + 5) (h4 : 5 * x4 ≤ 720 + 5) :
    20 * (0 + (a.worth - b.worth) + x2 + (KEa - KEb) + x4) ≤ 19 * (a.worth - b.worth) + 29000 := by
  obtain ⟨Pa, Na, Ba, Ra, Qa⟩ := a
  obtain ⟨Pb, Nb, Bb, Rb, Qb⟩ := b
  simp only [Regime, Census.men, Census.worth, Census.sqHi, Census.sqLo, Census.kShare] at *
  obtain ⟨hk1, hk2, ⟨_, sa⟩, ⟨sb, _⟩, hreg⟩ := h
  rcases hreg with ⟨hA, rfl, rfl, kea, keb, _, _⟩ | ⟨hB, hKH, hKL, rfl, rfl⟩
  · have := h2 (50 * (Pa : Int) + 20 * Na + 10 * Ba + 10 * Ra + 5 * Qa + 20 * Pb + 50 * Nb + 20 * Bb + 5 * Rb + 20 * Qb + 90)
      (by omega) (by omega)
    omega
  · have := h2 (50 * (Pa : Int) + 20 * Na + 10 * Ba + 10 * Ra + 5 * Qa + 20 * Pb + 50 * Nb + 20 * Bb + 5 * Rb + 20 * Qb + KH - KL)
      (by omega) (by omega)
    omega

/-- **The coupled bound.**  One king and at most 16 men a side: from `c`'s perspective
`score ≤ 0.95·material + 1450`, where `material` is the piece-worth difference. -/
theorem evalHeuristic_coupled (s : State) (c : Color) (hk : C05.OneKingEach s) (hmen : ∀ c, men s c ≤ 16) :
    20 * evalHeuristic (Variation.of s) c ≤
      19 * (evalWorths (Variation.of s) c - evalWorths (Variation.of s) c.opp) + 29000 := by
  obtain ⟨k, KL, KH, hreg⟩ := squares_kingedge s c hk hmen
  have hdb := evaluator_diff_bounds (Variation.of s) (egw_bounded s) c
  rw [evalHeuristic_eq, mulF_one (by have := hdb.1; eomega), mulF_one (by have := hdb.2.2.1; eomega),
    evalWorths_census s c (hk.count c), evalWorths_census s c.opp (hk.count c.opp)]
  exact hreg.coupled (men_census s c (hk.count c) ▸ hmen c) (men_census s c.opp (hk.count c.opp) ▸ hmen c.opp)
    (mulF_w8 (by have := hdb.2.1; eomega))
    (mulF_w2 (by have := hdb.2.2.2; eomega) 720 hdb.2.2.2.2 (by decide))


/-! ## arithmetic of the term-by-term bound under the promotion potential

Stated over `Nat` with the opponent's share moved to the right-hand side: in that form `omega` decides each
inequality at once, while the same facts about integer differences and casts take it a hundred times as long. -/

/-- regime A (`k < 160`, kings score in `[-50, 40]`): own material and table maxima against the opponent's material
and table minima (first inequality), own material and table minima against the opponent's material and table maxima
(second); `E`, `Bp` bound the king-to-the-edge and pawn-structure differences.  The margin is small (a pawnless side
with 3 knights, 5 bishops and 7 queens reaches 9830 in the second), so the case distinctions `hE0`, `hBc` are needed. -/
theorem core_A (Pc Nc Bc Rc Qc Po No Bo Ro Qo k E Bp : Nat)
    (mc : Pc + Nc + Bc + Rc + Qc + 1 ≤ 16) (fc : 900 * Pc + 300 * Nc + 350 * Bc + 500 * Rc + 900 * Qc < 9000)
    (hk1 : 6 * (Pc + Po) + 16 * (Qc + Qo) ≤ k) (hE : E ≤ 120) (hE0 : 40 < k → E = 0)
    (hB : Bp ≤ 720) (hBc : Pc = 0 → Bp ≤ 400) :
    150 * Pc + 320 * Nc + 360 * Bc + 510 * Rc + 905 * Qc + 90 + E + Bp
      < 10000 + (80 * Po + 250 * No + 330 * Bo + 495 * Ro + 880 * Qo) ∧
    120 * Pc + 350 * Nc + 370 * Bc + 505 * Rc + 920 * Qc + 90 + E + Bp
      < 10000 + (50 * Po + 280 * No + 340 * Bo + 490 * Ro + 895 * Qo) := by
  constructor <;> omega

/-- regime B (`k ≥ 159`, king-to-the-edge vanishes): the width `D` of the king's range is at most `k - 78` -/
theorem core_B (Pc Nc Bc Rc Qc Po No Bo Ro Qo k D E Bp : Nat)
    (mc : Pc + Nc + Bc + Rc + Qc + 1 ≤ 16) (fc : 900 * Pc + 300 * Nc + 350 * Bc + 500 * Rc + 900 * Qc < 9000)
    (hk2 : k ≤ 6 * (Pc + Po) + 16 * (Qc + Qo) + (Pc + Nc + Bc + Rc + Qc + 1 + (Po + No + Bo + Ro + Qo + 1)))
    (hD : D + 78 ≤ k) (hE : E = 0) (hB : Bp ≤ 720) (hBc : Pc = 0 → Bp ≤ 400) :
    150 * Pc + 320 * Nc + 360 * Bc + 510 * Rc + 905 * Qc + D + E + Bp
      < 10000 + (80 * Po + 250 * No + 330 * Bo + 495 * Ro + 880 * Qo) ∧
    120 * Pc + 350 * Nc + 370 * Bc + 505 * Rc + 920 * Qc + D + E + Bp
      < 10000 + (50 * Po + 280 * No + 340 * Bo + 490 * Ro + 895 * Qo) := by
  constructor <;> omega

theorem ke_abs (KEc KEo : Int) (k : Nat) (kec : -60 ≤ KEc ∧ KEc ≤ 60) (keo : -60 ≤ KEo ∧ KEo ≤ 60)
    (kec0 : KEc ≠ 0 → k ≤ 40) (keo0 : KEo ≠ 0 → k ≤ 40) :
    (KEc - KEo).natAbs ≤ 120 ∧ (40 < k → (KEc - KEo).natAbs = 0) := by
  constructor
  · omega
  · intro h
    have : KEc = 0 := by
      apply Decidable.byContradiction; intro hn; have := kec0 hn; omega
    have : KEo = 0 := by
      apply Decidable.byContradiction; intro hn; have := keo0 hn; omega
    omega

theorem bp_abs (BPc BPo : Int) (Pc Po : Nat) (bc : -720 ≤ BPc ∧ BPc ≤ 0) (bo : -720 ≤ BPo ∧ BPo ≤ 0)
    (bc0 : Pc = 0 → BPc = -400) (bo0 : Po = 0 → BPo = -400) :
    (BPc - BPo).natAbs ≤ 720 ∧ (Pc = 0 → (BPc - BPo).natAbs ≤ 400) ∧ (Po = 0 → (BPc - BPo).natAbs ≤ 400) := by
  refine ⟨by omega, fun h => ?_, fun h => ?_⟩
  · have := bc0 h; omega
  · have := bo0 h; omega

/-- the inequalities of `core_A` / `core_B` in the integer form in which the evaluator terms appear: material plus
an upper piece-square bound of one side minus a lower one of the other, the kings scoring in `[KL, KH]` of width at
most `D` -/
theorem core_cast (Pc Nc Bc Rc Qc Po No Bo Ro Qo D E B : Nat) (KL KH : Int) (hD : KH - KL ≤ D)
    (cc : 150 * Pc + 320 * Nc + 360 * Bc + 510 * Rc + 905 * Qc + D + E + B
        < 10000 + (80 * Po + 250 * No + 330 * Bo + 495 * Ro + 880 * Qo) ∧
      120 * Pc + 350 * Nc + 370 * Bc + 505 * Rc + 920 * Qc + D + E + B
        < 10000 + (50 * Po + 280 * No + 340 * Bo + 490 * Ro + 895 * Qo)) :
    (100 * (Pc : Int) + 300 * Nc + 350 * Bc + 500 * Rc + 900 * Qc + 10000 * (1 : Nat))
      + ((50 * (Pc : Int) + 20 * Nc + 10 * Bc + 10 * Rc + 5 * Qc + KH)
        - (-20 * (Po : Int) - 50 * No - 20 * Bo - 5 * Ro - 20 * Qo + KL)) + E + B
      < 10000 + (100 * (Po : Int) + 300 * No + 350 * Bo + 500 * Ro + 900 * Qo + 10000 * (1 : Nat)) ∧
    (100 * (Pc : Int) + 300 * Nc + 350 * Bc + 500 * Rc + 900 * Qc + 10000 * (1 : Nat))
      + ((50 * (Po : Int) + 20 * No + 10 * Bo + 10 * Ro + 5 * Qo + KH)
        - (-20 * (Pc : Int) - 50 * Nc - 20 * Bc - 5 * Rc - 20 * Qc + KL)) + E + B
      < 10000 + (100 * (Po : Int) + 300 * No + 350 * Bo + 500 * Ro + 900 * Qo + 10000 * (1 : Nat)) := by
  obtain ⟨c1, c2⟩ := cc
  constructor
  · clear c2; omega
  · clear c1; omega

/-- `|ΔW| + |ΔSQ| + E + B < 10000` from the four one-sided inequalities (`W` material, `[L, H]` the range of the
piece-square term of either side): `|ΔW|` is one of the two differences and `|ΔSQ|` at most one of `Hc - Lo`, `Ho - Lc` -/
theorem abs_sum4 (Wc Wo Hc Lc Ho Lo : Int) (E B : Nat) (SQc SQo : Int)
    (sc1 : Lc ≤ SQc) (sc2 : SQc ≤ Hc) (so1 : Lo ≤ SQo) (so2 : SQo ≤ Ho)
    (hc : Wc + (Hc - Lo) + E + B < 10000 + Wo ∧ Wc + (Ho - Lc) + E + B < 10000 + Wo)
    (ho : Wo + (Ho - Lc) + E + B < 10000 + Wc ∧ Wo + (Hc - Lo) + E + B < 10000 + Wc) :
    (Wc - Wo).natAbs + ((SQc - SQo).natAbs + E + B) < 10000 := by omega

theorem kdiff (k : Nat) (KL KH : Int) (h159 : 159 ≤ k) (hKH : 160 * KH < 4960 + 70 * ((k : Int) - 159))
    (hKL : -8160 - 90 * ((k : Int) - 159) < 160 * KL) :
    KH - KL ≤ ((k - 78 : Nat) : Int) ∧ (k - 78) + 78 ≤ k := by omega


/-! ## the promotion potential -/

/-- the promotion potential of one side: piece worths with every pawn counted as a queen (king excluded) -/
def phi (s : State) (c : Color) : Nat :=
  900 * pieceCount s c .pawn + 300 * pieceCount s c .knight + 350 * pieceCount s c .bishop
    + 500 * pieceCount s c .rook + 900 * pieceCount s c .queen

theorem phi_census (s : State) (c : Color) : phi s c = (census s c).phi := rfl

theorem Regime.termwise {a b : Census} {k : Nat} {KL KH SQa SQb KEa KEb : Int}
    (h : Regime a b k KL KH SQa SQb KEa KEb) (ha : a.men ≤ 16) (hb : b.men ≤ 16)
    (fa : a.phi < 9000) (fb : b.phi < 9000) {BPa BPb : Int}
    (pa : -720 ≤ BPa ∧ BPa ≤ 0) (pb : -720 ≤ BPb ∧ BPb ≤ 0) (qa : a.P = 0 → BPa = -400) (qb : b.P = 0 → BPb = -400) :
    (a.worth - b.worth).natAbs + ((SQa - SQb).natAbs + (KEa - KEb).natAbs + (BPa - BPb).natAbs) < 10000 := by
  obtain ⟨Pa, Na, Ba, Ra, Qa⟩ := a
  obtain ⟨Pb, Nb, Bb, Rb, Qb⟩ := b
  simp only [Regime, Census.men, Census.worth, Census.sqHi, Census.sqLo, Census.kShare, Census.phi] at *
  obtain ⟨hk1, hk2, ⟨sa1, sa2⟩, ⟨sb1, sb2⟩, hreg⟩ := h
  have hB := bp_abs BPa BPb Pa Pb pa pb qa qb
  rcases hreg with ⟨hA, rfl, rfl, kea, keb, ka0, kb0⟩ | ⟨h159, hKH, hKL, rfl, rfl⟩
  · have hE := ke_abs _ _ k kea keb ka0 kb0
    exact abs_sum4 _ _ _ _ _ _ _ _ SQa SQb sa1 sa2 sb1 sb2
      (core_cast Pa Na Ba Ra Qa Pb Nb Bb Rb Qb 90 _ _ (-50) 40 (by decide)
        (core_A Pa Na Ba Ra Qa Pb Nb Bb Rb Qb k _ _ ha fa (by omega) hE.1 hE.2 hB.1 hB.2.1))
      (core_cast Pb Nb Bb Rb Qb Pa Na Ba Ra Qa 90 _ _ (-50) 40 (by decide)
        (core_A Pb Nb Bb Rb Qb Pa Na Ba Ra Qa k _ _ hb fb (by omega) hE.1 hE.2 hB.1 hB.2.2))
  · have hD := kdiff k KL KH h159 hKH hKL
    exact abs_sum4 _ _ _ _ _ _ _ _ SQa SQb sa1 sa2 sb1 sb2
      (core_cast Pa Na Ba Ra Qa Pb Nb Bb Rb Qb (k - 78) 0 _ KL KH hD.1
        (core_B Pa Na Ba Ra Qa Pb Nb Bb Rb Qb k _ _ _ ha fa (by omega) hD.2 rfl hB.1 hB.2.1))
      (core_cast Pb Nb Bb Rb Qb Pa Na Ba Ra Qa (k - 78) 0 _ KL KH hD.1
        (core_B Pb Nb Bb Rb Qb Pa Na Ba Ra Qa k _ _ _ hb fb (by omega) hD.2 rfl hB.1 hB.2.2))

/-- **The term-by-term bound from the potential.**  One king and at most 16 men a side, and a promotion potential
below 9000 for both sides ⇒ `|Δworths| + |Δsquares| + |Δking-edge| + |Δpawns| < 10000` (all weights taken as 1).
This is the quantity `MaterialBounded` of `Wee/Proofs/MateBase.lean` asks to be `< 10000`. -/
theorem termwise_lt_of_potential (s : State) (c : Color) (hk : ∀ c, pieceCount s c .king = 1)
    (hmen : ∀ c, men s c ≤ 16) (hphi : ∀ c, phi s c < 9000) :
    (evalWorths (Variation.of s) c - evalWorths (Variation.of s) c.opp).natAbs +
      ((evalSquares (Variation.of s) c - evalSquares (Variation.of s) c.opp).natAbs
        + (evalKingEdge (Variation.of s) c - evalKingEdge (Variation.of s) c.opp).natAbs
        + (evalBadPawns (Variation.of s) c - evalBadPawns (Variation.of s) c.opp).natAbs) < 10000 := by
  have hk : C05.OneKingEach s := hk
  obtain ⟨k, KL, KH, hreg⟩ := squares_kingedge s c hk hmen
  rw [evalWorths_census s c (hk.count c), evalWorths_census s c.opp (hk.count c.opp)]
  exact hreg.termwise (men_census s c (hk.count c) ▸ hmen c) (men_census s c.opp (hk.count c.opp) ▸ hmen c.opp)
    (phi_census s c ▸ hphi c) (phi_census s c.opp ▸ hphi c.opp) (evalBadPawns_bounds _ c) (evalBadPawns_bounds _ c.opp)
    (evalBadPawns_no_pawns (Variation.of s) c) (evalBadPawns_no_pawns (Variation.of s) c.opp)

end Wee
