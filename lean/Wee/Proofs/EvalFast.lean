import Wee.Proofs.MoveGenFast
import Wee.Proofs.FloatFast
import Wee.Model.Eval
import Wee.Proofs.EvalLemmas
/-!
# The evaluator over the generator's primitives and the float operations: a second evaluator for `Wee/Model/Eval.lean`

`popcount b` and `firstOne b` are the length and the head of `bitsOf b`, and every term of the heuristic sum is rounded
several times; in the kernel the 64-square scans and the `Rat` arithmetic of `F32.round32` are most of what `evalHeuristic`
costs.  The functions of namespace `EvalP` are those of `Wee/Model/Eval.lean` word for word over a `GenP.Prim` and an
`F32.K.Ops` (`popcount b` written `(X.bits b).length`, `firstOne b` written `(X.bits b).head?`).  On `Prim.model`,
`Ops.model` they are the model's own: the lemmas `f_fast` are proved by `rw [← Prim.model_eq_fast, ← Ops.model_eq_fast]; rfl`
(`kingHasMove_fast` with the `Prim` half alone; `C05.termBound_fast` from the others by `simp only`),
and that `rfl` is the statement `f … = EvalP.f Prim.model Ops.model …`, checked by Lean, not by reading.
-/
namespace Wee
open Gen GenP F32.K

namespace EvalP

/-- `Ev.mulF` -/
def mulF (F : Ops) (e : Eval) (w : Rat) : Eval := F32.toI32 (F.mul (F.ofInt e) w)

def pieceSquare (F : Ops) (p : Piece) (sq : Nat) (c : Color) (egw : Rat) : Eval :=
  let sq' := if c == .white then sq else flipRank sq
  let index := flipRank sq'
  let maps := pieceSquareMap.getD p.code (#[], #[])
  let e1 := F.ofInt (maps.1.getD index 0)
  let e2 := F.ofInt (maps.2.getD index 0)
  F32.toI32 (F.add (F.mul (F.sub e2 e1) egw) e1)

def pieceCount (X : Prim) (s : State) (c : Color) (p : Piece) : Nat := (X.bits (s.pieces.get c p)).length

/-- `Variation.of` -/
def variationOf (X : Prim) (F : Ops) (s : State) : Variation :=
  let cnt (c : Color) : Nat := (Piece.all.map (pieceCount X s c)).sum
  let countPieces (p : Piece) : Rat := F.ofInt ((pieceCount X s .white p + pieceCount X s .black p : Nat) : Int)
  let v1 := F.div (countPieces .pawn) egD1
  let v2 := F.div (countPieces .queen) egD2
  let v3 := F.div (F.ofInt ((X.bits s.pieces.occ).length : Nat)) egD3
  let num := F.add (F.add (F.mul egW1 v1) (F.mul egW2 v2)) (F.mul egW3 v3)
  let den := F.add (F.add egW1 egW2) egW3
  { s, egw := F.sub 1 (F.div num den), countW := cnt .white, countB := cnt .black }

def evalWorths (X : Prim) (F : Ops) (v : Variation) (c : Color) : Eval :=
  Piece.all.foldl (fun acc p => acc + mulF F Ev.onePawn (pieceWorth p) * (pieceCount X v.s c p : Int)) 0

def evalSquares (X : Prim) (F : Ops) (v : Variation) (c : Color) : Eval :=
  Piece.all.foldl (fun acc p =>
    (X.bits (v.s.pieces.get c p)).foldl (fun acc sq => acc + pieceSquare F p sq c v.egw) acc) 0

def evalKingEdge (X : Prim) (F : Ops) (v : Variation) (c : Color) : Eval :=
  if v.egw < kingEdgeThreshold then 0
  else if v.count c < v.count c.opp + kingEdgeCountMargin then 0
  else match (X.bits (v.s.pieces.get c .king)).head?, (X.bits (v.s.pieces.get c.opp .king)).head? with
    | some ours, some theirs =>
      let kd : Int := manhattan ours theirs
      let rd : Int := min (absDist (rankOf theirs) 0) (absDist (rankOf theirs) 7)
      let fd : Int := min (absDist (fileOf theirs) 0) (absDist (fileOf theirs) 7)
      let disp : Int := kingEdgeCentre - (rd + fd)
      mulF F (kingEdgeFactor * disp - kd) v.egw
    | _, _ => 0

def evalBadPawns (X : Prim) (F : Ops) (v : Variation) (c : Color) : Eval :=
  let pawns := v.s.pieces.get c .pawn
  (List.range 8).foldl (fun acc f =>
    let acc := if (X.bits (pawns &&& fileMask f)).length > doubledPawnMin then acc - mulF F Ev.onePawn doubledPawnPenalty else acc
    let mask : UInt64 := (if f = 0 then 0 else fileMask (f - 1)) ||| (if f = 7 then 0 else fileMask (f + 1))
    if bbNone (pawns &&& mask) then acc - mulF F Ev.onePawn isolatedPawnPenalty else acc) 0

def evaluators (X : Prim) (F : Ops) : List (Variation → Color → Eval) := [evalWorths X F, evalSquares X F, evalKingEdge X F, evalBadPawns X F]

def evalHeuristic (X : Prim) (F : Ops) (v : Variation) (perspective : Color) : Eval :=
  ((evaluators X F).zip evaluatorWeights).foldl (fun acc (fw : (Variation → Color → Eval) × Rat) =>
    acc + mulF F (fw.1 v perspective - fw.1 v perspective.opp) fw.2) 0

def kingHasMove (X : Prim) (s : State) : Option Bool :=
  match (X.bits (s.pieces.get s.turn .king)).head? with
  | Option.none => Option.none
  | some k => some (bbAny (kingAttacks k &&& ~~~s.pieces.occ &&& ~~~(X.att s.pieces s.turn.opp)))

def evaluate (X : Prim) (F : Ops) (s : State) (perspective : Color) (depth : Nat) : Option Eval :=
  match kingHasMove X s with
  | Option.none => Option.none
  | some khm =>
    let v := variationOf X F s
    if !khm || GenP.isCheck X s then
      match GenP.legalMoves? X s with
      | Option.none => Option.none
      | some ms =>
        if ms.isEmpty && GenP.isCheck X s then
          some (if s.turn == perspective then - Ev.mateInPly depth else Ev.mateInPly depth)
        else if ms.isEmpty then some 0
        else some (clampHeuristic (evalHeuristic X F v perspective))
    else some (clampHeuristic (evalHeuristic X F v perspective))

/-- the term-by-term bound of the heuristic sum, `|Δ worths| + (|Δ squares| + |Δ king-edge| + |Δ pawns|)`
(`C05.materialDiff`, `C05.positionalDiff`) -/
def termBound (X : Prim) (F : Ops) (s : State) (c : Color) : Nat :=
  let v := variationOf X F s
  (evalWorths X F v c - evalWorths X F v c.opp).natAbs +
  ((evalSquares X F v c - evalSquares X F v c.opp).natAbs + (evalKingEdge X F v c - evalKingEdge X F v c.opp).natAbs +
    (evalBadPawns X F v c - evalBadPawns X F v c.opp).natAbs)

end EvalP

theorem variationOf_fast (s : State) : Variation.of s = EvalP.variationOf Prim.fast Ops.fast s := by
  rw [← Prim.model_eq_fast, ← Ops.model_eq_fast]; rfl

theorem evalHeuristic_fast (v : Variation) (c : Color) :
    evalHeuristic v c = EvalP.evalHeuristic Prim.fast Ops.fast v c := by
  rw [← Prim.model_eq_fast, ← Ops.model_eq_fast]; rfl

theorem evalWorths_fast (v : Variation) (c : Color) : evalWorths v c = EvalP.evalWorths Prim.fast Ops.fast v c := by
  rw [← Prim.model_eq_fast, ← Ops.model_eq_fast]; rfl

theorem evalSquares_fast (v : Variation) (c : Color) : evalSquares v c = EvalP.evalSquares Prim.fast Ops.fast v c := by
  rw [← Prim.model_eq_fast, ← Ops.model_eq_fast]; rfl

theorem evalKingEdge_fast (v : Variation) (c : Color) :
    evalKingEdge v c = EvalP.evalKingEdge Prim.fast Ops.fast v c := by
  rw [← Prim.model_eq_fast, ← Ops.model_eq_fast]; rfl

theorem evalBadPawns_fast (v : Variation) (c : Color) :
    evalBadPawns v c = EvalP.evalBadPawns Prim.fast Ops.fast v c := by
  rw [← Prim.model_eq_fast, ← Ops.model_eq_fast]; rfl

theorem C05.termBound_fast (s : State) (c : Color) :
    (C05.materialDiff s c).natAbs + C05.positionalDiff s c = EvalP.termBound .fast .fast s c := by
  unfold C05.materialDiff C05.positionalDiff EvalP.termBound
  simp only [variationOf_fast, evalWorths_fast, evalSquares_fast, evalKingEdge_fast, evalBadPawns_fast]

theorem kingHasMove_fast (s : State) : kingHasMove s = EvalP.kingHasMove Prim.fast s := by
  rw [← Prim.model_eq_fast]; rfl

theorem evaluate_fast (s : State) (c : Color) (d : Nat) :
    evaluate s c d = EvalP.evaluate Prim.fast Ops.fast s c d := by
  rw [← Prim.model_eq_fast, ← Ops.model_eq_fast]; rfl

end Wee
