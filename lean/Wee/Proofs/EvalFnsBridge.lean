import Wee.Gen.EvalFns
import Wee.Model.Eval
import Wee.Proofs.CoreFnsBridge
import Wee.Proofs.GenMovesBridge
import Wee.Proofs.EvalLemmas
import Wee.Proofs.Returns
/-!
# Bridge: the static evaluator translated from the Rust source text (`Wee/Gen/EvalFns.lean`, produced by
`tools/rs2lean_eval.py`) computes the hand-written model `Wee/Model/Eval.lean`

The generated functions run in `Panics` (`none` = a panic of the debug profile: arithmetic overflow, index out of
bounds, `unwrap` of `None`).  Every bridge theorem has the form

    generated … = some r  →  r.toInt = model …

("whenever the Rust function returns, it returns the model's value"; in the release profile, which differs from the
debug profile only where the latter panics, the same value is computed).  Float arithmetic is the model's soft-float on
both sides, operation by operation in Rust's order, so the equalities are exact.

Bridged: the four term functions, `StateVariation::from` (`StateVariation.from_State_eq`), `Evaluator::evaluate`
(`Evaluator.evaluate_eq`: terminal test, `king_has_move` shortcut, perspective sign, the weighted loop over
`EVALUATORS`, the clamp) and `Evaluator::estimate` (`Evaluator.estimate_eq`).  The callees `Board::is_check`,
`Board::colored_attacks`, `Board::colored_pawn_attacks` and `MoveGenerator::compute_legal_moves` are the stage-3a
translations (`Wee/Gen/GenMoves.lean`), discharged with `Board.is_check_eq`, `Board.colored_attacks_eq`,
`Board.colored_pawn_attacks_eq`, `MoveGenerator.compute_legal_moves_model` (`Wee/Proofs/GenMovesBridge*.lean`).
-/
set_option linter.unusedSimpArgs false
namespace Wee
namespace GenFns
open Gen

/-! ## `Evaluation` arithmetic: each operator is the checked `i32` operation followed by `pure` -/

theorem Evaluation.add_assign_eq_some {a b r : Int32} :
    Evaluation.add_assign_Evaluation a b = some r ↔ r.toInt = a.toInt + b.toInt := by
  simp only [Evaluation.add_assign_Evaluation, bind_pure, Int32.checked_add_eq_some]

theorem Evaluation.sub_assign_eq_some {a b r : Int32} :
    Evaluation.sub_assign_Evaluation a b = some r ↔ r.toInt = a.toInt - b.toInt := by
  simp only [Evaluation.sub_assign_Evaluation, bind_pure, Int32.checked_sub_eq_some]

theorem Evaluation.sub_eq_some {a b r : Int32} :
    Evaluation.sub_Evaluation a b = some r ↔ r.toInt = a.toInt - b.toInt := by
  simp only [Evaluation.sub_Evaluation, bind_pure, Int32.checked_sub_eq_some]

theorem Evaluation.neg_eq_some {a r : Int32} : Evaluation.neg a = some r ↔ r.toInt = - a.toInt := by
  simp only [Evaluation.neg, bind_pure, Int32.checked_neg_eq_some]

theorem Evaluation.mul_i32_eq_some {a b r : Int32} :
    Evaluation.mul_i32 a b = some r ↔ r.toInt = a.toInt * b.toInt := by
  simp only [Evaluation.mul_i32, bind_pure, Int32.checked_mul_eq_some]

/-! ## `f32`: literals, casts -/

theorem toI32_range (q : Rat) : -2 ^ 31 ≤ F32.toI32 q ∧ F32.toI32 q < 2 ^ 31 := by
  unfold F32.toI32
  simp only
  split
  · omega
  · split <;> omega

/-- `x as i32` of an `f32` is the model's `F32.toI32` (truncate toward zero, saturate) -/
theorem f32.to_i32_toInt (q : Rat) : (f32.to_i32 q).toInt = F32.toI32 q := by
  unfold f32.to_i32
  have := toI32_range q
  exact Int32.toInt_ofInt_of_le (by omega) (by omega)

/-- `impl Mul<f32> for Evaluation` = the model's `Ev.mulF` -/
theorem Evaluation.mul_f32_eq (e : Int32) (w : Rat) : (Evaluation.mul_f32 e w).toInt = Ev.mulF e.toInt w := by
  unfold Evaluation.mul_f32 Ev.mulF
  exact f32.to_i32_toInt _

/-- the float literals of the evaluator sources are the constants `tools/extract.py` regenerates -/
theorem f32_literals :
    f32.ofBits 0x3ecccccd = Gen.doubledPawnPenalty ∧ f32.ofBits 0x3f000000 = Gen.isolatedPawnPenalty ∧
    f32.ofBits 0x3f400000 = Gen.kingEdgeThreshold ∧ f32.ofBits 0x40000000 = Gen.estCastleBonus ∧
    f32.ofBits 0x3e4ccccd = Gen.estDoublePawnBonus ∧ f32.ofBits 0x40000000 = Gen.estPromotionFactor ∧
    f32.ofBits 0x3f000000 = Gen.estSquareWeight ∧
    f32.ofBits 0x40400000 = Gen.egW1 ∧ f32.ofBits 0x3f800000 = Gen.egW2 ∧ f32.ofBits 0x3f800000 = Gen.egW3 ∧
    f32.ofBits 0x41800000 = Gen.egD1 ∧ f32.ofBits 0x40000000 = Gen.egD2 ∧ f32.ofBits 0x42000000 = Gen.egD3 ∧
    f32.ofBits 0x3f800000 = 1 := by
  decide +kernel

theorem PIECE_PAWN_WORTHS_eq : evaluate_piece_worths.PIECE_PAWN_WORTHS = Gen.piecePawnWorths.toArray := by
  decide +kernel

theorem PIECE_PAWN_WORTHS_index (p : Piece) :
    ArrayMap.index evaluate_piece_worths.PIECE_PAWN_WORTHS (Index.from_Piece p) = some (pieceWorth p) := by
  rw [PIECE_PAWN_WORTHS_eq]
  cases p <;> decide +kernel

theorem EVALUATORS_weights : eval.EVALUATORS.map Prod.fst = Gen.evaluatorWeights := by
  decide +kernel

/-! ## The representation of `StateVariation` -/

/-- the Rust-side `StateVariation` represents the model's `Variation`: same state, same end-game weight, and the count
tables hold the model's counts wherever they are defined -/
structure SVRep (sv : StateVariation) (v : Variation) : Prop where
  state : sv.f_state = stateOf v.s
  egw : sv.f_end_game_weight = v.egw
  pc : ∀ (c : Color) (p : Piece) (x : UInt8),
    ArrayMap.index sv.f_piece_counts (Index.from_PieceIndex (PieceIndex.new c p)) = some x → x.toNat = pieceCount v.s c p
  cc : ∀ (c : Color) (x : UInt8), ArrayMap.index sv.f_color_counts (Index.from_Color c) = some x → x.toNat = v.count c

theorem u8_as_i32 (x : UInt8) : (UInt32.toInt32 (UInt8.toUInt32 x)).toInt = x.toNat := by
  rw [u32_toInt32_toInt, UInt8.toNat_toUInt32]
  have := x.toNat_lt
  exact Int.bmod_eq_of_le (by omega) (by omega)

/-! ## `evaluate_piece_worths::evaluate` -/

theorem evaluate_piece_worths.evaluate_eq {sv : StateVariation} {v : Variation} (hr : SVRep sv v) (c : Color)
    (e0 r : Int32) (b : Bool) (h : evaluate_piece_worths.evaluate sv c e0 b = some r) :
    r.toInt = e0.toInt + evalWorths v c := by
  unfold evaluate_piece_worths.evaluate at h
  simp only [bind_pure] at h
  unfold evalWorths
  rw [Piece.ALL_eq, ← List.map_id Piece.all] at h
  refine foldlM_sim (fun (a : Int32) (m : Int) => a.toInt = e0.toInt + m) _ _ id _ ?_ e0 0 r (by omega) h
  intro p _ a m a' hR hb
  simp only [id, PIECE_PAWN_WORTHS_index, some_bind', bind_eq_some, Evaluation.mul_i32_eq_some,
    Evaluation.add_assign_eq_some] at hb
  obtain ⟨n, h1, k, h2, h3⟩ := hb
  rw [h3, h2, Evaluation.mul_f32_eq, u8_as_i32, hr.pc c p n h1, Evaluation.consts_eq.1, hR]
  omega

/-! ## `evaluate_piece_squares` -/

/-- an `i32` table written as `A.map Int32.ofInt` reads back the integer table `A` wherever the entry fits `i32` -/
theorem map_ofInt_lookup (A : Array Int) (i : Nat) (hi : i < A.size)
    (hb : -2 ^ 31 ≤ A.getD i 0 ∧ A.getD i 0 < 2 ^ 31) :
    ((A.map Int32.ofInt)[i]?).map Int32.toInt = some (A.getD i 0) := by
  rw [Array.getD_eq_getD_getElem?] at hb ⊢
  rw [Array.getElem?_map, Array.getElem?_eq_getElem hi] at *
  simp only [Option.map_some, Option.getD_some] at hb ⊢
  rw [Int32.toInt_ofInt_of_le hb.1 hb.2]

/-- the translated table is the model's, row by row through `Int32.ofInt`; the 64-entry rows stay folded -/
theorem PIECE_SQUARE_MAP_eq : evaluate_piece_squares.PIECE_SQUARE_MAP =
    Gen.pieceSquareMap.map fun ab => #[ab.1.map Int32.ofInt, ab.2.map Int32.ofInt] := by
  simp only [evaluate_piece_squares.PIECE_SQUARE_MAP, pieceSquareMap, evaluate_piece_squares.ZERO_MAP,
    evaluate_piece_squares.PAWN_MAP, evaluate_piece_squares.KNIGHT_MAP, evaluate_piece_squares.BISHOP_MAP,
    evaluate_piece_squares.ROOK_MAP, evaluate_piece_squares.QUEEN_MAP, evaluate_piece_squares.KING_MIDDLE_GAME_MAP,
    evaluate_piece_squares.KING_END_GAME_MAP, List.map_toArray, List.map_cons, List.map_nil]

theorem pieceSquareMap_sizes (p : Piece) : (pieceSquareMap.getD p.code (#[], #[])).1.size = 64 ∧
    (pieceSquareMap.getD p.code (#[], #[])).2.size = 64 := by cases p <;> exact ⟨rfl, rfl⟩

/-- `PIECE_SQUARE_MAP[piece]`: the model's pair of tables for the piece, as `i32` -/
theorem psm_row (p : Piece) : ArrayMap.index evaluate_piece_squares.PIECE_SQUARE_MAP (Index.from_Piece p) =
    some #[(pieceSquareMap.getD p.code (#[], #[])).1.map Int32.ofInt, (pieceSquareMap.getD p.code (#[], #[])).2.map Int32.ofInt] := by
  have hp : p.code < pieceSquareMap.size := by cases p <;> decide
  rw [ArrayMap.index_eq_some, PIECE_SQUARE_MAP_eq, Index.from_Piece_toNat, Array.getElem?_map, Array.getElem?_eq_getElem hp, Array.getD_eq_getD_getElem?,
    Array.getElem?_eq_getElem hp]
  rfl

/-- entry `i` of a 64-entry row of integers within ±50, read through `Int32.ofInt` -/
theorem psm_entry (A : Array Int) (hs : A.size = 64) (i : Fin 64) (hb : -50 ≤ A.getD i.val 0 ∧ A.getD i.val 0 ≤ 50) :
    (ArrayMap.index (A.map Int32.ofInt) (UInt8.toUInt64 i.val.toUInt8)).map Int32.toInt = some (A.getD i.val 0) := by
  show ((A.map Int32.ofInt)[(UInt8.toUInt64 i.val.toUInt8).toNat]?).map Int32.toInt = _
  rw [UInt8.toNat_toUInt64, nat_toUInt8_toNat _ (by omega)]
  exact map_ofInt_lookup A i.val (by rw [hs]; exact i.isLt) ⟨Int.le_trans (by decide) hb.1, Int.lt_of_le_of_lt hb.2 (by decide)⟩

/-- the two look-ups `PIECE_SQUARE_MAP[piece][k].index(i)`: the entries of the tables `tools/extract.py` regenerates; every
entry is within ±50 (`pieceSquareMap_bounds`) -/
theorem psm_lookup0 (p : Piece) : ∀ i : Fin 64,
    (((ArrayMap.index evaluate_piece_squares.PIECE_SQUARE_MAP (Index.from_Piece p)).bind fun t =>
      (ArrayMap.index t (0 : UInt64)).bind fun r => ArrayMap.index r (UInt8.toUInt64 i.val.toUInt8)).map Int32.toInt) =
      some ((pieceSquareMap.getD p.code (#[], #[])).1.getD i.val 0) := by
  intro i
  rw [psm_row, Option.bind_some]
  exact psm_entry _ (pieceSquareMap_sizes p).1 i (pieceSquareMap_bounds p i.val).1

theorem psm_lookup1 (p : Piece) : ∀ i : Fin 64,
    (((ArrayMap.index evaluate_piece_squares.PIECE_SQUARE_MAP (Index.from_Piece p)).bind fun t =>
      (ArrayMap.index t (1 : UInt64)).bind fun r => ArrayMap.index r (UInt8.toUInt64 i.val.toUInt8)).map Int32.toInt) =
      some ((pieceSquareMap.getD p.code (#[], #[])).2.getD i.val 0) := by
  intro i
  rw [psm_row, Option.bind_some]
  exact psm_entry _ (pieceSquareMap_sizes p).2 i (pieceSquareMap_bounds p i.val).2

theorem evaluate_piece_squares.evaluate_piece_square_eq (p : Piece) (sq : Square) (c : Color) (w : Rat)
    (hs : sq.toNat < 64) (r : Int32)
    (h : evaluate_piece_squares.evaluate_piece_square p sq c w = some r) :
    r.toInt = pieceSquare p sq.toNat c w := by
  unfold evaluate_piece_squares.evaluate_piece_square at h
  -- the oriented square
  have hsq : (if c == Color.white then (pure sq : Panics Square) else Square.flip_rank sq) =
      some ((if c == .white then sq.toNat else flipRank sq.toNat).toUInt8) := by
    cases c
    · simp [nat_toUInt8_toNat]
    · simp [Square.flip_rank_eq sq hs]
  have hn' : (if c == .white then sq.toNat else flipRank sq.toNat) < 64 := by
    cases c
    · simpa using hs
    · simpa using flipRank_lt hs
  generalize hnn : (if c == .white then sq.toNat else flipRank sq.toNat) = n' at hsq hn'
  simp only [bind_pure_comp, Option.pure_def, Option.bind_eq_bind] at h hsq
  have hsq' : (if (c == Color.white) = true then (some sq : Option Square) else Square.flip_rank sq) = some n'.toUInt8 := by
    simpa using hsq
  rw [hsq'] at h
  simp only [Option.bind_some] at h
  have hidx := Square.white_at_bottom_index_eq n'.toUInt8 (by rw [nat_toUInt8_toNat _ (by omega)]; exact hn')
  rw [nat_toUInt8_toNat _ (by omega)] at hidx
  rw [hidx] at h
  simp only [Option.bind_some] at h
  have l0 := psm_lookup0 p ⟨flipRank n', flipRank_lt hn'⟩
  have l1 := psm_lookup1 p ⟨flipRank n', flipRank_lt hn'⟩
  simp only at l0 l1
  simp only [Option.bind_eq_some_iff, Option.some.injEq] at h
  obtain ⟨t0, ht0, r0, hr0, x0, hx0, t1, ht1, r1, hr1, x1, hx1, h⟩ := h
  rw [ht0] at l0
  simp only [Option.bind_some, hr0, hx0, Option.map_some, Option.some.injEq] at l0
  rw [ht1] at l1
  simp only [Option.bind_some, hr1, hx1, Option.map_some, Option.some.injEq] at l1
  subst h
  rw [f32.to_i32_toInt, l0, l1]
  unfold pieceSquare
  simp only [hnn]

theorem evaluate_piece_squares.evaluate_eq {sv : StateVariation} {v : Variation} (hr : SVRep sv v) (c : Color)
    (e0 r : Int32) (b : Bool) (h : evaluate_piece_squares.evaluate sv c e0 b = some r) :
    r.toInt = e0.toInt + evalSquares v c := by
  unfold evaluate_piece_squares.evaluate at h
  simp only [bind_pure] at h
  unfold evalSquares
  rw [Piece.ALL_eq, ← List.map_id Piece.all] at h
  refine foldlM_sim (fun (a : Int32) (m : Int) => a.toInt = e0.toInt + m) _ _ id _ ?_ e0 0 r (by omega) h
  intro p _ a m a' hR hb
  rw [hr.state, hr.egw, Board.piece_occupancy_stateOf] at hb
  simp only [id, Option.bind_eq_bind, Option.bind_some] at hb
  rw [iter_ones_collect_65] at hb
  simp only [Option.bind_some] at hb
  refine foldlM_sim (fun (a : Int32) (m : Int) => a.toInt = e0.toInt + m) _ _ Nat.toUInt32 _ ?_ a m a' hR hb
  intro n hn a1 m1 r1 hR1 h1
  have hn64 : n < 64 := ((mem_bitsOf _ n).1 hn).1
  have e := nat_toUInt8_toNat n (by omega)
  simp only [from_u32_nat n hn64, Option.bind_eq_some_iff, Evaluation.add_assign_eq_some] at h1
  obtain ⟨y, hy, hz⟩ := h1
  rw [hz, evaluate_piece_squares.evaluate_piece_square_eq p _ c v.egw (by rw [e]; exact hn64) y hy, e, hR1]
  omega

/-! ## `evaluate_bad_pawns::evaluate` -/

theorem fm_index : ∀ f : Fin 8,
    ArrayMap.index common.FILE_MASKS (Index.from_File f.val.toUInt8) = some (fileMask f.val) := by decide

theorem file_left_eq : ∀ f : Fin 8,
    File.left f.val.toUInt8 = some (if f.val = 0 then Option.none else some (f.val - 1).toUInt8) := by decide

theorem file_right_eq : ∀ f : Fin 8,
    File.right f.val.toUInt8 = some (if f.val = 7 then Option.none else some (f.val + 1).toUInt8) := by decide

/-- `count_ones` as a number: the model's `popcount` (at most 64, so the `u32` holds it) -/
theorem count_ones_toNat (b : UInt64) : (BitBoard.count_ones b).toNat = popcount b := by
  rw [BitBoard.count_ones_eq, Wee.Move.nat_toUInt32_toNat _ (by have := popcount_le b; omega)]

theorem count_ones_gt_one (b : UInt64) : decide (BitBoard.count_ones b > (1 : UInt32)) = decide (popcount b > doubledPawnMin) := by
  apply decide_eq_decide.2
  show (1 : UInt32) < BitBoard.count_ones b ↔ popcount b > 1
  rw [UInt32.lt_iff_toNat_lt, count_ones_toNat]
  rfl

theorem count_ones_gt_one' (a b : UInt64) :
    decide (BitBoard.count_ones (BitBoard.bitand a b) > (1 : UInt32)) = decide (popcount (a &&& b) > doubledPawnMin) :=
  count_ones_gt_one (a &&& b)

theorem bp_tail (P M : UInt64) (e1 r' : Int32)
    (hb : (if bbNone (P &&& M) = true then
        Evaluation.sub_assign_Evaluation e1 (Evaluation.mul_f32 Evaluation.ONE_PAWN (f32.ofBits 1056964608)) else some e1) = some r') :
    r'.toInt = e1.toInt + (if bbNone (P &&& M) then - Ev.mulF Ev.onePawn isolatedPawnPenalty else 0) := by
  by_cases hc : bbNone (P &&& M) = true
  · rw [if_pos hc] at hb
    rw [if_pos hc, Evaluation.sub_assign_eq_some.1 hb, Evaluation.mul_f32_eq, Evaluation.consts_eq.1, f32_literals.2.1]; omega
  · rw [if_neg hc] at hb
    cases hb
    rw [if_neg hc]; omega

theorem evaluate_bad_pawns.evaluate_eq {sv : StateVariation} {v : Variation} (hr : SVRep sv v) (c : Color)
    (e0 r : Int32) (b : Bool) (h : evaluate_bad_pawns.evaluate sv c e0 b = some r) :
    r.toInt = e0.toInt + evalBadPawns v c := by
  unfold evaluate_bad_pawns.evaluate at h
  rw [hr.state, Board.piece_occupancy_stateOf] at h
  simp only [Option.bind_eq_bind, Option.bind_some, bind_pure] at h
  unfold evalBadPawns
  simp only
  generalize v.s.pieces.get c .pawn = P at h ⊢
  rw [File.ALL_eq] at h
  refine foldlM_sim (fun (a : Int32) (m : Int) => a.toInt = e0.toInt + m) _ _ Nat.toUInt8 _ ?_ e0 0 r (by omega) h
  intro k hk a m r' hR hb
  have hk8 : k < 8 := List.mem_range.1 hk
  have H1 := fm_index ⟨k, hk8⟩
  have HL := file_left_eq ⟨k, hk8⟩
  have HR := file_right_eq ⟨k, hk8⟩
  simp only at H1 HL HR
  simp only [H1, Option.bind_eq_bind, Option.bind_some, count_ones_gt_one'] at hb
  simp only [HL, HR, Option.bind_eq_bind, Option.bind_some, BitBoard.bitand_eq, BitBoard.bitor_eq, BitBoard.ZERO_eq,
    BitBoard.none_eq, Option.pure_def] at hb
  obtain ⟨e1, he1, hb⟩ := Option.bind_eq_some_iff.1 hb
  -- the doubled-pawn part
  have hd : e1.toInt = e0.toInt +
      (if popcount (P &&& fileMask k) > doubledPawnMin then m - Ev.mulF Ev.onePawn doubledPawnPenalty else m) := by
    by_cases hc : popcount (P &&& fileMask k) > doubledPawnMin
    · rw [if_pos hc]
      rw [decide_eq_true hc, if_pos rfl] at he1
      rw [Evaluation.sub_assign_eq_some.1 he1, Evaluation.mul_f32_eq, Evaluation.consts_eq.1, f32_literals.1, hR]; omega
    · rw [if_neg hc]
      rw [decide_eq_false hc, if_neg (by simp)] at he1
      cases he1; omega
  generalize (if popcount (P &&& fileMask k) > doubledPawnMin then m - Ev.mulF Ev.onePawn doubledPawnPenalty else m) = m1 at hd
  have L := fun (h0 : ¬ k = 0) => fm_index ⟨k - 1, by omega⟩
  have R := fun (h7 : ¬ k = 7) => fm_index ⟨k + 1, by omega⟩
  simp only at L R
  have fin : ∀ M : UInt64, r'.toInt = e1.toInt + (if bbNone (P &&& M) then - Ev.mulF Ev.onePawn isolatedPawnPenalty else 0) →
      r'.toInt = e0.toInt + if bbNone (P &&& M) = true then m1 - Ev.mulF Ev.onePawn isolatedPawnPenalty else m1 := by
    intro M h; rw [h, hd]; split <;> omega
  by_cases h0 : k = 0 <;> by_cases h7 : k = 7
  · omega
  · subst h0
    have R1 : ArrayMap.index common.FILE_MASKS (Index.from_File (0 + 1).toUInt8) = some (fileMask (0 + 1)) :=
      fm_index ⟨1, by omega⟩
    simp only [↓reduceIte, h7, R1, Option.bind_some, Option.getD_some, Option.getD_none] at hb
    simpa only [↓reduceIte, h7, UInt64.zero_or, UInt64.or_zero] using fin _ (bp_tail _ _ _ _ hb)
  · subst h7
    have L1 : ArrayMap.index common.FILE_MASKS (Index.from_File (7 - 1).toUInt8) = some (fileMask (7 - 1)) :=
      fm_index ⟨6, by omega⟩
    simp only [↓reduceIte, h0, L1, Option.bind_some, Option.getD_some, Option.getD_none] at hb
    simpa only [↓reduceIte, h0, UInt64.zero_or, UInt64.or_zero] using fin _ (bp_tail _ _ _ _ hb)
  · simp only [h0, h7, if_true, if_false, L h0, R h7, Option.bind_some, Option.getD_some, Option.getD_none] at hb
    simpa only [h0, h7, if_true, if_false, UInt64.zero_or, UInt64.or_zero] using fin _ (bp_tail _ _ _ _ hb)

/-! ## `evaluate_force_king_to_edge::evaluate` -/

theorem u8_min_toNat (a b : UInt8) : (u8_min a b).toNat = min a.toNat b.toNat := by
  unfold u8_min
  by_cases h : a ≤ b
  · rw [if_pos h]; rw [UInt8.le_iff_toNat_le] at h; omega
  · rw [if_neg h]; rw [UInt8.le_iff_toNat_le] at h; omega

theorem manhattan_lt (a b : Nat) (ha : a < 64) (hb : b < 64) : manhattan a b < 16 := by
  have h1 := absDist_lt8 (rankOf a) (rankOf b) (rankOf_lt ha) (rankOf_lt hb)
  have h2 := absDist_lt8 (fileOf a) (fileOf b) (fileOf_lt a) (fileOf_lt b)
  unfold manhattan
  omega


theorem ke_arith (x1 x2 x3 x4 md : Nat) (s13 s14 s15 s16 : Int) (q13 : s13 = ↑(min x1 x2) + ↑(min x3 x4))
    (q14 : s14 = 6 - s13) (q15 : s15 = 10 * s14) (q16 : s16 = s15 - md) :
    s16 = 10 * (6 - (min (x1 : Int) x2 + min (x3 : Int) x4)) - md := by omega

theorem evaluate_force_king_to_edge.evaluate_eq {sv : StateVariation} {v : Variation} (hr : SVRep sv v) (c : Color)
    (e0 r : Int32) (b : Bool) (h : evaluate_force_king_to_edge.evaluate sv c e0 b = some r) :
    r.toInt = e0.toInt + evalKingEdge v c := by
  unfold evaluate_force_king_to_edge.evaluate at h
  unfold evalKingEdge
  rw [hr.egw, f32_literals.2.2.1] at h
  by_cases h1 : v.egw < kingEdgeThreshold
  · rw [if_pos h1]
    rw [decide_eq_true h1, if_pos rfl] at h
    cases h; omega
  · rw [if_neg h1]
    rw [decide_eq_false h1, if_neg (by simp)] at h
    simp only [Option.bind_eq_bind, Color.not_eq, Option.bind_eq_some_iff, UInt8.checked_add_eq_some] at h
    obtain ⟨t1, ht1, t2, ht2, t3, e3, h⟩ := h
    have e1 := hr.cc c t1 ht1
    have e2 := hr.cc c.opp t2 ht2
    have one : (1 : UInt8).toNat = 1 := rfl
    have hm : kingEdgeCountMargin = 1 := rfl
    by_cases h2 : v.count c < v.count c.opp + kingEdgeCountMargin
    · rw [if_pos h2]
      have : t1 < t3 := by rw [UInt8.lt_iff_toNat_lt]; omega
      rw [decide_eq_true this, if_pos rfl] at h
      cases h; omega
    · rw [if_neg h2]
      have : ¬ t1 < t3 := by rw [UInt8.lt_iff_toNat_lt]; omega
      rw [decide_eq_false this, if_neg (by simp)] at h
      rw [hr.state, Board.piece_occupancy_stateOf, Board.piece_occupancy_stateOf] at h
      simp only [Option.bind_some, BitBoard.pop_eq] at h
      cases ho : firstOne (v.s.pieces.get c .king) with
      | none =>
        rw [ho] at h
        simp only at h
        cases h; simp
      | some ours =>
        rw [ho] at h
        simp only at h
        cases ht : firstOne (v.s.pieces.get c.opp .king) with
        | none =>
          rw [ht] at h
          simp only at h
          cases h; simp
        | some theirs =>
          rw [ht] at h
          simp only at h
          have ho64 := firstOne_lt _ _ ho
          have ht64 := firstOne_lt _ _ ht
          have hou : ours.toUInt8.toNat = ours := nat_toUInt8_toNat _ (by omega)
          have htu : theirs.toUInt8.toNat = theirs := nat_toUInt8_toNat _ (by omega)
          have hrk : (Square.rank theirs.toUInt8).toNat = rankOf theirs := by rw [Square.rank_toNat, htu]
          have hfl : (Square.file theirs.toUInt8).toNat = fileOf theirs := by rw [Square.file_toNat, htu]
          have hrk8 : rankOf theirs < 8 := rankOf_lt ht64
          have hfl8 : fileOf theirs < 8 := fileOf_lt theirs
          rw [Square.manhattan_distance_to_eq _ _ (by omega) (by omega),
            Rank.abs_distance_to_eq _ _ (by omega) (by decide), Rank.abs_distance_to_eq _ _ (by omega) (by decide),
            File.abs_distance_to_eq _ _ (by omega) (by decide), File.abs_distance_to_eq _ _ (by omega) (by decide)] at h
          simp only [Option.bind_some, hou, htu, hrk, hfl] at h
          have r0 : Rank.ONE.toNat = 0 := rfl
          have r7 : Rank.EIGHT.toNat = 7 := rfl
          have f0 : File.A.toNat = 0 := rfl
          have f7 : File.H.toNat = 7 := rfl
          rw [r0, r7, f0, f7] at h
          have hmd := manhattan_lt ours theirs ho64 ht64
          have a1 := absDist_lt8 (rankOf theirs) 0 hrk8 (by omega)
          have a2 := absDist_lt8 (rankOf theirs) 7 hrk8 (by omega)
          have a3 := absDist_lt8 (fileOf theirs) 0 hfl8 (by omega)
          have a4 := absDist_lt8 (fileOf theirs) 7 hfl8 (by omega)
          simp only [Option.bind_eq_some_iff, pure_eq_some, Int32.checked_add_eq_some, Int32.checked_sub_eq_some,
            Int32.checked_mul_eq_some, Evaluation.add_assign_eq_some] at h
          obtain ⟨s13, q13, s14, q14, s15, q15, s16, q16, s17, q17, rfl⟩ := h
          have k6 : (6 : Int32).toInt = 6 := by decide
          have k10 : (10 : Int32).toInt = 10 := by decide
          rw [u8_as_i32, u8_as_i32, u8_min_toNat, u8_min_toNat, nat_toUInt8_toNat _ (by omega), nat_toUInt8_toNat _ (by omega),
            nat_toUInt8_toNat _ (by omega), nat_toUInt8_toNat _ (by omega)] at q13
          rw [u8_as_i32, nat_toUInt8_toNat _ (by omega)] at q16
          rw [q17, Evaluation.mul_f32_eq]
          have hk : kingEdgeFactor = 10 := rfl
          have hc : kingEdgeCentre = 6 := rfl
          simp only [hk, hc]
          congr 2
          rw [k10] at q15
          rw [k6] at q14
          exact ke_arith _ _ _ _ _ _ _ _ _ q13 q14 q15 q16

/-! ## `StateVariation::from(&State)` -/

/-- the men of colour `c` among the (colour, piece) pairs already counted -/
def cntOf (s : Wee.State) (done : List (Color × Piece)) (c : Color) : Nat :=
  (done.map fun cp => if cp.1 = c then pieceCount s cp.1 cp.2 else 0).sum

theorem cntOf_app (s : Wee.State) (a b : List (Color × Piece)) (c : Color) :
    cntOf s (a ++ b) c = cntOf s a c + cntOf s b c := by
  simp [cntOf, List.map_append, List.sum_append]

theorem cntOf_append (s : Wee.State) (d : List (Color × Piece)) (c c' : Color) (p : Piece) :
    cntOf s (d ++ [(c, p)]) c' = cntOf s d c' + (if c = c' then pieceCount s c p else 0) := by
  rw [cntOf_app]; simp [cntOf]

/-- loop invariant of the two nested `for` loops of `StateVariation::from`: `(color_counts, piece_counts)` after the
pairs `done` -/
structure SVInv (s : Wee.State) (done : List (Color × Piece)) (st : Array UInt8 × Array UInt8) : Prop where
  ccs : st.1.size = 2
  pcs : st.2.size = 16
  cc : ∀ c : Color, ∃ x, st.1[c.idx]? = some x ∧ x.toNat = cntOf s done c
  pc : ∀ (c : Color) (p : Piece), ∃ x, st.2[(PieceIndex.new c p).toNat]? = some x ∧
    ((c, p) ∈ done → x.toNat = pieceCount s c p) ∧ ((c, p) ∉ done → x = 0)

/-- before the loops: both arrays zero -/
theorem SVInv.nil (s : Wee.State) : SVInv s [] (Array.replicate 2 (0 : UInt8), Array.replicate 16 (0 : UInt8)) := by
  refine ⟨rfl, rfl, fun c => ⟨0, by cases c <;> rfl, rfl⟩, fun c p => ⟨0, ?_, fun hm => (by cases hm), fun _ => rfl⟩⟩
  cases c <;> cases p <;> rfl

theorem count_u8 (b : UInt64) : (UInt32.toUInt8 (BitBoard.count_ones b)).toNat = popcount b := by
  have h := popcount_le b
  rw [UInt32.toNat_toUInt8, count_ones_toNat]
  omega

/-- the packing `colour · 8 + code` (`PieceIndex.new_toNat`) with `code ≤ 6` is injective -/
theorem PieceIndex.new_inj (c c' : Color) (p p' : Piece) (h : (PieceIndex.new c p).toNat = (PieceIndex.new c' p').toNat) :
    c = c' ∧ p = p' := by
  rw [PieceIndex.new_toNat, PieceIndex.new_toNat, show 2 ^ Gen.pieceIndexColorShift = 8 from rfl] at h
  have hp := Move.code_le p
  have hp' := Move.code_le p'
  exact ⟨Color.idx_inj (by omega), Move.code_inj (by omega)⟩

/-- one iteration of the inner loop keeps the invariant -/
theorem sv_step (s : Wee.State) (c : Color) (p : Piece) (d : List (Color × Piece)) (cc pc : Array UInt8)
    (st' : Array UInt8 × Array UInt8) (hI : SVInv s d (cc, pc))
    (hb : ((ArrayMap.index cc (Index.from_Color c)).bind fun t4 =>
            (UInt8.checked_add t4 (UInt32.toUInt8 (BitBoard.count_ones (s.pieces.get c p)))).bind fun t5 =>
            (ArrayMap.set cc (Index.from_Color c) t5).bind fun t6 =>
            (ArrayMap.set pc (Index.from_PieceIndex (PieceIndex.new c p))
              (UInt32.toUInt8 (BitBoard.count_ones (s.pieces.get c p)))).bind fun t7 =>
            some (t6, t7)) = some st') :
    SVInv s (d ++ [(c, p)]) st' := by
  simp only [Option.bind_eq_some_iff, Option.some.injEq, UInt8.checked_add_eq_some, ArrayMap.set_eq_some,
    ArrayMap.index_eq_some, Index.from_Color_toNat, Index.from_PieceIndex_toNat, count_u8] at hb
  obtain ⟨t4, ht4, t5, e5, _, ⟨h6, rfl⟩, _, ⟨h7, rfl⟩, rfl⟩ := hb
  refine ⟨by simpa using hI.ccs, by simpa using hI.pcs, ?_, ?_⟩
  · intro c'
    simp only [Array.getElem?_setIfInBounds, cntOf_append]
    by_cases hc : c.idx = c'.idx
    · have := Color.idx_inj hc
      subst this
      obtain ⟨x, hx, hxv⟩ := hI.cc c
      simp only at hx
      rw [hx] at ht4; cases ht4
      refine ⟨t5, by simp [h6], ?_⟩
      rw [e5, hxv]; simp [pieceCount]
    · obtain ⟨x, hx, hxv⟩ := hI.cc c'
      refine ⟨x, by simpa [hc] using hx, ?_⟩
      have : ¬ c = c' := fun e => hc (by rw [e])
      rw [hxv]; simp [this]
  · intro c' p'
    simp only [Array.getElem?_setIfInBounds]
    by_cases hi : (PieceIndex.new c p).toNat = (PieceIndex.new c' p').toNat
    · obtain ⟨rfl, rfl⟩ := PieceIndex.new_inj _ _ _ _ hi
      refine ⟨UInt32.toUInt8 (BitBoard.count_ones (s.pieces.get c p)), by simp [h7], fun _ => by rw [count_u8]; rfl, fun hn => ?_⟩
      exact absurd (List.mem_append_right _ (List.mem_singleton.2 rfl)) hn
    · obtain ⟨x, hx, hx1, hx2⟩ := hI.pc c' p'
      have hne : (c', p') ≠ (c, p) := by
        intro e; injection e with e1 e2; subst e1; subst e2; exact hi rfl
      refine ⟨x, by simpa [hi] using hx, fun hm => hx1 ?_, fun hn => hx2 (fun hm => hn (List.mem_append_left _ hm))⟩
      rcases List.mem_append.1 hm with hm | hm
      · exact hm
      · exact absurd (List.mem_singleton.1 hm) hne

/-- all (colour, piece) pairs in the order of the loops -/
def allPairs : List (Color × Piece) := Color.ALL.flatMap fun c => Piece.ALL.map fun p => (c, p)

theorem cntOf_all (s : Wee.State) (c : Color) : cntOf s allPairs c = (Variation.of s).count c := by
  cases c <;> simp [cntOf, allPairs, Color.ALL, Piece.ALL, Variation.of, Variation.count, Piece.all]

theorem mem_allPairs (c : Color) (p : Piece) : (c, p) ∈ allPairs ↔ p ≠ .none := by
  cases c <;> cases p <;> decide

theorem egw_den_ne :
    ¬ (F32.add (F32.add (f32.ofBits 0x40400000) (f32.ofBits 0x3f800000)) (f32.ofBits 0x3f800000) = 0) := by decide +kernel

theorem occ_count (s : Wee.State) :
    Int.ofNat (UInt32.toNat (BitBoard.count_ones s.pieces.occ)) = ((popcount s.pieces.occ : Nat) : Int) := by
  rw [count_ones_toNat]
  rfl

/-- **`StateVariation::from(&State)`**: when it returns, the result represents the model's `Variation.of s` (same
state, same end-game weight, the count tables hold the model's counts) -/
theorem StateVariation.from_State_eq (s : Wee.State) (sv : StateVariation)
    (h : StateVariation.from_State (stateOf s) = some sv) : SVRep sv (Variation.of s) := by
  unfold StateVariation.from_State at h
  simp only [Option.bind_eq_bind] at h
  obtain ⟨st, hst, h⟩ := Option.bind_eq_some_iff.1 h
  -- the two loops, as one loop over `allPairs`
  have hI : SVInv s allPairs st := by
    have hflat := (foldlM_nested _ _ Color.ALL Piece.ALL (fun st c => bind_pure _) _).symm.trans hst
    refine foldlM_inv _ (SVInv s) (fun d sta cp stb hP hb => ?_) allPairs [] _ st (SVInv.nil s) hflat
    exact sv_step s cp.1 cp.2 d sta.1 sta.2 stb hP (by
      simpa only [Board.piece_occupancy_stateOf, Option.bind_eq_bind, Option.bind_some, Option.pure_def] using hb)
  -- `count_pieces`
  simp only [Option.pure_def, Option.bind_eq_some_iff, Option.some.injEq, UInt8.checked_add_eq_some] at h
  have hcp : ∀ p : Piece, p ≠ .none → ∀ r,
      (∃ t9, ArrayMap.index st.2 (Index.from_PieceIndex (PieceIndex.new Color.white p)) = some t9 ∧
        ∃ t10, ArrayMap.index st.2 (Index.from_PieceIndex (PieceIndex.new Color.black p)) = some t10 ∧
        ∃ t11 : UInt8, t11.toNat = t9.toNat + t10.toNat ∧ F32.ofInt (Int.ofNat (UInt8.toNat t11)) = r) →
      r = F32.ofInt ((pieceCount s .white p + pieceCount s .black p : Nat) : Int) := by
    intro p hp r hr
    obtain ⟨t9, ht9, t10, ht10, t11, ht11, rfl⟩ := hr
    rw [ArrayMap.index_eq_some, Index.from_PieceIndex_toNat] at ht9 ht10
    obtain ⟨x, hx, hx1, _⟩ := hI.pc .white p
    obtain ⟨y, hy, hy1, _⟩ := hI.pc .black p
    rw [hx] at ht9; cases ht9
    rw [hy] at ht10; cases ht10
    rw [ht11, hx1 ((mem_allPairs _ _).2 hp), hy1 ((mem_allPairs _ _).2 hp)]
    rfl
  obtain ⟨c12, h12, c13, h13, c14, h14, rfl⟩ := h
  have e12 := hcp .pawn (by decide) c12 h12
  have e13 := hcp .queen (by decide) c13 h13
  obtain ⟨l1, l2, l3, l4, l5, l6, l7, lw1, lw2, lw3, ld1, ld2, ld3, lone⟩ := f32_literals
  rw [e12, e13, Board.occupancy_stateOf, occ_count] at h14
  unfold f32.checked_div at h14
  rw [if_neg egw_den_ne] at h14
  cases h14
  refine ⟨rfl, ?_, ?_, ?_⟩
  · show F32.sub (f32.ofBits 0x3f800000) _ = _
    rw [egw_eq_egwF]
    unfold egwF
    simp only
    rw [← lw1, ← lw2, ← lw3, ← ld1, ← ld2, ← ld3, ← lone]
  · intro c p x hx
    rw [ArrayMap.index_eq_some, Index.from_PieceIndex_toNat] at hx
    obtain ⟨y, hy, hy1, hy2⟩ := hI.pc c p
    rw [show (StateVariation.f_piece_counts _) = st.2 from rfl] at hx
    rw [hy] at hx; cases hx
    by_cases hp : p = .none
    · subst hp
      rw [hy2 (fun hm => ((mem_allPairs _ _).1 hm) rfl)]
      cases c <;> exact popcount_zero.symm
    · exact hy1 ((mem_allPairs _ _).2 hp)
  · intro c x hx
    rw [ArrayMap.index_eq_some, Index.from_Color_toNat] at hx
    obtain ⟨y, hy, hy1⟩ := hI.cc c
    rw [show (StateVariation.f_color_counts _) = st.1 from rfl] at hx
    rw [hy] at hx; cases hx
    rw [hy1, cntOf_all]

/-! ## `Evaluator::evaluate` -/

/-- `State::is_check` (translated here) through stage 3a's `Board::is_check` -/
theorem State.is_check_eq (s : Wee.State) : State.is_check (stateOf s) = some s.isCheck := by
  unfold State.is_check
  have e : State.f_board (stateOf s) = boardOf s.pieces := rfl
  have t : State.f_turn_to_move (stateOf s) = s.turn := rfl
  rw [e, t, Board.is_check_eq]
  rfl

/-- `eval.clamp(NEG_INF + 1, POS_INF - 1)` = the model's `clampHeuristic`; it never panics -/
theorem i32_clamp_eq (x : Int32) :
    i32_clamp x (Evaluation.NEG_INF + (1 : Int32)) (Evaluation.POS_INF - (1 : Int32)) =
      some (Int32.ofInt (clampHeuristic x.toInt)) ∧
    (Int32.ofInt (clampHeuristic x.toInt)).toInt = clampHeuristic x.toInt := by
  have c1 : (Evaluation.NEG_INF + (1 : Int32)).toInt = (-9999 : Int) := by decide
  have c2 : (Evaluation.POS_INF - (1 : Int32)).toInt = (9999 : Int) := by decide
  have hx1 := Int32.le_toInt x
  have hx2 := Int32.toInt_lt x
  have hcl : (Int32.ofInt (clampHeuristic x.toInt)).toInt = clampHeuristic x.toInt := by
    rw [clampHeuristic_eq]
    apply Int32.toInt_ofInt_of_le <;> omega
  refine ⟨?_, hcl⟩
  unfold i32_clamp
  have hle : Evaluation.NEG_INF + (1 : Int32) ≤ Evaluation.POS_INF - (1 : Int32) := by decide
  rw [if_pos hle]
  congr 1
  apply Int32.toInt_inj.1
  rw [hcl, clampHeuristic_eq]
  by_cases h1 : x < Evaluation.NEG_INF + (1 : Int32)
  · rw [if_pos h1, c1]
    rw [Int32.lt_iff_toInt_lt, c1] at h1
    omega
  · rw [if_neg h1]
    rw [Int32.lt_iff_toInt_lt, c1] at h1
    by_cases h2 : x > Evaluation.POS_INF - (1 : Int32)
    · rw [if_pos h2, c2]
      have h2' := Int32.lt_iff_toInt_lt.1 h2
      rw [c2] at h2'
      omega
    · rw [if_neg h2]
      have h2' : ¬ (Evaluation.POS_INF - (1 : Int32)).toInt < x.toInt := fun hh => h2 (Int32.lt_iff_toInt_lt.2 hh)
      rw [c2] at h2'
      omega

theorem weights_eq : f32.ofBits 0x3f800000 = mkRat 1 1 ∧ f32.ofBits 0x3f4ccccd = mkRat 13421773 16777216 ∧
    f32.ofBits 0x3e4ccccd = mkRat 13421773 67108864 := by decide +kernel

/-- one iteration of the `for (w, f) in self.fns` loop for a term function that adds the model's term `M` -/
theorem heur_term {sv : StateVariation} {v : Variation}
    (T : StateVariation → Color → Evaluation → Bool → Panics Evaluation) (M : Variation → Color → Eval)
    (hT : ∀ (c : Color) (e0 r : Int32) (b : Bool), T sv c e0 b = some r → r.toInt = e0.toInt + M v c)
    (w : Rat) (c : Color) (init res : Bool × Int32 × Bool) (hi1 : init.1 = false) (hi2 : init.2.2 = false)
    (h : (if init.2.2 = true then some init else
        ((T sv c Evaluation.EVEN init.1).bind fun e => some (e, init.1)).bind fun t17 =>
        ((T sv (Color.not c) Evaluation.EVEN t17.2).bind fun e => some (e, t17.2)).bind fun t18 =>
        (Evaluation.sub_Evaluation t17.1 t18.1).bind fun t19 =>
        (Evaluation.add_assign_Evaluation init.2.1 (Evaluation.mul_f32 t19 w)).bind fun t20 =>
        some (t18.2, t20, t18.2)) = some res) :
    res.1 = false ∧ res.2.2 = false ∧ res.2.1.toInt = init.2.1.toInt + Ev.mulF (M v c - M v c.opp) w := by
  rw [if_neg (by simp [hi2])] at h
  simp only [Option.bind_eq_some_iff, Option.some.injEq, Evaluation.sub_eq_some, Evaluation.add_assign_eq_some] at h
  obtain ⟨t17, ⟨e1, h1, rfl⟩, t18, ⟨e2, h2, rfl⟩, e, h3, a, h4, rfl⟩ := h
  refine ⟨hi1, hi1, ?_⟩
  show a.toInt = _
  rw [h4, Evaluation.mul_f32_eq, h3, hT _ _ _ _ h1, hT _ _ _ _ h2, Evaluation.consts_eq.2.2.2, Color.not_eq]
  simp

/-- the heuristic part of `Evaluator::evaluate` (the loop over `EVALUATORS` and the clamp) -/
theorem heuristic_eq {sv : StateVariation} {v : Variation} (hr : SVRep sv v) (c : Color) (r : Int32)
    (h : ((List.foldlM (fun (loop_state : (Bool × Evaluation × Bool)) (loop_item : (f32 × EvaluationFunction)) =>
        if loop_state.2.2 then pure loop_state else
          (loop_item.2 sv c Evaluation.EVEN loop_state.1).bind fun t17 =>
          (loop_item.2 sv (Color.not c) Evaluation.EVEN t17.2).bind fun t18 =>
          (Evaluation.sub_Evaluation t17.1 t18.1).bind fun t19 =>
          (Evaluation.add_assign_Evaluation loop_state.2.1 (Evaluation.mul_f32 t19 loop_item.1)).bind fun t20 =>
          pure (t18.2, t20, t18.2)) (false, Evaluation.EVEN, false) eval.EVALUATORS).bind fun t16 =>
        i32_clamp t16.2.1 (Evaluation.NEG_INF + (1 : Int32)) (Evaluation.POS_INF - (1 : Int32))) = some r) :
    r.toInt = clampHeuristic (evalHeuristic v c) := by
  obtain ⟨t16, hf, hc⟩ := Option.bind_eq_some_iff.1 h
  rw [(i32_clamp_eq _).1] at hc
  cases hc
  rw [(i32_clamp_eq _).2]
  congr 1
  obtain ⟨w1, w8, w2⟩ := weights_eq
  have hi : ((false, Evaluation.EVEN, false) : Bool × Evaluation × Bool).1 = false ∧
      ((false, Evaluation.EVEN, false) : Bool × Evaluation × Bool).2.2 = false ∧
      ((false, Evaluation.EVEN, false) : Bool × Evaluation × Bool).2.1.toInt = 0 := ⟨rfl, rfl, by decide⟩
  generalize ((false, Evaluation.EVEN, false) : Bool × Evaluation × Bool) = init0 at hf hi
  simp only [eval.EVALUATORS, List.foldlM_cons, List.foldlM_nil, Option.bind_eq_bind, Option.pure_def,
    Option.bind_eq_some_iff, Option.some.injEq] at hf
  obtain ⟨s1, h1, s2, h2, s3, h3, s4, h4, rfl⟩ := hf
  obtain ⟨a1, b1, r1⟩ := heur_term evaluate_piece_worths.evaluate evalWorths
    (fun c e0 r b => evaluate_piece_worths.evaluate_eq hr c e0 r b) _ c _ _ hi.1 hi.2.1 h1
  obtain ⟨a2, b2, r2⟩ := heur_term evaluate_piece_squares.evaluate evalSquares
    (fun c e0 r b => evaluate_piece_squares.evaluate_eq hr c e0 r b) _ c _ _ a1 b1 h2
  obtain ⟨a3, b3, r3⟩ := heur_term evaluate_force_king_to_edge.evaluate evalKingEdge
    (fun c e0 r b => evaluate_force_king_to_edge.evaluate_eq hr c e0 r b) _ c _ _ a2 b2 h3
  obtain ⟨a4, b4, r4⟩ := heur_term evaluate_bad_pawns.evaluate evalBadPawns
    (fun c e0 r b => evaluate_bad_pawns.evaluate_eq hr c e0 r b) _ c _ _ a3 b3 h4
  rw [evalHeuristic_eq, r4, r3, r2, r1, hi.2.2, w1, w8, w2]

theorem isEmpty_res (ms : List (Wee.Move × Wee.State)) : Array.isEmpty (ms.map resOf).toArray = ms.isEmpty := by
  cases ms <;> rfl

/-- the terminal test of `Evaluator::evaluate` (checkmate / stalemate / neither) -/
theorem terminal_eq (s : Wee.State) (c : Color) (depth : UInt64) (hd : depth.toNat < 2 ^ 31) (chk : Bool) (X : Int)
    (H : Option Int32) (hH : ∀ r, H = some r → r.toInt = X) (r : Int32)
    (h : (((Option.map (fun rs => (List.map resOf rs).toArray) (legalMoves? s)).bind fun tmp10 =>
          Option.bind (if Array.isEmpty tmp10 = true then some chk else some false) fun tmp13 =>
            Option.bind
              (if tmp13 = true then
                Option.bind
                  (if (s.turn == c) = true then Option.bind (Evaluation.mate_in_ply depth) fun tmp15 => Evaluation.neg tmp15
                  else Evaluation.mate_in_ply depth)
                  fun tmp14 => some (Early.ret tmp14)
              else if Array.isEmpty tmp10 = true then some (Early.ret Evaluation.EVEN) else some (Early.cont ()))
              fun (tmp11 : Early Evaluation Unit) =>
              match tmp11 with
              | Early.ret tmp14 => some (Early.ret tmp14)
              | Early.cont _ => some (Early.cont ())).bind
      fun (tmp7 : Early Evaluation Unit) =>
      match tmp7 with
      | Early.ret tmp19 => some tmp19
      | Early.cont _ => H) = some r) :
    ((legalMoves? s).map List.isEmpty).map (terminalOr (s.turn == c) chk depth.toNat X) = some r.toInt := by
  have hmate := Evaluation.mate_in_ply_eq depth hd
  cases hl : legalMoves? s with
  | none => rw [hl] at h; simp at h
  | some ms =>
    rw [hl] at h
    simp only [Option.map_some, Option.bind_some, isEmpty_res] at h ⊢
    cases hme : ms.isEmpty <;> cases chk <;>
      simp only [hme, terminalOr, Bool.and_true, Bool.and_false, Bool.false_eq_true, if_true, if_false, Option.bind_some] at h ⊢
    · rw [hH r h]
    · rw [hH r h]
    · cases h; rw [Evaluation.consts_eq.2.2.2]
    · cases hm : Evaluation.mate_in_ply depth with
      | none => rw [hm] at h; simp at h
      | some m =>
        rw [hm] at hmate h
        simp only [Option.map_some, Option.some.injEq] at hmate
        by_cases ht : (s.turn == c) = true
        · simp only [ht, if_true, Option.bind_some] at h ⊢
          cases hn : Evaluation.neg m with
          | none => rw [hn] at h; simp at h
          | some n =>
            rw [hn] at h
            simp only [Option.bind_some] at h
            cases h
            rw [Evaluation.neg_eq_some.1 hn, hmate]
        · simp only [ht, if_false, Option.bind_some, Bool.false_eq_true] at h ⊢
          cases h
          rw [hmate]

/-- **`Evaluator::evaluate`** (with `Evaluator::default()`, i.e. `fns = &EVALUATORS`) on the Rust-side value of a model
state: whenever it returns, the model's `evaluate` returns the same number.  The callees (check, attack maps, move
generation) are the stage-3a translations. -/
theorem Evaluator.evaluate_eq (s : Wee.State) (ok : StateOK s) (c : Color) (depth : UInt64) (hd : depth.toNat < 2 ^ 31)
    (r : Int32) (h : Evaluator.evaluate ⟨eval.EVALUATORS⟩ (stateOf s) c depth = some r) :
    Wee.evaluate s c depth.toNat = some r.toInt := by
  unfold Evaluator.evaluate at h
  simp only [Option.bind_eq_bind] at h
  obtain ⟨sv, hsv, h⟩ := Option.bind_eq_some_iff.1 h
  have hr := StateVariation.from_State_eq s sv hsv
  rw [State.turn_to_move_stateOf, Board.piece_occupancy_stateOf, Option.bind_some, BitBoard.first_square_eq,
    Option.bind_some, Board.occupancy_stateOf] at h
  rw [Wee.evaluate_eq]
  unfold kingHasMove
  cases hk : firstOne (s.pieces.get s.turn .king) with
  | none =>
    rw [hk] at h
    simp [unwrap] at h
  | some k =>
    rw [hk] at h
    -- `rw`, not `simp`, for `Option.bind_some`: the proof term `simp` builds for this step over the whole translated body
    -- is far more expensive for the kernel to check
    simp only [Option.map_some, unwrap] at h
    rw [Option.bind_some] at h
    have hk64 := firstOne_lt _ _ hk
    have hku : k.toUInt8.toNat = k := nat_toUInt8_toNat _ (by omega)
    have eb : State.board (stateOf s) = boardOf s.pieces := rfl
    rw [AttackGenerator.compute_king_attacks_eq _ (by rw [hku]; exact hk64), Option.bind_some, hku, eb, Color.not_eq,
      Board.colored_attacks_eq, Option.bind_some, State.is_check_eq, MoveGenerator.compute_legal_moves_model s ok] at h
    simp only [BitBoard.any_eq, BitBoard.bitand_eq, BitBoard.not_eq] at h
    have hH := fun r h => heuristic_eq hr c r h
    generalize (Option.bind (List.foldlM _ _ _) _ : Option Int32) = H at h hH
    simp only
    have hmate := Evaluation.mate_in_ply_eq depth hd
    rcases Bool.eq_false_or_eq_true (bbAny (kingAttacks k &&& ~~~s.pieces.occ &&& ~~~coloredAttacks s.pieces s.turn.opp))
      with hkhm | hkhm <;> rcases Bool.eq_false_or_eq_true s.isCheck with hchk | hchk <;>
      simp only [hkhm, hchk, Bool.not_true, Bool.not_false, if_true, if_false, Bool.or_true,
      Bool.or_false, Bool.true_or, Bool.false_or, Option.pure_def, Option.bind_some, Bool.false_eq_true] at h ⊢
    · exact terminal_eq s c depth hd true _ H hH r h
    · rw [hH r h]
    · exact terminal_eq s c depth hd true _ H hH r h
    · exact terminal_eq s c depth hd false _ H hH r h

/-- the model answers `none` (no king of the side to move, or the move generator panics where it is consulted) only
where the translated function panics -/
theorem Evaluator.evaluate_none (s : Wee.State) (ok : StateOK s) (c : Color) (depth : UInt64) (hd : depth.toNat < 2 ^ 31)
    (hm : Wee.evaluate s c depth.toNat = Option.none) :
    Evaluator.evaluate ⟨eval.EVALUATORS⟩ (stateOf s) c depth = Option.none := by
  cases h : Evaluator.evaluate ⟨eval.EVALUATORS⟩ (stateOf s) c depth with
  | none => rfl
  | some r =>
    have := Evaluator.evaluate_eq s ok c depth hd r h
    rw [hm] at this
    cases this

/-! ## `Evaluator::estimate` -/

theorem worth_term (p : Piece) :
    (Evaluation.mul_f32 Evaluation.ONE_PAWN (pieceWorth p)).toInt = Ev.mulF Ev.onePawn (pieceWorth p) := by
  rw [Evaluation.mul_f32_eq, Evaluation.consts_eq.1]

/-- **`Evaluator::estimate`**: whenever it returns, it returns the model's `estimate` (for every `Evaluator`: `self` is
not used) -/
theorem Evaluator.estimate_eq (self : Evaluator) (s : Wee.State) (mv : UInt32) (r : Int32)
    (h : Evaluator.estimate self (stateOf s) mv = some r) : r.toInt = Wee.estimate s mv := by
  unfold Evaluator.estimate at h
  have eb : State.board (stateOf s) = boardOf s.pieces := rfl
  have hd64 := Wee.Move.dest_lt mv
  have ho64 := Wee.Move.origin_lt mv
  have hdu : (Wee.Move.dest mv).toUInt8.toNat = Wee.Move.dest mv := nat_toUInt8_toNat _ (by omega)
  have hou : (Wee.Move.origin mv).toUInt8.toNat = Wee.Move.origin mv := nat_toUInt8_toNat _ (by omega)
  obtain ⟨l1, l2, l3, lcastle, ldp, lprom, lsq, _⟩ := f32_literals
  simp only [Option.bind_eq_bind, eb, Color.not_eq, Move.color_eq, Board.colored_pawn_attacks_eq, Option.bind_some,
    Move.destination_eq, Move.origin_eq, BitBoard.just_eq _ (sq_toUInt8_lt hd64), hdu, Move.piece_eq,
    Move.castle_side_eq, Move.is_double_pawn_eq, BitBoard.any_eq, BitBoard.bitand_eq, Option.pure_def,
    PIECE_PAWN_WORTHS_index, Option.bind_eq_some_iff, Option.some.injEq, ite_eq_some, Evaluation.add_assign_eq_some,
    Evaluation.sub_assign_eq_some, Evaluation.sub_eq_some, Evaluation.mul_i32_eq_some] at h
  obtain ⟨a1, h1, cap, hcap, a2, h2, a3, h3, a4, h4, pr, hpr, a5, h5, pr2, hpr2, h⟩ := h
  rw [hpr] at hpr2
  cases hpr2
  have hcap' := Move.capture_some mv cap hcap
  have hpr' := Move.promotion_some mv pr hpr
  have e0 : Evaluation.EVEN.toInt = 0 := Evaluation.consts_eq.2.2.2
  have k10 : (10 : Int32).toInt = estCaptureFactor := by decide
  have k2 : (2 : Int32).toInt = estSquareFactor := by decide
  -- attacked by a pawn
  have q1 : a1.toInt = if bbAny (coloredPawnAttacks s.pieces (Wee.Move.color mv).opp &&& bit (Wee.Move.dest mv))
      then 0 - Ev.mulF Ev.onePawn (pieceWorth (Wee.Move.piece mv)) else 0 := by
    split at h1 <;> rename_i hc
    · rw [if_pos hc]
      obtain ⟨t, ht, u, hu, rfl⟩ := h1
      rw [hu, worth_term, e0, Wee.Move.piece_of_piece? ht]
    · rw [if_neg hc]; cases h1; exact e0
  -- capture
  have q2 : a2.toInt = match Wee.Move.capture mv with
      | some cap => a1.toInt + Ev.mulF Ev.onePawn (pieceWorth cap) * estCaptureFactor
          - Ev.mulF Ev.onePawn (pieceWorth (Wee.Move.piece mv))
      | Option.none => a1.toInt := by
    rw [hcap']
    cases cap with
    | none => cases h2; rfl
    | some cp =>
      simp only [Option.bind_eq_some_iff, Option.some.injEq, Evaluation.add_assign_eq_some, Evaluation.sub_assign_eq_some,
        Evaluation.mul_i32_eq_some] at h2
      obtain ⟨t9, h9, t10, h10, t, ht, u, hu, rfl⟩ := h2
      simp only
      rw [hu, h10, h9, worth_term, worth_term, k10, Wee.Move.piece_of_piece? ht]
  -- castling
  have q3 : a3.toInt = if (Wee.Move.castleSide mv).isSome then a2.toInt + Ev.mulF Ev.onePawn estCastleBonus else a2.toInt := by
    split at h3 <;> rename_i hc
    · rw [if_pos hc]
      obtain ⟨u, hu, rfl⟩ := h3
      rw [hu, Evaluation.mul_f32_eq, Evaluation.consts_eq.1, lcastle]
    · rw [if_neg hc]; cases h3; rfl
  -- double pawn push
  have q4 : a4.toInt = if Wee.Move.isDoublePawn mv then a3.toInt + Ev.mulF Ev.onePawn estDoublePawnBonus else a3.toInt := by
    split at h4 <;> rename_i hc
    · rw [if_pos hc]
      obtain ⟨u, hu, rfl⟩ := h4
      rw [hu, Evaluation.mul_f32_eq, Evaluation.consts_eq.1, ldp]
    · rw [if_neg hc]; cases h4; rfl
  -- promotion
  have q5 : a5.toInt = match Wee.Move.promotion mv with
      | some pr => a4.toInt + Ev.mulF (Ev.mulF Ev.onePawn (pieceWorth pr)) estPromotionFactor
      | Option.none => a4.toInt := by
    rw [hpr']
    cases pr with
    | none => cases h5; rfl
    | some pp =>
      simp only [Option.bind_eq_some_iff, Option.some.injEq, Evaluation.add_assign_eq_some] at h5
      obtain ⟨u, hu, rfl⟩ := h5
      simp only
      rw [hu, Evaluation.mul_f32_eq, worth_term, lprom]
  -- piece-square difference
  have q6 : r.toInt = if (Wee.Move.promotion mv).isNone then
      a5.toInt + (pieceSquare (Wee.Move.piece mv) (Wee.Move.dest mv) (Wee.Move.color mv) estSquareWeight
        - pieceSquare (Wee.Move.piece mv) (Wee.Move.origin mv) (Wee.Move.color mv) estSquareWeight) * estSquareFactor
      else a5.toInt := by
    rw [hpr']
    split at h <;> rename_i hc
    · rw [if_pos hc]
      obtain ⟨t, ht, v1, hv1, t', ht', v2, hv2, d, hd, m, hm, u, hu, rfl⟩ := h
      rw [ht] at ht'; cases ht'
      have e1 := evaluate_piece_squares.evaluate_piece_square_eq t _ (Wee.Move.color mv) _ (sq_toUInt8_lt ho64) v1 hv1
      have e2 := evaluate_piece_squares.evaluate_piece_square_eq t _ (Wee.Move.color mv) _ (sq_toUInt8_lt hd64) v2 hv2
      rw [hou, lsq] at e1
      rw [hdu, lsq] at e2
      rw [hu, hm, hd, e1, e2, k2, Wee.Move.piece_of_piece? ht]
    · rw [if_neg hc]; cases h; rfl
  unfold Wee.estimate
  simp only
  rw [q6, q5, q4, q3, q2, q1]
  rfl

end GenFns
end Wee
