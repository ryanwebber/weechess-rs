import Wee.Proofs.EvalFnsBridge
/-!
# `StateVariation::from(&State)` as translated from the Rust source returns (stage 3b)

`Wee/Proofs/EvalFnsBridge.lean` proves "when the translated function returns, it returns the model's value".  This file
proves for `StateVariation::from(&State)` that it DOES return (no `u8` overflow, no index out of bounds, no division by
a zero) whenever each side has at most 255 men — in particular on every position with at most 16 men a side, the
domain of `Wee/Proofs/EvalBound.lean`: `StateVariation.from_State_total`, by the loop invariant `SVInv` of the bridge
carried through `foldlM_total`.  Nothing of the kind is proved for `Evaluator::evaluate` and the term functions.
-/
set_option linter.unusedSimpArgs false
namespace Wee
namespace GenFns
open Gen

/-- one iteration of the inner loop succeeds when the running count of the colour stays within `u8` -/
theorem sv_step_total (s : Wee.State) (c : Color) (p : Piece) (d : List (Color × Piece)) (cc pc : Array UInt8)
    (hI : SVInv s d (cc, pc)) (hb : cntOf s (d ++ [(c, p)]) c ≤ 255) :
    ∃ st', ((ArrayMap.index cc (Index.from_Color c)).bind fun t4 =>
            (UInt8.checked_add t4 (UInt32.toUInt8 (BitBoard.count_ones (s.pieces.get c p)))).bind fun t5 =>
            (ArrayMap.set cc (Index.from_Color c) t5).bind fun t6 =>
            (ArrayMap.set pc (Index.from_PieceIndex (PieceIndex.new c p))
              (UInt32.toUInt8 (BitBoard.count_ones (s.pieces.get c p)))).bind fun t7 =>
            some (t6, t7)) = some st' := by
  obtain ⟨x, hx, hxv⟩ := hI.cc c
  rw [cntOf_append, if_pos rfl] at hb
  have hn := count_u8 (s.pieces.get c p)
  generalize UInt32.toUInt8 (BitBoard.count_ones (s.pieces.get c p)) = n at hn ⊢
  have hadd : (x + n).toNat = x.toNat + n.toNat := by
    rw [UInt8.toNat_add, Nat.mod_eq_of_lt]
    rw [hn, hxv]
    unfold pieceCount at hb
    omega
  have hc2 : c.idx < cc.size := by rw [show cc.size = 2 from hI.ccs]; exact Color.idx_lt c
  have hp16 : (PieceIndex.new c p).toNat < pc.size := by rw [show pc.size = 16 from hI.pcs]; exact PieceIndex.new_lt16 c p
  refine ⟨(cc.setIfInBounds c.idx (x + n), pc.setIfInBounds (PieceIndex.new c p).toNat n), ?_⟩
  simp only [Option.bind_eq_some_iff, Option.some.injEq, UInt8.checked_add_eq_some, ArrayMap.set_eq_some,
    Index.from_Color_toNat, Index.from_PieceIndex_toNat]
  exact ⟨x, by rw [ArrayMap.index_eq_some, Index.from_Color_toNat]; exact hx, _, hadd, _, ⟨hc2, rfl⟩, _, ⟨hp16, rfl⟩, rfl⟩

/-- **`StateVariation::from(&State)` does not panic** on a state with at most 255 men a side; the result represents the
model's `Variation.of s` -/
theorem StateVariation.from_State_total (s : Wee.State) (hmen : ∀ c, (Variation.of s).count c ≤ 255) :
    ∃ sv, StateVariation.from_State (stateOf s) = some sv ∧ SVRep sv (Variation.of s) := by
  suffices h : ∃ sv, StateVariation.from_State (stateOf s) = some sv from by
    obtain ⟨sv, hsv⟩ := h
    exact ⟨sv, hsv, StateVariation.from_State_eq s sv hsv⟩
  have hall : ∀ c, cntOf s allPairs c ≤ 255 := fun c => by rw [cntOf_all]; exact hmen c
  unfold StateVariation.from_State
  simp only [Option.bind_eq_bind]
  refine bind_total (SVInv s allPairs) ?_ ?_
  · -- the two loops, as one loop over `allPairs`
    suffices h : ∃ r, List.foldlM _ (Array.replicate 2 (0 : UInt8), Array.replicate 16 (0 : UInt8)) allPairs = some r ∧
        SVInv s allPairs r by
      obtain ⟨r, hr, hP⟩ := h
      exact ⟨r, (foldlM_nested _ _ Color.ALL Piece.ALL (fun st c => bind_pure _) _).trans hr, hP⟩
    refine foldlM_total _ (SVInv s) allPairs (fun d cp t sta hd hP => ?_) allPairs [] _ rfl (SVInv.nil s)
    have hbound : cntOf s (d ++ [(cp.1, cp.2)]) cp.1 ≤ 255 := by
      have := hall cp.1
      rw [← hd, show d ++ cp :: t = (d ++ [cp]) ++ t by simp, cntOf_app] at this
      exact Nat.le_trans (Nat.le_add_right _ _) this
    obtain ⟨st', hst'⟩ := sv_step_total s cp.1 cp.2 d sta.1 sta.2 hP hbound
    refine ⟨st', ?_, sv_step s cp.1 cp.2 d sta.1 sta.2 st' hP hst'⟩
    simpa only [Board.piece_occupancy_stateOf, Option.bind_eq_bind, Option.bind_some, Option.pure_def] using hst'
  · intro st hI
    -- `count_pieces`
    have hcp : ∀ p : Piece, ∃ r,
        ((ArrayMap.index st.2 (Index.from_PieceIndex (PieceIndex.new Color.white p))).bind fun t9 =>
          (ArrayMap.index st.2 (Index.from_PieceIndex (PieceIndex.new Color.black p))).bind fun t10 =>
          (UInt8.checked_add t9 t10).bind fun t11 => some (F32.ofInt (Int.ofNat (UInt8.toNat t11)))) = some r := by
      intro p
      obtain ⟨x, hx, hx1, hx2⟩ := hI.pc .white p
      obtain ⟨y, hy, hy1, hy2⟩ := hI.pc .black p
      have bx : x.toNat ≤ 64 := by
        by_cases hm : (Color.white, p) ∈ allPairs
        · rw [hx1 hm]; exact popcount_le _
        · rw [hx2 hm]; decide
      have by' : y.toNat ≤ 64 := by
        by_cases hm : (Color.black, p) ∈ allPairs
        · rw [hy1 hm]; exact popcount_le _
        · rw [hy2 hm]; decide
      rw [ArrayMap.index_eq_some.2 (Index.from_PieceIndex_toNat _ ▸ hx), ArrayMap.index_eq_some.2 (Index.from_PieceIndex_toNat _ ▸ hy)]
      simp only [Option.bind_some]
      unfold UInt8.checked_add
      rw [if_pos (by omega)]
      exact ⟨_, rfl⟩
    obtain ⟨r1, hr1⟩ := hcp .pawn
    obtain ⟨r2, hr2⟩ := hcp .queen
    simp only [Option.pure_def]
    rw [hr1, Option.bind_some, hr2, Option.bind_some]
    unfold f32.checked_div
    rw [if_neg egw_den_ne]
    exact ⟨_, rfl⟩

end GenFns
end Wee
