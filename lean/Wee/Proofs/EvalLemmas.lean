import Wee.Model.Eval
import Wee.Proofs.ClampLemmas
import Wee.Proofs.BitLemmas
import Wee.Proofs.ListLemmas
/-!
# Lemmas about the soft-float model and the evaluator (used by C13 and C05)

The soft-float is odd (`mul`, `ofInt`, and `toI32` on its non-saturating range).  Bounds on `f32` expressions are
derived in one calculus, `Btw L H q` (`q` between two integers), resting on `Model/F32`'s "rounding never crosses a
grid point".  Each term function of the evaluator is opened once, by the lemma that says what it computes
(`evalWorths_eq`, `evalBadPawns_eq`, `pieceSquare_eq`, `evalKingEdge_eq`); the bounds here, the coupled bound
(`EvalBound`) and the mirror symmetry (`EvalMirror`) go through these.  Results: the four evaluator terms are bounded for
every state, the heuristic sum is odd in the perspective and fits `i32`, and `|end_game_weight| ≤ 19`.
-/
namespace Wee.F32

/-! ## oddness -/

theorem mul_neg_left (a b : Rat) : mul (-a) b = - mul a b := by
  unfold mul; rw [Rat.neg_mul, round32_neg]

theorem mul_neg_right (a b : Rat) : mul a (-b) = - mul a b := by
  unfold mul; rw [Rat.mul_neg, round32_neg]

theorem ofInt_neg (i : Int) : ofInt (-i) = - ofInt i := by
  unfold ofInt; rw [Rat.intCast_neg, round32_neg]

/-- truncation toward zero (the unsaturated part of `as i32`) -/
def trunc (q : Rat) : Int := if q ≥ 0 then q.floor else - (-q).floor

theorem toI32_def (q : Rat) : toI32 q =
    if trunc q > 2147483647 then 2147483647 else if trunc q < -2147483648 then -2147483648 else trunc q := rfl

theorem trunc_neg (q : Rat) : trunc (-q) = - trunc q := by
  unfold trunc
  by_cases h0 : q = 0
  · subst h0; simp [Rat.floor_def]
  · by_cases hq : q ≥ 0
    · have hn : ¬ (-q ≥ 0) := by grind
      simp [hq, hn, Rat.neg_neg]
    · have hn : -q ≥ 0 := by grind
      simp [hq, hn]

theorem trunc_le_int {q : Rat} {B : Int} (h : q ≤ (B : Rat)) : trunc q ≤ B := by
  unfold trunc
  split
  · have h1 : q.floor < B + 1 := Rat.floor_lt_iff.2 (by
      have : ((B + 1 : Int) : Rat) = (B : Rat) + 1 := by simp
      rw [this]; grind)
    omega
  · have h1 : -B ≤ (-q).floor := Rat.le_floor_iff.2 (by rw [Rat.intCast_neg]; grind)
    omega

theorem int_le_trunc {q : Rat} {A : Int} (h : (A : Rat) ≤ q) : A ≤ trunc q := by
  have := trunc_le_int (q := -q) (B := -A) (by rw [Rat.intCast_neg]; grind)
  rw [trunc_neg] at this
  omega

theorem toI32_eq_trunc {q : Rat} (h1 : -2147483648 ≤ trunc q) (h2 : trunc q ≤ 2147483647) :
    toI32 q = trunc q := by
  rw [toI32_def]; split
  · omega
  · split
    · omega
    · rfl

/-- `x as i32` is odd on the non-saturating range.  (It is NOT odd in general:
`toI32 (2^31) = 2^31 - 1` but `toI32 (-2^31) = -2^31`.) -/
theorem toI32_neg_of_trunc {q : Rat} (h1 : -2147483647 ≤ trunc q) (h2 : trunc q ≤ 2147483647) :
    toI32 (-q) = - toI32 q := by
  rw [toI32_eq_trunc (by omega) h2, toI32_eq_trunc (by rw [trunc_neg]; omega) (by rw [trunc_neg]; omega),
    trunc_neg]

theorem toI32_neg {q : Rat} (h1 : -2147483647 ≤ q) (h2 : q ≤ 2147483647) :
    toI32 (-q) = - toI32 q :=
  toI32_neg_of_trunc (int_le_trunc (A := -2147483647) (by simpa using h1))
    (trunc_le_int (B := 2147483647) (by simpa using h2))

theorem ofInt_exact {i : Int} (h1 : -16777216 < i) (h2 : i < 16777216) : ofInt i = (i : Rat) :=
  round32_grid (.intCast (by omega))

/-! ## enclosures between integers -/

theorem mul_abs_bounds {a b A B : Rat} (ha1 : -A ≤ a) (ha2 : a ≤ A) (hb1 : -B ≤ b) (hb2 : b ≤ B) :
    -(A * B) ≤ a * b ∧ a * b ≤ A * B := by
  have hA : 0 ≤ A := by grind
  have hB : 0 ≤ B := by grind
  have p1 := Rat.mul_nonneg (a := A - a) (b := B - b) (by grind) (by grind)
  have p2 := Rat.mul_nonneg (a := A + a) (b := B + b) (by grind) (by grind)
  have p3 := Rat.mul_nonneg (a := A - a) (b := B + b) (by grind) (by grind)
  have p4 := Rat.mul_nonneg (a := A + a) (b := B - b) (by grind) (by grind)
  constructor <;> grind

/-- `q` lies between the integers `L` and `H`.  The exact operations move the ends, `round32` keeps ends below `2^24`
(they are on the grid), `as i32` keeps ends inside `i32`.  The rules for the exact operations (`add`, `sub`, `mul_abs`)
compute the ends of their conclusion from those of their hypotheses; in `mono`, `div_nat`, `round32`, `toI32` the ends
of the conclusion are variables: a use fixes them by unification and leaves closed side conditions on integers. -/
def Btw (L H : Int) (q : Rat) : Prop := (L : Rat) ≤ q ∧ q ≤ (H : Rat)

namespace Btw
variable {L H L' H' : Int} {q r : Rat}

theorem intCast {i : Int} (h1 : L ≤ i) (h2 : i ≤ H) : Btw L H (i : Rat) :=
  ⟨Rat.intCast_le_intCast.2 h1, Rat.intCast_le_intCast.2 h2⟩

theorem of_nat {N : Nat} (hl : -(N : Rat) ≤ q) (hu : q ≤ (N : Rat)) : Btw (-(N : Int)) N q := by
  unfold Btw; rw [Rat.intCast_neg, Rat.intCast_natCast]; exact ⟨hl, hu⟩

theorem mono (h : Btw L H q) (h1 : L' ≤ L) (h2 : H ≤ H') : Btw L' H' q :=
  ⟨Rat.le_trans (Rat.intCast_le_intCast.2 h1) h.1, Rat.le_trans h.2 (Rat.intCast_le_intCast.2 h2)⟩

theorem add (h : Btw L H q) (h' : Btw L' H' r) : Btw (L + L') (H + H') (q + r) := by
  unfold Btw at *; rw [Rat.intCast_add, Rat.intCast_add]; grind

theorem sub (h : Btw L H q) (h' : Btw L' H' r) : Btw (L - H') (H - L') (q - r) := by
  unfold Btw at *; rw [Rat.intCast_sub, Rat.intCast_sub]; grind

theorem mul_abs {A B : Int} (h : Btw (-A) A q) (h' : Btw (-B) B r) : Btw (-(A * B)) (A * B) (q * r) := by
  unfold Btw at *; rw [Rat.intCast_neg] at *; rw [Rat.intCast_mul]; exact mul_abs_bounds h.1 h.2 h'.1 h'.2

/-- division by a positive integer constant `d = D` -/
theorem div_nat {D : Nat} {d : Rat} (hd : d = (D : Rat)) (hD : 0 < D) (h : Btw L' H' q) (hL : L * D ≤ L')
    (hH : H' ≤ H * D) : Btw L H (q / d) := by
  have hDi : (0 : Rat) ≤ (D : Rat)⁻¹ := Rat.le_of_lt (Rat.inv_pos.2 (Rat.natCast_pos.2 hD))
  have hc : (D : Rat) * (D : Rat)⁻¹ = 1 := Rat.mul_inv_cancel _ (by simpa using Nat.ne_of_gt hD)
  have l := Rat.mul_le_mul_of_nonneg_right (h.mono hL hH).1 hDi
  have u := Rat.mul_le_mul_of_nonneg_right (h.mono hL hH).2 hDi
  rw [Rat.intCast_mul, Rat.intCast_natCast, Rat.mul_assoc, hc, Rat.mul_one] at l u
  rw [hd, Rat.div_def]; exact ⟨l, u⟩

theorem floor_ceil (q : Rat) : Btw q.floor q.ceil q := ⟨Rat.floor_le q, Rat.le_ceil⟩

/-- the one rule about rounding: integers below `2^24` are on the grid -/
theorem round32 (h : Btw L H q) (hL : L.natAbs < 16777216) (hH : H.natAbs < 16777216) : Btw L H (round32 q) :=
  ⟨grid_le_round32 (.intCast hL) h.1, round32_le_grid (.intCast hH) h.2⟩

theorem toI32 (h : Btw L H q) (hL : -2147483648 ≤ L) (hH : H ≤ 2147483647) : L ≤ toI32 q ∧ toI32 q ≤ H := by
  have h1 := int_le_trunc h.1
  have h2 := trunc_le_int h.2
  rw [toI32_eq_trunc (by omega) (by omega)]; exact ⟨h1, h2⟩

end Btw

end Wee.F32

namespace Wee.Ev
open F32

/-- `Evaluation(e) * w` lies between any two integers below `2^24` that enclose the exact product `e·w` -/
theorem mulF_btw {e : Int} {w : Rat} {L H : Int} (he : e.natAbs < 16777216) (hL : L.natAbs < 16777216)
    (hH : H.natAbs < 16777216) (h : Btw L H ((e : Rat) * w)) : L ≤ mulF e w ∧ mulF e w ≤ H := by
  unfold mulF
  rw [ofInt_exact (by omega) (by omega)]
  exact (h.round32 hL hH).toI32 (by omega) (by omega)

/-- for `|w| ≤ 1`, `|e| < 2^23`: `Evaluation(e) * w` is the exact product moved to a neighbouring integer -/
theorem mulF_floor_ceil {e : Int} {w : Rat} (he : e.natAbs < 8388608) (hw : Btw (-1) 1 w) :
    ((e : Rat) * w).floor ≤ mulF e w ∧ mulF e w ≤ ((e : Rat) * w).ceil := by
  have hq : Btw (-(8388608 * 1)) (8388608 * 1) ((e : Rat) * w) :=
    Btw.mul_abs (Btw.intCast (by omega) (by omega)) hw
  have h1 : -(8388608 * 1) ≤ ((e : Rat) * w).floor := Rat.le_floor_iff.2 hq.1
  have h2 : ((e : Rat) * w).ceil ≤ 8388608 * 1 := Rat.ceil_le_iff.2 hq.2
  have h3 : ((e : Rat) * w).floor ≤ ((e : Rat) * w).ceil :=
    Rat.intCast_le_intCast.1 (Rat.le_trans (Rat.floor_le _) Rat.le_ceil)
  exact mulF_btw (by omega) (by omega) (by omega) (Btw.floor_ceil _)

theorem mulF_bounds {e : Int} {w : Rat} {E W : Nat} (hE : E < 16777216) (hEW : E * W < 16777216)
    (he1 : -(E : Int) ≤ e) (he2 : e ≤ (E : Int)) (hw1 : -(W : Rat) ≤ w) (hw2 : w ≤ (W : Rat)) :
    -((E * W : Nat) : Int) ≤ mulF e w ∧ mulF e w ≤ ((E * W : Nat) : Int) := by
  rw [Int.natCast_mul]
  exact mulF_btw (by omega) (by rw [← Int.natCast_mul]; omega) (by rw [← Int.natCast_mul]; omega)
    ((Btw.intCast he1 he2).mul_abs (.of_nat hw1 hw2))

/-- `Evaluation * f32` is odd in the evaluation on the range used by the evaluator
(`|e| ≤ E`, `|w| ≤ W`, `E < 2^24`, `E·W < 2^24`).  Outside `|e·w| < 2^31` it is false
(`as i32` saturates asymmetrically). -/
theorem mulF_neg {e : Int} {w : Rat} {E W : Nat} (hE : E < 16777216) (hEW : E * W < 16777216)
    (he1 : -(E : Int) ≤ e) (he2 : e ≤ (E : Int)) (hw1 : -(W : Rat) ≤ w) (hw2 : w ≤ (W : Rat)) :
    mulF (-e) w = - mulF e w := by
  unfold mulF
  rw [ofInt_neg, mul_neg_left, ofInt_exact (by omega) (by omega)]
  unfold F32.mul
  have h := (((Btw.intCast he1 he2).mul_abs (.of_nat hw1 hw2)).round32 (by rw [← Int.natCast_mul]; omega)
    (by rw [← Int.natCast_mul]; omega)).mono (L' := -2147483647) (H' := 2147483647)
    (by rw [← Int.natCast_mul]; omega) (by rw [← Int.natCast_mul]; omega)
  exact toI32_neg (by simpa using h.1) (by simpa using h.2)

end Wee.Ev

namespace Wee
open Gen

theorem pieceCount_le (s : State) (c : Color) (p : Piece) : pieceCount s c p ≤ 64 := popcount_le _

/-! ## material -/

theorem worth_values :
    Ev.mulF Ev.onePawn (pieceWorth .pawn) = 100 ∧ Ev.mulF Ev.onePawn (pieceWorth .knight) = 300 ∧
    Ev.mulF Ev.onePawn (pieceWorth .bishop) = 350 ∧ Ev.mulF Ev.onePawn (pieceWorth .rook) = 500 ∧
    Ev.mulF Ev.onePawn (pieceWorth .queen) = 900 ∧ Ev.mulF Ev.onePawn (pieceWorth .king) = 10000 := by
  decide +kernel

/-- exactly one king of either colour, as the count the evaluator reads -/
theorem C05.OneKingEach.count {s : State} (h : C05.OneKingEach s) (c : Color) : pieceCount s c .king = 1 := h c

theorem evalWorths_eq (v : Variation) (c : Color) :
    evalWorths v c = 100 * (pieceCount v.s c .pawn : Int) + 300 * (pieceCount v.s c .knight : Int)
      + 350 * (pieceCount v.s c .bishop : Int) + 500 * (pieceCount v.s c .rook : Int)
      + 900 * (pieceCount v.s c .queen : Int) + 10000 * (pieceCount v.s c .king : Int) := by
  obtain ⟨h1, h2, h3, h4, h5, h6⟩ := worth_values
  simp only [evalWorths, Piece.all, List.foldl_cons, List.foldl_nil, h1, h2, h3, h4, h5, h6]
  eomega

theorem evalWorths_bounds (v : Variation) (c : Color) : 0 ≤ evalWorths v c ∧ evalWorths v c ≤ 777600 := by
  rw [evalWorths_eq]
  have := pieceCount_le v.s c .pawn; have := pieceCount_le v.s c .knight
  have := pieceCount_le v.s c .bishop; have := pieceCount_le v.s c .rook
  have := pieceCount_le v.s c .queen; have := pieceCount_le v.s c .king
  constructor <;> eomega

/-! ## pawn structure -/

theorem pawnPenalty_values :
    Ev.mulF Ev.onePawn doubledPawnPenalty = 40 ∧ Ev.mulF Ev.onePawn isolatedPawnPenalty = 50 := by
  decide +kernel

/-- the files next to file `f` -/
def neighbourFiles (f : Nat) : UInt64 := (if f = 0 then 0 else fileMask (f - 1)) ||| (if f = 7 then 0 else fileMask (f + 1))

/-- what one file costs the side with the pawns `pawns`: 40 for more than one pawn on it, 50 when no pawn stands on
a neighbour file (also when the file itself is empty) -/
def filePenalty (pawns : UInt64) (f : Nat) : Int :=
  (if popcount (pawns &&& fileMask f) > doubledPawnMin then 40 else 0) + (if bbNone (pawns &&& neighbourFiles f) then 50 else 0)

/-- **what `evaluate_bad_pawns` computes**: a function of the side's pawn board alone, the sum of the file penalties
taken negative -/
theorem evalBadPawns_eq (v : Variation) (c : Color) :
    evalBadPawns v c = (List.range 8).foldl (fun acc f => acc + -filePenalty (v.s.pieces.get c .pawn) f) 0 := by
  obtain ⟨h1, h2⟩ := pawnPenalty_values
  have step : ∀ (D I : Prop) [Decidable D] [Decidable I] (acc : Int),
      (if I then (if D then acc - 40 else acc) - 50 else if D then acc - 40 else acc) =
        acc + -((if D then 40 else 0) + if I then 50 else 0) := by
    intro D I _ _ acc
    split <;> split <;> omega
  unfold evalBadPawns filePenalty neighbourFiles
  simp only [h1, h2]
  congr 1
  funext acc f
  exact step _ _ acc

theorem filePenalty_bounds (pawns : UInt64) (f : Nat) : -90 ≤ -filePenalty pawns f ∧ -filePenalty pawns f ≤ 0 := by
  unfold filePenalty
  split <;> split <;> constructor <;> omega

theorem evalBadPawns_bounds (v : Variation) (c : Color) : -720 ≤ evalBadPawns v c ∧ evalBadPawns v c ≤ 0 := by
  rw [evalBadPawns_eq]
  have := foldl_add_bounds (fun f => -filePenalty (v.s.pieces.get c .pawn) f) (-90) 0 (List.range 8) 0
    fun f _ => filePenalty_bounds _ f
  rw [List.length_range] at this
  exact ⟨by eomega, by eomega⟩

/-! ## piece-square -/

theorem array_getD_bounds (a : Array Int) (lo hi : Int) (hlo : lo ≤ 0) (hhi : 0 ≤ hi)
    (h : a.toList.all (fun x => decide (lo ≤ x ∧ x ≤ hi)) = true) (i : Nat) :
    lo ≤ a.getD i 0 ∧ a.getD i 0 ≤ hi := by
  rw [Array.getD_eq_getD_getElem?]
  cases hi' : a[i]? with
  | none => simp; omega
  | some x =>
    have hx : x ∈ a.toList := by
      rw [Array.mem_toList_iff]; exact Array.mem_of_getElem? hi'
    have := List.all_eq_true.1 h x hx
    simpa using this

/-- every piece-square table entry is within ±50 (out-of-range indices read as 0) -/
theorem pieceSquareMap_bounds (p : Piece) (i : Nat) :
    (-50 ≤ (pieceSquareMap.getD p.code (#[], #[])).1.getD i 0 ∧ (pieceSquareMap.getD p.code (#[], #[])).1.getD i 0 ≤ 50) ∧
    (-50 ≤ (pieceSquareMap.getD p.code (#[], #[])).2.getD i 0 ∧ (pieceSquareMap.getD p.code (#[], #[])).2.getD i 0 ≤ 50) := by
  cases p <;> exact ⟨array_getD_bounds _ (-50) 50 (by decide) (by decide) (by decide) i,
    array_getD_bounds _ (-50) 50 (by decide) (by decide) (by decide) i⟩

/-- `|end_game_weight| ≤ 19` (true of every `StateVariation`, see `egw_bounded`) -/
def EgwBounded (w : Rat) : Prop := F32.Btw (-19) 19 w

/-- the table index read by `evaluate_piece_square`: the tables are written from White's side with rank 8 first -/
def psqIndex (sq : Nat) (c : Color) : Nat := flipRank (if c == .white then sq else flipRank sq)

open F32 in
/-- **what `evaluate_piece_square` computes**: with the entries `e1`, `e2` of the piece's middle-game and end-game tables at
`psqIndex sq c`, the `f32` expression `(e2 - e1) * w + e1` as `i32` -/
theorem pieceSquare_eq (p : Piece) (sq : Nat) (c : Color) (w : Rat) :
    pieceSquare p sq c w =
      toI32 (add (mul (sub (ofInt ((pieceSquareMap.getD p.code (#[], #[])).2.getD (psqIndex sq c) 0))
        (ofInt ((pieceSquareMap.getD p.code (#[], #[])).1.getD (psqIndex sq c) 0))) w)
        (ofInt ((pieceSquareMap.getD p.code (#[], #[])).1.getD (psqIndex sq c) 0))) := rfl

open F32 in
theorem pieceSquare_bounds (p : Piece) (sq : Nat) (c : Color) {w : Rat} (hw : EgwBounded w) :
    -1950 ≤ pieceSquare p sq c w ∧ pieceSquare p sq c w ≤ 1950 := by
  rw [pieceSquare_eq]
  obtain ⟨⟨a1, a2⟩, ⟨b1, b2⟩⟩ := pieceSquareMap_bounds p (psqIndex sq c)
  have e1 : Btw (-50) 50 (ofInt _) := (Btw.intCast a1 a2).round32 (by decide) (by decide)
  have e2 : Btw (-50) 50 (ofInt _) := (Btw.intCast b1 b2).round32 (by decide) (by decide)
  have s : Btw (-100) 100 (F32.sub _ _) := (e2.sub e1).round32 (by decide) (by decide)
  have m : Btw (-(100 * 19)) (100 * 19) (F32.mul _ _) := (s.mul_abs hw).round32 (by decide) (by decide)
  exact ((m.add e1).round32 (by decide) (by decide)).toI32 (by decide) (by decide)

/-- the piece-square sum of one side reads only that side's bitboards and the endgame weight -/
theorem evalSquares_congr {v v' : Variation} {c : Color} (hp : ∀ p, v.s.pieces.get c p = v'.s.pieces.get c p)
    (he : v.egw = v'.egw) : evalSquares v c = evalSquares v' c := by
  unfold evalSquares; simp only [hp, he]

theorem evalSquares_bounds (v : Variation) (c : Color) (hw : EgwBounded v.egw) :
    -748800 ≤ evalSquares v c ∧ evalSquares v c ≤ 748800 := by
  unfold evalSquares
  have := foldl_bounds (fun (acc : Int) (p : Piece) =>
      (bitsOf (v.s.pieces.get c p)).foldl (fun acc sq => acc + pieceSquare p sq c v.egw) acc)
      (fun _ => -124800) (fun _ => 124800) Piece.all 0 (by
        intro acc p _
        have := foldl_add_bounds (fun sq => pieceSquare p sq c v.egw) (-1950) 1950 (bitsOf (v.s.pieces.get c p)) acc
          (fun sq _ => pieceSquare_bounds p sq c hw)
        have hl := bitsOf_length_le (v.s.pieces.get c p)
        obtain ⟨t1, t2⟩ := this
        constructor <;> eomega)
  have hl : Piece.all.length = 6 := rfl
  rw [sum_map_const, sum_map_const, hl] at this
  obtain ⟨t1, t2⟩ := this
  constructor <;> eomega

/-! ## king to the edge -/

/-- the integer the king-to-the-edge term scales, for our king on `ours` and theirs on `theirs`: ten times how far their
king is from the centre (6 less its distances to the nearer edge rank and file), less the distance of the kings -/
def kingEdgeScore (ours theirs : Nat) : Int :=
  let kd : Int := manhattan ours theirs
  let rd : Int := min (absDist (rankOf theirs) 0) (absDist (rankOf theirs) 7)
  let fd : Int := min (absDist (fileOf theirs) 0) (absDist (fileOf theirs) 7)
  kingEdgeFactor * (kingEdgeCentre - (rd + fd)) - kd

/-- **what `evaluate_force_king_to_edge` computes**: nothing before the end game or without at least one man more than the
opponent; otherwise `kingEdgeScore` at the two kings, scaled by the end-game weight -/
theorem evalKingEdge_eq (v : Variation) (c : Color) : evalKingEdge v c =
    if v.egw < kingEdgeThreshold then 0
    else if v.count c < v.count c.opp + kingEdgeCountMargin then 0
    else match firstOne (v.s.pieces.get c .king), firstOne (v.s.pieces.get c.opp .king) with
      | some ours, some theirs => Ev.mulF (kingEdgeScore ours theirs) v.egw
      | _, _ => 0 := rfl

/-- at most 10·6 for the edge distance, at most 14 for the distance of the kings -/
theorem kingEdgeScore_bounds {ours theirs : Nat} (ho : ours < 64) (ht : theirs < 64) :
    -60 ≤ kingEdgeScore ours theirs ∧ kingEdgeScore ours theirs ≤ 60 := by
  have hr : rankOf theirs ≤ 7 := Nat.le_of_lt_succ (rankOf_lt ht)
  have hf : fileOf theirs ≤ 7 := Nat.le_of_lt_succ (fileOf_lt theirs)
  have m1 := absDist_le (Nat.le_of_lt_succ (rankOf_lt ho)) hr
  have m2 := absDist_le (Nat.le_of_lt_succ (fileOf_lt ours)) hf
  unfold kingEdgeScore
  simp only
  rw [absDist_zero, absDist_zero, absDist_seven hr, absDist_seven hf]
  unfold kingEdgeFactor kingEdgeCentre manhattan
  constructor <;> omega

/-- `|end_game_weight| ≤ W` ⇒ the king-to-the-edge term of one side is within `±60·W` -/
theorem evalKingEdge_le (v : Variation) (c : Color) (W : Nat) (hW : 60 * W < 16777216)
    (h0 : -(W : Rat) ≤ v.egw) (h1 : v.egw ≤ (W : Rat)) :
    -((60 * W : Nat) : Int) ≤ evalKingEdge v c ∧ evalKingEdge v c ≤ ((60 * W : Nat) : Int) := by
  rw [evalKingEdge_eq]
  split
  · constructor <;> eomega
  · split
    · constructor <;> eomega
    · split
      · rename_i ours theirs h1' h2'
        obtain ⟨b1, b2⟩ := kingEdgeScore_bounds (firstOne_lt _ _ h1') (firstOne_lt _ _ h2')
        exact Ev.mulF_bounds (E := 60) (W := W) (by decide) hW b1 b2 h0 h1
      · constructor <;> eomega

theorem evalKingEdge_bounds (v : Variation) (c : Color) (hw : EgwBounded v.egw) :
    -1140 ≤ evalKingEdge v c ∧ evalKingEdge v c ≤ 1140 :=
  evalKingEdge_le v c 19 (by decide) (by simpa using hw.1) (by simpa using hw.2)

/-! ## the weighted sum -/

/-- `Evaluator::evaluate`, non-terminal part, unfolded over the four generated (evaluator, weight) pairs -/
theorem evalHeuristic_eq (v : Variation) (p : Color) :
    evalHeuristic v p =
      0 + Ev.mulF (evalWorths v p - evalWorths v p.opp) (mkRat 1 1)
        + Ev.mulF (evalSquares v p - evalSquares v p.opp) (mkRat 13421773 16777216)
        + Ev.mulF (evalKingEdge v p - evalKingEdge v p.opp) (mkRat 1 1)
        + Ev.mulF (evalBadPawns v p - evalBadPawns v p.opp) (mkRat 13421773 67108864) := rfl

theorem weight_bounds :
    (-((1 : Nat) : Rat) ≤ mkRat 1 1 ∧ mkRat 1 1 ≤ ((1 : Nat) : Rat)) ∧
    (-((1 : Nat) : Rat) ≤ mkRat 13421773 16777216 ∧ mkRat 13421773 16777216 ≤ ((1 : Nat) : Rat)) ∧
    (-((1 : Nat) : Rat) ≤ mkRat 13421773 67108864 ∧ mkRat 13421773 67108864 ≤ ((1 : Nat) : Rat)) := by
  decide +kernel

theorem mulF_sub_swap {a b : Int} {w : Rat} {E : Nat} (hE : E < 16777216)
    (h1 : -(E : Int) ≤ b - a) (h2 : b - a ≤ (E : Int))
    (hw1 : -((1 : Nat) : Rat) ≤ w) (hw2 : w ≤ ((1 : Nat) : Rat)) :
    Ev.mulF (a - b) w = - Ev.mulF (b - a) w := by
  rw [← Ev.mulF_neg (E := E) (W := 1) hE (by omega) h1 h2 hw1 hw2, Int.neg_sub]

/-- every evaluator difference is far inside the exact range of `f32` -/
theorem evaluator_diff_bounds (v : Variation) (hw : EgwBounded v.egw) (c : Color) :
    (-(777600 : Int) ≤ evalWorths v c - evalWorths v c.opp ∧ evalWorths v c - evalWorths v c.opp ≤ (777600 : Int)) ∧
    (-(1497600 : Int) ≤ evalSquares v c - evalSquares v c.opp ∧ evalSquares v c - evalSquares v c.opp ≤ (1497600 : Int)) ∧
    (-(2280 : Int) ≤ evalKingEdge v c - evalKingEdge v c.opp ∧ evalKingEdge v c - evalKingEdge v c.opp ≤ (2280 : Int)) ∧
    (-(720 : Int) ≤ evalBadPawns v c - evalBadPawns v c.opp ∧ evalBadPawns v c - evalBadPawns v c.opp ≤ (720 : Int)) := by
  have a1 := evalWorths_bounds v c; have a2 := evalWorths_bounds v c.opp
  have b1 := evalSquares_bounds v c hw; have b2 := evalSquares_bounds v c.opp hw
  have c1 := evalKingEdge_bounds v c hw; have c2 := evalKingEdge_bounds v c.opp hw
  have d1 := evalBadPawns_bounds v c; have d2 := evalBadPawns_bounds v c.opp
  refine ⟨⟨?_, ?_⟩, ⟨?_, ?_⟩, ⟨?_, ?_⟩, ⟨?_, ?_⟩⟩ <;> eomega

theorem evalHeuristic_neg (v : Variation) (hw : EgwBounded v.egw) (c : Color) :
    evalHeuristic v c = - evalHeuristic v c.opp := by
  obtain ⟨⟨a1, a2⟩, ⟨b1, b2⟩, ⟨c1, c2⟩, ⟨d1, d2⟩⟩ := evaluator_diff_bounds v hw c.opp
  obtain ⟨⟨w1, w1'⟩, ⟨w2, w2'⟩, ⟨w3, w3'⟩⟩ := weight_bounds
  rw [opp_opp] at a1 a2 b1 b2 c1 c2 d1 d2
  rw [evalHeuristic_eq, evalHeuristic_eq, opp_opp,
    mulF_sub_swap (E := 777600) (by decide) a1 a2 w1 w1',
    mulF_sub_swap (E := 1497600) (by decide) b1 b2 w2 w2',
    mulF_sub_swap (E := 2280) (by decide) c1 c2 w1 w1',
    mulF_sub_swap (E := 720) (by decide) d1 d2 w3 w3']
  eomega

theorem mulF_abs_le {e : Int} {w : Rat} (he : e.natAbs < 16777216)
    (hw1 : -((1 : Nat) : Rat) ≤ w) (hw2 : w ≤ ((1 : Nat) : Rat)) :
    (Ev.mulF e w).natAbs ≤ e.natAbs := by
  have := Ev.mulF_bounds (e := e) (w := w) (E := e.natAbs) (W := 1) he (by omega) (by omega) (by omega) hw1 hw2
  simp only [Nat.mul_one] at this
  eomega

theorem natAbs_sum4_le {x1 x2 x3 x4 : Int} {a1 a2 a3 a4 : Nat} (h1 : x1.natAbs ≤ a1) (h2 : x2.natAbs ≤ a2)
    (h3 : x3.natAbs ≤ a3) (h4 : x4.natAbs ≤ a4) : (0 + x1 + x2 + x3 + x4).natAbs ≤ a1 + a2 + a3 + a4 := by
  omega

theorem evalHeuristic_abs_le (v : Variation) (hw : EgwBounded v.egw) (c : Color) :
    (evalHeuristic v c).natAbs ≤
      (evalWorths v c - evalWorths v c.opp).natAbs + (evalSquares v c - evalSquares v c.opp).natAbs
      + (evalKingEdge v c - evalKingEdge v c.opp).natAbs + (evalBadPawns v c - evalBadPawns v c.opp).natAbs := by
  obtain ⟨⟨a1, a2⟩, ⟨b1, b2⟩, ⟨c1, c2⟩, ⟨d1, d2⟩⟩ := evaluator_diff_bounds v hw c
  obtain ⟨⟨w1, w1'⟩, ⟨w2, w2'⟩, ⟨w3, w3'⟩⟩ := weight_bounds
  rw [evalHeuristic_eq]
  exact natAbs_sum4_le (mulF_abs_le (by eomega) w1 w1') (mulF_abs_le (by eomega) w2 w2')
    (mulF_abs_le (by eomega) w1 w1') (mulF_abs_le (by eomega) w3 w3')

/-- every value computed by the heuristic fits `i32` with a wide margin -/
theorem evalHeuristic_bounds (v : Variation) (hw : EgwBounded v.egw) (c : Color) :
    -(2278200 : Int) ≤ evalHeuristic v c ∧ evalHeuristic v c ≤ (2278200 : Int) := by
  have := evalHeuristic_abs_le v hw c
  obtain ⟨⟨a1, a2⟩, ⟨b1, b2⟩, ⟨c1, c2⟩, ⟨d1, d2⟩⟩ := evaluator_diff_bounds v hw c
  generalize evalHeuristic v c = h at *
  generalize evalWorths v c - evalWorths v c.opp = x1 at *
  generalize evalSquares v c - evalSquares v c.opp = x2 at *
  generalize evalKingEdge v c - evalKingEdge v c.opp = x3 at *
  generalize evalBadPawns v c - evalBadPawns v c.opp = x4 at *
  constructor <;> eomega

/-! ## the end-game weight is bounded -/

def egwF (P Q O : Nat) : Rat :=
  let v1 := F32.div (F32.ofInt ((P : Nat) : Int)) egD1
  let v2 := F32.div (F32.ofInt ((Q : Nat) : Int)) egD2
  let v3 := F32.div (F32.ofInt ((O : Nat) : Int)) egD3
  let num := F32.add (F32.add (F32.mul egW1 v1) (F32.mul egW2 v2)) (F32.mul egW3 v3)
  let den := F32.add (F32.add egW1 egW2) egW3
  F32.sub 1 (F32.div num den)

theorem egw_eq_egwF (s : State) : (Variation.of s).egw =
    egwF (pieceCount s .white .pawn + pieceCount s .black .pawn)
      (pieceCount s .white .queen + pieceCount s .black .queen) (popcount s.pieces.occ) := rfl

theorem egConsts : egW1 = 3 ∧ egW2 = 1 ∧ egW3 = 1 ∧ egD1 = 16 ∧ egD2 = 2 ∧ egD3 = 32 ∧
    F32.add (F32.add egW1 egW2) egW3 = 5 := by decide +kernel

open F32 in
/-- the end-game weight of every position lies in `[-19, 19]` (in fact in `[-17, 1]`; `[0, 1]` for
positions with at most 16 pawns, 2 queens… — only the crude bound is needed) -/
theorem egw_bounded (s : State) : EgwBounded (Variation.of s).egw := by
  obtain ⟨w1, w2, w3, d1, d2, d3, hden⟩ := egConsts
  have cnt : ∀ p, Btw 0 128 (ofInt ((pieceCount s .white p + pieceCount s .black p : Nat) : Int)) := fun p =>
    (Btw.intCast (by omega) (by have := pieceCount_le s .white p; have := pieceCount_le s .black p; omega)).round32
      (by decide) (by decide)
  have occ : Btw 0 64 (ofInt ((popcount s.pieces.occ : Nat) : Int)) :=
    (Btw.intCast (by omega) (by have := popcount_le s.pieces.occ; omega)).round32 (by decide) (by decide)
  have c3 : Btw (-3) 3 (3 : Rat) := ⟨by decide +kernel, by decide +kernel⟩
  have c1 : Btw (-1) 1 (1 : Rat) := ⟨by decide +kernel, by decide +kernel⟩
  have c11 : Btw 1 1 (1 : Rat) := ⟨by decide +kernel, by decide +kernel⟩
  have v1 : Btw (-8) 8 (F32.div _ 16) :=
    (Btw.div_nat (D := 16) (by simp) (by decide) (cnt .pawn) (by decide) (by decide)).round32 (by decide) (by decide)
  have v2 : Btw (-64) 64 (F32.div _ 2) :=
    (Btw.div_nat (D := 2) (by simp) (by decide) (cnt .queen) (by decide) (by decide)).round32 (by decide) (by decide)
  have v3 : Btw (-2) 2 (F32.div _ 32) :=
    (Btw.div_nat (D := 32) (by simp) (by decide) occ (by decide) (by decide)).round32 (by decide) (by decide)
  have m1 : Btw (-(3 * 8)) (3 * 8) (F32.mul 3 _) := (c3.mul_abs v1).round32 (by decide) (by decide)
  have m2 : Btw (-(1 * 64)) (1 * 64) (F32.mul 1 _) := (c1.mul_abs v2).round32 (by decide) (by decide)
  have m3 : Btw (-(1 * 2)) (1 * 2) (F32.mul 1 _) := (c1.mul_abs v3).round32 (by decide) (by decide)
  have a2 : Btw (-90) 90 (F32.add (F32.add _ _) _) :=
    (((m1.add m2).round32 (by decide) (by decide)).add m3).round32 (by decide) (by decide)
  have q : Btw (-18) 18 (F32.div _ 5) :=
    (Btw.div_nat (D := 5) (by simp) (by decide) a2 (by decide) (by decide)).round32 (by decide) (by decide)
  have r : Btw (-17) 19 (F32.sub 1 _) := (c11.sub q).round32 (by decide) (by decide)
  rw [egw_eq_egwF]
  unfold EgwBounded egwF
  simp only
  rw [hden]
  simp only [w1, w2, w3, d1, d2, d3]
  exact r.mono (by decide) (by decide)

/-- material difference `evaluate_piece_worths(c) - evaluate_piece_worths(!c)` in centipawns
(pawn 100, knight 300, bishop 350, rook 500, queen 900, king 10000) -/
def C05.materialDiff (s : State) (c : Color) : Int :=
  evalWorths (Variation.of s) c - evalWorths (Variation.of s) c.opp

/-- the sum of the moduli of the three positional differences (piece squares, king to the edge, pawn structure) -/
def C05.positionalDiff (s : State) (c : Color) : Nat :=
  (evalSquares (Variation.of s) c - evalSquares (Variation.of s) c.opp).natAbs
  + (evalKingEdge (Variation.of s) c - evalKingEdge (Variation.of s) c.opp).natAbs
  + (evalBadPawns (Variation.of s) c - evalBadPawns (Variation.of s) c.opp).natAbs

/-- term-by-term bound: `|score| ≤ |material| + |Δ piece-square| + |Δ king-edge| + |Δ pawns|`
(every weight has modulus ≤ 1 and `x ↦ (x as f32 * w) as i32` does not increase the modulus) -/
theorem C05.evalHeuristic_natAbs_le (s : State) (c : Color) :
    (evalHeuristic (Variation.of s) c).natAbs ≤ (C05.materialDiff s c).natAbs + C05.positionalDiff s c := by
  have := evalHeuristic_abs_le (Variation.of s) (egw_bounded s) c
  unfold C05.materialDiff C05.positionalDiff; omega

/-- the `king_has_move` shortcut panics exactly when the side to move has no king on its board -/
theorem kingHasMove_eq_none_iff (s : State) : kingHasMove s = none ↔ s.pieces.get s.turn .king = 0 := by
  unfold kingHasMove
  rw [← firstOne_eq_none]
  cases firstOne (s.pieces.get s.turn .king) <;> simp

end Wee
