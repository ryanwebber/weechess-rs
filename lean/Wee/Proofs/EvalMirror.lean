import Wee.Proofs.EvalLemmas
/-!
# Mirror symmetry of the evaluator (used by C13_mirror)

`bswap` (byte swap = reversal of the eight ranks), `mirrorState`, and the equivariance of every
ingredient of the heuristic evaluation: piece counts, occupancy, end-game weight, the four evaluators.
-/
namespace Wee
open Gen

/-- `u64::swap_bytes`: reverse the order of the eight ranks -/
def bswap (b : UInt64) : UInt64 :=
  let b1 := ((b >>> (8 : Nat).toUInt64) &&& 0x00FF00FF00FF00FF) ||| ((b &&& 0x00FF00FF00FF00FF) <<< (8 : Nat).toUInt64)
  let b2 := ((b1 >>> (16 : Nat).toUInt64) &&& 0x0000FFFF0000FFFF) ||| ((b1 &&& 0x0000FFFF0000FFFF) <<< (16 : Nat).toUInt64)
  (b2 >>> (32 : Nat).toUInt64) ||| (b2 <<< (32 : Nat).toUInt64)

theorem mask8 : ∀ j : Fin 64, test 0x00FF00FF00FF00FF j.val = decide (j.val / 8 % 2 = 0) := by decide
theorem mask16 : ∀ j : Fin 64, test 0x0000FFFF0000FFFF j.val = decide (j.val / 16 % 2 = 0) := by decide

/-- one stage of the byte swap: with `M` the mask of the squares whose block of `k` is even, the stage exchanges
neighbouring blocks of `k` squares -/
theorem test_swapStage (b M : UInt64) (k : Nat) (hk : 0 < k) (hk64 : k < 64)
    (hM : ∀ j, j < 64 → test M j = decide (j / k % 2 = 0)) (n : Nat) (hn : n < 64) :
    test (((b >>> k.toUInt64) &&& M) ||| ((b &&& M) <<< k.toUInt64)) n
      = test b (if n / k % 2 = 0 then n + k else n - k) := by
  rw [test_or, test_and, test_shr _ _ _ hk64, test_shl _ _ _ hk64, test_and, hM n hn]
  have hdiv : k ≤ n → n / k = (n - k) / k + 1 := fun h => by
    rw [← Nat.add_div_right _ hk, Nat.sub_add_cancel h]
  by_cases h : n / k % 2 = 0
  · rw [if_pos h]
    by_cases hge : k ≤ n
    · have := hdiv hge
      rw [hM _ (by omega)]
      simp [h, show ¬ (n - k) / k % 2 = 0 by omega]
    · simp [h, hge]
  · have hge : k ≤ n := by
      apply Decidable.byContradiction; intro hc
      rw [Nat.div_eq_of_lt (by omega)] at h; exact h rfl
    have := hdiv hge
    rw [if_neg h, hM _ (by omega)]
    simp [h, hge, hn, show (n - k) / k % 2 = 0 by omega]

theorem test_swap32 (b : UInt64) (n : Nat) (hn : n < 64) :
    test ((b >>> (32 : Nat).toUInt64) ||| (b <<< (32 : Nat).toUInt64)) n
      = test b (if n / 32 % 2 = 0 then n + 32 else n - 32) := by
  rw [test_or, test_shr _ _ _ (by decide), test_shl _ _ _ (by decide)]
  by_cases h : n / 32 % 2 = 0
  · have : ¬ (32 ≤ n ∧ n < 64) := by omega
    rw [if_pos h]; simp [this]
  · have hge : 32 ≤ n := by omega
    have : test b (n + 32) = false := test_ge _ _ (by omega)
    rw [if_neg h, this]; simp [hge, hn]

/-- the three stages of `bswap` exchange neighbouring ranks, then pairs of ranks, then the halves of the board; followed
back from the result (halves first) they send square `n` to `flipRank n` (a fact about the 64 squares) -/
theorem swap_stages : ∀ n : Fin 64,
    let n1 := if n.val / 32 % 2 = 0 then n.val + 32 else n.val - 32
    let n2 := if n1 / 16 % 2 = 0 then n1 + 16 else n1 - 16
    n1 < 64 ∧ n2 < 64 ∧ (if n2 / 8 % 2 = 0 then n2 + 8 else n2 - 8) = flipRank n.val := by decide

/-- **`bswap` is the rank flip**: bit `n` of `bswap b` is bit `flipRank n` of `b`. -/
theorem test_bswap (b : UInt64) (n : Nat) (hn : n < 64) : test (bswap b) n = test b (flipRank n) := by
  obtain ⟨h1, h2, h3⟩ := swap_stages ⟨n, hn⟩
  unfold bswap
  simp only at h1 h2 h3 ⊢
  rw [test_swap32 _ _ hn, test_swapStage _ _ 16 (by decide) (by decide) (fun j hj => mask16 ⟨j, hj⟩) _ h1,
    test_swapStage _ _ 8 (by decide) (by decide) (fun j hj => mask8 ⟨j, hj⟩) _ h2, h3]

theorem mem_bitsOf_bswap (b : UInt64) (n : Nat) :
    n ∈ bitsOf (bswap b) ↔ n ∈ (bitsOf b).map flipRank := by
  rw [mem_bitsOf, List.mem_map]
  constructor
  · rintro ⟨hn, ht⟩
    rw [test_bswap _ _ hn] at ht
    exact ⟨flipRank n, (mem_bitsOf _ _).2 ⟨flipRank_lt hn, ht⟩, flipRank_flipRank hn⟩
  · rintro ⟨m, hm, rfl⟩
    obtain ⟨hm1, hm2⟩ := (mem_bitsOf _ _).1 hm
    refine ⟨flipRank_lt hm1, ?_⟩
    rw [test_bswap _ _ (flipRank_lt hm1), flipRank_flipRank hm1]; exact hm2

theorem nodup_map_flipRank (b : UInt64) : ((bitsOf b).map flipRank).Nodup := by
  unfold List.Nodup
  rw [List.pairwise_map]
  apply List.Pairwise.imp_of_mem _ (bitsOf_sorted b)
  intro x y hx hy hlt
  have hx' := ((mem_bitsOf _ _).1 hx).1
  have hy' := ((mem_bitsOf _ _).1 hy).1
  unfold flipRank mkSq rankOf fileOf; omega

/-- `iter_ones` of the flipped board is a permutation of the flipped `iter_ones` -/
theorem bitsOf_bswap_perm (b : UInt64) : (bitsOf (bswap b)).Perm ((bitsOf b).map flipRank) :=
  (List.perm_ext_iff_of_nodup (bitsOf_nodup _) (nodup_map_flipRank b)).2 (mem_bitsOf_bswap b)

/-! ## `bswap` commutes with the Boolean operations and preserves `popcount`, `bbAny`, `bbNone` -/

theorem popcount_bswap (b : UInt64) : popcount (bswap b) = popcount b := by
  unfold popcount
  rw [(bitsOf_bswap_perm b).length_eq, List.length_map]

theorem bswap_or (a b : UInt64) : bswap (a ||| b) = bswap a ||| bswap b := by
  apply ext; intro n hn
  rw [test_bswap _ _ hn, test_or, test_or, test_bswap _ _ hn, test_bswap _ _ hn]

theorem bswap_and (a b : UInt64) : bswap (a &&& b) = bswap a &&& bswap b := by
  apply ext; intro n hn
  rw [test_bswap _ _ hn, test_and, test_and, test_bswap _ _ hn, test_bswap _ _ hn]

theorem bswap_not (b : UInt64) : bswap (~~~b) = ~~~bswap b := by
  apply ext; intro n hn
  rw [test_bswap _ _ hn, test_not _ _ (flipRank_lt hn), test_not _ _ hn, test_bswap _ _ hn]

theorem bswap_zero : bswap 0 = 0 := by decide

theorem bswap_bswap (b : UInt64) : bswap (bswap b) = b := by
  apply ext; intro n hn
  rw [test_bswap _ _ hn, test_bswap _ _ (flipRank_lt hn), flipRank_flipRank hn]

theorem bswap_eq_zero (b : UInt64) : bswap b = 0 ↔ b = 0 := by
  constructor
  · intro h; have := congrArg bswap h; rwa [bswap_bswap, bswap_zero] at this
  · intro h; rw [h, bswap_zero]

theorem bbNone_bswap (b : UInt64) : bbNone (bswap b) = bbNone b := by
  unfold bbNone
  by_cases h : b = 0
  · rw [h, bswap_zero]
  · have : bswap b ≠ 0 := fun h' => h ((bswap_eq_zero b).1 h')
    rw [beq_eq_false_iff_ne.2 h, beq_eq_false_iff_ne.2 this]

theorem bbAny_bswap (b : UInt64) : bbAny (bswap b) = bbAny b := by
  unfold bbAny
  by_cases h : b = 0
  · rw [h, bswap_zero]
  · have : bswap b ≠ 0 := fun h' => h ((bswap_eq_zero b).1 h')
    rw [bne_iff_ne.2 h, bne_iff_ne.2 this]

theorem bswap_fileMask (f : Nat) : bswap (fileMask f) = fileMask f := by
  by_cases h : f < 8
  · have : ∀ g : Fin 8, bswap (fileMask g.val) = fileMask g.val := by decide
    exact this ⟨f, h⟩
  · have : fileMask f = 0 := by
      unfold fileMask
      have hs : fileMasks.size = 8 := rfl
      rw [Array.getD_eq_getD_getElem?, Array.getElem?_eq_none (by omega)]
      rfl
    rw [this, bswap_zero]

/-- with at most one bit set, `first_one` commutes with the rank flip (false with two bits set in
different ranks: the lowest square of the flipped board is the flip of the highest-rank one) -/
theorem firstOne_bswap (b : UInt64) (h1 : popcount b ≤ 1) : firstOne (bswap b) = (firstOne b).map flipRank := by
  have hp := bitsOf_bswap_perm b
  unfold firstOne
  unfold popcount at h1
  match hb : bitsOf b with
  | [] => rw [hb] at hp; simp at hp; rw [hp]; rfl
  | [k] => rw [hb] at hp; simp at hp; rw [hp]; rfl
  | _ :: _ :: _ => rw [hb] at h1; simp at h1

/-! ## the mirrored state -/

/-- flip the ranks and swap the colours of a placement -/
def mirrorPieces (m : PieceMap) : PieceMap :=
  { wp := bswap m.bp, wn := bswap m.bn, wb := bswap m.bb, wr := bswap m.br, wq := bswap m.bq, wk := bswap m.bk,
    bp := bswap m.wp, bn := bswap m.wn, bb := bswap m.wb, br := bswap m.wr, bq := bswap m.wq, bk := bswap m.wk }

/-- the colour-mirrored position: ranks flipped, colours, side to move and castling rights swapped,
en-passant square rank-flipped, counters kept -/
def mirrorState (s : State) : State :=
  { pieces := mirrorPieces s.pieces, turn := s.turn.opp, castleW := s.castleB, castleB := s.castleW,
    ep := s.ep.map flipRank, halfmove := s.halfmove, fullmove := s.fullmove }

theorem mirrorPieces_get (m : PieceMap) (c : Color) (p : Piece) :
    (mirrorPieces m).get c.opp p = bswap (m.get c p) := by
  cases c <;> cases p <;> first | rfl | exact bswap_zero.symm

theorem mirrorPieces_get' (m : PieceMap) (c : Color) (p : Piece) :
    (mirrorPieces m).get c p = bswap (m.get c.opp p) := by
  have := mirrorPieces_get m c.opp p; rwa [opp_opp] at this

theorem colorOcc_eq (m : PieceMap) (c : Color) :
    m.colorOcc c = 0 ||| m.get c .pawn ||| m.get c .knight ||| m.get c .bishop ||| m.get c .rook
      ||| m.get c .queen ||| m.get c .king := rfl

theorem mirrorPieces_colorOcc (m : PieceMap) (c : Color) :
    (mirrorPieces m).colorOcc c.opp = bswap (m.colorOcc c) := by
  rw [colorOcc_eq, colorOcc_eq]
  simp only [mirrorPieces_get, bswap_or, bswap_zero]

theorem mirrorPieces_occ (m : PieceMap) : (mirrorPieces m).occ = bswap m.occ := by
  unfold PieceMap.occ
  have h1 := mirrorPieces_colorOcc m .white
  have h2 := mirrorPieces_colorOcc m .black
  simp only [Color.opp] at h1 h2
  rw [h1, h2, bswap_or, UInt64.or_comm]

theorem pieceCount_mirror (s : State) (c : Color) (p : Piece) :
    pieceCount (mirrorState s) c.opp p = pieceCount s c p := by
  unfold pieceCount
  show popcount ((mirrorPieces s.pieces).get c.opp p) = _
  rw [mirrorPieces_get, popcount_bswap]

theorem Variation_of_s (s : State) : (Variation.of s).s = s := rfl

theorem egw_mirror (s : State) : (Variation.of (mirrorState s)).egw = (Variation.of s).egw := by
  have hp : ∀ p, pieceCount (mirrorState s) .white p + pieceCount (mirrorState s) .black p
      = pieceCount s .white p + pieceCount s .black p := by
    intro p
    have hw : pieceCount (mirrorState s) .white p = pieceCount s .black p := pieceCount_mirror s .black p
    have hb : pieceCount (mirrorState s) .black p = pieceCount s .white p := pieceCount_mirror s .white p
    omega
  have ho : popcount (mirrorState s).pieces.occ = popcount s.pieces.occ := by
    show popcount (mirrorPieces s.pieces).occ = _
    rw [mirrorPieces_occ, popcount_bswap]
  rw [egw_eq_egwF, egw_eq_egwF, hp, hp, ho]

theorem count_mirror (s : State) (c : Color) :
    (Variation.of (mirrorState s)).count c.opp = (Variation.of s).count c := by
  cases c
  · exact congrArg List.sum (List.map_congr_left fun p _ => pieceCount_mirror s .white p)
  · exact congrArg List.sum (List.map_congr_left fun p _ => pieceCount_mirror s .black p)

theorem evalWorths_mirror (s : State) (c : Color) :
    evalWorths (Variation.of (mirrorState s)) c.opp = evalWorths (Variation.of s) c := by
  rw [evalWorths_eq, evalWorths_eq]
  simp only [Variation_of_s, pieceCount_mirror]

/-- the flipped square from the other perspective reads the same table entry -/
theorem psqIndex_flip {sq : Nat} (h : sq < 64) (c : Color) : psqIndex (flipRank sq) c.opp = psqIndex sq c := by
  unfold psqIndex
  cases c <;> simp [Color.opp, flipRank_flipRank h]

theorem pieceSquare_flip (p : Piece) {sq : Nat} (h : sq < 64) (c : Color) (w : Rat) :
    pieceSquare p (flipRank sq) c.opp w = pieceSquare p sq c w := by
  rw [pieceSquare_eq, pieceSquare_eq, psqIndex_flip h]

/-- a sum over the ones of the flipped board is the re-indexed sum over the ones of the board -/
theorem foldl_bitsOf_bswap (b : UInt64) (g : Nat → Int) (a : Int) :
    (bitsOf (bswap b)).foldl (fun acc sq => acc + g sq) a =
      (bitsOf b).foldl (fun acc sq => acc + g (flipRank sq)) a := by
  rw [(bitsOf_bswap_perm b).foldl_eq' (by intros; omega), List.foldl_map]

theorem evalSquares_mirror (s : State) (c : Color) :
    evalSquares (Variation.of (mirrorState s)) c.opp = evalSquares (Variation.of s) c := by
  unfold evalSquares
  have step : ∀ (acc : Int) (p : Piece),
      (bitsOf ((Variation.of (mirrorState s)).s.pieces.get c.opp p)).foldl
        (fun acc sq => acc + pieceSquare p sq c.opp (Variation.of (mirrorState s)).egw) acc =
      (bitsOf ((Variation.of s).s.pieces.get c p)).foldl
        (fun acc sq => acc + pieceSquare p sq c (Variation.of s).egw) acc := by
    intro acc p
    rw [egw_mirror, show (Variation.of (mirrorState s)).s.pieces.get c.opp p = bswap (s.pieces.get c p) from
      mirrorPieces_get _ _ _, foldl_bitsOf_bswap]
    exact foldl_add_congr _ _ _ _ fun sq hsq => pieceSquare_flip p ((mem_bitsOf _ _).1 hsq).1 c _
  simp only [step]

/-- the rank flip keeps the files -/
theorem filePenalty_bswap (pawns : UInt64) (f : Nat) : filePenalty (bswap pawns) f = filePenalty pawns f := by
  have hn : bswap (neighbourFiles f) = neighbourFiles f := by
    unfold neighbourFiles
    rw [bswap_or]; split <;> split <;> simp only [bswap_zero, bswap_fileMask]
  unfold filePenalty
  rw [← bswap_fileMask f, ← bswap_and, popcount_bswap, bswap_fileMask, ← hn, ← bswap_and, bbNone_bswap, hn]

theorem evalBadPawns_mirror (s : State) (c : Color) :
    evalBadPawns (Variation.of (mirrorState s)) c.opp = evalBadPawns (Variation.of s) c := by
  rw [evalBadPawns_eq, evalBadPawns_eq, show (Variation.of (mirrorState s)).s.pieces.get c.opp .pawn =
    bswap ((Variation.of s).s.pieces.get c .pawn) from mirrorPieces_get _ _ _]
  simp only [filePenalty_bswap]

theorem absDist_flip {x y : Nat} (hx : x ≤ 7) (hy : y ≤ 7) : absDist (7 - x) (7 - y) = absDist x y := by
  unfold absDist; split <;> split <;> omega

/-- the rank flip keeps files and reflects ranks, so rank and file distances are unchanged -/
theorem manhattan_flip {a b : Nat} (ha : a < 64) (hb : b < 64) :
    manhattan (flipRank a) (flipRank b) = manhattan a b := by
  unfold manhattan
  rw [rankOf_flipRank ha, rankOf_flipRank hb, fileOf_flipRank ha, fileOf_flipRank hb,
    absDist_flip (Nat.le_of_lt_succ (rankOf_lt ha)) (Nat.le_of_lt_succ (rankOf_lt hb))]

/-- the rank flip keeps the distance of the kings and the distances to the edges -/
theorem kingEdgeScore_flip {ours theirs : Nat} (ho : ours < 64) (ht : theirs < 64) :
    kingEdgeScore (flipRank ours) (flipRank theirs) = kingEdgeScore ours theirs := by
  have h1 : rankOf theirs ≤ 7 := Nat.le_of_lt_succ (rankOf_lt ht)
  unfold kingEdgeScore
  simp only
  rw [manhattan_flip ho ht, fileOf_flipRank ht, rankOf_flipRank ht, absDist_zero (7 - rankOf theirs),
    absDist_zero (rankOf theirs), absDist_seven h1, absDist_seven (Nat.sub_le 7 _)]
  unfold kingEdgeFactor
  omega

theorem evalKingEdge_mirror (s : State) (hk : OneKing s) (c : Color) :
    evalKingEdge (Variation.of (mirrorState s)) c.opp = evalKingEdge (Variation.of s) c := by
  have hg1 : (Variation.of (mirrorState s)).s.pieces.get c.opp .king = bswap ((Variation.of s).s.pieces.get c .king) :=
    mirrorPieces_get _ _ _
  have hg2 : (Variation.of (mirrorState s)).s.pieces.get c.opp.opp .king = bswap ((Variation.of s).s.pieces.get c.opp .king) :=
    mirrorPieces_get _ _ _
  have hk1 : popcount ((Variation.of s).s.pieces.get c .king) ≤ 1 := hk c
  have hk2 : popcount ((Variation.of s).s.pieces.get c.opp .king) ≤ 1 := hk c.opp
  rw [evalKingEdge_eq, evalKingEdge_eq, egw_mirror, count_mirror s c, count_mirror s c.opp, hg1, hg2,
    firstOne_bswap _ hk1, firstOne_bswap _ hk2]
  split
  · rfl
  · split
    · rfl
    · cases h1 : firstOne ((Variation.of s).s.pieces.get c .king) with
      | none => rfl
      | some ours =>
        cases h2 : firstOne ((Variation.of s).s.pieces.get c.opp .king) with
        | none => rfl
        | some theirs =>
          simp only [Option.map_some]
          rw [kingEdgeScore_flip (firstOne_lt _ _ h1) (firstOne_lt _ _ h2)]

end Wee
