import Wee.Model.Fen
import Wee.Proofs.Placement
import Wee.Proofs.SquareText
import Wee.Spec.Fen
/-!
# Lemmas for C11 (FEN round trip), namespace `Wee.FenL`

The reader against the writer, field by field.  One rank of the writer is put in right-recursive form (`enc`,
`writeRank_eq`) and read back by `parseBoardCells` cell by cell, under the invariant `Inv` on the mailbox under
construction; the placement read is a `buildMap` of `Proofs/Placement.lean`.  The gate and the scalar fields of
`parseFenChars` get names (`sideOk`, `castleOk`, `epOk`, `rightsOf`, `epOf`): what the writer emits passes them and is
read back.  The independent writer `Spec.writeFen` produces the engine's text (`spec_writer_agrees`); the strict reader
`Spec.readFen` only accepts an en-passant square on the board (`readFen_ep_lt`); `fenDefault_toList` is the text of
`Fen::DEFAULT` as a list.  After the namespace: `parseFenChars` cut at its gate (`gateOk`, `afterGate`), and the start
position in closed form (`c11Start`, `startState_eq`), for evaluations here and in other modules.
-/
namespace Wee.FenL

/-! ## the reader's placement -/

theorem piecesOfCells_eq (cells : List (Option (Color × Piece))) :
    piecesOfCells cells = buildMap (fun sq => cells.getD sq Option.none) := rfl

/-! ## Decimal numbers -/

theorem le_ofDigitChars (l : List Char) (v : Nat) : v ≤ Nat.ofDigitChars 10 l v := by
  rw [Nat.ofDigitChars_eq_ofDigitChars_zero]
  have : 1 ≤ 10 ^ l.length := Nat.one_le_pow _ _ (by decide)
  calc v = 1 * v := by omega
    _ ≤ 10 ^ l.length * v := Nat.mul_le_mul_right _ this
    _ ≤ _ := Nat.le_add_right _ _

def usizeStep (acc : Option Nat) (c : Char) : Option Nat :=
  match acc with
  | Option.none => Option.none
  | some v => if c.isDigit then
      let v' := v * 10 + (c.toNat - '0'.toNat)
      if v' < 2^64 then some v' else Option.none
    else Option.none

theorem parseUsize_eq (cs : List Char) :
    parseUsize cs = if cs.isEmpty then Option.none else cs.foldl usizeStep (some 0) := rfl

theorem _root_.Wee.foldl_usizeStep_none (l : List Char) : l.foldl usizeStep Option.none = Option.none := by
  induction l with
  | nil => rfl
  | cons c t ih => rw [List.foldl_cons]; exact ih

/-- the fold of `str::parse::<usize>` continued from `v`; once a partial value overflows so does the whole, since
the partial values only grow (`le_ofDigitChars`) -/
theorem foldl_usizeStep_iff (l : List Char) : ∀ (v r : Nat), v < 2 ^ 64 →
    (l.foldl usizeStep (some v) = some r ↔
      (∀ c ∈ l, c.isDigit = true) ∧ Nat.ofDigitChars 10 l v = r ∧ r < 2 ^ 64) := by
  induction l with
  | nil =>
    intro v r hv
    simp only [List.foldl_nil, Option.some.injEq, Nat.ofDigitChars_nil]
    exact ⟨fun h => ⟨fun _ hc => (nomatch hc), h, h ▸ hv⟩, fun h => h.2.1⟩
  | cons c t ih =>
    intro v r hv
    rw [List.foldl_cons, Nat.ofDigitChars_cons]
    by_cases hc : c.isDigit = true
    · by_cases hb : 10 * v + (c.toNat - '0'.toNat) < 2 ^ 64
      · have : usizeStep (some v) c = some (10 * v + (c.toNat - '0'.toNat)) := by
          simp only [usizeStep, hc, if_true, Nat.mul_comm v 10, hb]
        rw [this, ih _ r hb, List.forall_mem_cons]
        exact ⟨fun h => ⟨⟨hc, h.1⟩, h.2⟩, fun h => ⟨h.1.2, h.2⟩⟩
      · have : usizeStep (some v) c = Option.none := by
          simp only [usizeStep, hc, if_true, Nat.mul_comm v 10, hb, if_false]
        rw [this, foldl_usizeStep_none]
        have := le_ofDigitChars t (10 * v + (c.toNat - '0'.toNat))
        exact ⟨fun h => (nomatch h), fun h => by omega⟩
    · have : usizeStep (some v) c = Option.none := by
        simp only [usizeStep, hc, Bool.false_eq_true, if_false]
      rw [this, foldl_usizeStep_none]
      exact ⟨fun h => (nomatch h), fun h => absurd (h.1 c List.mem_cons_self) hc⟩

theorem parseUsize_iff (cs : List Char) (r : Nat) :
    parseUsize cs = some r ↔
      cs ≠ [] ∧ (∀ c ∈ cs, c.isDigit = true) ∧ Nat.ofDigitChars 10 cs 0 = r ∧ r < 2 ^ 64 := by
  rw [parseUsize_eq]
  cases cs with
  | nil => exact ⟨fun h => (nomatch h), fun h => absurd rfl h.1⟩
  | cons c t =>
    rw [show (c :: t).isEmpty = false from rfl, if_neg Bool.false_ne_true, foldl_usizeStep_iff _ 0 r (by decide)]
    exact ⟨fun h => ⟨List.cons_ne_nil c t, h⟩, fun h => h.2⟩

theorem parseUsize_toString (n : Nat) (hn : n < 2^64) : parseUsize (toString n).toList = some n := by
  rw [Nat.toString_eq_repr, Nat.toList_repr]
  exact (parseUsize_iff _ n).2 ⟨Nat.toDigits_ne_nil,
    fun c hc => Nat.isDigit_of_mem_toDigits (by decide) (by decide) hc, Nat.ofDigitChars_ten_toDigits .., hn⟩

theorem toString_nat_ne_nil (n : Nat) : (toString n).toList ≠ [] := by
  rw [Nat.toString_eq_repr, Nat.toList_repr]; exact Nat.toDigits_ne_nil

theorem isDigit_of_mem_toString (n : Nat) (c : Char) (h : c ∈ (toString n).toList) : c.isDigit = true := by
  rw [Nat.toString_eq_repr, Nat.toList_repr] at h
  exact Nat.isDigit_of_mem_toDigits (by decide) (by decide) h

theorem not_space_of_isDigit (c : Char) (h : c.isDigit = true) : isRegexSpace c = false := by
  simp only [Char.isDigit, Bool.and_eq_true, decide_eq_true_eq] at h
  have h1 : 48 ≤ c.toNat := by
    have := h.1; rw [ge_iff_le, UInt32.le_iff_toNat_le, show ('0' : Char).val.toNat = 48 by decide] at this
    exact this
  have h2 : c.toNat ≤ 57 := by
    have := h.2; rw [UInt32.le_iff_toNat_le, show ('9' : Char).val.toNat = 57 by decide] at this
    exact this
  simp only [isRegexSpace]
  simp
  omega

/-! ## One rank of the writer -/

def runText (run : Nat) : List Char := if run > 0 then (toString run).toList else []

/-- right-recursive form of the rank writer: `run` empty squares are pending -/
def enc : List Cell → Nat → List Char
  | [], run => runText run
  | some (c, p) :: t, run => runText run ++ pieceChar c p :: enc t 0
  | Option.none :: t, run => enc t (run + 1)

def rankStep (g : Nat → Cell) (acc : List Char × Nat) (file : Nat) : List Char × Nat :=
  match g file with
  | some (c, p) =>
    let out := if acc.2 > 0 then acc.1 ++ (toString acc.2).toList else acc.1
    (out ++ [pieceChar c p], 0)
  | Option.none => (acc.1, acc.2 + 1)

def rankFin (acc : List Char × Nat) : List Char :=
  if acc.2 > 0 then acc.1 ++ (toString acc.2).toList else acc.1

theorem rankFin_foldl (g : Nat → Cell) (l : List Nat) (out : List Char) (run : Nat) :
    rankFin (l.foldl (rankStep g) (out, run)) = out ++ enc (l.map g) run := by
  induction l generalizing out run with
  | nil =>
    simp only [List.foldl_nil, List.map_nil, enc, rankFin, runText]
    split <;> simp <;> omega
  | cons x t ih =>
    rw [List.foldl_cons, List.map_cons]
    cases hg : g x with
    | none =>
      have : rankStep g (out, run) x = (out, run + 1) := by simp [rankStep, hg]
      rw [this, ih]; rfl
    | some cp =>
      obtain ⟨c, p⟩ := cp
      have : rankStep g (out, run) x = (out ++ runText run ++ [pieceChar c p], 0) := by
        simp only [rankStep, hg, runText]
        split <;> simp
      rw [this, ih]
      simp [enc]

theorem writeRank_eq (m : PieceMap) (rank : Nat) :
    writeRank m rank = enc ((List.range 8).map fun f => m.pieceAt (mkSq rank f)) 0 := by
  unfold writeRank
  -- with the list of files a variable, `rfl` compares the two folds without running them
  generalize List.range 8 = l
  rw [← List.nil_append (enc _ 0), ← rankFin_foldl]
  rfl

/-! ## The board parser against the rank writer -/

/-- square of FEN cursor position `i` (`Square::from((file, rank.opposing_rank()))`) -/
def flipSq (i : Nat) : Nat := mkSq (7 - rankOf i) (fileOf i)

theorem flipSq_lt (i : Nat) : flipSq i < 64 := by
  unfold flipSq mkSq rankOf fileOf; omega

theorem flipSq_flipSq (i : Nat) (h : i < 64) : flipSq (flipSq i) = i := by
  unfold flipSq mkSq rankOf fileOf; omega

theorem flipSq_inj {i j : Nat} (hi : i < 64) (hj : j < 64) (h : flipSq i = flipSq j) : i = j := by
  unfold flipSq mkSq rankOf fileOf at h; omega

/-- the mailbox holds the cells of cursor positions `< idx` and is empty elsewhere -/
def Inv (g : Nat → Cell) (cells : List Cell) (idx : Nat) : Prop :=
  cells.length = 64 ∧ ∀ i < 64, cells.getD (flipSq i) Option.none = if i < idx then g i else Option.none

theorem inv_init (g : Nat → Cell) : Inv g (List.replicate 64 Option.none) 0 := by
  refine ⟨by simp, fun i hi => ?_⟩
  rw [List.getD_eq_getElem?_getD, List.getElem?_replicate, if_neg (Nat.not_lt_zero i)]
  split <;> rfl

theorem inv_skip {g : Nat → Cell} {cells : List Cell} {idx : Nat} (h : Inv g cells idx) (run : Nat)
    (hrun : ∀ k < run, g (idx + k) = Option.none) : Inv g cells (idx + run) := by
  refine ⟨h.1, fun i hi => ?_⟩
  rw [h.2 i hi]
  by_cases h1 : i < idx
  · rw [if_pos h1, if_pos (by omega)]
  · rw [if_neg h1]
    by_cases h2 : i < idx + run
    · rw [if_pos h2]
      have := hrun (i - idx) (by omega)
      rw [show idx + (i - idx) = i by omega] at this
      exact this.symm
    · rw [if_neg h2]

theorem inv_set {g : Nat → Cell} {cells : List Cell} {s : Nat} (h : Inv g cells s) (hs : s < 64)
    (pc : Color × Piece) (hg : g s = some pc) : Inv g (cells.set (flipSq s) (some pc)) (s + 1) := by
  refine ⟨by simp [h.1], fun i hi => ?_⟩
  rw [List.getD_eq_getElem?_getD, List.getElem?_set]
  by_cases his : i = s
  · subst his
    simp [h.1, flipSq_lt, hg]
  · have hne : ¬ flipSq s = flipSq i := fun e => his (flipSq_inj hi hs e.symm)
    rw [if_neg hne, ← List.getD_eq_getElem?_getD, h.2 i hi]
    by_cases h1 : i < s
    · rw [if_pos h1, if_pos (by omega)]
    · rw [if_neg h1, if_neg (by omega)]

/-! ### single parser steps -/

theorem parse_digit (checked : Bool) (d : Char) (rest : List Char) (idx : Nat) (cells : List Cell)
    (hd : '1' ≤ d ∧ d ≤ '8') (hn : idx + (d.toNat - '0'.toNat) < 256) :
    parseBoardCells checked (d :: rest) idx cells =
      parseBoardCells checked rest (idx + (d.toNat - '0'.toNat)) cells := by
  rw [parseBoardCells, if_pos hd]
  simp only []
  rw [if_neg (by omega)]

theorem parse_slash (checked : Bool) (rest : List Char) (idx : Nat) (cells : List Cell) :
    parseBoardCells checked ('/' :: rest) idx cells = parseBoardCells checked rest idx cells := by
  rw [parseBoardCells, if_neg (by decide), if_neg (by decide), if_pos rfl]

/-- a piece letter as the board parser and the gate see it -/
theorem pieceChar_facts (c : Color) (p : Piece) (hp : p ≠ .none) :
    ¬ ('1' ≤ pieceChar c p ∧ pieceChar c p ≤ '8') ∧ pieceChar c p ≠ ' ' ∧ pieceChar c p ≠ '/' ∧
      pieceOfFenChar (pieceChar c p) = some (c, p) ∧ isBoardChar (pieceChar c p) = true := by
  cases c <;> cases p <;> first | exact absurd rfl hp | decide

theorem parse_piece (checked : Bool) (c : Color) (p : Piece) (hp : p ≠ .none) (rest : List Char)
    (idx : Nat) (cells : List Cell) (hidx : idx ≤ 63) :
    parseBoardCells checked (pieceChar c p :: rest) idx cells =
      parseBoardCells checked rest (idx + 1) (cells.set (flipSq idx) (some (c, p))) := by
  obtain ⟨h1, h2, h3, h4, -⟩ := pieceChar_facts c p hp
  rw [parseBoardCells, if_neg h1, if_neg h2, if_neg h3, h4]
  simp only []
  rw [if_neg (by omega)]
  rfl

theorem runText_digit (run : Nat) (h1 : 1 ≤ run) (h8 : run ≤ 8) :
    ∃ d : Char, runText run = [d] ∧ ('1' ≤ d ∧ d ≤ '8') ∧ d.toNat - '0'.toNat = run :=
  have H : ∀ run ≤ 8, 1 ≤ run → runText run = [Char.ofNat (48 + run)] ∧
      ('1' ≤ Char.ofNat (48 + run) ∧ Char.ofNat (48 + run) ≤ '8') ∧
      (Char.ofNat (48 + run)).toNat - '0'.toNat = run := by decide +kernel
  ⟨_, H run h8 h1⟩

theorem parse_runText (checked : Bool) (run : Nat) (h8 : run ≤ 8) (rest : List Char) (idx : Nat)
    (cells : List Cell) (hidx : idx + run ≤ 64) :
    parseBoardCells checked (runText run ++ rest) idx cells =
      parseBoardCells checked rest (idx + run) cells := by
  by_cases h0 : run = 0
  · subst h0; simp [runText]
  · obtain ⟨d, e, hd, hv⟩ := runText_digit run (by omega) h8
    rw [e, List.singleton_append, parse_digit checked d rest idx cells hd (by omega), hv]

/-- a rank segment written by `enc` is read back cell by cell -/
theorem parse_enc (checked : Bool) (g : Nat → Cell) (hg : ∀ i c p, g i = some (c, p) → p ≠ .none)
    (n : Nat) : ∀ (run idx : Nat) (cells : List Cell) (rest : List Char),
    (∀ k < run, g (idx + k) = Option.none) → run + n ≤ 8 → idx + run + n ≤ 64 → Inv g cells idx →
    ∃ cells', parseBoardCells checked (enc ((List.range' (idx + run) n).map g) run ++ rest) idx cells =
        parseBoardCells checked rest (idx + run + n) cells' ∧ Inv g cells' (idx + run + n) := by
  induction n with
  | zero =>
    intro run idx cells rest hrun h8 h64 hinv
    refine ⟨cells, ?_, inv_skip hinv run hrun⟩
    simp only [List.range'_zero, List.map_nil, enc]
    exact parse_runText checked run (by omega) rest idx cells (by omega)
  | succ n ih =>
    intro run idx cells rest hrun h8 h64 hinv
    rw [List.range'_succ, List.map_cons]
    cases hgs : g (idx + run) with
    | none =>
      simp only [enc]
      have := ih (run + 1) idx cells rest (by
        intro k hk
        by_cases hk' : k < run
        · exact hrun k hk'
        · rw [show k = run by omega]; exact hgs) (by omega) (by omega) hinv
      rw [show idx + (run + 1) = idx + run + 1 by omega, show idx + run + 1 + n = idx + run + (n + 1) by omega] at this
      exact this
    | some cp =>
      obtain ⟨c, p⟩ := cp
      simp only [enc]
      rw [List.append_assoc, parse_runText checked run (by omega) _ idx cells (by omega),
        List.cons_append, parse_piece checked c p (hg _ c p hgs) _ _ cells (by omega)]
      have hinv' := inv_set (inv_skip hinv run hrun) (by omega) (c, p) hgs
      have := ih 0 (idx + run + 1) _ rest (by intro k hk; omega) (by omega) (by omega) hinv'
      rw [show idx + run + 1 + 0 = idx + run + 1 by omega, show idx + run + 1 + n = idx + run + (n + 1) by omega] at this
      exact this

/-! ## The whole board -/

def cellOf (m : PieceMap) (i : Nat) : Cell := m.pieceAt (flipSq i)

theorem cellOf_ne_none (m : PieceMap) : ∀ i c p, cellOf m i = some (c, p) → p ≠ .none :=
  fun _ _ _ h => (C10.pieceAt_some _ _ _ _ h).1

theorem writeRank_eq_cursor (m : PieceMap) (r : Nat) (hr : r ≤ 7) :
    writeRank m r = enc ((List.range' ((7 - r) * 8 + 0) 8).map (cellOf m)) 0 := by
  rw [writeRank_eq, List.range'_eq_map_range, List.map_map]
  congr 1
  apply List.map_congr_left
  intro f hf
  have hf := List.mem_range.1 hf
  simp only [Function.comp, cellOf]
  congr 1
  unfold flipSq mkSq rankOf fileOf; omega

theorem isBoardChar_pieceChar (c : Color) (p : Piece) (hp : p ≠ .none) :
    isBoardChar (pieceChar c p) = true :=
  (pieceChar_facts c p hp).2.2.2.2

theorem isBoardChar_runText : ∀ run ≤ 8, ∀ ch ∈ runText run, isBoardChar ch = true := by decide +kernel

theorem isBoardChar_enc (l : List Cell) : ∀ run, run + l.length ≤ 8 →
    (∀ c p, some (c, p) ∈ l → p ≠ .none) → ∀ ch ∈ enc l run, isBoardChar ch = true := by
  induction l with
  | nil => intro run h8 _; exact isBoardChar_runText run (by simpa using h8)
  | cons x t ih =>
    intro run h8 hl ch hch
    simp only [List.length_cons] at h8
    cases x with
    | none =>
      simp only [enc] at hch
      exact ih (run + 1) (by omega) (fun c p h => hl c p (List.mem_cons_of_mem _ h)) ch hch
    | some cp =>
      obtain ⟨c, p⟩ := cp
      simp only [enc, List.mem_append, List.mem_cons] at hch
      rcases hch with h | rfl | h
      · exact isBoardChar_runText run (by omega) ch h
      · exact isBoardChar_pieceChar c p (hl c p List.mem_cons_self)
      · exact ih 0 (by omega) (fun c p h => hl c p (List.mem_cons_of_mem _ h)) ch h

theorem enc_ne_nil (l : List Cell) : ∀ run, 0 < run + l.length → run + l.length ≤ 8 → enc l run ≠ [] := by
  induction l with
  | nil =>
    intro run h0 h8
    obtain ⟨d, e, _⟩ := runText_digit run (by simp at h0; omega) (by simpa using h8)
    simp [enc, e]
  | cons x t ih =>
    intro run h0 h8
    simp only [List.length_cons] at h8
    cases x with
    | none => simp only [enc]; exact ih (run + 1) (by omega) (by omega)
    | some cp => obtain ⟨c, p⟩ := cp; simp [enc]

theorem isBoardChar_not_sep (ch : Char) (h : isBoardChar ch = true) :
    ch ≠ '/' ∧ isRegexSpace ch = false := by
  simp only [isBoardChar, List.contains_eq_mem, decide_eq_true_eq] at h
  have : ∀ x ∈ "rnbqkpRNBQKP12345678".toList, x ≠ '/' ∧ isRegexSpace x = false := by decide
  exact this ch h

theorem writeRank_boardChars (m : PieceMap) (r : Nat) (hr : r ≤ 7) :
    ∀ ch ∈ writeRank m r, isBoardChar ch = true := by
  rw [writeRank_eq_cursor m r hr]
  apply isBoardChar_enc _ 0 (by simp)
  intro c p h
  obtain ⟨i, _, hi⟩ := List.mem_map.1 h
  exact cellOf_ne_none m i c p hi

theorem writeRank_ne_nil (m : PieceMap) (r : Nat) (hr : r ≤ 7) : writeRank m r ≠ [] := by
  rw [writeRank_eq_cursor m r hr]
  exact enc_ne_nil _ 0 (by simp) (by simp)

def ranksFrom (rk : Nat → List Char) : Nat → List Char
  | 0 => rk 0
  | r + 1 => rk (r + 1) ++ '/' :: ranksFrom rk r

theorem writeBoard_eq (m : PieceMap) : writeBoard m = ranksFrom (writeRank m) 7 := by
  simp [writeBoard, ranksFrom]

theorem ranksFrom_congr {rk rk' : Nat → List Char} (r : Nat) (h : ∀ k ≤ r, rk k = rk' k) :
    ranksFrom rk r = ranksFrom rk' r := by
  induction r with
  | zero => exact h 0 (Nat.le_refl 0)
  | succ r ih => rw [ranksFrom, ranksFrom, h (r + 1) (Nat.le_refl _), ih fun k hk => h k (by omega)]

theorem mem_ranksFrom {rk : Nat → List Char} {r : Nat} {ch : Char} (h : ch ∈ ranksFrom rk r) :
    ch = '/' ∨ ∃ k ≤ r, ch ∈ rk k := by
  induction r with
  | zero => exact .inr ⟨0, Nat.le_refl 0, h⟩
  | succ r ih =>
    rcases List.mem_append.1 h with h | h
    · exact .inr ⟨r + 1, Nat.le_refl _, h⟩
    · rcases List.mem_cons.1 h with h | h
      · exact .inl h
      · exact (ih h).imp_right fun ⟨k, hk, hc⟩ => ⟨k, by omega, hc⟩

theorem splitOn_ranksFrom {rk : Nat → List Char} (r : Nat) (h : ∀ k ≤ r, '/' ∉ rk k) :
    (ranksFrom rk r).splitOn '/' = (List.range (r + 1)).reverse.map rk := by
  induction r with
  | zero => exact List.splitOn_eq_singleton (h 0 (Nat.le_refl 0))
  | succ r ih =>
    rw [ranksFrom, List.splitOn_append_cons_self_of_not_mem (h (r + 1) (Nat.le_refl _)),
      ih fun k hk => h k (by omega), List.range_succ (n := r + 1), List.reverse_append]
    rfl

theorem parse_rank (checked : Bool) (m : PieceMap) (r : Nat) (hr : r ≤ 7) (cells : List Cell)
    (rest : List Char) (hinv : Inv (cellOf m) cells ((7 - r) * 8)) :
    ∃ cells', parseBoardCells checked (writeRank m r ++ rest) ((7 - r) * 8) cells =
        parseBoardCells checked rest ((7 - r) * 8 + 8) cells' ∧ Inv (cellOf m) cells' ((7 - r) * 8 + 8) := by
  rw [writeRank_eq_cursor m r hr]
  have := parse_enc checked (cellOf m) (cellOf_ne_none m) 8 0 ((7 - r) * 8) cells rest
    (by intro k hk; omega) (by omega) (by omega) hinv
  simpa using this

theorem parse_ranks (checked : Bool) (m : PieceMap) (r : Nat) (hr : r ≤ 7) (cells : List Cell)
    (hinv : Inv (cellOf m) cells ((7 - r) * 8)) :
    ∃ cells', parseBoardCells checked (ranksFrom (writeRank m) r) ((7 - r) * 8) cells = .ok cells' ∧
      Inv (cellOf m) cells' 64 := by
  induction r generalizing cells with
  | zero =>
    obtain ⟨c0, e0, i0⟩ := parse_rank checked m 0 hr cells [] hinv
    rw [List.append_nil] at e0
    exact ⟨c0, by rw [ranksFrom, e0, parseBoardCells], i0⟩
  | succ r ih =>
    obtain ⟨c, e, i⟩ := parse_rank checked m (r + 1) hr cells ('/' :: ranksFrom (writeRank m) r) hinv
    rw [show (7 - (r + 1)) * 8 + 8 = (7 - r) * 8 by omega] at e i
    obtain ⟨c', e', i'⟩ := ih (by omega) c i
    exact ⟨c', by rw [ranksFrom, e, parse_slash, e'], i'⟩

theorem parse_writeBoard (checked : Bool) (m : PieceMap) :
    ∃ cells, parseBoardCells checked (writeBoard m) 0 (List.replicate 64 Option.none) = .ok cells ∧
      ∀ sq < 64, cells.getD sq Option.none = m.pieceAt sq := by
  obtain ⟨cells, e, i⟩ := parse_ranks checked m 7 (Nat.le_refl 7) _ (inv_init (cellOf m))
  refine ⟨cells, by rw [writeBoard_eq]; exact e, fun sq hsq => ?_⟩
  have := i.2 (flipSq sq) (flipSq_lt sq)
  rw [flipSq_flipSq sq hsq, if_pos (flipSq_lt sq)] at this
  rw [this, cellOf, flipSq_flipSq sq hsq]

theorem boardFieldOk_writeBoard (m : PieceMap) : boardFieldOk (writeBoard m) = true := by
  have split := splitOn_ranksFrom (rk := writeRank m) 7 fun k hk h =>
    (isBoardChar_not_sep _ (writeRank_boardChars m k hk _ h)).1 rfl
  simp only [boardFieldOk, writeBoard_eq, split, List.length_map, List.length_reverse, List.length_range,
    Bool.and_eq_true, List.all_eq_true, List.mem_map, List.mem_reverse, List.mem_range]
  refine ⟨rfl, ?_⟩
  rintro seg ⟨k, hk, rfl⟩
  have h1 := writeRank_ne_nil m k (by omega)
  refine ⟨?_, writeRank_boardChars m k (by omega)⟩
  cases h : writeRank m k with
  | nil => exact absurd h h1
  | cons _ _ => rfl

/-- a field holds no separator of `splitFields` (a notion of the FEN reader; in namespace `Spec` because the regex lemmas,
which are there, state their inverse lemmas with it) -/
def _root_.Wee.Spec.NoSpace (f : List Char) : Prop := ∀ c ∈ f, isRegexSpace c = false

theorem writeBoard_no_space (m : PieceMap) : Spec.NoSpace (writeBoard m) := by
  intro ch hch
  rw [writeBoard_eq] at hch
  rcases mem_ranksFrom hch with rfl | ⟨k, hk, h⟩
  · decide
  · exact (isBoardChar_not_sep _ (writeRank_boardChars m k hk _ h)).2

/-! ## Field splitting -/

theorem go_nospace (b cur : List Char) (h : Spec.NoSpace b) :
    splitFields.go b cur = [cur.reverse ++ b] := by
  induction b generalizing cur with
  | nil => simp [splitFields.go]
  | cons x t ih =>
    rw [splitFields.go, if_neg (by simp [h x List.mem_cons_self]),
      ih _ (fun c hc => h c (List.mem_cons_of_mem _ hc))]
    simp

theorem go_field (b rest cur : List Char) (sp : Char) (hsp : isRegexSpace sp = true)
    (h : Spec.NoSpace b) :
    splitFields.go (b ++ sp :: rest) cur = (cur.reverse ++ b) :: splitFields.go rest [] := by
  induction b generalizing cur with
  | nil => simp [splitFields.go, hsp]
  | cons x t ih =>
    rw [List.cons_append, splitFields.go, if_neg (by simp [h x List.mem_cons_self]),
      ih _ (fun c hc => h c (List.mem_cons_of_mem _ hc))]
    simp

theorem splitFields_six (f1 f2 f3 f4 f5 f6 : List Char) (w1 w2 w3 w4 w5 : Char)
    (hw1 : isRegexSpace w1 = true) (hw2 : isRegexSpace w2 = true) (hw3 : isRegexSpace w3 = true)
    (hw4 : isRegexSpace w4 = true) (hw5 : isRegexSpace w5 = true)
    (h1 : Spec.NoSpace f1) (h2 : Spec.NoSpace f2) (h3 : Spec.NoSpace f3) (h4 : Spec.NoSpace f4)
    (h5 : Spec.NoSpace f5) (h6 : Spec.NoSpace f6) :
    splitFields (f1 ++ w1 :: (f2 ++ w2 :: (f3 ++ w3 :: (f4 ++ w4 :: (f5 ++ w5 :: f6))))) =
      [f1, f2, f3, f4, f5, f6] := by
  unfold splitFields
  rw [go_field _ _ _ _ hw1 h1, go_field _ _ _ _ hw2 h2, go_field _ _ _ _ hw3 h3, go_field _ _ _ _ hw4 h4,
    go_field _ _ _ _ hw5 h5, go_nospace _ _ h6]
  simp

/-! ## The scalar fields: the texts the writer emits -/

def turnChars : Color → List Char | .white => ['w'] | .black => ['b']

def castleChars (cw cb : CastleRights) : List Char :=
  if !cw.kingside && !cw.queenside && !cb.kingside && !cb.queenside then ['-']
  else (if cw.kingside then ['K'] else []) ++ (if cw.queenside then ['Q'] else []) ++
       (if cb.kingside then ['k'] else []) ++ (if cb.queenside then ['q'] else [])

def epChars : Option Nat → List Char
  | Option.none => ['-']
  | some t => [fileChar (fileOf t), rankChar (rankOf t)]

theorem toList_writeFen (s : State) :
    (writeFen s).toList = writeBoard s.pieces ++ ' ' :: (turnChars s.turn ++ ' ' ::
      (castleChars s.castleW s.castleB ++ ' ' :: (epChars s.ep ++ ' ' ::
      ((toString s.halfmove).toList ++ ' ' :: (toString s.fullmove).toList)))) := by
  rcases s with ⟨pieces, turn, cw, cb, ep, hm, fm⟩
  cases turn <;> cases ep <;>
    simp only [writeFen, String.toList_append, String.toList_ofList, String.reduceToList, castleChars,
      turnChars, epChars, sqName, List.append_assoc, List.cons_append,
      List.nil_append]

/-! ## `parseFenChars` in named pieces

`sideOk`, `castleOk`, `epOk` are the `let`-bound checks of the gate of `parseFenChars`, `rightsOf` and `epOf` its
`rights` and `epv`, copied verbatim so that statements can mention them. -/

def sideOk (side : List Char) : Bool :=
  side.length == 1 && side.all (fun c => c == 'b' || c == '|' || c == 'w')

def castleOk (castle : List Char) : Bool :=
  castle == ['-'] ||
      (1 ≤ castle.length && castle.length ≤ 4 && castle.all (fun c => "K|Qkq".toList.contains c))

def epOk (ep : List Char) : Bool :=
  ep == ['-'] || (match ep with
      | [f, r] => 'a' ≤ f && f ≤ 'h' && '1' ≤ r && r ≤ '8'
      | _ => false)

def rightsOf (castle : List Char) : Option (CastleRights × CastleRights) :=
  if castle == ['-'] then some (CastleRights.noRights, CastleRights.noRights) else parseCastle castle

def epOf (ep : List Char) : Option Nat :=
  match ep with
  | [f, r] => some (mkSq (r.toNat - '1'.toNat) (f.toNat - 'a'.toNat))
  | _ => Option.none

/-! ## The gate on the scalar fields: a text that passes it holds no separator; what the writer emits passes it
and is read back -/

theorem sqOfChars_lt {f r : Char} (hf1 : 'a' ≤ f) (hf2 : f ≤ 'h') (hr1 : '1' ≤ r) (hr2 : r ≤ '8') :
    mkSq (r.toNat - '1'.toNat) (f.toNat - 'a'.toNat) < 64 := by
  rw [char_le_iff] at hf1 hf2 hr1 hr2
  simp only [Char.reduceToNat] at hf1 hf2 hr1 hr2
  simp only [mkSq, Char.reduceToNat]
  omega

theorem epOf_lt {ep : List Char} (h : epOk ep = true) : ∀ t, epOf ep = some t → t < 64 := by
  intro t ht
  unfold epOf at ht
  split at ht
  · rename_i f r
    cases ht
    have hne : ([f, r] == ['-']) = false := by simp
    simp only [epOk, hne, Bool.false_or, Bool.and_eq_true, decide_eq_true_eq] at h
    exact sqOfChars_lt h.1.1.1 h.1.1.2 h.1.2 h.2
  · cases ht

theorem noSpace_side {side : List Char} (h : sideOk side = true) : Spec.NoSpace side := by
  intro c hc
  simp only [sideOk, Bool.and_eq_true, List.all_eq_true, Bool.or_eq_true, beq_iff_eq] at h
  rcases h.2 c hc with (rfl | rfl) | rfl <;> decide

theorem noSpace_castle {castle : List Char} (h : castleOk castle = true) : Spec.NoSpace castle := by
  intro c hc
  simp only [castleOk, Bool.or_eq_true, beq_iff_eq, Bool.and_eq_true, List.all_eq_true, List.contains_eq_mem,
    decide_eq_true_eq] at h
  rcases h with rfl | ⟨-, h⟩
  · have : c = '-' := by simpa using hc
    subst this; decide
  · have : ∀ x ∈ "K|Qkq".toList, isRegexSpace x = false := by decide
    exact this c (h c hc)

theorem noSpace_ep {ep : List Char} (h : epOk ep = true) : Spec.NoSpace ep := by
  intro c hc
  simp only [epOk, Bool.or_eq_true, beq_iff_eq] at h
  rcases h with rfl | h
  · have : c = '-' := by simpa using hc
    subst this; decide
  · match ep, h with
    | [f, r], h =>
      simp only [Bool.and_eq_true, decide_eq_true_eq, char_le_iff, Char.reduceToNat] at h
      have hc' : c = f ∨ c = r := by simpa using hc
      simp only [isRegexSpace]
      rcases hc' with rfl | rfl <;> simp <;> omega

theorem turnChars_written (t : Color) : sideOk (turnChars t) = true := by
  cases t <;> decide

theorem castleChars_written (cw cb : CastleRights) :
    castleOk (castleChars cw cb) = true ∧ rightsOf (castleChars cw cb) = some (cw, cb) := by
  obtain ⟨wk, wq⟩ := cw; obtain ⟨bk, bq⟩ := cb
  cases wk <;> cases wq <;> cases bk <;> cases bq <;> decide

theorem epChars_written (e : Option Nat) (he : ∀ t, e = some t → t < 64) :
    epOk (epChars e) = true ∧ epOf (epChars e) = e := by
  cases e with
  | none => decide
  | some t =>
    have ht := he t rfl
    obtain ⟨-, -, -, ⟨hf1, hf2⟩, hf3, -⟩ := fileChar_facts (fileOf t) (by unfold fileOf; omega)
    obtain ⟨-, -, ⟨hr1, hr2⟩, hr3, -⟩ := rankChar_facts (rankOf t) (by unfold rankOf; omega)
    refine ⟨?_, ?_⟩
    · simp [epOk, epChars, hf1, hf2, hr1, hr2]
    · simp only [epOf, epChars, hf3, hr3]
      congr 1; unfold mkSq rankOf fileOf; omega

theorem counter_written (n : Nat) (hn : n < 2^64) :
    (toString n).toList.isEmpty = false ∧ parseUsize (toString n).toList = some n ∧
      Spec.NoSpace (toString n).toList := by
  refine ⟨?_, parseUsize_toString n hn, fun c hc => not_space_of_isDigit c (isDigit_of_mem_toString n c hc)⟩
  cases h : (toString n).toList with
  | nil => exact absurd h (toString_nat_ne_nil n)
  | cons _ _ => rfl

/-! ## The independent writer `Spec.writeFen` against the engine's writer; the en-passant square of `Spec.readFen`;
the text of `Fen::DEFAULT` -/

theorem cellChar_eq (c : Spec.Color) (k : Spec.Kind) :
    Spec.cellChar c k = pieceChar (convColor c) (SanP.kindPiece k) := by
  cases c <;> cases k <;> decide

theorem runText_eq (run : Nat) : (if run > 0 then toString run else "").toList = runText run := by
  unfold runText
  split
  · rfl
  · decide

theorem toList_rankText_go (p : Spec.Pos) (r : Nat) (fuel : Nat) : ∀ f run,
    (Spec.rankText.go p r f run fuel).toList =
      enc ((List.range' f fuel).map fun x => convCell (p.at (r * 8 + x))) run := by
  induction fuel with
  | zero =>
    intro f run
    simp only [Spec.rankText.go, List.range'_zero, List.map_nil, enc]
    exact runText_eq run
  | succ n ih =>
    intro f run
    rw [List.range'_succ, List.map_cons]
    cases h : p.at (r * 8 + f) with
    | none =>
      simp only [Spec.rankText.go, h, convCell, Option.map_none, enc]
      exact ih (f + 1) (run + 1)
    | some ck =>
      obtain ⟨c, k⟩ := ck
      simp only [Spec.rankText.go, h, convCell, Option.map_some, enc, String.toList_append,
        String.toList_singleton, runText_eq, ih (f + 1) 0, cellChar_eq]
      simp

theorem toList_rankText (p : Spec.Pos) (r : Nat) (hr : r ≤ 7) :
    (Spec.rankText p r).toList = writeRank (concPieces p) r := by
  rw [writeRank_eq, Spec.rankText, toList_rankText_go, List.range_eq_range']
  congr 1
  apply List.map_congr_left
  intro f hf
  have hf := (List.mem_range'_1.1 hf).2
  rw [pieceAt_concPieces p _ (by unfold mkSq; omega)]
  rfl

theorem rights_eq (wk wq bk bq : Bool) :
    (let rights := (if wk then "K" else "") ++ (if wq then "Q" else "") ++ (if bk then "k" else "") ++ (if bq then "q" else "")
     if rights.isEmpty then "-" else rights).toList = castleChars ⟨wk, wq⟩ ⟨bk, bq⟩ := by
  cases wk <;> cases wq <;> cases bk <;> cases bq <;> decide

theorem sqName_eq (t : Nat) : Spec.sqName t = Wee.sqName t := rfl

theorem spec_writer_agrees (p : Spec.Pos) : writeFen (conc p) = Spec.writeFen p := by
  apply String.toList_injective
  rw [toList_writeFen]
  have e4 := rights_eq p.wk p.wq p.bk p.bq
  simp only [] at e4
  have hb : ("/".intercalate ([7,6,5,4,3,2,1,0].map (Spec.rankText p))).toList = writeBoard (conc p).pieces := by
    rw [writeBoard_eq, show (conc p).pieces = concPieces p from rfl,
      ← ranksFrom_congr 7 (fun k hk => toList_rankText p k hk)]
    simp [ranksFrom]
  simp only [Spec.writeFen, String.toList_append, hb, e4, String.reduceToList]
  rcases p with ⟨cells, turn, wk, wq, bk, bq, ep, hm, fm⟩
  cases turn <;> cases ep <;>
    simp [conc, turnChars, epChars, sqName_eq, Wee.sqName]

theorem ite_some_none {α} {c : Prop} [Decidable c] {a p : α}
    (h : (if c then some a else Option.none) = some p) : a = p := by
  split at h
  · exact Option.some.inj h
  · cases h

theorem readFen_ep_lt (t : String) (p : Spec.Pos) (h : Spec.readFen t = some p) :
    ∀ e, p.ep = some e → e < 64 := by
  unfold Spec.readFen at h
  split at h
  · split at h
    · split at h
      · cases h
      · simp only [] at h
        split at h
        · rename_i hep _ _
          have h := ite_some_none h
          · subst h
            intro e he
            simp only [] at he
            subst he
            split at hep
            · cases hep
            · split at hep
              · split at hep
                · rename_i f r _ hfr
                  simp only [Option.some.injEq] at hep
                  have := sqOfChars_lt hfr.1 hfr.2.1 hfr.2.2.1 hfr.2.2.2
                  simp only [mkSq, Char.reduceToNat] at this
                  omega
                · cases hep
              · cases hep
        · cases h
    · cases h
  · cases h

/-- The characters of `Fen::DEFAULT` (a literal is `String.ofList` of its characters).  The kernel unfolds
`toList` of a string literal in time quadratic in its length, and again at every use of an argument, so
evaluations on that text start from this list. -/
theorem fenDefault_toList : Gen.fenDefault.toList =
    ['r','n','b','q','k','b','n','r','/','p','p','p','p','p','p','p','p','/','8','/','8','/','8','/','8','/',
     'P','P','P','P','P','P','P','P','/','R','N','B','Q','K','B','N','R',' ','w',' ','K','Q','k','q',' ','-',' ','0',' ','1'] :=
  String.toList_ofList

end Wee.FenL

namespace Wee

/-! ## `parseFenChars` cut at its gate

Everything that is proved about the reader (round trip, no panic, what an accepted text denotes, the regex pipeline) goes
through these: the split into six fields, the gate, and the field parsers after it. -/

/-- the Proofs form that the fixed `parseBoardCells_ne_panic` of `Props/C14.lean` (same statement) is read off -/
theorem parseBoardCells_ne_panic' (checked : Bool) (cs : List Char) :
    ∀ (idx : Nat) (cells : List (Option (Color × Piece))), parseBoardCells checked cs idx cells ≠ .panic := by
  induction cs with
  | nil => intro idx cells; simp [parseBoardCells]
  | cons c rest ih =>
    intro idx cells
    unfold parseBoardCells
    dsimp only
    repeat' split
    all_goals first | exact ih _ _ | simp

/-- the part of `parseFenChars` after the gate (verbatim) -/
def afterGate (checked : Bool) (board side castle ep half full : List Char) : Res State :=
  match parseBoardCells checked board 0 (List.replicate 64 Option.none) with
  | .panic => .panic
  | .err => .err
  | .ok cells =>
    match side with
    | ['w'] | ['b'] =>
      let turn := if side == ['w'] then Color.white else Color.black
      let rights := if castle == ['-'] then some (CastleRights.noRights, CastleRights.noRights) else parseCastle castle
      match rights with
      | Option.none => .err
      | some (cw, cb) =>
        let epv : Option Nat := match ep with
          | [f, r] => some (mkSq (r.toNat - '1'.toNat) (f.toNat - 'a'.toNat))
          | _ => Option.none
        match parseUsize half, parseUsize full with
        | some h, some f =>
          .ok { pieces := piecesOfCells cells, turn, castleW := cw, castleB := cb, ep := epv, halfmove := h, fullmove := f }
        | _, _ => .err
    | _ => .err

def gateOk (board side castle ep half full : List Char) : Bool :=
  boardFieldOk board && FenL.sideOk side && FenL.castleOk castle && FenL.epOk ep && !half.isEmpty && !full.isEmpty

theorem parseFenChars_six (checked : Bool) (cs board side castle ep half full : List Char)
    (hsplit : splitFields cs = [board, side, castle, ep, half, full]) :
    parseFenChars checked cs =
      if !gateOk board side castle ep half full then .err else afterGate checked board side castle ep half full := by
  unfold parseFenChars
  rw [hsplit]
  rfl

theorem parseFenChars_not_six (checked : Bool) (cs : List Char)
    (h : ∀ board side castle ep half full, splitFields cs ≠ [board, side, castle, ep, half, full]) :
    parseFenChars checked cs = .err := by
  unfold parseFenChars
  split
  · rename_i hs; exact absurd hs (h _ _ _ _ _ _)
  · rfl

theorem afterGate_eq_ok {checked : Bool} {board side castle ep half full : List Char} {st : State} :
    afterGate checked board side castle ep half full = .ok st ↔
      ∃ cells turn cw cb h f, parseBoardCells checked board 0 (List.replicate 64 Option.none) = .ok cells ∧
        side = FenL.turnChars turn ∧ FenL.rightsOf castle = some (cw, cb) ∧ parseUsize half = some h ∧
        parseUsize full = some f ∧ st = State.mk (piecesOfCells cells) turn cw cb (FenL.epOf ep) h f := by
  unfold afterGate
  cases parseBoardCells checked board 0 (List.replicate 64 Option.none) with
  | panic => simp
  | err => simp
  | ok cells =>
    constructor
    · intro h
      have key : ∀ turn : Color, side = FenL.turnChars turn →
          (match FenL.rightsOf castle with
            | Option.none => Res.err
            | some (cw, cb) =>
              match parseUsize half, parseUsize full with
              | some h, some f => Res.ok (State.mk (piecesOfCells cells) turn cw cb (FenL.epOf ep) h f)
              | _, _ => Res.err) = .ok st →
          ∃ cells' turn cw cb h f, Res.ok cells = Res.ok cells' ∧
            side = FenL.turnChars turn ∧ FenL.rightsOf castle = some (cw, cb) ∧ parseUsize half = some h ∧
            parseUsize full = some f ∧ st = State.mk (piecesOfCells cells') turn cw cb (FenL.epOf ep) h f := by
        intro turn hs h
        split at h
        · cases h
        · rename_i cw cb hr
          split at h
          · rename_i hm fm hh hf
            cases h
            exact ⟨cells, turn, cw, cb, hm, fm, rfl, hs, hr, hh, hf, rfl⟩
          · cases h
      dsimp only at h
      split at h
      · exact key .white rfl h
      · exact key .black rfl h
      · cases h
    · rintro ⟨cells', turn, cw, cb, h, f, hc, rfl, hr, hh, hf, rfl⟩
      cases hc
      have hr' := hr; unfold FenL.rightsOf at hr'
      cases turn <;> simp only [FenL.turnChars] <;> rw [hr'] <;> simp only [hh, hf] <;> rfl

theorem parseFenChars_eq_ok {checked : Bool} {cs : List Char} {st : State} (h : parseFenChars checked cs = .ok st) :
    ∃ board side castle ep half full cells turn cw cb hm fm,
      splitFields cs = [board, side, castle, ep, half, full] ∧ gateOk board side castle ep half full = true ∧
      parseBoardCells checked board 0 (List.replicate 64 Option.none) = .ok cells ∧
      side = FenL.turnChars turn ∧ FenL.rightsOf castle = some (cw, cb) ∧ parseUsize half = some hm ∧
      parseUsize full = some fm ∧ st = State.mk (piecesOfCells cells) turn cw cb (FenL.epOf ep) hm fm := by
  by_cases hsix : ∃ board side castle ep half full, splitFields cs = [board, side, castle, ep, half, full]
  · obtain ⟨board, side, castle, ep, half, full, hs⟩ := hsix
    rw [parseFenChars_six checked cs _ _ _ _ _ _ hs] at h
    cases hg : gateOk board side castle ep half full
    · rw [hg] at h; cases h
    · rw [hg] at h
      obtain ⟨cells, turn, cw, cb, hm, fm, h1, h2, h3, h4, h5, h6⟩ := afterGate_eq_ok.1 h
      exact ⟨board, side, castle, ep, half, full, cells, turn, cw, cb, hm, fm, hs, hg, h1, h2, h3, h4, h5, h6⟩
  · rw [parseFenChars_not_six checked cs (fun b s c e hf f hs => hsix ⟨b, s, c, e, hf, f, hs⟩)] at h
    cases h

theorem afterGate_ne_panic (checked : Bool) (board side castle ep half full : List Char) :
    afterGate checked board side castle ep half full ≠ .panic := by
  have hb := parseBoardCells_ne_panic' checked board 0 (List.replicate 64 Option.none)
  unfold afterGate
  dsimp only
  repeat' split
  all_goals first | (simp; done) | (rename_i h; exact absurd h hb) | simp_all

theorem parseFenChars_ne_panic (checked : Bool) (cs : List Char) : parseFenChars checked cs ≠ .panic := by
  by_cases hsix : ∃ board side castle ep half full, splitFields cs = [board, side, castle, ep, half, full]
  · obtain ⟨board, side, castle, ep, half, full, hs⟩ := hsix
    rw [parseFenChars_six checked cs _ _ _ _ _ _ hs]
    split
    · exact fun h => nomatch h
    · exact afterGate_ne_panic checked board side castle ep half full
  · rw [parseFenChars_not_six checked cs (fun b s c e hf f hs => hsix ⟨b, s, c, e, hf, f, hs⟩)]
    exact fun h => nomatch h

def c11Start : State :=
  ⟨{ wp := 0xFF00, wn := 0x42, wb := 0x24, wr := 0x81, wq := 0x08, wk := 0x10,
     bp := 0x00FF000000000000, bn := 0x4200000000000000, bb := 0x2400000000000000,
     br := 0x8100000000000000, bq := 0x0800000000000000, bk := 0x1000000000000000 },
   .white, .both, .both, Option.none, 0, 1⟩

/-- by evaluation, independently of the round-trip theorem -/
theorem parse_fenDefault : parseFen true Gen.fenDefault = .ok c11Start := by
  rw [parseFen, FenL.fenDefault_toList]; decide +kernel

/-- An evaluation on `startState` that first rewrites with this does not read the text again. -/
theorem startState_eq : startState = c11Start := by rw [startState, parse_fenDefault]

end Wee
