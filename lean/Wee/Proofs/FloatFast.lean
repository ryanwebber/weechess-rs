import Wee.Model.F32
/-!
# The soft-float on integers, in the form the kernel evaluates fastest

`Model/F32.lean` proves each operation equal to one on numerators and denominators (`Fast.roundDiv`, `Fast.mulFast`, …) for
the compiler.  Those read their powers of two from a table, which is what compiled code likes and the kernel does not.
`F32.K` repeats `Fast.ltPow2 … Fast.roundDiv` under the same names with `<<<`, `2 ^ k` and `mkRat` (arithmetic on literals
for the kernel); `K.roundDiv_eq` unfolds the two texts side by side and rewrites `Fast.shl_eq`, `Fast.mkDyadic_eq`, which is
all that differs.  `F32.K.Ops` holds the five operations the evaluator uses; `Ops.model_eq_fast` is the agreement.
-/
namespace Wee.F32.K
open Wee.F32 Wee.F32.Fast

def ltPow2 (n d : Nat) (k : Int) : Bool :=
  if k ≥ 0 then n < d <<< k.toNat else n <<< (-k).toNat < d

def ilog2ND (n d : Nat) : Int :=
  let e : Int := (Nat.log2 n : Int) - (Nat.log2 d : Int)
  if ltPow2 n d e then e - 1 else if ltPow2 n d (e + 1) then e else e + 1

def roundPosND (n d : Nat) : Rat :=
  let e := ilog2ND n d
  let e' := if e < -126 then -126 else e
  let u := e' - 23
  if u ≥ 0 then
    (((rneND n (d <<< u.toNat)) <<< u.toNat : Nat) : Rat)
  else
    let s := (-u).toNat
    let g := min s (Nat.log2 d)
    let d' := d >>> g
    if d' <<< g = d then mkRat (rneND (n <<< (s - g)) d') (2 ^ s)
    else mkRat (rneND (n <<< s) d) (2 ^ s)

def roundDiv (N : Int) (D : Nat) : Rat :=
  if D = 1 ∧ N.natAbs < 16777216 then (N : Rat)
  else if N = 0 then 0 else if N < 0 then - roundPosND (-N).toNat D else roundPosND N.toNat D

theorem roundDiv_eq (N : Int) (D : Nat) : Fast.roundDiv N D = roundDiv N D := by
  have h1 (n d k) : Fast.ltPow2 n d k = ltPow2 n d k := by unfold Fast.ltPow2 ltPow2; simp only [shl_eq]
  have h2 (n d) : Fast.ilog2ND n d = ilog2ND n d := by unfold Fast.ilog2ND ilog2ND; simp only [h1]
  have h3 (m k : Nat) : mkDyadic m k = mkRat m (2 ^ k) := by
    rw [mkDyadic_eq, Rat.mkRat_eq_div, Rat.intCast_natCast]
  have h4 (n d) : Fast.roundPosND n d = roundPosND n d := by
    unfold Fast.roundPosND roundPosND; simp only [shl_eq, h2, h3]
  unfold Fast.roundDiv roundDiv; simp only [h4]

/-- the five `f32` operations (`mul`, `add`, `sub`, `div`, `ofInt`) on numerators and denominators through `roundDiv` -/
def mul (a b : Rat) : Rat := roundDiv (a.num * b.num) (a.den * b.den)
def add (a b : Rat) : Rat := roundDiv (a.num * b.den + b.num * a.den) (a.den * b.den)
def sub (a b : Rat) : Rat := roundDiv (a.num * b.den - b.num * a.den) (a.den * b.den)
def div (a b : Rat) : Rat :=
  if b.num = 0 then 0
  else if b.num < 0 then roundDiv (-(a.num * b.den)) (a.den * (-b.num).toNat)
  else roundDiv (a.num * b.den) (a.den * b.num.toNat)
def ofInt (i : Int) : Rat := roundDiv i 1

/-- the float operations the evaluator uses -/
structure Ops where
  mul : Rat → Rat → Rat
  add : Rat → Rat → Rat
  sub : Rat → Rat → Rat
  div : Rat → Rat → Rat
  ofInt : Int → Rat

def Ops.model : Ops := ⟨F32.mul, F32.add, F32.sub, F32.div, F32.ofInt⟩
def Ops.fast : Ops := ⟨K.mul, K.add, K.sub, K.div, K.ofInt⟩

theorem Ops.model_eq_fast : Ops.model = Ops.fast := by
  unfold Ops.model Ops.fast
  rw [mul_eq_mulFast, add_eq_addFast, sub_eq_subFast, div_eq_divFast, ofInt_eq_ofIntFast]
  unfold mulFast addFast subFast divFast ofIntFast K.mul K.add K.sub K.div K.ofInt
  simp only [roundDiv_eq]

end Wee.F32.K
