import Wee.Proofs.GenMovesBridge3
import Wee.Proofs.ListLemmas
import Wee.Proofs.MoveWF
/-!
# Bridge, stage 3a: pseudo-legal and legal move generation

* `MoveGenerator.compute_psuedo_legal_moves_into_eq` — the translated `compute_psuedo_legal_moves_into` yields the model's
  `pseudoLegalMoves` (pawns, knights, king + castling, bishops, rooks, queens) **in generation order**;
* `PseudoLegalMove.try_as_legal_move_eq` — the translated legality filter is the model's `tryAsLegal`;
* `MoveGenerator.compute_legal_moves_model` — the translated `compute_legal_moves` is the model's `legalMoves?`
  (same `(move, next state)` pairs, same order, panic exactly when the model says `none`); the well-formedness that
  `try_as_legal_move_eq` asks of each move word holds for every pseudo-legal move (`pseudoLegalMoves_wf`, `Wee/Proofs/MoveWF.lean`).

Everything is stated on the Rust-side value `stateOf s` of a model state `s` whose en-passant target is a square and whose
clocks fit `usize` (`StateOK s`, `Proofs/CoreFnsBridge.lean`; the Rust `State` cannot hold anything else).
Axioms: `propext`, `Classical.choice`, `Quot.sound` only.
-/
set_option linter.unusedSimpArgs false
namespace Wee
namespace GenFns
open Wee.Gen

theorem MoveGenerator.compute_psuedo_legal_moves_into_eq (s : Wee.State) (r : Array PseudoLegalMove)
    (hep : ∀ t, s.ep = some t → t < 64) :
    MoveGenerator.compute_psuedo_legal_moves_into (stateOf s) r = (pseudoLegalMoves s).map List.toArray := by
  unfold MoveGenerator.compute_psuedo_legal_moves_into pseudoLegalMoves
  simp only [Vec.clear, MoveGenerator.compute_pawn_moves_eq s _ hep]
  cases pawnMoves (Helper.of s) with
  | none => rfl
  | some pm =>
    simp only [Option.map_some, some_bind', MoveGenerator.compute_knight_moves_eq, MoveGenerator.compute_king_moves_eq,
      MoveGenerator.compute_bishop_moves_eq, MoveGenerator.compute_rook_moves_eq, MoveGenerator.compute_queen_moves_eq]
    simp

/-- Rust-side value of a `MoveResult` -/
def resOf (r : Wee.Move × Wee.State) : Move × State := (r.1, stateOf r.2)

theorem PseudoLegalMove.try_as_legal_move_eq (s : Wee.State) (mv : UInt32) (ok : StateOK s) (wf : WFMove mv) :
    PseudoLegalMove.try_as_legal_move mv (stateOf s) = (tryAsLegal s mv).map (Option.map resOf) := by
  unfold PseudoLegalMove.try_as_legal_move tryAsLegal
  rw [State.by_performing_move_of_wf s mv ok wf]
  cases performMove s mv with
  | none => rfl
  | some res =>
    cases res with
    | error e => rfl
    | ok next =>
      simp only [resultOf, some_bind', unwrap, State.turn_to_move_stateOf, State.board_stateOf, boardOf_piece_occ,
        Board.colored_attacks_eq]
      have h1 : ∀ x y : UInt64, BitBoard.none (BitBoard.bitand x y) = bbNone (x &&& y) := fun _ _ => rfl
      have h2 : ∀ x y : UInt64, BitBoard.any (BitBoard.bitand x y) = !(bbNone (x &&& y)) := by
        intro x y; show ((x &&& y) != 0) = !((x &&& y) == 0); rfl
      simp only [h1, h2]
      cases bbNone (next.pieces.get s.turn Piece.king &&& coloredAttacks next.pieces next.turn) <;> rfl

theorem legal_fold (s : Wee.State) (F : MoveGenerationBuffer → PseudoLegalMove → Option MoveGenerationBuffer)
    (l : List UInt32)
    (hF : ∀ m ∈ l, ∀ b, F b m = (tryAsLegal s m).map (fun o => match o with
        | some res => { b with f_legal_moves := b.f_legal_moves.push (resOf res) }
        | Option.none => b))
    (b : MoveGenerationBuffer) :
    List.foldlM F b l = (l.mapM (tryAsLegal s)).map (fun rs =>
      { b with f_legal_moves := b.f_legal_moves ++ ((rs.filterMap id).map resOf).toArray }) := by
  induction l generalizing b with
  | nil => simp
  | cons x t ih =>
    rw [List.foldlM_cons, hF x (List.mem_cons_self) b, List.mapM_cons]
    cases hx : tryAsLegal s x with
    | none => rfl
    | some o =>
      simp only [Option.map_some, some_bind']
      rw [ih (fun y hy => hF y (List.mem_cons_of_mem _ hy))]
      cases t.mapM (tryAsLegal s) with
      | none => rfl
      | some rs =>
        cases o with
        | none => simp
        | some res => simp [Array.append_assoc]

theorem MoveGenerator.compute_legal_moves_into_eq (s : Wee.State) (b : MoveGenerationBuffer) (ok : StateOK s) :
    MoveGenerator.compute_legal_moves_into (stateOf s) b
      = (pseudoLegalMoves s).bind fun ps => (ps.mapM (tryAsLegal s)).map fun rs =>
          ({ f_legal_moves := ((rs.filterMap id).map resOf).toArray, f_psuedo_legal_moves := ps.toArray } : MoveGenerationBuffer) := by
  unfold MoveGenerator.compute_legal_moves_into
  simp only [MoveGenerator.compute_psuedo_legal_moves_into_eq s _ ok.ep]
  cases hps : pseudoLegalMoves s with
  | none => rfl
  | some ps =>
    simp only [Option.map_some, some_bind', Option.bind_some]
    refine Eq.trans (legal_fold s _ ps ?_ _) ?_
    · intro m hm b'
      rw [PseudoLegalMove.try_as_legal_move_eq s m ok (pseudoLegalMoves_wf s ps hps m hm)]
      cases tryAsLegal s m with
      | none => rfl
      | some o => cases o <;> rfl
    · cases ps.mapM (tryAsLegal s) with
      | none => rfl
      | some rs => simp [MoveGenerationBuffer.clear, Vec.clear]

/-- **`MoveGenerator::compute_legal_moves`** is the model's `legalMoves?`: the same `(move, next state)` pairs in the same
order; `none` (panic) exactly when the model answers `none` -/
theorem MoveGenerator.compute_legal_moves_model (s : Wee.State) (ok : StateOK s) :
    MoveGenerator.compute_legal_moves (stateOf s) = (legalMoves? s).map fun rs => (rs.map resOf).toArray := by
  unfold MoveGenerator.compute_legal_moves legalMoves?
  simp only [MoveGenerator.compute_legal_moves_into_eq s _ ok]
  cases pseudoLegalMoves s with
  | none => rfl
  | some ps =>
    cases hm : ps.mapM (tryAsLegal s) with
    | none => simp [hm]
    | some rs => simp [hm, MoveGenerationBuffer.into_MoveSet, MoveSet.new]

end GenFns
end Wee
