import Wee.Gen.GenMoves
import Wee.Proofs.CoreFnsBridge
import Wee.Model.AttackCache
/-!
# Bridge, stage 3a: attack maps, `Board::piece_at`, `Board::is_check`

`Wee/Gen/GenMoves.lean` (namespace `Wee.GenFns`, regenerated by `tools/rs2lean3.py`) holds Lean definitions translated from the
source text of `board.rs` (`AttackMap::from_occupancy`, `Board::piece_at / is_check / colored_attacks / colored_pawn_attacks /
attack_map`), `attacks.rs` (`AttackGenerator::compute`) and `movegen.rs`.  This file proves the first group equal to the hand
model (`Wee/Model/Attacks.lean`, `Board.lean`, `Types.lean`) on the Rust-side value `boardOf m` of every model placement `m`.
Axioms: `propext`, `Classical.choice`, `Quot.sound` only.
-/
set_option linter.unusedSimpArgs false
namespace Wee
namespace GenFns
open Wee.Gen

/-- the items of `while let Some(sq) = bb.pop()`: the model's `bitsOf` (ascending) as squares -/
theorem pop_collect_65 (b : BitBoard) : iter_collect BitBoard.pop 65 b = some ((bitsOf b).map Nat.toUInt8) :=
  collect_bits _ _ BitBoard.pop_eq 65 b (by have := bitsOf_length_le b; omega)

theorem bitsOf_lt (b : UInt64) (n : Nat) (h : n ∈ bitsOf b) : n < 64 := ((mem_bitsOf b n).1 h).1

/-! ## `AttackGenerator::compute`: the table of closures is the model's `match` on the piece -/

theorem index_piece {α : Type} (a0 a1 a2 a3 a4 a5 a6 : α) (p : Piece) :
    ArrayMap.index #[a0, a1, a2, a3, a4, a5, a6] (Index.from_Piece p) = some (match p with
      | .none => a0 | .pawn => a1 | .knight => a2 | .bishop => a3 | .rook => a4 | .queen => a5 | .king => a6) := by
  cases p <;> rfl

theorem AttackGenerator.compute_eq (c : Color) (p : Piece) (sq : Square) (occ : BitBoard) (h : sq.toNat < 64) :
    AttackGenerator.compute (PieceIndex.new c p) sq occ = some (attacksOf c p sq.toNat occ) := by
  unfold AttackGenerator.compute
  simp only [PieceIndex.piece_new, PieceIndex.color_new, some_bind', index_piece, bind_pure']
  cases p
  · rfl
  · exact AttackGenerator.compute_pawn_attacks_eq _ _ h
  · exact AttackGenerator.compute_knight_attacks_eq _ h
  · exact AttackGenerator.compute_bishop_attacks_eq _ _ h
  · exact AttackGenerator.compute_rook_attacks_eq _ _ h
  · exact AttackGenerator.compute_queen_attacks_eq _ _ h
  · exact AttackGenerator.compute_king_attacks_eq _ h

/-- the body of the inner `while let` loop of `from_occupancy`, as a pure step on `(all, pawn)` -/
def amStep (c : Color) (p : Piece) (occ : UInt64) (acc : UInt64 × UInt64) (sq : Nat) : UInt64 × UInt64 :=
  (acc.1 ||| attacksOf c p sq occ, if p == .pawn then acc.2 ||| attacksOf c p sq occ else acc.2)

theorem AttackMap.from_occupancy_eq (m : PieceMap) (c : Color) :
    AttackMap.from_occupancy c (arrOf m) m.occ (m.colorOcc c)
      = some ⟨(attackMap m c).1, (attackMap m c).2⟩ := by
  unfold AttackMap.from_occupancy
  simp only [BitBoard.ZERO_eq, Piece.ALL_eq, arrOf_index, some_bind', pop_collect_65]
  refine bind_eq_of _ (foldlM_eq_foldl _ (fun acc p => (bitsOf (m.get c p)).foldl (amStep c p m.occ) acc) _ _ ?_) ?_
  · intro p _ acc
    refine bind_eq_of _ (foldlM_map_some _ (amStep c p m.occ) _ _ _ ?_) rfl
    intro x hx a
    have hx64 := bitsOf_lt _ x hx
    have e : (x.toUInt8).toNat = x := nat_toUInt8_toNat x (by omega)
    simp only [AttackGenerator.compute_eq c p _ m.occ (sq_toUInt8_lt hx64), e, some_bind']
    unfold amStep
    cases p <;> rfl
  · unfold attackMap amStep
    rfl

/-! ## `Board::attack_map`, `colored_attacks`, `colored_pawn_attacks`, `is_check` (the `OnceCell` read as compute-on-demand) -/

theorem Board.attack_map_eq (m : PieceMap) (c : Color) :
    Board.attack_map (boardOf m) c = some ⟨(attackMap m c).1, (attackMap m c).2⟩ := by
  unfold Board.attack_map
  have e : Board.f_colored_occupancy (boardOf m) = #[m.colorOcc .white, m.colorOcc .black] := rfl
  rw [e, pair_index, some_bind']
  cases c <;> exact AttackMap.from_occupancy_eq m _

theorem Board.colored_attacks_eq (m : PieceMap) (c : Color) :
    Board.colored_attacks (boardOf m) c = some (coloredAttacks m c) := by
  unfold Board.colored_attacks
  rw [Board.attack_map_eq, some_bind']
  rfl

theorem Board.colored_pawn_attacks_eq (m : PieceMap) (c : Color) :
    Board.colored_pawn_attacks (boardOf m) c = some (coloredPawnAttacks m c) := by
  unfold Board.colored_pawn_attacks
  rw [Board.attack_map_eq, some_bind']
  rfl

theorem Board.is_check_eq (m : PieceMap) (c : Color) :
    Board.is_check (boardOf m) c = some (isCheckB m c) := by
  unfold Board.is_check
  have e : Board.f_piece_occupancy (boardOf m) = arrOf m := rfl
  simp only [e, arrOf_index, some_bind', Color.opposing_color_eq, Board.colored_attacks_eq]
  rfl

/-- the translated query (cell read as compute-on-demand) returns what the cached reader of `Wee/Model/AttackCache.lean` returns
on the freshly built board, all cells empty; that the reader's value does not depend on which cells earlier queries have filled
is `Wee/Props/C10` (`C10_cache*`) -/
theorem Board.colored_attacks_cached (m : PieceMap) (c : Color) :
    Board.colored_attacks (boardOf m) c = some ((Wee.CachedBoard.new m).attacks c).2 := by
  rw [Board.colored_attacks_eq]
  cases c <;> rfl

/-! ## `Board::piece_at` (`return` inside two nested `for` loops) -/

/-- outcome of a search loop: found = leave the function, not found = continue -/
def earlyOf {ρ : Type} : Option ρ → Early ρ Unit
  | some r => Early.ret r
  | Option.none => Early.cont ()

theorem for_early_findSome {α ρ : Type} (f : Unit → α → Panics (Early ρ Unit)) (g : α → Option ρ) (l : List α)
    (h : ∀ x ∈ l, f () x = some (earlyOf (g x))) :
    for_early f l () = some (earlyOf (l.findSome? g)) := by
  induction l with
  | nil => rfl
  | cons x t ih =>
    rw [for_early, h x (List.mem_cons_self), List.findSome?_cons]
    cases hg : g x with
    | some r => rfl
    | none => exact ih (fun y hy => h y (List.mem_cons_of_mem _ hy))

theorem find?_map_findSome {α β : Type} (l : List α) (g : α → β) (P : β → Bool) :
    (l.map g).find? P = l.findSome? (fun a => if P (g a) then some (g a) else Option.none) := by
  induction l with
  | nil => rfl
  | cons x t ih =>
    rw [List.map_cons, List.find?_cons, List.findSome?_cons]
    cases h : P (g x) <;> simp [ih]

theorem find?_flatMap_findSome {α β : Type} (l : List α) (f : α → List β) (P : β → Bool) :
    (l.flatMap f).find? P = l.findSome? (fun a => (f a).find? P) :=
  List.find?_flatMap

theorem findSome?_map_comm {α β γ : Type} (l : List α) (g : α → Option β) (h : β → γ) :
    l.findSome? (fun a => (g a).map h) = (l.findSome? g).map h :=
  (List.map_findSome? ..).symm

/-- one probe of `piece_at` -/
def probe (m : PieceMap) (sq : Nat) (c : Color) (p : Piece) : Option (Color × Piece) :=
  if test (m.get c p) sq then some (c, p) else Option.none

/-- first match in `Color::ALL × Piece::ALL` order, as the nested search the Rust text performs -/
def pieceAtNested (m : PieceMap) (sq : Nat) : Option (Color × Piece) :=
  Color.all.findSome? fun c => Piece.all.findSome? (probe m sq c)

theorem pieceAtNested_eq (m : PieceMap) (sq : Nat) : pieceAtNested m sq = m.pieceAt sq := by
  unfold pieceAtNested PieceMap.pieceAt
  rw [find?_flatMap_findSome]
  congr 1
  funext c
  rw [find?_map_findSome]
  rfl

theorem Board.piece_at_eq (m : PieceMap) (sq : Square) (h : sq.toNat < 64) :
    Board.piece_at (boardOf m) sq = some ((m.pieceAt sq.toNat).map fun cp => PieceIndex.new cp.1 cp.2) := by
  unfold Board.piece_at
  have e : Board.f_piece_occupancy (boardOf m) = arrOf m := rfl
  let F : Color × Piece → Option PieceIndex := fun cp => some (PieceIndex.new cp.1 cp.2)
  rw [e, Color.ALL_eq, Piece.ALL_eq]
  -- the two loops are searches: the outer one for the first colour whose inner search finds a piece
  refine bind_eq_of _ (for_early_findSome _ (fun c => (Piece.all.findSome? (probe m sq.toNat c)).map F) _ fun c _ => ?_) ?_
  · refine bind_eq_of _ (for_early_findSome _ (fun p => (probe m sq.toNat c p).map F) _ fun p _ => ?_) ?_
    · simp only [arrOf_index, some_bind', BitBoard.test_eq _ _ h]
      unfold probe
      cases test (m.get c p) sq.toNat <;> rfl
    · rw [findSome?_map_comm]
      cases Piece.all.findSome? (probe m sq.toNat c) <;> rfl
  · rw [findSome?_map_comm, ← pieceAtNested_eq]
    show _ = some ((pieceAtNested m sq.toNat).map _)
    unfold pieceAtNested
    cases Color.all.findSome? (fun c => Piece.all.findSome? (probe m sq.toNat c)) <;> rfl

end GenFns
end Wee
