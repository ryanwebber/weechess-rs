import Wee.Proofs.GenMovesBridge1
/-!
# Bridge, stage 3a: `GameStateHelper`, `expand_moves`, knight / king (incl. castling) / slider generators

Every generator of `movegen.rs` appends to the buffer it is given; the theorems have the form
`generated (stateOf s) r = some (r ++ (model (Helper.of s)).toArray)` — same moves, SAME ORDER, no panic.
Axioms: `propext`, `Classical.choice`, `Quot.sound` only.
-/
set_option linter.unusedSimpArgs false
namespace Wee
namespace GenFns
open Wee.Gen

/-! ## `GameStateHelper` on the Rust-side value of a model state -/


theorem GameStateHelper.to_own_piece_eq (s : Wee.State) (p : Piece) :
    GameStateHelper.to_own_piece (stateOf s) p = PieceIndex.new s.turn p := rfl

theorem GameStateHelper.own_piece_eq (s : Wee.State) (p : Piece) :
    GameStateHelper.own_piece (stateOf s) p = some (s.pieces.get s.turn p) := by
  unfold GameStateHelper.own_piece
  rw [GameStateHelper.to_own_piece_eq]
  exact Board.piece_occupancy_stateOf s s.turn p

theorem GameStateHelper.own_pieces_eq (s : Wee.State) :
    GameStateHelper.own_pieces (stateOf s) = some (Helper.of s).own :=
  Board.colored_occupancy_stateOf s s.turn

theorem GameStateHelper.opposing_pieces_eq (s : Wee.State) :
    GameStateHelper.opposing_pieces (stateOf s) = some (Helper.of s).opp := by
  unfold GameStateHelper.opposing_pieces
  rw [State.turn_to_move_stateOf, Color.opposing_color_eq]
  exact Board.colored_occupancy_stateOf s s.turn.opp

theorem GameStateHelper.opposing_attacks_eq (s : Wee.State) :
    GameStateHelper.opposing_attacks (stateOf s) = some (Helper.of s).oppAtt := by
  unfold GameStateHelper.opposing_attacks
  rw [State.turn_to_move_stateOf, Color.opposing_color_eq, State.board_stateOf]
  exact Board.colored_attacks_eq s.pieces s.turn.opp

theorem GameStateHelper.own_castle_rights_eq (s : Wee.State) :
    GameStateHelper.own_castle_rights (stateOf s) = some (crOf (s.castle s.turn)) :=
  State.castle_rights_stateOf s s.turn

theorem GameStateHelper.own_backrank_mask_eq (s : Wee.State) :
    GameStateHelper.own_backrank_mask (stateOf s) = some (backrankMask s.turn) := by
  unfold GameStateHelper.own_backrank_mask
  rw [State.turn_to_move_stateOf]
  cases s.turn <;> rfl

theorem GameStateHelper.own_pawn_home_rank_mask_eq (s : Wee.State) :
    GameStateHelper.own_pawn_home_rank_mask (stateOf s) = some (homeRankMask s.turn) := by
  unfold GameStateHelper.own_pawn_home_rank_mask
  rw [State.turn_to_move_stateOf]
  cases s.turn <;> rfl

theorem helper_vacancy (s : Wee.State) : Board.vacancy (State.board (stateOf s)) = (Helper.of s).vac := rfl
theorem helper_occupancy (s : Wee.State) : Board.occupancy (State.board (stateOf s)) = (Helper.of s).occ := rfl

/-- `helper.board().piece_at(target)` for a target given as a number; `.piece()` of its result is the model's `capturedAt` -/
theorem piece_at_stateOf (s : Wee.State) (t : Nat) (ht : t < 64) :
    Board.piece_at (State.board (stateOf s)) (Nat.toUInt8 t)
      = some ((s.pieces.pieceAt t).map fun cp => PieceIndex.new cp.1 cp.2) := by
  rw [State.board_stateOf, Board.piece_at_eq _ _ (sq_toUInt8_lt ht), u8_nat t ht]

theorem GameStateHelper.expand_moves_eq (s : Wee.State) (o : Square) (dests : BitBoard) (p : Piece)
    (r : Array PseudoLegalMove) (ho : o.toNat < 64) :
    GameStateHelper.expand_moves (stateOf s) o dests p r
      = some (r ++ (expandMoves (Helper.of s) o.toNat dests p).toArray) := by
  unfold GameStateHelper.expand_moves
  simp only [iter_ones_collect_65, some_bind', GameStateHelper.to_own_piece_eq]
  refine Eq.trans (foldlM_push _ _ (fun t =>
      match capturedAt s t with
      | some cap => Wee.Move.byCapturing s.turn p o.toNat t cap
      | Option.none => Wee.Move.byMoving s.turn p o.toNat t) _ _ ?_) rfl
  intro t ht acc
  have h64 := bitsOf_lt _ _ ht
  have e := u8_nat t h64
  simp only [from_u32_nat t h64, piece_at_stateOf s t h64, some_bind']
  unfold capturedAt
  cases hp : s.pieces.pieceAt t with
  | none =>
    simp only [Option.map_none, Move.by_moving_eq _ _ _ _ ho (sq_toUInt8_lt h64), some_bind', e]
    rfl
  | some cp =>
    simp only [Option.map_some, PieceIndex.piece_new, some_bind',
      Move.by_capturing_eq _ _ _ _ _ ho (sq_toUInt8_lt h64), e]
    rfl

/-! ## knights -/

theorem MoveGenerator.compute_knight_moves_eq (s : Wee.State) (r : Array PseudoLegalMove) :
    MoveGenerator.compute_knight_moves (stateOf s) r = some (r ++ (knightMoves (Helper.of s)).toArray) := by
  unfold MoveGenerator.compute_knight_moves
  simp only [GameStateHelper.own_piece_eq, some_bind', iter_ones_collect_65]
  refine Eq.trans (foldlM_append _ _ (fun sq =>
      expandMoves (Helper.of s) sq (knightAttacks sq &&& ((Helper.of s).opp ||| (Helper.of s).vac)) .knight) _ _ ?_) rfl
  intro t ht acc
  have h64 := bitsOf_lt _ _ ht
  have e := u8_nat t h64
  simp only [from_u32_nat t h64, AttackGenerator.compute_knight_attacks_eq _ (sq_toUInt8_lt h64),
    GameStateHelper.opposing_pieces_eq, some_bind', helper_vacancy, BitBoard.bitand_eq, BitBoard.bitor_eq,
    GameStateHelper.expand_moves_eq s _ _ _ _ (sq_toUInt8_lt h64), e]
  rfl

/-! ## sliders -/

/-- the loop of the three slider generators, over the piece and its attack look-up: the model's `sliderMoves` -/
theorem slider_loop (s : Wee.State) (p : Piece) (att : Nat → UInt64 → UInt64) (A : Square → BitBoard → Panics BitBoard)
    (hA : ∀ sq occ, sq.toNat < 64 → A sq occ = some (att sq.toNat occ)) (r : Array PseudoLegalMove) :
    List.foldlM (fun (result : Array PseudoLegalMove) (bit : UInt32) => do
        let tmp4 ← A (Square.from_u32 bit) (Helper.of s).occ
        let tmp5 ← GameStateHelper.expand_moves (stateOf s) (Square.from_u32 bit)
          (BitBoard.bitand tmp4 (BitBoard.not (Helper.of s).own)) p result
        let result : Array PseudoLegalMove := tmp5
        pure result) r ((bitsOf (s.pieces.get s.turn p)).map Nat.toUInt32)
      = some (r ++ (sliderMoves (Helper.of s) p att).toArray) := by
  refine Eq.trans (foldlM_append _ _ (fun sq =>
      expandMoves (Helper.of s) sq (att sq (Helper.of s).occ &&& ~~~(Helper.of s).own) p) _ _ ?_) rfl
  intro t ht acc
  have h64 := bitsOf_lt _ _ ht
  have e := u8_nat t h64
  simp only [from_u32_nat t h64, hA _ _ (sq_toUInt8_lt h64), some_bind', BitBoard.bitand_eq, BitBoard.not_eq,
    GameStateHelper.expand_moves_eq s _ _ _ _ (sq_toUInt8_lt h64), e]
  rfl

theorem MoveGenerator.compute_bishop_moves_eq (s : Wee.State) (r : Array PseudoLegalMove) :
    MoveGenerator.compute_bishop_moves (stateOf s) r
      = some (r ++ (sliderMoves (Helper.of s) .bishop bishopAttacks).toArray) := by
  unfold MoveGenerator.compute_bishop_moves
  simp only [GameStateHelper.own_piece_eq, some_bind', GameStateHelper.own_pieces_eq, iter_ones_collect_65]
  simp only [helper_occupancy]
  exact slider_loop s .bishop bishopAttacks _ (fun sq occ h => AttackGenerator.compute_bishop_attacks_eq sq occ h) r

theorem MoveGenerator.compute_rook_moves_eq (s : Wee.State) (r : Array PseudoLegalMove) :
    MoveGenerator.compute_rook_moves (stateOf s) r
      = some (r ++ (sliderMoves (Helper.of s) .rook rookAttacks).toArray) := by
  unfold MoveGenerator.compute_rook_moves
  simp only [GameStateHelper.own_piece_eq, some_bind', GameStateHelper.own_pieces_eq, iter_ones_collect_65]
  simp only [helper_occupancy]
  exact slider_loop s .rook rookAttacks _ (fun sq occ h => AttackGenerator.compute_rook_attacks_eq sq occ h) r

theorem MoveGenerator.compute_queen_moves_eq (s : Wee.State) (r : Array PseudoLegalMove) :
    MoveGenerator.compute_queen_moves (stateOf s) r
      = some (r ++ (sliderMoves (Helper.of s) .queen queenAttacks).toArray) := by
  unfold MoveGenerator.compute_queen_moves
  simp only [GameStateHelper.own_piece_eq, some_bind', GameStateHelper.own_pieces_eq, iter_ones_collect_65]
  simp only [helper_occupancy]
  exact slider_loop s .queen queenAttacks _ (fun sq occ h => AttackGenerator.compute_queen_attacks_eq sq occ h) r

/-! ## king steps and castling -/

/-- the two look-ups of a castling mask, in front of what the generator goes on to do with the mask -/
theorem castle_path_mask_bind {β : Type} (side : Side) (c : Color) (k : BitBoard → Panics β) :
    (ArrayMap.index common.CASTLE_PATH_MASKS (Index.from_Side side) >>= fun a => ArrayMap.index a (Index.from_Color c) >>= k)
      = k ((castlePathMasks[side.idx]!)[c.idx]!) := by
  cases side <;> cases c <;> rfl

theorem castle_check_mask_bind {β : Type} (side : Side) (c : Color) (k : BitBoard → Panics β) :
    (ArrayMap.index common.CASTLE_CHECK_MASKS (Index.from_Side side) >>= fun a => ArrayMap.index a (Index.from_Color c) >>= k)
      = k ((castleCheckMasks[side.idx]!)[c.idx]!) := by
  cases side <;> cases c <;> rfl

/-- the castling move of one side, if it is generated (the model's `filterMap` body) -/
def castleOpt (h : Helper) (side : Side) : Option Wee.Move :=
  if (h.s.castle h.us).forSide side then
    let blocks := h.occ &&& (castlePathMasks[side.idx]!)[h.us.idx]!
    let checks := h.oppAtt &&& (castleCheckMasks[side.idx]!)[h.us.idx]!
    if bbNone blocks && bbNone checks then some (Wee.Move.byCastling h.us side) else Option.none
  else Option.none

theorem MoveGenerator.compute_king_moves_eq (s : Wee.State) (r : Array PseudoLegalMove) :
    MoveGenerator.compute_king_moves (stateOf s) r = some (r ++ (kingMoves (Helper.of s)).toArray) := by
  unfold MoveGenerator.compute_king_moves
  simp only [GameStateHelper.own_piece_eq, some_bind', iter_ones_collect_65]
  refine bind_eq_of _ (foldlM_append _ _ (fun sq =>
      expandMoves (Helper.of s) sq
        (kingAttacks sq &&& ((Helper.of s).opp ||| (Helper.of s).vac) &&& ~~~(Helper.of s).oppAtt) .king) _ _ ?_) ?_
  · intro t ht acc
    have h64 := bitsOf_lt _ _ ht
    have e := u8_nat t h64
    simp only [from_u32_nat t h64, AttackGenerator.compute_king_attacks_eq _ (sq_toUInt8_lt h64),
      GameStateHelper.opposing_pieces_eq, GameStateHelper.opposing_attacks_eq, some_bind', helper_vacancy,
      BitBoard.bitand_eq, BitBoard.bitor_eq, BitBoard.not_eq,
      GameStateHelper.expand_moves_eq s _ _ _ _ (sq_toUInt8_lt h64), e]
    rfl
  · rw [Side.ALL_eq, foldlM_id_map]
    refine Eq.trans (foldlM_append _ id (fun side => (castleOpt (Helper.of s) side).toList) _ _ ?_) ?_
    · intro side _ acc
      simp only [id, GameStateHelper.own_castle_rights_eq, some_bind', CastleRights.for_side_crOf, State.turn_to_move_stateOf]
      unfold castleOpt
      have hs : (Helper.of s).s = s := rfl
      have hu : (Helper.of s).us = s.turn := rfl
      rw [hs, hu]
      by_cases hr : (s.castle s.turn).forSide side = true
      · simp only [hr, if_true]
        simp only [castle_path_mask_bind, castle_check_mask_bind, GameStateHelper.opposing_attacks_eq, some_bind', helper_occupancy,
          BitBoard.bitand_eq, BitBoard.none_eq, Move.by_castling_eq]
        generalize bbNone ((Helper.of s).occ &&& (castlePathMasks[side.idx]!)[s.turn.idx]!) = b1
        generalize bbNone ((Helper.of s).oppAtt &&& (castleCheckMasks[side.idx]!)[s.turn.idx]!) = b2
        cases b1 <;> cases b2 <;> simp
      · simp [hr]
    · rw [flatMap_toList, arr_app]
      rfl

end GenFns
end Wee
