import Wee.Proofs.GenMovesBridge2
import Wee.Proofs.MoveGenPawns
/-!
# Bridge, stage 3a: `MoveGenerator::compute_pawn_moves`

The translated pawn generator (pushes, promotions, double pushes, captures / promotion captures / en passant towards the east and
then towards the west) appends exactly the model's `pawnMoves` **in the same order**, and panics (`none`: an `unwrap` of
`Square::offset` or `piece_at`) exactly when the model's `Option` monad answers `none`.  The proof composes "appenders"
(`Appends F o`: `F` appends the list `o` or panics when `o = none`), one per loop of the Rust text.
Axioms: `propext`, `Classical.choice`, `Quot.sound` only.
-/
set_option linter.unusedSimpArgs false
namespace Wee
namespace GenFns
open Wee.Gen

/-! ## appenders: functions on the move buffer that append a list (or panic) -/

/-- `F` appends the moves `l` when `o = some l` and panics when `o = none` -/
def Appends {β : Type} (F : Array β → Option (Array β)) (o : Option (List β)) : Prop :=
  ∀ r, F r = o.map (fun l => r ++ l.toArray)

theorem Appends.bind {β : Type} {F G : Array β → Option (Array β)} {o1 o2 : Option (List β)}
    (hF : Appends F o1) (hG : Appends G o2) :
    Appends (fun r => F r >>= G) (o1.bind fun a => o2.map fun b => a ++ b) := by
  intro r
  show (F r >>= G) = _
  rw [hF r]
  cases o1 with
  | none => rfl
  | some a =>
    show G (r ++ a.toArray) = _
    rw [hG]
    cases o2 with
    | none => rfl
    | some b => simp [Array.append_assoc]

theorem Appends.of_eq {β : Type} {F : Array β → Option (Array β)} {o o' : Option (List β)}
    (h : Appends F o) (e : o = o') : Appends F o' := e ▸ h

theorem Appends.foldPushOpt {α β γ : Type} {f : Array β → γ → Option (Array β)} {m : α → γ} (g : α → Option β)
    {l : List α} (h : ∀ x ∈ l, ∀ acc, f acc (m x) = (g x).map (fun y => acc.push y)) :
    Appends (fun r => List.foldlM f r (l.map m)) (l.mapM g) :=
  fun r => foldlM_push_opt f m g l r h

theorem Appends.foldAppendOpt {α β γ : Type} {f : Array β → γ → Option (Array β)} {m : α → γ} (g : α → Option (List β))
    {l : List α} (h : ∀ x ∈ l, ∀ acc, f acc (m x) = (g x).map (fun ys => acc ++ ys.toArray)) :
    Appends (fun r => List.foldlM f r (l.map m)) ((l.mapM g).map List.flatten) := by
  intro r
  show List.foldlM f r (l.map m) = _
  rw [foldlM_append_opt f m g l r h]
  cases l.mapM g <;> rfl

/-! ## the model's `pawnMoves` in the pieces the Rust text generates one after the other: `pawnMoves_eq`, `pawnSideSeg_eq`
(`Proofs/MoveGenPawns.lean`) -/

/-- the value the appender combinators build for the whole of `compute_pawn_moves` -/
theorem pawn_assembled (h : Helper) :
    ((pawnPushSeg h).bind fun a => ((pawnPromoSeg h).map List.flatten).map fun b => a ++ b).bind (fun ab =>
      ((pawnDoubleSeg h).bind fun c =>
        (((pawnCapSeg h true).bind fun x => (((pawnCapPromoSeg h true).map List.flatten).bind fun y => (pawnEpSeg h true).map fun z => y ++ z).map fun yz => x ++ yz).bind
          fun e => (((pawnCapSeg h false).bind fun x => (((pawnCapPromoSeg h false).map List.flatten).bind fun y => (pawnEpSeg h false).map fun z => y ++ z).map fun yz => x ++ yz)).map
            fun w => e ++ w).map fun ew => c ++ ew).map fun cew => ab ++ cew)
      = pawnMoves h := by
  rw [pawnMoves_eq, pawnSideSeg_eq, pawnSideSeg_eq]
  cases pawnPushSeg h with | none => rfl | some a =>
  cases pawnPromoSeg h with | none => rfl | some b =>
  cases pawnDoubleSeg h with | none => rfl | some c =>
  cases pawnCapSeg h true with | none => rfl | some x1 =>
  cases pawnCapPromoSeg h true with | none => rfl | some y1 =>
  cases pawnEpSeg h true with | none => rfl | some z1 =>
  cases pawnCapSeg h false with | none => rfl | some x2 =>
  cases pawnCapPromoSeg h false with | none => rfl | some y2 =>
  cases pawnEpSeg h false with | none => rfl | some z2 =>
  simp [List.append_assoc]

theorem add_backward_W (c : Color) :
    Offset.add_Offset (Color.backward c) Offset.WEST = some ⟨-1, (Color.backward c).rank⟩ := by cases c <;> rfl
theorem add_backward_E (c : Color) :
    Offset.add_Offset (Color.backward c) Offset.EAST = some ⟨1, (Color.backward c).rank⟩ := by cases c <;> rfl

theorem offset_diag_W (t : Nat) (ht : t < 64) (c : Color) :
    Square.offset t.toUInt8 ⟨-1, (Color.backward c).rank⟩ = some ((offset t (invDf true) c.backward).map Nat.toUInt8) := by
  have e := u8_nat t ht
  obtain ⟨_, b2⟩ := Color.backward_eq c
  rw [Square.offset_eq _ _ (sq_toUInt8_lt ht) (by simp) (by rw [b2]; cases c <;> decide), e, b2]
  rfl

theorem offset_diag_E (t : Nat) (ht : t < 64) (c : Color) :
    Square.offset t.toUInt8 ⟨1, (Color.backward c).rank⟩ = some ((offset t (invDf false) c.backward).map Nat.toUInt8) := by
  have e := u8_nat t ht
  obtain ⟨_, b2⟩ := Color.backward_eq c
  rw [Square.offset_eq _ _ (sq_toUInt8_lt ht) (by simp) (by rw [b2]; cases c <;> decide), e, b2]
  rfl

theorem push4 {β : Type} (acc : Array β) (a b c d : β) :
    (((acc.push a).push b).push c).push d = acc ++ [a, b, c, d].toArray := by
  apply Array.toList_inj.1; simp

theorem just_ep (s : Wee.State) (hep : ∀ t, s.ep = some t → t < 64) (t : Nat) (hs : s.ep = some t) :
    BitBoard.just (Nat.toUInt8 t) = some (bit t) := by
  have h := hep t hs
  rw [BitBoard.just_eq _ (by rw [u8_nat t h]; exact h), u8_nat t h]

set_option hygiene false in
/-- common start of the obligations of the loops of `compute_pawn_moves` -/
local macro "pawn_loop" : tactic => `(tactic| (
  intro t ht acc
  have h64 := bitsOf_lt _ _ ht
  have e := u8_nat t h64
  have hu : (Helper.of s).us = s.turn := rfl
  have hss : (Helper.of s).s = s := rfl
  simp only [from_u32_nat t h64, offset_backward t h64, offset_diag_W t h64, offset_diag_E t h64, some_bind', unwrap, hu, hss,
    piece_at_stateOf s t h64, capturedAt]))

/-- the loops of the Rust text one after the other, each an appender for its piece of `pawnMoves` (`pawn_assembled`): pushes
(`pawnPushSeg`), promotions (`pawnPromoSeg`), double pushes (`pawnDoubleSeg`), then per capture direction captures (`pawnCapSeg`), promotion captures (`pawnCapPromoSeg`) and
en passant (`pawnEpSeg`).  The `do` block duplicates everything after the `match` on the en-passant target into its two
branches, hence the case split first; the functions `g` of the appenders are found by unification with `pawnPushSeg` … `pawnEpSeg`. -/
theorem MoveGenerator.compute_pawn_moves_appends (s : Wee.State) (hep : ∀ t, s.ep = some t → t < 64) :
    Appends (fun r => MoveGenerator.compute_pawn_moves (stateOf s) r) (pawnMoves (Helper.of s)) := by
  unfold MoveGenerator.compute_pawn_moves
  cases hs : s.ep
  all_goals
    simp only [GameStateHelper.to_own_piece_eq, GameStateHelper.own_piece_eq, some_bind', State.turn_to_move_stateOf, BitBoard.shift_forward,
      helper_vacancy, GameStateHelper.own_backrank_mask_eq, GameStateHelper.own_pawn_home_rank_mask_eq,
      GameStateHelper.opposing_pieces_eq, iter_ones_collect_65, BitBoard.bitand_eq, BitBoard.not_eq,
      State.en_passant_target_stateOf, List.replicate, List.foldlM_cons, List.foldlM_nil, pure_bind',
      add_backward_W, add_backward_E, BitBoard.shift_EAST, BitBoard.shift_WEST, hs, just_ep s hep, Option.map_none, Option.getD_none,
      Option.map_some, Option.getD_some, BitBoard.ZERO_eq, BitBoard.first_one_eq, bind_pure', bind_pure]
    refine Appends.of_eq (Appends.bind (Appends.bind ?_ ?_) (Appends.bind ?_ (Appends.bind ?_ ?_))) (pawn_assembled (Helper.of s))
    · refine Appends.foldPushOpt _ ?_
      pawn_loop
      cases ho : offset t 0 s.turn.backward with
      | none => rfl
      | some o =>
        have ho64 := offset_lt ho
        have eo := u8_nat o ho64
        simp only [Option.map_some, some_bind', eo, e,
          Move.by_moving_eq _ _ _ _ (sq_toUInt8_lt ho64) (sq_toUInt8_lt h64)]
        rfl
    · refine Appends.foldAppendOpt _ ?_
      pawn_loop
      cases ho : offset t 0 s.turn.backward with
      | none => rfl
      | some o =>
        have ho64 := offset_lt ho
        have eo := u8_nat o ho64
        simp only [Option.map_some, some_bind', eo, e,
          Move.by_promoting_eq _ _ _ _ _ (sq_toUInt8_lt ho64) (sq_toUInt8_lt h64)]
        simp [promotionPieces_eq, Vec.push, push4]
    · refine Appends.foldPushOpt _ ?_
      pawn_loop
      cases ho1 : offset t 0 s.turn.backward with
      | none => rfl
      | some o1 =>
        have ho164 := offset_lt ho1
        simp only [Option.map_some, some_bind', offset_backward o1 ho164, unwrap]
        cases ho : offset o1 0 s.turn.backward with
        | none => rfl
        | some o =>
          have ho64 := offset_lt ho
          have eo := u8_nat o ho64
          simp only [Option.map_some, some_bind', eo, e,
            Move.by_moving_eq _ _ _ _ (sq_toUInt8_lt ho64) (sq_toUInt8_lt h64)]
          rfl
    -- the two capture directions (east, then west): the same three loops, `invDf` and the offsets found by unification
    all_goals
      refine Appends.bind (Appends.foldPushOpt _ ?_) (Appends.bind (Appends.foldAppendOpt _ ?_) ?_)
      · pawn_loop
        cases ho : offset t _ s.turn.backward with
        | none => rfl
        | some o =>
          have ho64 := offset_lt ho
          have eo := u8_nat o ho64
          cases hp : s.pieces.pieceAt t with
          | none => rfl
          | some cp =>
            simp only [Option.map_some, some_bind', eo, e, PieceIndex.piece_new,
              Move.by_capturing_eq _ _ _ _ _ (sq_toUInt8_lt ho64) (sq_toUInt8_lt h64)]
            rfl
      · pawn_loop
        cases ho : offset t _ s.turn.backward with
        | none => rfl
        | some o =>
          have ho64 := offset_lt ho
          have eo := u8_nat o ho64
          cases hp : s.pieces.pieceAt t with
          | none => rfl
          | some cp =>
            simp only [Option.map_some, some_bind', eo, e, PieceIndex.piece_new,
              Move.by_capture_promoting_eq _ _ _ _ _ _ (sq_toUInt8_lt ho64) (sq_toUInt8_lt h64)]
            simp [promotionPieces_eq, Vec.push, push4]
      · intro r
        have hu : (Helper.of s).us = s.turn := rfl
        have hss : (Helper.of s).s = s := rfl
        unfold pawnEpSeg epBB pawnAtt
        simp only [hss, hs, hu, if_true, if_false, Bool.false_eq_true]
        generalize hf : firstOne _ = fo
        cases fo with
        | none => rfl
        | some t =>
          have h64 := firstOne_lt _ _ hf
          have e := u8_nat t h64
          simp only [Option.map_some, from_u32_nat t h64, offset_diag_W t h64, offset_diag_E t h64, some_bind', unwrap]
          cases ho : offset t _ s.turn.backward with
          | none => rfl
          | some o =>
            have ho64 := offset_lt ho
            have eo := u8_nat o ho64
            simp only [Option.map_some, some_bind', eo, e,
              Move.by_en_passant_eq _ _ _ _ (sq_toUInt8_lt ho64) (sq_toUInt8_lt h64)]
            simp [Vec.push]

/-- `compute_pawn_moves`: same moves in the same order as the model's `pawnMoves`, panic (`none`) exactly when the model says so -/
theorem MoveGenerator.compute_pawn_moves_eq (s : Wee.State) (r : Array PseudoLegalMove) (hep : ∀ t, s.ep = some t → t < 64) :
    MoveGenerator.compute_pawn_moves (stateOf s) r = (pawnMoves (Helper.of s)).map (fun l => r ++ l.toArray) :=
  MoveGenerator.compute_pawn_moves_appends s hep r

end GenFns
end Wee
