import Wee.Proofs.ListLemmas
import Wee.Proofs.UciLemmas
import Wee.Proofs.MoveWF
/-!
# Move generation is total on every position the FEN reader can produce (helpers for C14Total)

The model of `MoveGenerator::compute_legal_moves` returns `none` where the Rust code would panic:
`Square::offset(..).unwrap()` (pawn origins), `piece_at(target).unwrap()` (captured piece),
`by_performing_move(..).unwrap()` in `try_as_legal_move`, and the `unwrap` of the piece accessors on
a bad discriminant.  C01 shows none of these fires on a *legal* position.  Here the same is shown with
NO condition on the placement (overlapping bitboards, no kings, ten kings, pawns on the first rank,
castling rights without king or rook, an en-passant target on an occupied square …): the only thing
needed is the type invariant of `Option<Square>` — the en-passant target, if any, is a square of the
board (`FromFen`).

* every `unwrap` of the pawn generator sits on a square reached by shifting the pawn bitboard, so the
  inverse offset exists (`test_shiftFwd`, `test_pawnAtt` — these hold for arbitrary bitboards);
* `piece_at(t)` is asked only for `t` in the opponent's occupancy, which is the union of his six
  bitboards, so the scan of `piece_at` finds something (not necessarily an opposing piece if boards
  overlap — it does not matter for the `unwrap`);
* every generated move is `Move.mk` of squares `< 64` (`Generated`, `Wee/Proofs/MoveWF.lean`), so its codes decode
  (`CodesOk`, `piece?`), and it is an en-passant move only if `ep = some e` and a pawn of the mover
  attacks `e`, which puts `e` at least one rank away from the mover's own back rank: the captured
  pawn's square `e.offset(backward)` exists.  Hence `by_performing_move` is `Ok` (`appliable_of_generated`).
-/
namespace Wee
open Gen
open Wee.C02 (CodesOk performMove_eq capStep)

/-- **the invariant**: the en-passant target (Rust: `Option<Square>`) is a square of the board.
Nothing about kings, checks, pawns, castling rights or even disjointness of the twelve bitboards.
True of every state the FEN reader returns (`fromFen_of_parse`), of the start position, and of every
state `by_performing_move` returns (`fromFen_of_performMove` — from ANY state and ANY move). -/
def FromFen (st : State) : Prop := ∀ e, st.ep = some e → e < 64

instance (st : State) : Decidable (FromFen st) := by
  unfold FromFen
  cases h : st.ep with
  | none => exact isTrue (fun e he => by cases he)
  | some t =>
    by_cases ht : t < 64
    · exact isTrue (fun e he => by cases he; exact ht)
    · exact isFalse (fun hh => ht (hh t rfl))

/-! ## a move that `try_as_legal_move` can apply without panic -/

/-- the conditions under which `by_performing_move(state, mv).unwrap()` does not panic -/
def Appliable (s : State) (mv : Move) : Prop :=
  (∃ p, Move.piece? mv = some p) ∧ CodesOk mv ∧
  (Move.isEnPassant mv = true → ∃ e c, s.ep = some e ∧ offset e 0 s.turn.backward = some c)

theorem performMove_ok_of_appliable (s : State) (mv : Move) (h : Appliable s mv) :
    ∃ next, performMove s mv = some (.ok next) := by
  obtain ⟨⟨p, hp⟩, hc, hep⟩ := h
  rw [performMove_eq s mv p hp hc]
  unfold capStep
  cases hE : Move.isEnPassant mv
  · simp only [Bool.false_eq_true, if_false]
    cases Move.capture mv <;> exact ⟨_, rfl⟩
  · obtain ⟨e, c, h1, h2⟩ := hep hE
    simp only [if_true, h1, h2]
    exact ⟨_, rfl⟩

theorem tryAsLegal_ne_none (s : State) (mv : Move) (h : Appliable s mv) : tryAsLegal s mv ≠ Option.none := by
  obtain ⟨next, hn⟩ := performMove_ok_of_appliable s mv h
  rw [tryAsLegal_of_ok hn]
  exact fun e => nomatch e

theorem appliable_mk (s : State) (c : Color) (p : Piece) (o d : Nat) (cap pr : Option Piece) (ep cq ck : Bool)
    (ho : o < 64) (hd : d < 64)
    (hep : ep = true → ∃ e c, s.ep = some e ∧ offset e 0 s.turn.backward = some c) :
    Appliable s (Move.mk c p o d cap pr ep cq ck) :=
  ⟨⟨p, Move.piece?_mk c p o d cap pr ep cq ck ho hd⟩, C02.codesOk_mk c p o d cap pr ep cq ck ho hd,
    fun h => hep (by rw [Move.isEnPassant_mk c p o d cap pr ep cq ck ho hd] at h; exact h)⟩

/-! ## the captured piece -/

/-- `piece_at(t).unwrap()` on a square of a side's occupancy: the scan finds something -/
theorem capturedAt_of_colorOcc (s : State) (c : Color) (t : Nat) (h : test (s.pieces.colorOcc c) t = true) :
    ∃ q, capturedAt s t = some q := by
  obtain ⟨p, _, hp⟩ := (C10.test_colorOcc s.pieces c t).1 h
  cases hpa : s.pieces.pieceAt t with
  | none =>
    have := (C10.pieceAt_none s.pieces t).1 hpa c p
    rw [hp] at this; cases this
  | some cq => exact ⟨cq.2, by unfold capturedAt; rw [hpa]; rfl⟩

/-! ## the pawn segments -/

/-- a loop over single-push targets under any further mask, whatever it builds from origin and target: the origin exists -/
theorem pawnStepSeg_total {β : Type} (s : State) (m : UInt64) (k : Nat → Nat → β) :
    ∃ L, (bitsOf (shiftFwd s.turn (s.pieces.get s.turn .pawn) &&& (Helper.of s).vac &&& m)).mapM (fun t => do
      let o ← offset t 0 s.turn.backward
      pure (k o t)) = some L := by
  refine ⟨_, (mapM_seg _ _ fun t ht hT => ?_).1⟩
  rw [test_and, test_and, Bool.and_eq_true, Bool.and_eq_true, test_shiftFwd _ _ t ht] at hT
  obtain ⟨⟨⟨o, hpo, hst⟩, _⟩, _⟩ := hT
  rw [(offset_back0 s.turn (test_lt _ _ hpo) ht).2 hst]
  exact ⟨_, rfl⟩

theorem pawnPushSeg_total (s : State) : ∃ L, pawnPushSeg (Helper.of s) = some L := pawnStepSeg_total s _ _

theorem pawnPromoSeg_total (s : State) : ∃ L, pawnPromoSeg (Helper.of s) = some L := pawnStepSeg_total s _ _

theorem pawnDoubleSeg_total (s : State) : ∃ L, pawnDoubleSeg (Helper.of s) = some L := by
  unfold pawnDoubleSeg
  refine ⟨_, (mapM_seg _ _ fun t ht hT => ?_).1⟩
  simp only [helper_us, helper_s] at hT ⊢
  rw [test_and, Bool.and_eq_true, test_shiftFwd _ _ t ht] at hT
  obtain ⟨⟨o1, hT1, hst2⟩, _⟩ := hT
  have ho1 := test_lt _ _ hT1
  rw [test_and, Bool.and_eq_true, test_shiftFwd _ _ o1 ho1] at hT1
  obtain ⟨⟨o, hpo, hst1⟩, _⟩ := hT1
  rw [test_and, Bool.and_eq_true] at hpo
  rw [(offset_back0 s.turn ho1 ht).2 hst2]
  show ∃ y, (do let o ← offset o1 0 s.turn.backward; pure (Move.byMoving s.turn .pawn o t)) = some y
  rw [(offset_back0 s.turn (test_lt _ _ hpo.1) ho1).2 hst1]
  exact ⟨_, rfl⟩

/-- a loop over capture targets under any further mask, whatever it builds from origin, target and captured piece:
the origin exists and the target square is occupied -/
theorem pawnTakeSeg_total {β : Type} (s : State) (east : Bool) (m : UInt64) (k : Nat → Nat → Piece → β) :
    ∃ L, (bitsOf (pawnAtt (Helper.of s) east &&& m &&& (Helper.of s).opp)).mapM (fun t => do
      let o ← offset t (invDf east) (Helper.of s).us.backward
      let cap ← capturedAt (Helper.of s).s t
      pure (k o t cap)) = some L := by
  refine ⟨_, (mapM_seg _ _ fun t ht hT => ?_).1⟩
  rw [test_and, test_and, Bool.and_eq_true, Bool.and_eq_true, test_pawnAtt _ _ t ht] at hT
  obtain ⟨⟨⟨o, hpo, hst⟩, _⟩, hopp⟩ := hT
  simp only [helper_us, helper_s, helper_opp] at hpo hst hopp ⊢
  obtain ⟨q, hq⟩ := capturedAt_of_colorOcc s _ t hopp
  rw [(offset_cap s.turn east (test_lt _ _ hpo) ht).2 hst, hq]
  exact ⟨_, rfl⟩

theorem pawnCapSeg_total (s : State) (east : Bool) : ∃ L, pawnCapSeg (Helper.of s) east = some L :=
  pawnTakeSeg_total s east _ _

theorem pawnCapPromoSeg_total (s : State) (east : Bool) : ∃ L, pawnCapPromoSeg (Helper.of s) east = some L :=
  pawnTakeSeg_total s east _ _

theorem pawnEpSeg_total (s : State) (hep : FromFen s) (east : Bool) : ∃ L, pawnEpSeg (Helper.of s) east = some L := by
  unfold pawnEpSeg
  cases hepc : s.ep with
  | none =>
    rw [firstOne_epBB_none _ _ hepc]
    exact ⟨_, rfl⟩
  | some e =>
    have he := hep e hepc
    rw [firstOne_epBB _ _ e he hepc]
    by_cases ha : test (pawnAtt (Helper.of s) east) e = true
    · rw [if_pos ha]
      obtain ⟨o, hpo, hst⟩ := (test_pawnAtt _ _ e he).1 ha
      simp only [helper_us, helper_s] at hpo hst ⊢
      rw [(offset_cap s.turn east (test_lt _ _ hpo) he).2 hst]
      exact ⟨_, rfl⟩
    · rw [if_neg ha]
      exact ⟨_, rfl⟩

/-- `compute_pawn_moves` never panics -/
theorem pawnMoves_total (s : State) (hep : FromFen s) : ∃ L, pawnMoves (Helper.of s) = some L := by
  obtain ⟨a, ha⟩ := pawnPushSeg_total s
  obtain ⟨b, hb⟩ := pawnPromoSeg_total s
  obtain ⟨c, hc⟩ := pawnDoubleSeg_total s
  obtain ⟨x1, hx1⟩ := pawnCapSeg_total s true
  obtain ⟨y1, hy1⟩ := pawnCapPromoSeg_total s true
  obtain ⟨z1, hz1⟩ := pawnEpSeg_total s hep true
  obtain ⟨x2, hx2⟩ := pawnCapSeg_total s false
  obtain ⟨y2, hy2⟩ := pawnCapPromoSeg_total s false
  obtain ⟨z2, hz2⟩ := pawnEpSeg_total s hep false
  rw [pawnMoves_eq, pawnSideSeg_eq, pawnSideSeg_eq, ha, hb, hc, hx1, hy1, hz1, hx2, hy2, hz2]
  exact ⟨_, rfl⟩

/-! ## every generated move can be applied -/

/-- a pawn of colour `c` attacks `e` from `o`: the square behind `e` (seen from `c`) is on the board -/
theorem offset_behind_target (c : Color) (df : Int) {o e : Nat} (ho : o < 64) (hst : Spec.step o df (absColor c).fwd = some e) :
    ∃ x, offset e 0 c.backward = some x := by
  rw [offset_eq_step, bwd_eq]
  rw [step_iff] at hst
  exact ⟨o / 8 * 8 + e % 8, (step_iff _ _ _ _).2 (by omega)⟩

/-- every generated word can be applied without panic (for a word flagged as an en-passant capture: it goes to the
en-passant target, which a pawn of the mover attacks, so the captured pawn's square exists) -/
theorem appliable_of_generated (s : State) (hep : FromFen s) {mv : Move} (g : Generated (Helper.of s) mv) :
    Appliable s mv := by
  obtain ⟨c, p, o, d, cap, pr, ep, cq, ck, ho, hd, _, hE, rfl⟩ := g
  refine appliable_mk s c p o d cap pr ep cq ck ho hd fun hep' => ?_
  obtain ⟨east, hf⟩ := hE hep'
  cases hs : s.ep with
  | none => rw [firstOne_epBB_none _ _ hs] at hf; cases hf
  | some e =>
    have he := hep e hs
    rw [firstOne_epBB _ _ e he hs] at hf
    by_cases ha : test (pawnAtt (Helper.of s) east) e = true
    · obtain ⟨o', hpo, hst⟩ := (test_pawnAtt _ _ e he).1 ha
      obtain ⟨x, hx⟩ := offset_behind_target s.turn (capDf east) (test_lt _ _ hpo) hst
      exact ⟨e, x, rfl, hx⟩
    · rw [if_neg ha] at hf; cases hf

/-! ## the whole generator -/

/-- `compute_psuedo_legal_moves_into` never panics; every move it produces can be applied -/
theorem pseudoLegalMoves_total (s : State) (hep : FromFen s) :
    ∃ ps, pseudoLegalMoves s = some ps ∧ ∀ m ∈ ps, Appliable s m := by
  obtain ⟨pm, hpm⟩ := pawnMoves_total s hep
  obtain ⟨ps, h⟩ : ∃ ps, pseudoLegalMoves s = some ps := by
    rw [pseudoLegalMoves_eq, hpm]; exact ⟨_, rfl⟩
  exact ⟨ps, h, fun m hm => appliable_of_generated s hep (pseudoLegalMoves_generated s ps h m hm)⟩

/-- `compute_legal_moves` never panics -/
theorem legalMoves?_total (s : State) (hep : FromFen s) : ∃ L, legalMoves? s = some L := by
  obtain ⟨ps, hps, pps⟩ := pseudoLegalMoves_total s hep
  obtain ⟨rs, hrs⟩ := mapM_ne_none (tryAsLegal s) ps (fun m hm => tryAsLegal_ne_none s m (pps m hm))
  exact ⟨_, legalMoves?_eq_some.2 ⟨ps, hps, rs, hrs, rfl⟩⟩

/-! ## the invariant is kept by `by_performing_move`, from any state and for any move -/

theorem fromFen_of_performMove (s : State) (mv : Move) (s' : State) (h : performMove s mv = some (.ok s')) :
    FromFen s' := by
  obtain ⟨_, _, hep, _⟩ := performMove_scalars h
  intro e he
  rw [hep] at he
  split at he
  · exact offset_lt he
  · cases he

/-! ## `by_performing_moves` -/

theorem performQuery_total (s : State) (hep : FromFen s) (q : MoveQuery) :
    (∃ e, performQuery s q = some (.error e)) ∨ ∃ s', performQuery s q = some (.ok s') ∧ FromFen s' := by
  obtain ⟨L, hL⟩ := legalMoves?_total s hep
  rw [C02.performQuery_eq, hL, Option.bind_some]
  split
  · rename_i r hf
    have hr := (List.mem_filter.1 (hf ▸ List.mem_singleton_self r)).1
    exact Or.inr ⟨r.2, rfl, fromFen_of_performMove s r.1 r.2 (C02.mem_legalMoves? hL hr).1⟩
  · exact Or.inl ⟨_, rfl⟩
  · exact Or.inl ⟨_, rfl⟩

theorem performQueries_total (qs : List MoveQuery) :
    ∀ s : State, FromFen s → performQueries s qs ≠ Option.none := by
  induction qs with
  | nil => intro s _; simp [performQueries]
  | cons q qs ih =>
    intro s hep
    rcases performQuery_total s hep q with ⟨e, he⟩ | ⟨s', hs', hep'⟩
    · rw [C02.performQueries_error s q qs e he]; simp
    · rw [C02.performQueries_ok s s' q qs hs']; exact ih s' hep'

/-! ## what the FEN reader returns satisfies the invariant -/

theorem fromFen_of_parseChars (checked : Bool) (cs : List Char) (st : State)
    (h : parseFenChars checked cs = .ok st) : FromFen st := by
  obtain ⟨_, _, _, ep, _, _, _, _, _, _, _, _, _, hg, _, _, _, _, _, rfl⟩ := parseFenChars_eq_ok h
  simp only [gateOk, Bool.and_eq_true] at hg
  exact FenL.epOf_lt hg.1.1.2

theorem fromFen_of_parse (checked : Bool) (str : String) (st : State) (h : parseFen checked str = .ok st) :
    FromFen st := fromFen_of_parseChars checked str.toList st h

theorem fromFen_startState : FromFen startState := by
  rw [startState_eq]
  exact fun e he => nomatch he

end Wee
