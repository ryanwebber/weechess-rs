import Wee.Model.Hash
import Wee.Proofs.BitLemmas
import Wee.Proofs.ListLemmas
/-!
# Lemmas about the Zobrist hash (`Wee.hash`, mirror of `ZobristHasher::hash`)

The hash of a position is the xor of the keys of its *atoms* (features):
one atom per set bit of each piece bitboard, one for the side to move, one per castling right that is
held, and one for the file of the en-passant target when a capture there is (pseudo-legally) available.

After the atoms: `key s`, the part of a position the rules depend on apart from the clocks (used by C08 and KeyMoves);
`test_xorL_bits`, keys that are distinct single bits are xor-independent; `hash_keys_congr`, two key tables that agree on
the turn, en-passant and castling keys and on the piece keys at squares `< 64` give the same hash.
-/
namespace Wee

/-! ## xor-folds over lists -/

section XorL
variable {α : Type}

/-- xor of `f a` over the list `l` (as a left fold from `0`, the shape of the loop in `hash`) -/
def xorL (f : α → UInt64) (l : List α) : UInt64 := l.foldl (fun h a => h ^^^ f a) 0

theorem foldl_xor_init (f : α → UInt64) (l : List α) (h : UInt64) :
    l.foldl (fun h a => h ^^^ f a) h = h ^^^ xorL f l := by
  unfold xorL
  induction l generalizing h with
  | nil => simp
  | cons a l ih =>
    simp only [List.foldl_cons]
    rw [ih (h ^^^ f a), ih (0 ^^^ f a), UInt64.zero_xor, UInt64.xor_assoc]

@[simp] theorem xorL_nil (f : α → UInt64) : xorL f [] = 0 := rfl

theorem xorL_cons (f : α → UInt64) (a : α) (l : List α) : xorL f (a :: l) = f a ^^^ xorL f l := by
  show (a :: l).foldl (fun h a => h ^^^ f a) 0 = _
  rw [List.foldl_cons, foldl_xor_init, UInt64.zero_xor]

theorem xorL_singleton (f : α → UInt64) (a : α) : xorL f [a] = f a := by
  rw [xorL_cons, xorL_nil, UInt64.xor_zero]

theorem xorL_append (f : α → UInt64) (l₁ l₂ : List α) :
    xorL f (l₁ ++ l₂) = xorL f l₁ ^^^ xorL f l₂ := by
  show (l₁ ++ l₂).foldl (fun h a => h ^^^ f a) 0 = _
  rw [List.foldl_append, foldl_xor_init]
  rfl

theorem xorL_perm (f : α → UInt64) {l₁ l₂ : List α} (h : l₁.Perm l₂) : xorL f l₁ = xorL f l₂ := by
  induction h with
  | nil => rfl
  | cons a _ ih => rw [xorL_cons, xorL_cons, ih]
  | swap a b l =>
    rw [xorL_cons, xorL_cons, xorL_cons, xorL_cons, ← UInt64.xor_assoc, ← UInt64.xor_assoc,
      UInt64.xor_comm (f b) (f a)]
  | trans _ _ ih₁ ih₂ => rw [ih₁, ih₂]

theorem xor_cancel_common (c a b : UInt64) : (c ^^^ a) ^^^ (c ^^^ b) = a ^^^ b := by
  rw [UInt64.xor_comm c a, UInt64.xor_assoc, ← UInt64.xor_assoc c c b, UInt64.xor_self,
    UInt64.zero_xor]

variable [DecidableEq α]

/-- symmetric difference of two lists: the elements of `l₁` not in `l₂`, then those of `l₂` not in `l₁` -/
def symmDiff (l₁ l₂ : List α) : List α :=
  l₁.filter (fun a => !decide (a ∈ l₂)) ++ l₂.filter (fun a => !decide (a ∈ l₁))

theorem mem_symmDiff (l₁ l₂ : List α) (a : α) :
    a ∈ symmDiff l₁ l₂ ↔ (a ∈ l₁ ∧ a ∉ l₂) ∨ (a ∈ l₂ ∧ a ∉ l₁) := by
  simp [symmDiff, List.mem_append, List.mem_filter]

theorem nodup_symmDiff {l₁ l₂ : List α} (h₁ : l₁.Nodup) (h₂ : l₂.Nodup) : (symmDiff l₁ l₂).Nodup := by
  unfold symmDiff
  rw [List.nodup_append]
  refine ⟨List.Pairwise.filter _ h₁, List.Pairwise.filter _ h₂, ?_⟩
  intro a ha b hb hab
  subst hab
  simp only [List.mem_filter, Bool.not_eq_eq_eq_not, Bool.not_true, decide_eq_false_iff_not] at ha hb
  exact hb.2 ha.1

theorem symmDiff_eq_nil (l₁ l₂ : List α) : symmDiff l₁ l₂ = [] ↔ ∀ a, a ∈ l₁ ↔ a ∈ l₂ := by
  constructor
  · intro h a
    have := mem_symmDiff l₁ l₂ a
    rw [h] at this
    simp only [List.not_mem_nil, false_iff, not_or, not_and, Classical.not_not] at this
    exact ⟨this.1, this.2⟩
  · intro h
    apply List.eq_nil_iff_forall_not_mem.2
    intro a ha
    rw [mem_symmDiff] at ha
    rcases ha with ⟨h1, h2⟩ | ⟨h1, h2⟩
    · exact h2 ((h a).1 h1)
    · exact h2 ((h a).2 h1)

theorem common_perm {l₁ l₂ : List α} (h₁ : l₁.Nodup) (h₂ : l₂.Nodup) :
    (l₁.filter (fun a => decide (a ∈ l₂))).Perm (l₂.filter (fun a => decide (a ∈ l₁))) := by
  rw [List.perm_ext_iff_of_nodup (List.Pairwise.filter _ h₁) (List.Pairwise.filter _ h₂)]
  intro a
  simp only [List.mem_filter, decide_eq_true_eq]
  exact ⟨fun h => ⟨h.2, h.1⟩, fun h => ⟨h.2, h.1⟩⟩

/-- for duplicate-free lists, the xor of the two folds is the fold over the symmetric difference:
the common elements cancel -/
theorem xorL_symmDiff (f : α → UInt64) {l₁ l₂ : List α} (h₁ : l₁.Nodup) (h₂ : l₂.Nodup) :
    xorL f l₁ ^^^ xorL f l₂ = xorL f (symmDiff l₁ l₂) := by
  have p₁ := List.filter_append_perm (fun a => decide (a ∈ l₂)) l₁
  have p₂ := List.filter_append_perm (fun a => decide (a ∈ l₁)) l₂
  rw [← xorL_perm f p₁, ← xorL_perm f p₂, xorL_append, xorL_append,
    xorL_perm f (common_perm h₁ h₂), xor_cancel_common, symmDiff, xorL_append]

end XorL

/-! ## Atoms of a position -/

/-- The features of a position that `ZobristHasher::hash` xors a key for. -/
inductive Atom
  /-- bit `sq` of the bitboard of `PieceIndex::new(c, p)` is set -/
  | piece (sq : Nat) (c : Color) (p : Piece)
  /-- `c` is to move -/
  | turn (c : Color)
  /-- `c` holds the castling right on side `s` -/
  | castle (c : Color) (s : Side)
  /-- an en-passant capture is available on this file -/
  | ep (file : Nat)
deriving DecidableEq, Repr

/-- the key the hasher uses for an atom -/
def keyOf (K : Keys) : Atom → UInt64
  | .piece sq c p => K.piece sq c p
  | .turn c => K.turn c
  | .castle c s => K.castle c s
  | .ep f => K.epFile f

/-- piece atoms, in the iteration order of the code:
`Color::ALL × Piece::ALL_INCLUDING_NONE × occupancy.iter_ones()` -/
def pieceAtoms (m : PieceMap) : List Atom :=
  Color.all.flatMap fun c => Piece.allIncludingNone.flatMap fun p =>
    (bitsOf (m.get c p)).map fun sq => Atom.piece sq c p

def rightsOf (cw cb : CastleRights) : Color → CastleRights
  | .white => cw
  | .black => cb

theorem castle_eq_rightsOf (s : State) (c : Color) : s.castle c = rightsOf s.castleW s.castleB c := by
  cases c <;> rfl

/-- castling atoms, in the order `Color::ALL × Side::ALL` -/
def castleAtoms (cw cb : CastleRights) : List Atom :=
  Color.all.flatMap fun c => Side.all.flatMap fun sd =>
    if (rightsOf cw cb c).forSide sd then [Atom.castle c sd] else []

def epAtoms : Option Nat → List Atom
  | some f => [Atom.ep f]
  | Option.none => []

/-- the file on which an en-passant capture is available (pseudo-legally), if any -/
def epFile? (s : State) : Option Nat := (epCapturable s).map fileOf

/-- all atoms of a position, in the order in which the code xors their keys -/
def atoms (s : State) : List Atom :=
  pieceAtoms s.pieces ++ Atom.turn s.turn :: (castleAtoms s.castleW s.castleB ++ epAtoms (epFile? s))

/-! ### the hash is the xor of the atom keys -/

theorem pieceFold_eq (K : Keys) (m : PieceMap) (h : UInt64) :
    Color.all.foldl (fun h c =>
      Piece.allIncludingNone.foldl (fun h p =>
        (bitsOf (m.get c p)).foldl (fun h sq => h ^^^ K.piece sq c p) h) h) h
      = (pieceAtoms m).foldl (fun h a => h ^^^ keyOf K a) h := by
  simp only [pieceAtoms, List.foldl_flatMap, List.foldl_map, keyOf]

theorem castleFold_eq (K : Keys) (s : State) (h : UInt64) :
    Color.all.foldl (fun h c =>
      Side.all.foldl (fun h side => if (s.castle c).forSide side then h ^^^ K.castle c side else h) h) h
      = (castleAtoms s.castleW s.castleB).foldl (fun h a => h ^^^ keyOf K a) h := by
  simp only [castleAtoms, List.foldl_flatMap, castle_eq_rightsOf]
  congr 1
  funext h c
  congr 1
  funext h sd
  cases (rightsOf s.castleW s.castleB c).forSide sd <;> simp [keyOf]

theorem hash_eq_xorL (K : Keys) (s : State) : hash K s = xorL (keyOf K) (atoms s) := by
  unfold hash atoms epFile? xorL
  simp only [pieceFold_eq, castleFold_eq, List.foldl_append, List.foldl_cons]
  cases epCapturable s <;> simp [epAtoms, keyOf]

/-! ### membership -/

theorem mem_pieceAtoms (m : PieceMap) (a : Atom) :
    a ∈ pieceAtoms m ↔ ∃ sq c p, a = Atom.piece sq c p ∧ test (m.get c p) sq = true := by
  simp only [pieceAtoms, List.mem_flatMap, List.mem_map, mem_bitsOf']
  constructor
  · rintro ⟨c, _, p, _, sq, hsq, rfl⟩
    exact ⟨sq, c, p, rfl, hsq⟩
  · rintro ⟨sq, c, p, rfl, hsq⟩
    exact ⟨c, Color.mem_all c, p, Piece.mem_allIncludingNone p, sq, hsq, rfl⟩

theorem mem_castleAtoms (cw cb : CastleRights) (a : Atom) :
    a ∈ castleAtoms cw cb ↔ ∃ c sd, a = Atom.castle c sd ∧ (rightsOf cw cb c).forSide sd = true := by
  simp only [castleAtoms, List.mem_flatMap]
  constructor
  · rintro ⟨c, _, sd, _, h⟩
    by_cases hr : (rightsOf cw cb c).forSide sd = true
    · rw [if_pos hr] at h
      exact ⟨c, sd, by simpa using h, hr⟩
    · rw [if_neg hr] at h
      cases h
  · rintro ⟨c, sd, rfl, hr⟩
    exact ⟨c, Color.mem_all c, sd, Side.mem_all sd, by rw [if_pos hr]; simp⟩

theorem mem_epAtoms (o : Option Nat) (a : Atom) : a ∈ epAtoms o ↔ ∃ f, a = Atom.ep f ∧ o = some f := by
  cases o <;> simp [epAtoms]

theorem mem_atoms (s : State) (a : Atom) :
    a ∈ atoms s ↔ a ∈ pieceAtoms s.pieces ∨ a = Atom.turn s.turn ∨
      a ∈ castleAtoms s.castleW s.castleB ∨ a ∈ epAtoms (epFile? s) := by
  simp only [atoms, List.mem_append, List.mem_cons]

theorem piece_mem_atoms (s : State) (sq : Nat) (c : Color) (p : Piece) :
    Atom.piece sq c p ∈ atoms s ↔ test (s.pieces.get c p) sq = true := by
  rw [mem_atoms, mem_pieceAtoms, mem_castleAtoms, mem_epAtoms]
  constructor
  · rintro (⟨_, _, _, h, ht⟩ | h | ⟨_, _, h, _⟩ | ⟨_, h, _⟩)
    · injection h with h1 h2 h3
      subst h1 h2 h3
      exact ht
    · cases h
    · cases h
    · cases h
  · intro h
    exact Or.inl ⟨sq, c, p, rfl, h⟩

theorem turn_mem_atoms (s : State) (c : Color) : Atom.turn c ∈ atoms s ↔ s.turn = c := by
  rw [mem_atoms, mem_pieceAtoms, mem_castleAtoms, mem_epAtoms]
  constructor
  · rintro (⟨_, _, _, h, _⟩ | h | ⟨_, _, h, _⟩ | ⟨_, h, _⟩)
    · cases h
    · injection h with h
      exact h.symm
    · cases h
    · cases h
  · intro h
    exact Or.inr (Or.inl (by rw [h]))

theorem castle_mem_atoms (s : State) (c : Color) (sd : Side) :
    Atom.castle c sd ∈ atoms s ↔ (s.castle c).forSide sd = true := by
  rw [mem_atoms, mem_pieceAtoms, mem_castleAtoms, mem_epAtoms, castle_eq_rightsOf]
  constructor
  · rintro (⟨_, _, _, h, _⟩ | h | ⟨_, _, h, hr⟩ | ⟨_, h, _⟩)
    · cases h
    · cases h
    · injection h with h1 h2
      subst h1 h2
      exact hr
    · cases h
  · intro h
    exact Or.inr (Or.inr (Or.inl ⟨c, sd, rfl, h⟩))

theorem ep_mem_atoms (s : State) (f : Nat) : Atom.ep f ∈ atoms s ↔ epFile? s = some f := by
  rw [mem_atoms, mem_pieceAtoms, mem_castleAtoms, mem_epAtoms]
  constructor
  · rintro (⟨_, _, _, h, _⟩ | h | ⟨_, _, h, _⟩ | ⟨_, h, hf⟩)
    · cases h
    · cases h
    · cases h
    · injection h with h
      subst h
      exact hf
  · intro h
    exact Or.inr (Or.inr (Or.inr ⟨f, rfl, h⟩))

/-- no atom ever arises from the `Piece::None` indices (their bitboards are constantly zero) -/
theorem none_not_mem_atoms (s : State) (sq : Nat) (c : Color) : Atom.piece sq c .none ∉ atoms s := by
  rw [piece_mem_atoms]
  cases c <;> simp [PieceMap.get]

/-! ### no duplicates -/

theorem nodup_pieceAtoms (m : PieceMap) : (pieceAtoms m).Nodup := by
  unfold pieceAtoms
  apply nodup_flatMap_of (by decide)
  · intro c _
    apply nodup_flatMap_of (by decide)
    · intro p _
      refine List.Pairwise.map _ ?_ (bitsOf_nodup _)
      intro a b hab h
      injection h with h
      exact hab h
    · intro p₁ _ p₂ _ x hx hy
      simp only [List.mem_map] at hx hy
      obtain ⟨_, _, rfl⟩ := hx
      obtain ⟨_, _, h⟩ := hy
      injection h with _ _ h
      exact h.symm
  · intro c₁ _ c₂ _ x hx hy
    simp only [List.mem_flatMap, List.mem_map] at hx hy
    obtain ⟨_, _, _, _, rfl⟩ := hx
    obtain ⟨_, _, _, _, h⟩ := hy
    injection h with _ h _
    exact h.symm

theorem nodup_castleAtoms (cw cb : CastleRights) : (castleAtoms cw cb).Nodup := by
  unfold castleAtoms
  apply nodup_flatMap_of (by decide)
  · intro c _
    apply nodup_flatMap_of (by decide)
    · intro sd _
      split <;> simp
    · intro s₁ _ s₂ _ x hx hy
      split at hx <;> simp at hx
      split at hy <;> simp at hy
      subst hx
      injection hy
  · intro c₁ _ c₂ _ x hx hy
    simp only [List.mem_flatMap] at hx hy
    obtain ⟨_, _, hx⟩ := hx
    obtain ⟨_, _, hy⟩ := hy
    split at hx <;> simp at hx
    split at hy <;> simp at hy
    subst hx
    injection hy

/-- the atom list of any state has no duplicates (no hypothesis on the board is needed) -/
theorem nodup_atoms (s : State) : (atoms s).Nodup := by
  unfold atoms
  rw [List.nodup_append]
  refine ⟨nodup_pieceAtoms _, ?_, ?_⟩
  · rw [List.nodup_cons]
    refine ⟨?_, ?_⟩
    · simp [mem_castleAtoms, mem_epAtoms]
    · rw [List.nodup_append]
      refine ⟨nodup_castleAtoms _ _, ?_, ?_⟩
      · cases epFile? s <;> simp [epAtoms]
      · intro a ha b hb hab
        subst hab
        rw [mem_castleAtoms] at ha
        rw [mem_epAtoms] at hb
        obtain ⟨_, _, rfl, _⟩ := ha
        obtain ⟨_, h, _⟩ := hb
        cases h
  · intro a ha b hb hab
    subst hab
    rw [mem_pieceAtoms] at ha
    obtain ⟨_, _, _, rfl, _⟩ := ha
    simp [mem_castleAtoms, mem_epAtoms] at hb

/-! ## The rule-relevant key of a position -/

/-- Everything of a `State` that decides which moves are legal now and later (apart from the clocks):
placement, side to move, castling rights of both colours, and the file of an *available*
en-passant capture.  Not part of it: `halfmove`, `fullmove`, an en-passant target nobody can capture on. -/
def key (s : State) : PieceMap × Color × CastleRights × CastleRights × Option Nat :=
  (s.pieces, s.turn, s.castleW, s.castleB, epFile? s)

theorem atoms_eq_of_key {s t : State} (h : key s = key t) : atoms s = atoms t := by
  simp only [key, Prod.mk.injEq] at h
  obtain ⟨h1, h2, h3, h4, h5⟩ := h
  simp only [atoms, h1, h2, h3, h4, h5]

theorem CastleRights.ext_forSide {a b : CastleRights} (h : ∀ sd, a.forSide sd = b.forSide sd) : a = b := by
  cases a; cases b
  simp only [CastleRights.mk.injEq]
  exact ⟨h .king, h .queen⟩

theorem key_eq_of_mem_atoms {s t : State} (h : ∀ a, a ∈ atoms s ↔ a ∈ atoms t) : key s = key t := by
  simp only [key, Prod.mk.injEq]
  refine ⟨?_, ?_, ?_, ?_, ?_⟩
  · apply C02.ext_get
    intro c p
    apply ext
    intro n _
    have := h (Atom.piece n c p)
    rw [piece_mem_atoms, piece_mem_atoms] at this
    exact Bool.eq_iff_iff.2 this
  · have := (h (Atom.turn s.turn)).1 ((turn_mem_atoms s s.turn).2 rfl)
    exact ((turn_mem_atoms t s.turn).1 this).symm
  · apply CastleRights.ext_forSide
    intro sd
    have := h (Atom.castle .white sd)
    rw [castle_mem_atoms, castle_mem_atoms] at this
    exact Bool.eq_iff_iff.2 this
  · apply CastleRights.ext_forSide
    intro sd
    have := h (Atom.castle .black sd)
    rw [castle_mem_atoms, castle_mem_atoms] at this
    exact Bool.eq_iff_iff.2 this
  · apply Option.ext
    intro f
    have := h (Atom.ep f)
    rw [ep_mem_atoms, ep_mem_atoms] at this
    exact this

/-! ## Keys that are distinct single bits are xor-independent -/

/-- if every atom of `d` (duplicate-free) has the one-bit key `bit (idx a)` and `idx` is injective on a
set `U ⊇ d`, then bit `idx a` of the xor tells whether `a ∈ d` -/
theorem test_xorL_bits (K : Keys) (U : Atom → Prop) (idx : Atom → Nat)
    (hk : ∀ a, U a → idx a < 64 ∧ keyOf K a = bit (idx a))
    (hinj : ∀ a b, U a → U b → idx a = idx b → a = b)
    (d : List Atom) (hd : d.Nodup) (hU : ∀ a ∈ d, U a) (a : Atom) (ha : U a) :
    test (xorL (keyOf K) d) (idx a) = decide (a ∈ d) := by
  induction d with
  | nil => simp
  | cons b d ih =>
    rw [List.nodup_cons] at hd
    have hb := hU b (List.mem_cons_self)
    rw [xorL_cons, test_xor, ih hd.2 (fun x hx => hU x (List.mem_cons_of_mem _ hx)),
      (hk b hb).2, test_bit _ _ (hk b hb).1]
    by_cases hab : a = b
    · subst hab
      simp [hd.1]
    · have : idx b ≠ idx a := fun h => hab (hinj _ _ hb ha h).symm
      simp [hab, this]

/-! ### two key tables that agree where the hash reads them give the same hash -/

theorem xorL_congr {α : Type} (f g : α → UInt64) (l : List α) (h : ∀ a ∈ l, f a = g a) : xorL f l = xorL g l := by
  unfold xorL
  generalize (0 : UInt64) = i
  induction l generalizing i with
  | nil => rfl
  | cons x t ih =>
    rw [List.foldl_cons, List.foldl_cons, h x List.mem_cons_self]
    exact ih (fun a ha => h a (List.mem_cons_of_mem _ ha)) _

/-- the model's hash reads the piece keys only at squares `< 64` -/
theorem hash_keys_congr (K K' : Keys) (s : State) (ht : K.turn = K'.turn) (he : K.epFile = K'.epFile)
    (hc : ∀ c sd, K.castle c sd = K'.castle c sd) (hp : ∀ sq c p, sq < 64 → K.piece sq c p = K'.piece sq c p) :
    hash K s = hash K' s := by
  rw [hash_eq_xorL, hash_eq_xorL]
  apply xorL_congr
  intro a ha
  cases a with
  | piece sq c p => exact hp sq c p (test_lt _ _ ((piece_mem_atoms s sq c p).1 ha))
  | turn c => show K.turn c = K'.turn c; rw [ht]
  | castle c sd => exact hc c sd
  | ep f => show K.epFile f = K'.epFile f; rw [he]

end Wee
