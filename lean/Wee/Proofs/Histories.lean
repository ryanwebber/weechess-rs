import Wee.Proofs.EnvRel
/-!
# Global histories: a worker's view of one, and the rely/guarantee induction

A global history is the list of the table operations of all workers in the order they took effect
(`Wee/Model/SearchEnv.lean`).  Worker `i` sees its own operations (`proj`) and, before each of them, the batch of the
others' inserts since its previous one: the induced environment `envOf H i`, given here by position (`batchAt`,
`script_eq`, `envOf_mem`, `envOf_prefix`).  With causality (`Wee/Proofs/EnvRel.lean`) this gives the induction the
any-schedule theorems rest on: if every worker, in any environment of admissible inserts, makes admissible inserts only,
then every insert of an execution is admissible (`interleaving_guarantee`), every prefix of it keeps a table invariant
that admissible inserts keep (`table_inv`), and each worker's conclusion holds in its induced environment
(`interleaving_rg`, the packaged form).  Also here: the induced environment is made of inserts of the execution
(`envOf_adm`) and is empty when only the worker itself inserts (`envOf_eq_empty`); what is found under a key after a history
is what was found before or an entry stored under it (`table_find_some`).
-/
namespace Wee.Env
open Wee.Search

theorem proj_append (H1 H2 : History) (i : Nat) : History.proj (H1 ++ H2) i = History.proj H1 i ++ History.proj H2 i := by
  unfold History.proj
  rw [List.filter_append, List.map_append]

theorem proj_cons_own (i : Nat) (op : TOp) (H : History) : History.proj ((i, op) :: H) i = op :: History.proj H i := by
  unfold History.proj
  simp

theorem batchesOf_cons_own (i : Nat) (op : TOp) (H : History) : batchesOf i ((i, op) :: H) = [] :: batchesOf i H := by
  cases op <;> (rw [batchesOf]; simp)

theorem batchesOf_cons_other_find {i j : Nat} (h : (j == i) = false) (k : Nat) (r : Option TT.Entry) (H : History) :
    batchesOf i ((j, TOp.find k r) :: H) = batchesOf i H := by
  rw [batchesOf, h]; rfl

theorem batchesOf_cons_other_insert {i j : Nat} (h : (j == i) = false) (k : Nat) (e : TT.Entry) (H : History) :
    batchesOf i ((j, TOp.insert k e) :: H) = consHead (k, e) (batchesOf i H) := by
  rw [batchesOf, h]; rfl

theorem own_or_other (j i : Nat) : j = i ∨ (j == i) = false := by
  cases h : (j == i) with
  | true => exact .inl (by simpa using h)
  | false => exact .inr rfl

theorem proj_cons_other {i j : Nat} (h : (j == i) = false) (o : TOp) (H : History) :
    History.proj ((j, o) :: H) i = History.proj H i := by
  unfold History.proj
  rw [List.filter_cons_of_neg (by simpa using h)]

/-- what one operation inserts -/
def inserted : TOp → List (Nat × TT.Entry)
  | .find _ _ => []
  | .insert k e => [(k, e)]

/-- batch `k` of worker `i` in `H`, by position: the foreign inserts that have exactly `k` operations of `i` before
them -/
def batchAt (i : Nat) : History → Nat → List (Nat × TT.Entry)
  | [], _ => []
  | (j, op) :: rest, k =>
    if j == i then (if k = 0 then [] else batchAt i rest (k - 1))
    else (if k = 0 then inserted op ++ batchAt i rest 0 else batchAt i rest k)

theorem batchAt_cons_own (i : Nat) (op : TOp) (H : History) (k : Nat) :
    batchAt i ((i, op) :: H) k = if k = 0 then [] else batchAt i H (k - 1) := by
  rw [batchAt, if_pos (by simp)]

theorem batchAt_cons_other {i j : Nat} (h : (j == i) = false) (op : TOp) (H : History) (k : Nat) :
    batchAt i ((j, op) :: H) k = if k = 0 then inserted op ++ batchAt i H 0 else batchAt i H k := by
  rw [batchAt, if_neg (by simp [h])]

theorem getD_consHead (p : Nat × TT.Entry) (bs : List (List (Nat × TT.Entry))) (k : Nat) :
    (consHead p bs).getD k [] = if k = 0 then p :: bs.getD 0 [] else bs.getD k [] := by
  cases bs <;> cases k <;> simp [consHead]

/-- **the induced environment by position** -/
theorem script_eq (i : Nat) : ∀ (H : History) (k : Nat), (envOf H i).script k = batchAt i H k := by
  intro H
  show ∀ k, (batchesOf i H).getD k [] = batchAt i H k
  induction H with
  | nil => intro k; cases k <;> rfl
  | cons p rest ih =>
    obtain ⟨j, op⟩ := p
    intro k
    rcases own_or_other j i with rfl | hj
    · rw [batchesOf_cons_own, batchAt_cons_own]
      cases k with
      | zero => rfl
      | succ k => exact ih k
    · rw [batchAt_cons_other hj, ← ih, ← ih]
      cases op with
      | find key r => rw [batchesOf_cons_other_find hj]; split <;> simp [inserted, *]
      | insert key e => rw [batchesOf_cons_other_insert hj, getD_consHead]; rfl

/-- up to worker `i`'s next operation after `H1` the whole history induces the same batches as `H1` -/
theorem batchAt_prefix (i : Nat) (op : TOp) (H2 : History) : ∀ (H1 : History) (j : Nat),
    j ≤ (History.proj H1 i).length → batchAt i (H1 ++ (i, op) :: H2) j = batchAt i H1 j := by
  intro H1
  induction H1 with
  | nil =>
    intro j hj
    have : j = 0 := by simpa [History.proj] using hj
    subst this
    rw [List.nil_append, batchAt_cons_own]; rfl
  | cons p rest ih =>
    obtain ⟨j', o⟩ := p
    intro j hj
    rw [List.cons_append]
    rcases own_or_other j' i with rfl | hj'
    · rw [batchAt_cons_own, batchAt_cons_own]
      rw [proj_cons_own, List.length_cons] at hj
      by_cases h0 : j = 0
      · rw [if_pos h0, if_pos h0]
      · rw [if_neg h0, if_neg h0, ih _ (by omega)]
    · rw [proj_cons_other hj'] at hj
      rw [batchAt_cons_other hj', batchAt_cons_other hj', ih _ hj, ih 0 (Nat.zero_le _)]

theorem batchAt_mem (i : Nat) : ∀ (H : History) (k : Nat), ∀ p ∈ batchAt i H k,
    ∃ j, j ≠ i ∧ (j, TOp.insert p.1 p.2) ∈ H := by
  intro H
  induction H with
  | nil => intro k p hp; cases hp
  | cons q rest ih =>
    obtain ⟨j, o⟩ := q
    intro k p hp
    have hlift : ∀ k, p ∈ batchAt i rest k → ∃ j', j' ≠ i ∧ (j', TOp.insert p.1 p.2) ∈ (j, o) :: rest :=
      fun k h => let ⟨j', h1, h2⟩ := ih k p h; ⟨j', h1, List.mem_cons_of_mem _ h2⟩
    rcases own_or_other j i with rfl | hj
    · rw [batchAt_cons_own] at hp
      split at hp
      · cases hp
      · exact hlift _ hp
    · rw [batchAt_cons_other hj] at hp
      split at hp
      · rcases List.mem_append.1 hp with h | h
        · cases o with
          | find key r => cases h
          | insert key e => cases List.mem_singleton.1 h; exact ⟨j, by simpa using hj, List.mem_cons_self⟩
        · exact hlift _ h
      · exact hlift _ hp


theorem envOf_mem {H : History} {i j : Nat} {p : Nat × TT.Entry} (hp : p ∈ (envOf H i).script j) :
    ∃ j', j' ≠ i ∧ (j', TOp.insert p.1 p.2) ∈ H := by
  rw [script_eq] at hp; exact batchAt_mem i H j p hp

/-- up to and including the batch before worker `i`'s next operation after `H1` (batch number `(proj H1 i).length`) the
whole history induces the same environment as its prefix `H1` -/
theorem envOf_prefix (i : Nat) (op : TOp) (H1 H2 : History) :
    ∀ j, j < (History.proj H1 i).length + 1 → (envOf (H1 ++ (i, op) :: H2) i).script j = (envOf H1 i).script j := by
  intro j hj
  rw [script_eq, script_eq, batchAt_prefix _ _ _ _ _ (by omega)]

/-- the environment an execution induces for a worker is made of inserts of the execution -/
theorem envOf_adm {H : History} {Adm : Nat → TT.Entry → Prop}
    (h : ∀ p ∈ H, ∀ k e, p.2 = TOp.insert k e → Adm k e) (i : Nat) :
    ∀ j, ∀ p ∈ (envOf H i).script j, Adm p.1 p.2 := by
  intro j p hp
  obtain ⟨j', _, hmem⟩ := envOf_mem hp
  exact h _ hmem p.1 p.2 rfl

/-- a history in which only worker `i` inserts induces the empty environment for it -/
theorem envOf_eq_empty {H : History} {i : Nat} (hown : ∀ p ∈ H, ∀ k e, p.2 = TOp.insert k e → p.1 = i) :
    envOf H i = Env.empty := by
  have hs : (envOf H i).script = fun _ => [] := by
    funext j
    apply List.eq_nil_iff_forall_not_mem.2
    intro p hp
    obtain ⟨j', hne, hmem⟩ := envOf_mem hp
    exact hne (hown _ hmem p.1 p.2 rfl)
  show (⟨(envOf H i).script⟩ : Env) = ⟨fun _ => []⟩
  rw [hs]

/-- induction along a list: what holds of an element whenever it holds of all elements before it holds of every element -/
theorem forall_mem_of_prefix_step {γ : Type} {P : γ → Prop} : ∀ (l : List γ),
    (∀ l1 p l2, l = l1 ++ p :: l2 → (∀ q ∈ l1, P q) → P p) → ∀ q ∈ l, P q := by
  intro l
  induction l with
  | nil => intro _ q hq; cases hq
  | cons a t ih =>
    intro h q hq
    have ha : P a := h [] a t rfl (fun _ hq => nomatch hq)
    rcases List.mem_cons.1 hq with rfl | hq
    · exact ha
    · refine ih (fun l1 p l2 hl hall => ?_) q hq
      refine h (a :: l1) p l2 (by rw [hl]; rfl) (fun q' hq' => ?_)
      rcases List.mem_cons.1 hq' with rfl | hq'
      · exact ha
      · exact hall q' hq'

/-- **rely/guarantee for global histories.**  Let `Adm` be a predicate on inserts such that every worker, in every
environment all of whose inserts are `Adm`, performs only `Adm` inserts (guarantee = rely).  Then in every execution `H`
of the workers ALL inserts are `Adm`.  The circularity (each worker's guarantee relies on the others') is broken by
induction along the history (`forall_mem_of_prefix_step`): an operation of worker `i` depends only on the foreign inserts
that precede it (`runWorkerE_causal`), which are `Adm` by the induction hypothesis. -/
theorem interleaving_guarantee {ctx : Ctx} {root : State} {tt : TT.Access} {ws : List Worker} {H : History}
    (Adm : Nat → TT.Entry → Prop)
    (hworker : ∀ i (h : i < ws.length) (env : Env), (∀ j, ∀ p ∈ env.script j, Adm p.1 p.2) →
      LogOK Adm (runWorkerE env ctx root ws[i] tt).2.2)
    (hI : Interleaving ctx root tt ws H) : ∀ p ∈ H, ∀ k e, p.2 = TOp.insert k e → Adm k e := by
  refine forall_mem_of_prefix_step H fun H1 p H2 hH hall k e hp => ?_
  obtain ⟨i, op⟩ := p
  replace hp : op = TOp.insert k e := hp
  subst hp
  have hi : i < ws.length := hI.1 (i, TOp.insert k e) (by rw [hH]; simp)
  have hlog := hI.2 i hi
  rw [hH, proj_append, proj_cons_own] at hlog
  -- the environment induced by the prefix is admissible
  have hg := hworker i hi (envOf H1 i) (envOf_adm hall i)
  -- and it agrees with the full one up to this operation
  have hc := runWorkerE_causal (K := (History.proj H1 i).length + 1) (env := envOf (H1 ++ (i, TOp.insert k e) :: H2) i)
    (env' := envOf H1 i) (envOf_prefix i _ H1 H2) ctx root ws[i] tt
  rw [hlog] at hc
  have hmem : TOp.insert k e ∈ (History.proj H1 i ++ TOp.insert k e :: History.proj H2 i).take
      ((History.proj H1 i).length + 1) := by
    rw [List.take_append, List.take_of_length_le (by omega)]
    simp
  rw [hc] at hmem
  exact hg k e (List.mem_of_mem_take hmem)

/-- a table property that is kept by `Adm` inserts holds of the shared table after every prefix of the history -/
theorem table_inv {P : TT.Access → Prop} {Adm : Nat → TT.Entry → Prop}
    (hstep : ∀ tt k e, P tt → Adm k e → P (tt.insert k e)) :
    ∀ (H : History) (tt : TT.Access), P tt → (∀ p ∈ H, ∀ k e, p.2 = TOp.insert k e → Adm k e) →
      P (History.table tt H) :=
  fun H _ h hall => H.foldlRecOn _ h fun t ht p hp => by
    obtain ⟨j, op⟩ := p
    cases op with
    | find k r => exact ht
    | insert k e => exact hstep t k e ht (hall _ hp k e rfl)

/-- what is found under a key after a history: the entry found before it, if nothing was stored under the key, or an
entry stored under it (a store under another key can only remove what is found) -/
theorem table_find_some {L nT nB : Nat} (hL : 0 < L) (hT : 0 < nT) (hB : 0 < nB) {k : Nat} {y : TT.Entry}
    (H : History) (tt : TT.Access) (hinv : TT.AInv L nT nB tt) (hy : (History.table tt H).find k = some y) :
    ((∀ j e, (j, TOp.insert k e) ∉ H) ∧ tt.find k = some y) ∨ ∃ j, (j, TOp.insert k y) ∈ H := by
  induction H generalizing tt with
  | nil => exact Or.inl ⟨fun _ _ h => (nomatch h), hy⟩
  | cons p H ih =>
    obtain ⟨j, op⟩ := p
    cases op with
    | find k' r =>
      rcases ih tt hinv hy with ⟨h1, h2⟩ | ⟨i, h⟩
      · refine Or.inl ⟨fun i e h => ?_, h2⟩
        rcases List.mem_cons.1 h with h | h
        · cases h
        · exact h1 i e h
      · exact Or.inr ⟨i, List.mem_cons_of_mem _ h⟩
    | insert k' e' =>
      rcases ih (tt.insert k' e') (hinv.insert hL hT hB k' e') hy with ⟨h1, h2⟩ | ⟨i, h⟩
      · rcases hinv.find_insert_some hL hT hB h2 with ⟨rfl, rfl⟩ | ⟨hk, h0⟩
        · exact Or.inr ⟨j, List.mem_cons_self⟩
        · refine Or.inl ⟨fun i e h => ?_, h0⟩
          rcases List.mem_cons.1 h with h | h
          · cases h
            exact hk rfl
          · exact h1 i e h
      · exact Or.inr ⟨i, List.mem_cons_of_mem _ h⟩

/-- **rely/guarantee for one iteration.**  `Adm`: what every worker guarantees of its inserts when it may rely on it for the
others'; `TI`: a table property kept by `Adm` inserts; `Q`: what a worker's run then satisfies.  In every execution all
inserts are `Adm`, `TI` holds of the shared table after every prefix, and every worker's run in the execution is `Q`. -/
theorem interleaving_rg {ctx : Ctx} {root : State} {tt : TT.Access} {ws : List Worker} {H : History}
    {Adm : Nat → TT.Entry → Prop} {TI : TT.Access → Prop} {Q : Worker → Except Stop Eval × St × List TOp → Prop}
    (hstep : ∀ tt k e, TI tt → Adm k e → TI (tt.insert k e)) (htt : TI tt)
    (hworker : ∀ i (h : i < ws.length) (env : Env), (∀ j, ∀ p ∈ env.script j, Adm p.1 p.2) →
      LogOK Adm (runWorkerE env ctx root ws[i] tt).2.2 ∧ Q ws[i] (runWorkerE env ctx root ws[i] tt))
    (hI : Interleaving ctx root tt ws H) :
    (∀ p ∈ H, ∀ k e, p.2 = TOp.insert k e → Adm k e) ∧ (∀ n, TI (History.table tt (H.take n))) ∧
    ∀ i (h : i < ws.length), Q ws[i] (runWorkerE (envOf H i) ctx root ws[i] tt) := by
  have hins := interleaving_guarantee Adm (fun i h env hadm => (hworker i h env hadm).1) hI
  exact ⟨hins, fun n => table_inv hstep (H.take n) tt htt (fun p hp => hins p (List.mem_of_mem_take hp)),
    fun i h => (hworker i h _ (envOf_adm hins i)).2⟩

end Wee.Env
