import Wee.Proofs.EnvCore
import Wee.Proofs.AlphaBeta
/-!
# The worker's logic with a precondition and a postcondition that sees the state; a run of a node is a `NodeOut`

`HoldsP V P x Q`: from every state with `P`, and whatever the environment does in between (as far as `P` is `Stable` under
its batches), `x` returns normally in a state and with a value satisfying `Q`, or is interrupted (`V.J`) or panics (`V.I`)
with an allowed outcome (`V.A`); every own insert satisfies the guarantee `V.G`.  `HoldsE` of `EnvCore.lean` is the case of
one invariant for `P`, `Q` and the panics (`holdsE_iff`); a postcondition that sees the state is what lets the logic say
that a node counts a node — and so that the "no node searched" exit is taken exactly when no move of the buffer is legal.

In this logic `analyze_recursive` is traversed once: a run of the move loop is a `Loop` (`childLoopE_loopP`), of the node
after the probe a `TailOut` (`tailE_outP`), of the node a `NodeOut` (`nodeE_outP`) of `Wee/Proofs/AlphaBeta.lean`, for any
invariant the children and the stores keep.  A caller chooses the invariants `P0` (of the state the probe reads) and `P`
(kept below the node), what a store makes of `P` (`Q`), what is known of a child's value (`C`), which outcomes the panic
sites may throw (`Sites`) and what is known of the windows (`Window`).  The generic induction `Env.searchNodeE_walk`
(`Wee/Proofs/WalkE.lean`), soundness, completeness, the frame and the root call, and the evaluation range are instances.

The forms in which the development says what a computation establishes, and when each is the one to use:

| form | of | says | use it for |
|---|---|---|---|
| `SearchCtl.Post I J A` with `SearchCtl.Walk`, `searchNode_walk` | an outcome of `searchNode` in `M` | `I` at a return or a panic, `J` at an interrupt, thrown outcomes in `A` | an invariant of the sequential worker, nothing about values |
| `SearchCtl.QPost`, `QRule`, `quiesce_rule` | a result of `quiesce` | an allowed error, or a value within a contract | quiescence (a pure function with fuel) |
| `Search.Keeps I Q x` (`SearchLemmas.lean`) | `runM x` | the table invariant `I` at every outcome, `Q` of a value | only the C03 statements `searchNode_keeps`, `searchNode_keeps_graded` |
| `Env.HoldsE V x Q`, `PostE` (`EnvCore.lean`) | a worker among others | `Post` of `V.I` / `V.J` / `V.A`, `Q` of the value, `V.G` of every own insert | what a worker guarantees, given a rely (`Rely V env`) |
| `Env.HoldsP V P x Q`, `PostP` (here) | the same | the same with a precondition `P` and a `Q` that sees the final state | anything proved by walking the worker's code |
| `C06.Triple P x Q` (`MateRoot.lean`) | `x.run.run st` in `M` | `Q` of value and final state at a normal return | reading a `HoldsP` fact off the sequential model |

`holdsE_iff` (with `holdsE_of_counting`) turns `HoldsP` at one invariant into `HoldsE`; `PostE.post` (`EnvCore.lean`) forgets
the log of a `PostE` and gives a `Post`; `Triple.of_holdsP` (through `HoldsP.run` and `Env.Sim`, at `Env.empty`) gives a
`Triple`.
-/
namespace Wee.Env
open Wee Wee.Search Wee.C06
open Wee.SearchCtl (childArgs entryOf InBuffer bufferOf tick Post)

/-! ## the logic -/

/-- as `PostE`, with a postcondition on value and state at a normal return; `V.I` is what holds at a panic, `V.J` at an
interrupt -/
def PostP (V : Spec) {α : Type} (Q : α → St → Prop) : Except Stop α × St × List TOp → Prop
  | (.ok r, st, l) => Q r st ∧ LogOK V.G l
  | (.error .interrupt, st, l) => V.A .interrupt ∧ V.J st ∧ LogOK V.G l
  | (.error (.panic w), st, l) => V.A (.panic w) ∧ V.I st ∧ LogOK V.G l

/-- `x`, from every state with `P` and whatever the number of earlier table operations, ends in an outcome with `PostP` -/
def HoldsP (V : Spec) {α : Type} (P : St → Prop) (x : ME α) (Q : α → St → Prop) : Prop :=
  ∀ n st, P st → PostP V Q (x n st)

/-- nothing is asked at a panic or an interrupt, nor of the inserts: what `HoldsP` then says is a triple for the normal
returns -/
def Spec.triv : Spec := { I := fun _ => True, J := fun _ => True, A := fun _ => True, G := fun _ _ => True }

/-- `P` is not disturbed by the environment's batches -/
def Stable (env : Env) (P : St → Prop) : Prop := ∀ st j, P st → P { st with tt := applyInserts st.tt (env.script j) }

section rules
variable {V : Spec} {α β : Type} {P : St → Prop}

theorem holdsE_iff {x : ME α} {Q : α → Prop} : HoldsE V x Q ↔ HoldsP V V.I x (fun r st => V.I st ∧ Q r) := by
  constructor
  · intro h n st hi
    have := h n st hi
    generalize x n st = out at this ⊢
    obtain ⟨r | r, st', l⟩ := out
    · cases r <;> exact this
    · exact ⟨⟨this.1, this.2.1⟩, this.2.2⟩
  · intro h n st hi
    have := h n st hi
    generalize x n st = out at this ⊢
    obtain ⟨r | r, st', l⟩ := out
    · cases r <;> exact this
    · exact ⟨this.1.1, this.1.2, this.2⟩

theorem holdsP_pure {Q : α → St → Prop} {a : α} (h : ∀ st, P st → Q a st) : HoldsP V P (pure a : ME α) Q :=
  fun _ st hp => ⟨h st hp, LogOK.nil⟩

theorem holdsP_panic {Q : α → St → Prop} {w : String} (h : V.A (.panic w)) (hI : ∀ st, P st → V.I st) :
    HoldsP V P (throw (.panic w) : ME α) Q := fun _ st hp => ⟨h, hI st hp, LogOK.nil⟩

theorem holdsP_conseq {x : ME α} {P' : St → Prop} {Q Q' : α → St → Prop} (h : HoldsP V P x Q)
    (hpre : ∀ st, P' st → P st) (hpost : ∀ a st, Q a st → Q' a st) : HoldsP V P' x Q' := by
  intro n st hp
  have := h n st (hpre st hp)
  generalize x n st = out at this ⊢
  obtain ⟨r | r, st', l⟩ := out
  · cases r <;> exact this
  · exact ⟨hpost _ _ this.1, this.2⟩

/-- consequence for the guarantee -/
theorem holdsP_guar {x : ME α} {Q : α → St → Prop} {G : Nat → TT.Entry → Prop} (hG : ∀ k e, V.G k e → G k e)
    (h : HoldsP V P x Q) : HoldsP { V with G := G } P x Q := by
  intro n st hp
  have := h n st hp
  generalize x n st = out at this ⊢
  obtain ⟨r, st', l⟩ := out
  cases r with
  | ok v => exact ⟨this.1, fun k e hm => hG k e (this.2 k e hm)⟩
  | error e =>
    cases e with
    | interrupt => exact ⟨this.1, this.2.1, fun k e hm => hG k e (this.2.2 k e hm)⟩
    | panic w => exact ⟨this.1, this.2.1, fun k e hm => hG k e (this.2.2 k e hm)⟩

theorem holdsP_bind {x : ME α} {f : α → ME β} {R : α → St → Prop} {Q : β → St → Prop}
    (hx : HoldsP V P x R) (hf : ∀ a, HoldsP V (R a) (f a) Q) : HoldsP V P (x >>= f) Q := by
  intro n st hp
  rw [bind_run]
  have h1 := hx n st hp
  rcases hxo : x n st with ⟨r, st', l1⟩
  rw [hxo] at h1
  cases r with
  | error e => cases e <;> exact h1
  | ok a =>
    simp only
    have h2 := hf a (n + l1.length) st' h1.1
    rcases hfo : f a (n + l1.length) st' with ⟨r2, st2, l2⟩
    rw [hfo] at h2
    cases r2 with
    | ok b => exact ⟨h2.1, h1.2.append h2.2⟩
    | error e => cases e <;> exact ⟨h2.1, h2.2.1, h1.2.append h2.2.2⟩

theorem holdsP_insert {env : Env} (hst : Stable env P) {k : Nat} {e : TT.Entry} (hG : V.G k e) :
    HoldsP V P (insertE env k e) (fun _ st' => ∃ st, P st ∧ st' = st.ctlInsert k e) := by
  intro n st hp
  rw [insertE_run]
  refine ⟨⟨_, hst st n hp, rfl⟩, fun k' e' h => ?_⟩
  simp only [List.mem_singleton, TOp.insert.injEq] at h
  obtain ⟨rfl, rfl⟩ := h
  exact hG


theorem holdsP_get : HoldsP V P (get : ME St) (fun s st' => P st' ∧ s = st') :=
  fun _ _ hp => ⟨⟨hp, rfl⟩, LogOK.nil⟩

theorem holdsP_pre {x : ME α} {Q : α → St → Prop} {φ : Prop} (hφ : ∀ st, P st → φ) (h : φ → HoldsP V P x Q) :
    HoldsP V P x Q := fun n st hp => h (hφ st hp) n st hp

theorem holdsP_liftE {x : M α} {R : α → Prop} (h : SearchCtl.RngOnly x R)
    (hrng : ∀ st r, P st → P { st with rng := r }) : HoldsP V P (liftE x) (fun v st' => P st' ∧ R v) := by
  intro n st hp
  obtain ⟨v, r, hrun, hr⟩ := h st
  rw [liftE_run, hrun]
  exact ⟨⟨hrng st r hp, hr⟩, LogOK.nil⟩

theorem holdsP_find {env : Env} (hst : Stable env P) (k : Nat) :
    HoldsP V P (findE env k) (fun r st' => P st' ∧ st'.tt.find k = r) := by
  intro n st hp
  rw [findE_run]
  exact ⟨⟨hst st n hp, rfl⟩, fun _ _ h => by simp at h⟩

/-- a node counts: what holds from every state with at least `n` counted nodes, ending with more than `n`, holds in
the logic without a count -/
theorem holdsE_of_counting {x : ME α} {Q : α → Prop}
    (h : ∀ n, HoldsP V (fun st => V.I st ∧ n ≤ st.nodes) x (fun r st' => (V.I st' ∧ n < st'.nodes) ∧ Q r)) :
    HoldsE V x Q :=
  holdsE_iff.2 fun k st hi => by
    have := h st.nodes k st ⟨hi, Nat.le_refl _⟩
    generalize x k st = out at this ⊢
    obtain ⟨r | r, st', l⟩ := out
    · cases r <;> exact this
    · exact ⟨⟨this.1.1.1, this.1.2⟩, this.2⟩

end rules

/-! ## a run of the move loop, of the node after the probe, of the node -/

/-- what a run of the move loop from a state with `P f` ends in: `P f` holds of the state before the loop (`f = false`)
and after a child has run (`f = true`); a cut-off by `m` ends with the store of its `LowerBound` entry -/
def LoopRun (P : Bool → St → Prop) (C : Move → State → Eval → Eval → Prop) (a : NodeArgs) (hash : UInt64)
    (l : List Move) (alpha : Eval) (best : Option Move) (kind : Nat) (f : Bool) :
    Except Eval (Eval × Option Move × Nat) → St → Prop
  | .error r, st' => r = a.beta ∧ ∃ m st, P true st ∧ st' = st.ctlInsert hash.toNat (entryOf a kindLower m a.beta) ∧
      Loop a.s a.beta C l alpha best kind (.cut m)
  | .ok (alpha', best', kind'), st' => Loop a.s a.beta C l alpha best kind (.done alpha' best' kind') ∧
      ∃ f', P f' st' ∧ (f' = false → f = false ∧ ∀ mv ∈ l, tryAsLegal a.s mv = some Option.none)

/-- **a run of the move loop is a `Loop`**, with the flag "a child has run".
* `P f`: the invariant before (`f = false`) and after (`f = true`) a child has run; `hst`: the environment does not disturb
  it (asked where the loop itself touches the table: before the store of a cut-off); `hI`: it implies what must hold at a
  panic;
* `Wn`, `hW`: what is known of the running `alpha`, kept when it is raised; the children and `hG` may use it;
* `hG`: the `LowerBound` entry of a cut-off satisfies the guarantee;
* per buffer move: the panic of `try_as_legal_move` is allowed; the child after an accepted move keeps `P`, establishes
  `P true` and returns a value with `C`. -/
theorem childLoopE_loopP {V : Spec} {env : Env} {P : Bool → St → Prop} {C : Move → State → Eval → Eval → Prop}
    {Wn : Eval → Prop} (hst : Stable env (P true)) (hI : ∀ f st, P f st → V.I st) (ctx : Ctx)
    (child : NodeArgs → ME Eval) (a : NodeArgs) (hash : UInt64)
    (hW : ∀ α v, Wn α → α < -v → -v < a.beta → Wn (-v))
    (hG : ∀ m next α v, Wn α → C m next α v → a.beta ≤ -v → V.G hash.toNat (entryOf a kindLower m a.beta)) :
    ∀ (l : List Move) (alpha : Eval) (best : Option Move) (kind : Nat) (f : Bool), Wn alpha →
      (∀ mv ∈ l, tryAsLegal a.s mv = Option.none → V.A (.panic "try_as_legal_move: by_performing_move(..).unwrap()")) →
      (∀ mv ∈ l, ∀ m next, tryAsLegal a.s mv = some (some (m, next)) → ∀ α f, Wn α →
        HoldsP V (P f) (child (childArgs a next α)) (fun v st' => P true st' ∧ C m next α v)) →
      HoldsP V (P f) (childLoopE env ctx child a hash l alpha best kind) (LoopRun P C a hash l alpha best kind f) := by
  intro l
  induction l with
  | nil =>
    intro alpha best kind f _ _ _
    rw [childLoopE]
    exact holdsP_pure fun st hp => ⟨.nil, f, hp, fun h => ⟨h, fun _ h => nomatch h⟩⟩
  | cons mv rest ih =>
    intro alpha best kind f hab hpanic hchild
    have ih' := fun α b k f h => ih α b k f h (fun mv' h' => hpanic mv' (List.mem_cons_of_mem _ h'))
      fun mv' h' => hchild mv' (List.mem_cons_of_mem _ h')
    have hgo : ∀ {α₁ b₁ k₁ f₁}, Wn α₁ →
        (∀ o, Loop a.s a.beta C rest α₁ b₁ k₁ o → Loop a.s a.beta C (mv :: rest) alpha best kind o) →
        (f₁ = false → f = false ∧ tryAsLegal a.s mv = some Option.none) →
        HoldsP V (P f₁) (childLoopE env ctx child a hash rest α₁ b₁ k₁)
          (LoopRun P C a hash (mv :: rest) alpha best kind f) := by
      intro α₁ b₁ k₁ f₁ h step hf
      refine holdsP_conseq (ih' α₁ b₁ k₁ f₁ h) (fun _ h => h) ?_
      rintro (r | ⟨alpha', best', kind'⟩) st' hp
      · obtain ⟨h1, m, st, h2, h3, h4⟩ := hp
        exact ⟨h1, m, st, h2, h3, step _ h4⟩
      · obtain ⟨h1, f', h2, h3⟩ := hp
        refine ⟨step _ h1, f', h2, fun hf' => ?_⟩
        obtain ⟨q1, q2⟩ := h3 hf'
        obtain ⟨q3, q4⟩ := hf q1
        exact ⟨q3, fun mv' h' => (List.mem_cons.1 h').elim (fun e => e ▸ q4) (q2 mv')⟩
    rw [childLoopE]
    cases ht : tryAsLegal a.s mv with
    | none => exact holdsP_panic (hpanic mv List.mem_cons_self ht) (hI f)
    | some o =>
      cases o with
      | none => exact hgo hab (fun _ h => .skip ht h) fun h => ⟨h, ht⟩
      | some mn =>
        obtain ⟨m, next⟩ := mn
        simp only
        refine holdsP_bind (hchild mv List.mem_cons_self m next ht alpha f hab) fun v => ?_
        by_cases c1 : -v ≥ a.beta
        · rw [if_pos c1]
          refine holdsP_bind (R := fun _ st' => ∃ st, P true st ∧ C m next alpha v ∧
              st' = st.ctlInsert hash.toNat (entryOf a kindLower m a.beta)) ?_ fun _ =>
            holdsP_pure fun st' ⟨st, h1, h2, h3⟩ => ⟨rfl, m, st, h1, h3, .cut ht h2 c1⟩
          intro n st hp
          have := holdsP_insert (V := V) hst (hG m next alpha v hab hp.2 c1) n st hp.1
          rw [insertE_run] at this ⊢
          exact ⟨⟨_, this.1.choose_spec.1, hp.2, this.1.choose_spec.2⟩, this.2⟩
        · rw [if_neg c1]
          by_cases c2 : -v > alpha
          · rw [if_pos c2]
            refine holdsP_conseq (P := fun st => P true st ∧ C m next alpha v) ?_ (fun _ h => h) fun _ _ h => h
            intro n st hp
            exact hgo (f₁ := true) (hW _ _ hab c2 (by eomega)) (fun _ h => .raise ht hp.2 (by eomega) c2 h) (fun h => nomatch h) n st hp.1
          · rw [if_neg c2]
            intro n st hp
            exact hgo (f₁ := true) hab (fun _ h => .keep ht hp.2 (by eomega) (by eomega) h) (fun h => nomatch h) n st hp.1

/-- over a buffer none of whose moves is legal the loop changes nothing -/
theorem childLoopE_illegal {V : Spec} {P : St → Prop} (env : Env) (ctx : Ctx) (child : NodeArgs → ME Eval) (a : NodeArgs)
    (hash : UInt64) : ∀ (l : List Move) (alpha : Eval) (best : Option Move) (kind : Nat),
      (∀ mv ∈ l, tryAsLegal a.s mv = some Option.none) →
      HoldsP V P (childLoopE env ctx child a hash l alpha best kind)
        (fun res st' => res = .ok (alpha, best, kind) ∧ P st') := by
  intro l
  induction l with
  | nil => intro α b k _; rw [childLoopE]; exact holdsP_pure fun st hp => ⟨rfl, hp⟩
  | cons mv rest ih =>
    intro α b k h
    rw [childLoopE, h mv List.mem_cons_self]
    exact ih α b k fun mv' h' => h mv' (List.mem_cons_of_mem _ h')

/-- **a run of the worker's node after the probe (remaining depth > 0) is a `TailOut`.**
* `P`, `hst`, `hI`, `hrng`: the invariant; the environment and the move ordering do not disturb it; it implies what must
  hold at a panic;
* `Wn`, `hab`, `hW`: what is known of `alpha`, at the start and when it is raised;
* `heval`, `hlegal`: the two panics of this part of the node are allowed;
* `hchild`: a child keeps `P`, counts a node and returns a value with `C`;
* `hG`, `hins`: the guarantee for the store of a cut-off, and what the store of an entry `e` — known through the `TailOut`
  it ends — makes of `P`: `Q r e`, and the guarantee.
The postcondition: the buffer (the pseudo-legal moves and the prioritized one, in some order), the `TailOut`, and `P` or
`Q` of the final state according to whether an entry was stored. -/
theorem tailE_outP {V : Spec} {env : Env} {P : St → Prop} {Q : Eval → TT.Entry → St → Prop}
    {C : Move → State → Eval → Eval → Prop} {Wn : Eval → Prop} (hst : Stable env P) (hI : ∀ st, P st → V.I st)
    (ctx : Ctx) (a : NodeArgs) (hash : UInt64) (alpha beta : Eval) (hab : Wn alpha) (child : NodeArgs → ME Eval)
    {ps : List Move} (hps : pseudoLegalMoves a.s = some ps) (n : Nat)
    (hW : ∀ α v, Wn α → α < -v → -v < beta → Wn (-v))
    (heval : evaluate a.s a.s.turn a.curDepth = Option.none → V.A (.panic "evaluate: no king"))
    (hlegal : ∀ mv, InBuffer a ps mv → tryAsLegal a.s mv = Option.none →
      V.A (.panic "try_as_legal_move: by_performing_move(..).unwrap()"))
    (hrng : ∀ st r, P st → P { st with rng := r })
    (hchild : ∀ mv, InBuffer a ps mv → ∀ m next, tryAsLegal a.s mv = some (some (m, next)) → ∀ α k, Wn α →
      HoldsP V (fun st => P st ∧ k ≤ st.nodes) (child (childArgs { a with alpha := alpha, beta := beta } next α))
        (fun v st' => (P st' ∧ k < st'.nodes) ∧ C m next α v))
    (hG : ∀ m next α v, Wn α → C m next α v → beta ≤ -v → V.G hash.toNat (entryOf a kindLower m beta))
    (hins : ∀ buf r e st, (∀ mv, mv ∈ buf ↔ InBuffer a ps mv) → TailOut a C buf alpha beta r (some e) → P st →
      n ≤ st.nodes → Q r e (st.ctlInsert hash.toNat e) ∧ V.G hash.toNat e) :
    HoldsP V (fun st => P st ∧ n ≤ st.nodes) (tailE env ctx a hash alpha beta (some child))
      (fun r st' => ∃ buf, (∀ mv, mv ∈ buf ↔ InBuffer a ps mv) ∧
        ((TailOut a C buf alpha beta r Option.none ∧ P st' ∧ n ≤ st'.nodes) ∨
          ∃ e, TailOut a C buf alpha beta r (some e) ∧ Q r e st')) := by
  unfold tailE
  rw [hps]
  simp only
  refine holdsP_bind (holdsP_liftE (SearchCtl.sort_rngOnly a.s ps)
    fun st r (hi : P st ∧ n ≤ st.nodes) => ⟨hrng st r hi.1, hi.2⟩) fun sorted => ?_
  refine holdsP_pre (φ := sorted.Perm ps) (fun _ hp => hp.2) fun hperm => ?_
  refine holdsP_bind (R := fun st0 st' => (P st' ∧ n ≤ st'.nodes) ∧ st'.nodes = st0.nodes)
    (holdsP_conseq holdsP_get (fun _ h => h.1) fun _ _ h => ⟨h.1, by rw [h.2]⟩) fun st0 => ?_
  refine holdsP_pre (φ := n ≤ st0.nodes) (fun st hp => by have := hp.1.2; have := hp.2; omega) fun hn0 => ?_
  have hbuf : ∀ mv, mv ∈ (bufferOf a.prioritized sorted).reverse ↔ InBuffer a ps mv :=
    fun mv => (mem_buffer _ _ _).trans (or_congr hperm.mem_iff Iff.rfl)
  have hstab : ∀ f, Stable env (fun st => P st ∧ st0.nodes ≤ st.nodes ∧ (f = true → st0.nodes < st.nodes)) :=
    fun f st j hp => ⟨hst st j hp.1, hp.2⟩
  by_cases hall : ∀ mv ∈ (bufferOf a.prioritized sorted).reverse, tryAsLegal a.s mv = some Option.none
  · refine holdsP_bind (childLoopE_illegal env ctx child { a with alpha := alpha, beta := beta } hash _ alpha
      Option.none kindUpper hall) fun res => ?_
    refine holdsP_pre (φ := res = .ok (alpha, Option.none, kindUpper)) (fun _ hp => hp.1) fun hres => ?_
    subst hres
    simp only
    refine holdsP_bind (R := fun st1 st' => ((P st' ∧ n ≤ st'.nodes) ∧ st'.nodes = st0.nodes) ∧ st'.nodes = st1.nodes)
      (holdsP_conseq holdsP_get (fun _ h => h.2) fun _ _ h => ⟨h.1, by rw [h.2]⟩) fun st1 => ?_
    refine holdsP_pre (φ := st1.nodes = st0.nodes) (fun st hp => by rw [← hp.2, hp.1.2]) fun hn => ?_
    rw [if_pos (by rw [hn]; exact beq_self_eq_true _)]
    cases he : evaluate a.s a.s.turn a.curDepth with
    | none => exact holdsP_bind (R := fun _ _ => False) (holdsP_panic (heval he) fun st hp => hI st hp.1.1.1) fun _ _ _ h => h.elim
    | some e =>
      simp only
      exact holdsP_pure fun st hp => ⟨_, hbuf, Or.inl ⟨.static hall he, hp.1.1.1, hp.1.1.2⟩⟩
  · refine holdsP_bind (holdsP_conseq (childLoopE_loopP (V := V) (env := env) (Wn := Wn)
      (P := fun f st => P st ∧ st0.nodes ≤ st.nodes ∧ (f = true → st0.nodes < st.nodes)) (C := C) (hstab true)
      (fun _ st hp => hI st hp.1) ctx child { a with alpha := alpha, beta := beta } hash hW hG
      (bufferOf a.prioritized sorted).reverse alpha Option.none kindUpper false hab
      (fun mv hmv ht => hlegal mv ((hbuf mv).1 hmv) ht)
      fun mv hmv m next ht α f hα =>
        holdsP_conseq (hchild mv ((hbuf mv).1 hmv) m next ht α st0.nodes hα) (fun st hp => ⟨hp.1, hp.2.1⟩)
          fun v st' hp => ⟨⟨hp.1.1, Nat.le_of_lt hp.1.2, fun _ => hp.1.2⟩, hp.2⟩)
      (fun st hp => ⟨hp.1.1, by rw [hp.2]; exact Nat.le_refl _, fun h => nomatch h⟩) fun _ _ h => h) fun res => ?_
    rcases res with b | ⟨alpha', best, kind⟩
    · refine holdsP_pure fun st hp => ?_
      obtain ⟨rfl, m, st2, hp2, rfl, hl⟩ := hp
      exact ⟨_, hbuf, Or.inr ⟨_, .cutoff hl, (hins _ _ _ st2 hbuf (.cutoff hl) hp2.1 (by have := hp2.2.1; omega)).1⟩⟩
    · simp only
      refine holdsP_pre (φ := Loop a.s beta C (bufferOf a.prioritized sorted).reverse alpha Option.none kindUpper
        (.done alpha' best kind)) (fun _ hp => hp.1) fun hl => ?_
      refine holdsP_bind (R := fun st1 st' => (P st' ∧ st0.nodes < st'.nodes) ∧ st'.nodes = st1.nodes)
        (holdsP_conseq holdsP_get (fun _ h => h) fun st1 st' hp => ?_) fun st1 => ?_
      · obtain ⟨⟨_, f', hp', hf'⟩, rfl⟩ := hp
        cases f' with
        | true => exact ⟨⟨hp'.1, hp'.2.2 rfl⟩, rfl⟩
        | false => exact absurd (hf' rfl).2 hall
      refine holdsP_pre (φ := st0.nodes < st1.nodes) (fun st hp => by rw [← hp.2]; exact hp.1.2) fun hlt => ?_
      rw [if_neg (by intro h; have := beq_iff_eq.1 h; omega)]
      cases best with
      | none => exact holdsP_pure fun st hp => ⟨_, hbuf, Or.inl ⟨.kept hall hl, hp.1.1, by have := hp.1.2; omega⟩⟩
      | some mm =>
        simp only
        refine holdsP_bind (R := fun _ st' => ∃ e, TailOut a C (bufferOf a.prioritized sorted).reverse alpha beta alpha'
            (some e) ∧ Q alpha' e st') ?_ fun _ => holdsP_pure fun _ hp => ⟨_, hbuf, Or.inr hp⟩
        intro k st hp
        have hG' := fun st2 (h2 : P st2 ∧ n ≤ st2.nodes) => hins _ _ _ st2 hbuf (.stored hall hl) h2.1 h2.2
        have := holdsP_insert (V := V) (P := fun st => P st ∧ n ≤ st.nodes) (fun st j hp => ⟨hst st j hp.1, hp.2⟩)
          (hG' st ⟨hp.1.1, by have := hp.1.2; omega⟩).2 k st ⟨hp.1.1, by have := hp.1.2; omega⟩
        rw [insertE_run] at this ⊢
        obtain ⟨⟨st2, h2, h3⟩, h4⟩ := this
        exact ⟨⟨_, .stored hall hl, h3 ▸ (hG' st2 h2).1⟩, h4⟩

/-- the places where a node can panic, each with the outcome it throws: what `V.A` has to allow.  `P0` is what holds of the
state the probe reads; `rec` is the recursive call as `nodeBodyE` takes it: `none` at remaining depth `0` (the node ends in
quiescence), `some child` for an interior node. -/
structure Sites (V : Spec) (ctx : Ctx) (a : NodeArgs) (rec : Option (NodeArgs → ME Eval)) (P0 : St → Prop) : Prop where
  under : ∀ found, (∃ st, P0 st ∧ st.tt.find (hash ctx.keys a.s).toNat = found) → SearchCtl.probe a found = .underflow →
    V.A (.panic "usize subtraction underflow")
  leaf : rec = Option.none → ∀ α β e, quiesce evaluate (quiesceFuel a.s) a.s a.curDepth α β = .error e → V.A e
  pseudo : rec ≠ Option.none → pseudoLegalMoves a.s = Option.none →
    V.A (.panic "move generation: Square::offset(..).unwrap()")
  eval : rec ≠ Option.none → evaluate a.s a.s.turn a.curDepth = Option.none → V.A (.panic "evaluate: no king")
  legal : rec ≠ Option.none → ∀ ps mv, pseudoLegalMoves a.s = some ps → InBuffer a ps mv → tryAsLegal a.s mv = Option.none →
    V.A (.panic "try_as_legal_move: by_performing_move(..).unwrap()")

theorem Sites.ofAll {V : Spec} {ctx : Ctx} {a : NodeArgs} {rec : Option (NodeArgs → ME Eval)} {P0 : St → Prop}
    (hA : ∀ e, V.A e) : Sites V ctx a rec P0 :=
  ⟨fun _ _ _ => hA _, fun _ _ _ _ _ => hA _, fun _ _ => hA _, fun _ _ => hA _, fun _ _ _ _ _ _ => hA _⟩

/-- what is known of the windows `(α, β)` a node works with: `Wn` holds of the window the probe leaves, given that the
entry it found was read from a state with `P0`, and is kept when `alpha` is raised.  `Window.lt`: the windows are open,
given that the node's own is; `Window.any`: nothing is asked. -/
structure Window (ctx : Ctx) (a : NodeArgs) (P0 : St → Prop) (Wn : Eval → Eval → Prop) : Prop where
  probe : ∀ found α β, (∃ st, P0 st ∧ st.tt.find (hash ctx.keys a.s).toNat = found) →
    SearchCtl.probe a found = .window α β → Wn α β
  raise : ∀ β α v, Wn α β → α < -v → -v < β → Wn (-v) β

theorem Window.lt {ctx : Ctx} {a : NodeArgs} {P0 : St → Prop} (hab : a.alpha < a.beta) :
    Window ctx a P0 (fun α β => α < β) :=
  ⟨fun _ _ _ _ hpr => by
    rcases probe_window hpr with ⟨rfl, rfl, _⟩ | ⟨_, _, _, _, h, _⟩
    · exact hab
    · exact h, fun _ _ _ _ _ h => h⟩

theorem Window.any {ctx : Ctx} {a : NodeArgs} {P0 : St → Prop} : Window ctx a P0 (fun _ _ => True) :=
  ⟨fun _ _ _ _ _ => trivial, fun _ _ _ _ _ _ => trivial⟩

section node
variable {V : Spec} {env : Env} {P0 P : St → Prop} {Q : Eval → TT.Entry → St → Prop}
  {C : Eval → Move → State → Eval → Eval → Prop} {Wn : Eval → Eval → Prop} (hst0 : Stable env P0) (hP0 : ∀ st, P0 st → P st)
  (hst : Stable env P) (hI : ∀ st, P st → V.I st)
  (ctx : Ctx) (a : NodeArgs) (rec : Option (NodeArgs → ME Eval)) (hS : Sites V ctx a rec P0) (hW : Window ctx a P0 Wn)
  (hnh : ¬ (0 < a.curDepth ∧ ctx.history.contains (hash ctx.keys a.s) = true))
  (hrng : ∀ st r, P st → P { st with rng := r })
  (hchild : ∀ child, rec = some child → ∀ ps, pseudoLegalMoves a.s = some ps → ∀ alpha beta mv, InBuffer a ps mv →
    ∀ m next, tryAsLegal a.s mv = some (some (m, next)) → ∀ α k, Wn α beta →
      HoldsP V (fun st => P st ∧ k ≤ st.nodes) (child (childArgs { a with alpha := alpha, beta := beta } next α))
        (fun v st' => (P st' ∧ k < st'.nodes) ∧ C beta m next α v))
  (hG : rec ≠ Option.none → ∀ beta m next α v, Wn α beta → C beta m next α v → beta ≤ -v →
    V.G (hash ctx.keys a.s).toNat (entryOf a kindLower m beta))
  (hins : rec ≠ Option.none → ∀ ps alpha beta buf r e st, pseudoLegalMoves a.s = some ps →
    (∀ mv, mv ∈ buf ↔ InBuffer a ps mv) → Wn alpha beta → TailOut a (C beta) buf alpha beta r (some e) → P st →
      Q r e (st.ctlInsert (hash ctx.keys a.s).toNat e) ∧ V.G (hash ctx.keys a.s).toNat e)
include hst0 hP0 hst hI hS hW hnh hrng hchild hG hins

/-- a run of the node from its table probe on; `P0` is what holds of the state the probe reads, and still holds when the
probe answers -/
theorem probeE_outP (n : Nat) :
    HoldsP V (fun st => P0 st ∧ n ≤ st.nodes) (probeE env ctx a (hash ctx.keys a.s) rec)
      (fun r st' => n ≤ st'.nodes ∧ ∃ found stored, (∃ st, P0 st ∧ st.tt.find (hash ctx.keys a.s).toNat = found) ∧
        NodeOut ctx a rec.isSome C found r stored ∧ (∀ v, SearchCtl.probe a found = .cut v → P0 st') ∧
        (stored = Option.none → P st') ∧ ∀ e, stored = some e → Q r e st') := by
  unfold probeE
  refine holdsP_bind (holdsP_find (P := fun st => P0 st ∧ n ≤ st.nodes) (fun st j hp => ⟨hst0 st j hp.1, hp.2⟩) _)
    fun found => ?_
  refine holdsP_pre (φ := ∃ st, P0 st ∧ st.tt.find (hash ctx.keys a.s).toNat = found)
    (fun st hp => ⟨st, hp.1.1, hp.2⟩) fun hf => ?_
  rw [probeK_eq]
  cases hpr : SearchCtl.probe a found with
  | underflow => exact holdsP_panic (hS.under found hf hpr) fun st hp => hI st (hP0 st hp.1.1)
  | cut v =>
    exact holdsP_pure fun st hp => ⟨hp.1.2, found, Option.none, hf, .hit hnh hpr, fun _ _ => hp.1.1,
      fun _ => hP0 st hp.1.1, fun _ h => nomatch h⟩
  | window alpha beta =>
    have hlt : Wn alpha beta := hW.probe found alpha beta hf hpr
    have hnc : ∀ v, SearchCtl.probe a found ≠ .cut v := fun v h => by rw [hpr] at h; cases h
    refine holdsP_conseq (P := fun st => P st ∧ n ≤ st.nodes) ?_ (fun st hp => ⟨hP0 st hp.1.1, hp.1.2⟩) fun _ _ h => h
    cases rec with
    | none =>
      simp only [tailE]
      cases hq : quiesce evaluate (quiesceFuel a.s) a.s a.curDepth alpha beta with
      | error e =>
        have hAe := hS.leaf rfl _ _ _ hq
        obtain ⟨w, rfl⟩ := SearchCtl.quiesce_error_panic _ _ _ _ _ _ _ hq
        exact holdsP_panic hAe fun st hp => hI st hp.1
      | ok v =>
        exact holdsP_pure fun st hp => ⟨hp.2, found, Option.none, hf, .leaf hnh rfl hpr hq,
          fun v h => absurd h (hnc v), fun _ => hp.1, fun _ h => nomatch h⟩
    | some child =>
      cases hps : pseudoLegalMoves a.s with
      | none =>
        simp only [tailE, hps]
        exact holdsP_panic (hS.pseudo (fun h => nomatch h) hps) fun st hp => hI st hp.1
      | some ps =>
        refine holdsP_conseq (tailE_outP (Q := fun r e st' => Q r e st' ∧ n ≤ st'.nodes) (Wn := fun α => Wn α beta) hst hI ctx a _
          alpha beta hlt child hps n (hW.raise beta) (hS.eval fun h => nomatch h) (hS.legal (fun h => nomatch h) ps · hps) hrng
          (hchild child rfl ps hps alpha beta) (hG (fun h => nomatch h) beta)
          fun buf r e st hbuf hout hp hn => ?_) (fun _ h => h) ?_
        · obtain ⟨h1, h2⟩ := hins (fun h => nomatch h) ps alpha beta buf r e st hps hbuf hlt hout hp
          exact ⟨⟨h1, hn⟩, h2⟩
        · rintro r st' ⟨buf, hbuf, ⟨hout, hp, hn⟩ | ⟨e, hout, hq, hn⟩⟩
          · exact ⟨hn, found, _, hf, .tail hnh rfl hpr hps hbuf hout, fun v h => absurd h (hnc v), fun _ => hp,
              fun _ h => nomatch h⟩
          · exact ⟨hn, found, _, hf, .tail hnh rfl hpr hps hbuf hout, fun v h => absurd h (hnc v),
              fun h => (nomatch h), fun _ h => by cases h; exact hq⟩

end node

/-- **a run of a node is a `NodeOut`.**
* `P0`, `hst0`, `htick`: what holds of the state the node starts in; the environment does not disturb it and the node entry
  keeps it (`SearchCtl.tick_post` for a `P0` that does not look at the counters; `htick` also allows the interrupt), so it
  holds of the state the probe reads — and of the final state when the probe answers;
* `P`, `hP0`, `hst`, `hI`, `hrng`: what `P0` implies and the part of the node after the probe keeps (the children may
  displace what `P0` said of one key: `MateRoot.lean`);
* `hS`, `hW`: the allowed panics (`Sites`) and what is known of the windows (`Window`);
* `hnode`, for a node that is not cut by the history: the children (`C beta` is what is known of a child's value when the
  upper window bound is `beta`), the guarantee for the store of a cut-off, and what a store makes of `P` (`Q`), as in
  `tailE_outP`.
The postcondition: the node has counted a node; the entry `found` was read from a state with `P0`; the `NodeOut`; and `P0`,
`P` or `Q` of the final state according to what the node did. -/
theorem nodeE_outP {V : Spec} {env : Env} {P0 P : St → Prop} {Q : Eval → TT.Entry → St → Prop}
    {C : Eval → Move → State → Eval → Eval → Prop} {Wn : Eval → Eval → Prop} (hst0 : Stable env P0)
    (hP0 : ∀ st, P0 st → P st) (hst : Stable env P) (hI : ∀ st, P st → V.I st) (ctx : Ctx)
    (a : NodeArgs) (rec : Option (NodeArgs → ME Eval)) (hS : Sites V ctx a rec P0) (hW : Window ctx a P0 Wn)
    (htick : ∀ st, P0 st → Post P0 V.J V.A (tick ctx st))
    (hrng : ∀ st r, P st → P { st with rng := r })
    (hnode : ¬ (0 < a.curDepth ∧ ctx.history.contains (hash ctx.keys a.s) = true) →
      (∀ child, rec = some child → ∀ ps, pseudoLegalMoves a.s = some ps → ∀ alpha beta mv, InBuffer a ps mv →
        ∀ m next, tryAsLegal a.s mv = some (some (m, next)) → ∀ α k, Wn α beta →
          HoldsP V (fun st => P st ∧ k ≤ st.nodes) (child (childArgs { a with alpha := alpha, beta := beta } next α))
            (fun v st' => (P st' ∧ k < st'.nodes) ∧ C beta m next α v)) ∧
      (rec ≠ Option.none → ∀ beta m next α v, Wn α beta → C beta m next α v → beta ≤ -v →
        V.G (hash ctx.keys a.s).toNat (entryOf a kindLower m beta)) ∧
      (rec ≠ Option.none → ∀ ps alpha beta buf r e st, pseudoLegalMoves a.s = some ps →
        (∀ mv, mv ∈ buf ↔ InBuffer a ps mv) → Wn alpha beta → TailOut a (C beta) buf alpha beta r (some e) → P st →
          Q r e (st.ctlInsert (hash ctx.keys a.s).toNat e) ∧ V.G (hash ctx.keys a.s).toNat e)) (n : Nat) :
    HoldsP V (fun st => P0 st ∧ n ≤ st.nodes) (nodeBodyE env ctx rec a)
      (fun r st' => n < st'.nodes ∧ ∃ found stored, (∃ st, P0 st ∧ st.tt.find (hash ctx.keys a.s).toNat = found) ∧
        NodeOut ctx a rec.isSome C found r stored ∧ (∀ v, SearchCtl.probe a found = .cut v → P0 st') ∧
        (stored = Option.none → P st') ∧ ∀ e, stored = some e → Q r e st') := by
  intro k st hp
  rw [nodeBodyE_run]
  obtain ⟨polls, ht⟩ := SearchCtl.tick_state ctx st
  have hp1 := htick st hp.1
  generalize SearchCtl.tick ctx st = out at ht hp1 ⊢
  obtain ⟨r1, st1⟩ := out
  simp only at ht
  subst ht
  cases r1 with
  | error e =>
    cases e with
    | interrupt => exact ⟨hp1.1, hp1.2, LogOK.nil⟩
    | panic w => exact ⟨hp1.1, hI _ (hP0 _ hp1.2), LogOK.nil⟩
  | ok u =>
    simp only
    by_cases hc : (decide (a.curDepth > 0) && ctx.history.contains (hash ctx.keys a.s)) = true
    · rw [if_pos hc]
      rw [Bool.and_eq_true, decide_eq_true_eq] at hc
      exact ⟨⟨Nat.lt_succ_of_le hp.2, _, Option.none, ⟨_, hp1, rfl⟩, .hist hc.1 hc.2, fun _ _ => hp1, fun _ => hP0 _ hp1,
        fun _ h => nomatch h⟩, LogOK.nil⟩
    · rw [if_neg hc]
      have hnh : ¬ (0 < a.curDepth ∧ ctx.history.contains (hash ctx.keys a.s) = true) :=
        fun h => hc (by rw [Bool.and_eq_true, decide_eq_true_eq]; exact h)
      obtain ⟨h1, h2, h3⟩ := hnode hnh
      exact holdsP_conseq (probeE_outP hst0 hP0 hst hI ctx a rec hS hW hnh hrng h1 h2 h3 (n + 1)) (fun _ h => h)
        (fun _ _ h => ⟨h.1, h.2⟩) k _ ⟨hp1, Nat.succ_le_succ hp.2⟩

/-! ## the empty environment -/

/-- what the logic shows of a computation that runs like `y` in the empty environment (`Sim`: `searchNodeE_empty`) holds
of the runs of `y` in the sequential model -/
theorem HoldsP.run {α : Type} {V : Spec} {P : St → Prop} {Q : α → St → Prop} {x : ME α} {y : M α}
    (h : HoldsP V P x Q) (hs : Sim x y) {st st' : St} (hp : P st) {r : α} (he : y.run.run st = (.ok r, st')) :
    Q r st' := by
  have := h 0 st hp
  have e := hs 0 st
  rw [he] at e
  generalize x 0 st = out at this e
  obtain ⟨r1, st1, l⟩ := out
  cases e
  exact this.1

end Wee.Env
