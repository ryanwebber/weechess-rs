import Wee.Gen.IterateFns
import Wee.Proofs.SearchIterBridge
import Wee.Proofs.GenMovesBridge
import Wee.Proofs.CoreFnsBridge
import Wee.Proofs.TTFnsBridge
/-!
# Stage 6: the frame of `Searcher::analyze_iterative` (generated `Wee/Gen/IterateFns.lean`) refines the model's `iterate`

Set-up (`previous_artifact` or a fresh artifact, root hash, history increment, the F2 limit rule), the loop
(`Searcher.analyze_iterative.loop_refines_init`, `SearchIterBridge.lean`) and the tail (saturation warning, returned artifact).

Hypotheses that stay hypotheses, by name:
* `hstep` / `hwalk` (`Inv`, `WalkOK`): the invariant of the model's loop states that `SearchIterBridge.lean` asks for (stored moves lead to representable states);
* `hsat : Iter5SatAgree tt` for the table the loop leaves: the code compares the f32 quotient `entries as f32 / max_entries as f32`
  with `0.5`, the model compares `entries * 2 > maxEntries` exactly.  The two agree when both counts are below 2^24 (not proved here) and can
  disagree above (entries = 2^24 + 1, maxEntries = 2^25); the real table has 128 * 26214 * 8 > 2^24 slots, so the agreement is carried.
* the fresh case names the drawn key table `kr` (`hkr : KeyTable.ofRng rng0 = kr`) and carries its two sizes (see `…_refines_fresh`).
Not covered: `max_depth = None` (the loop theorem needs `max_depth + 90 < 2^31`).
-/
namespace Wee
namespace GenFns
open Wee.Search Wee.SearchCtl

/-! ## run equations of `Iter5M` -/

theorem iter5_bind {α β : Type} (x : Iter5M α) (f : α → Iter5M β) (c : Iter5Cells) :
    (x >>= f) c = match x c with | (.ok a, c') => f a c' | (.error e, c') => (.error e, c') := rfl
theorem iter5_pure_bind {α β : Type} (a : α) (f : α → Iter5M β) (c : Iter5Cells) : ((pure a : Iter5M α) >>= f) c = f a c := rfl
theorem iter5_pure {α : Type} (a : α) (c : Iter5Cells) : (pure a : Iter5M α) c = (.ok a, c) := rfl
theorem iter5_liftP_some_bind {α β : Type} (a : α) (f : α → Iter5M β) (c : Iter5Cells) :
    (Iter5M.liftP (some a) >>= f) c = f a c := rfl
theorem iter5_liftP_none_bind {α β : Type} (f : α → Iter5M β) (c : Iter5Cells) :
    (Iter5M.liftP (none : Panics α) >>= f) c = (.error .panic, c) := rfl
theorem iter5_liftP_some {α : Type} (a : α) (c : Iter5Cells) : (Iter5M.liftP (some a)) c = (.ok a, c) := rfl

/-! ## representation -/

/-- a call of the callback, read as the model's event (the text of the warning is not modelled) -/
def iter5EventOf : Iter5Event → Event
  | .Status e => eventOf e
  | .Warning _ _ _ => .warning

/-- the returned `SearchArtifact` represents the model's `Artifact` -/
structure Iter5ArtRep (a : Iter5SearchArtifact) (m : Artifact) : Prop where
  hasher : a.f_hasher = zobristOf m.keys
  tt : accessOf a.f_transpositions = m.tt
  wf : AccessWF a.f_transpositions
  history : HistRep a.f_state_history m.history

/-- the code's f32 comparison `saturation() > 0.5` agrees with the model's exact `entries * 2 > maxEntries` on this table -/
def Iter5SatAgree (tt : TT.Access) : Prop :=
  (Wee.F32.div (Wee.F32.ofInt (tt.entries : Int)) (Wee.F32.ofInt (tt.maxEntries : Int)) > (1 : Rat) / 2) ↔ tt.entries * 2 > tt.maxEntries

/-- the final loop state of the model's `iterate` for a depth limit: `SearchCtl.iterFinal root rng0 (some lim) art workersOf cancelAt fuel`
for every `fuel`, by `rfl` (the model-side equations are `SearchCtl.iterate_eq`, `iterFinal_nil`, `iterFinal_of_moves`) -/
def iter5Final (root : Wee.State) (rng0 : Rng.ChaCha8) (lim : Nat) (art : Artifact) (workersOf : Nat → Nat) (cancelAt : Option Nat) : IterSt :=
  iterLoop { keys := art.keys.keys, history := Wee.hash art.keys.keys root :: art.history, cancelAt := cancelAt } root (Wee.hash art.keys.keys root) workersOf
    (if (legalMoves root).isEmpty then 0 else lim) 0
    { tt := art.tt, rng := rng0, events := [], nodes := 0, bestEval := Ev.negInf, bestMv := Option.none, polls := 0 }

theorem iter5_iterate_some (root : Wee.State) (rng0 : Rng.ChaCha8) (d : Nat) (art : Artifact) (workersOf : Nat → Nat) (cancelAt : Option Nat) (fuel : Nat) :
    iterate root rng0 (some d) art workersOf cancelAt fuel =
      { events := if (iter5Final root rng0 d art workersOf cancelAt).panic.isNone &&
            decide ((iter5Final root rng0 d art workersOf cancelAt).tt.entries * 2 > (iter5Final root rng0 d art workersOf cancelAt).tt.maxEntries)
          then (iter5Final root rng0 d art workersOf cancelAt).events ++ [.warning] else (iter5Final root rng0 d art workersOf cancelAt).events
        artifact := { keys := art.keys, tt := (iter5Final root rng0 d art workersOf cancelAt).tt, history := Wee.hash art.keys.keys root :: art.history }
        panic := (iter5Final root rng0 d art workersOf cancelAt).panic } := rfl

/-- with no depth limit the model runs `fuel` iterations -/
theorem iter5_iterate_none (root : Wee.State) (rng0 : Rng.ChaCha8) (art : Artifact) (workersOf : Nat → Nat) (cancelAt : Option Nat) (fuel : Nat) :
    iterate root rng0 none art workersOf cancelAt fuel = iterate root rng0 (some fuel) art workersOf cancelAt fuel := rfl

/-! ## set-up: the fresh artifact -/

theorem iter5_range_mapM_const {β : Type} (t : β) : ∀ (n : Nat) (lo : UInt64),
    SPrim.range_mapM (m := Panics) (fun _ => some t) n lo = some (List.replicate n t)
  | 0, _ => rfl
  | n + 1, lo => by
    show (do let b ← some t; let bs ← SPrim.range_mapM (m := Panics) (fun _ => some t) n (lo + 1); pure (b :: bs)) = _
    rw [iter5_range_mapM_const t n (lo + 1)]; rfl

theorem iter5_range_map_collect_const {β : Type} (t : β) (lo hi : UInt64) :
    SPrim.range_map_collect (m := Panics) lo hi (fun _ => some t) = some (Array.replicate (hi.toNat - lo.toNat) t) := by
  unfold SPrim.range_map_collect
  rw [iter5_range_mapM_const]
  simp [some_bind', Option.pure_def]

/-- the fresh memory: `TABLE_COUNT` = 128 tables of `1024 * 1024 * 1024 / 128 / 320` = 26214 buckets -/
def iter5FreshAccess : TranspositionTableAccess :=
  ⟨Array.replicate 128 (TranspositionTable.with_bucket_count 26214)⟩

theorem iter5FreshAccess_rep : accessOf iter5FreshAccess = TT.Access.new 128 26214 :=
  accessOf_replicate _ _

theorem iter5FreshAccess_wf : AccessWF iter5FreshAccess :=
  accessWF_replicate _ _ (by decide) (by decide) (by decide) (by decide)

theorem drawN_foldl_size (xs : List Nat) : ∀ (acc : Array UInt64) (r : Rng.ChaCha8),
    (xs.foldl (fun (st : Array UInt64 × Rng.ChaCha8) _ => let (v, r') := Rng.nextU64 st.2; (st.1.push v, r')) (acc, r)).1.size = acc.size + xs.length := by
  induction xs with
  | nil => intro acc r; simp
  | cons x xs ih =>
    intro acc r
    rw [List.foldl_cons]
    have := ih (acc.push (Rng.nextU64 r).1) (Rng.nextU64 r).2
    simp only [Array.size_push] at this
    simp only [List.length_cons]
    omega

theorem drawN_size (r : Rng.ChaCha8) (n : Nat) : (drawN r n).1.size = n := by
  unfold drawN
  rw [drawN_foldl_size]; simp

/-- the TRUSTED PRIMITIVE `Iter5Prim.zobrist_with` is `zobristOf` of the model's `KeyTable.ofRng` -/
theorem Iter5Prim.zobrist_with_run (c : Iter5Cells) :
    Iter5Prim.zobrist_with c = (.ok (zobristOf (KeyTable.ofRng c.rng).1), { c with rng := (KeyTable.ofRng c.rng).2 }) := rfl

/-- **set-up, no previous artifact**: a fresh hasher from the generator, 128 empty tables of 26214 buckets, an empty history -/
theorem Searcher.analyze_iterative.fresh_artifact_run (c : Iter5Cells) :
    Searcher.analyze_iterative.fresh_artifact c =
      (.ok (zobristOf (KeyTable.ofRng c.rng).1, iter5FreshAccess, StateHistory.new), { c with rng := (KeyTable.ofRng c.rng).2 }) := by
  have hcl : (fun (_ : UInt64) => (do
      let tmp1 : UInt64 ← UInt64.checked_mul (1024 : UInt64) (1024 : UInt64)
      let tmp2 : UInt64 ← UInt64.checked_mul tmp1 (1024 : UInt64)
      let tmp3 : UInt64 ← TTPrim.checked_div tmp2 (128 : UInt64)
      TranspositionTable.with_memory tmp3 : Panics TranspositionTable)) = fun _ => some (TranspositionTable.with_bucket_count 26214) := by
    funext _
    have h1 : UInt64.checked_mul (1024 : UInt64) (1024 : UInt64) = some 1048576 := by decide
    have h2 : UInt64.checked_mul (1048576 : UInt64) (1024 : UInt64) = some 1073741824 := by decide
    have h3 : TTPrim.checked_div (1073741824 : UInt64) (128 : UInt64) = some 8388608 := by decide
    simp only [h1, h2, h3, some_bind', (TranspositionTable.with_memory_eq 8388608).1]
    rfl
  unfold Searcher.analyze_iterative.fresh_artifact
  rw [hcl, iter5_range_map_collect_const]
  have hw : TranspositionTableAccess.with_tables (Array.replicate ((128 : UInt64).toNat - (0 : UInt64).toNat)
      (TranspositionTable.with_bucket_count 26214)) = some iter5FreshAccess :=
    TranspositionTableAccess.with_tables_eq _ (by simp) (by simp)
  simp only [iter5_bind, Iter5Prim.zobrist_with_run, iter5_liftP_some, hw, iter5_pure]

/-- the set-up of the model side: the artifact a search without a previous one starts from -/
def iter5FreshArtifact (k : KeyTable) : Artifact := { keys := k, tt := TT.Access.new 128 26214, history := [] }

/-! ## tail: the saturation value -/

theorem iter5_usize_sum_toNat {xs : List UInt64} {r : UInt64} (h : TTPrim.usize_sum xs = some r) : r.toNat = (xs.map UInt64.toNat).sum :=
  usize_sum_eq_some.1 h

/-! ## set-up: the F2 limit rule, the reduction of the fresh case -/

/-- `MoveGenerator::compute_legal_moves(&game_state).is_empty()` is the model's `(legalMoves root).isEmpty` -/
theorem iter5_limit_rule (root : Wee.State) (ok : StateOK root) (ms : MoveSet)
    (h : MoveGenerator.compute_legal_moves (stateOf root) = some ms) : Array.isEmpty ms = (legalMoves root).isEmpty := by
  rw [MoveGenerator.compute_legal_moves_model root ok] at h
  cases hl : legalMoves? root with
  | none => rw [hl] at h; cases h
  | some L =>
    rw [hl] at h
    cases Option.some.inj h
    rw [legalMoves_of_some hl]
    cases L <;> rfl

/-- without a previous artifact the function continues as with the fresh one, the generator advanced by the key draws -/
theorem Searcher.analyze_iterative.body_none (gs : State) (ev : Evaluator) (md : Option UInt64) (tok : CancellationToken)
    (mtc : Option UInt64) (mnt : UInt64) (c : Iter5Cells) :
    Searcher.analyze_iterative.body gs ev md tok none mtc mnt c =
      Searcher.analyze_iterative.body gs ev md tok (some ⟨zobristOf (KeyTable.ofRng c.rng).1, iter5FreshAccess, StateHistory.new⟩) mtc mnt
        { c with rng := (KeyTable.ofRng c.rng).2 } := by
  unfold Searcher.analyze_iterative.body
  simp only [iter5_bind, Searcher.analyze_iterative.fresh_artifact_run, iter5_pure]

/-! ## the whole function -/

/-- **`Searcher::analyze_iterative` with a previous artifact and a depth limit refines `iterate`** ("when it returns") -/
theorem Searcher.analyze_iterative_refines_prev (k : KeyTable) (ht : k.turn.size = 2) (he : k.epFile.size = 8)
    (a : TranspositionTableAccess) (wf : AccessWF a) (hist : StateHistory) (l : List UInt64) (hh : HistRep hist l) (hlen : l.length + 1 < 2 ^ 64)
    (root : Wee.State) (ok : StateOK root) (rng0 : Rng.ChaCha8) (d : UInt64) (hd : d.toNat + 90 < 2 ^ 31)
    (cancel : Option Nat) (mtc : Option UInt64) (mnt : UInt64)
    (Inv : Nat → IterSt → Prop)
    (hstep : ∀ n st, Inv n st → st.finished = false → st.panic = none →
      Inv (n + 1) (iterBody { keys := k.keys, history := Wee.hash k.keys root :: l, cancelAt := cancel } root (Wee.hash k.keys root) (workersOfGen mtc mnt n.toUInt64) n st))
    (hwalk : ∀ n st, Inv n st → st.finished = false → st.panic = none →
      WalkOK k.keys (workersOut { keys := k.keys, history := Wee.hash k.keys root :: l, cancelAt := cancel } root (workersOfGen mtc mnt n.toUInt64) n
        (boundaryPoll { keys := k.keys, history := Wee.hash k.keys root :: l, cancelAt := cancel } n st)).tt (n + 1) root)
    (hinv : Inv 0 (SearchCtl.iterInit rng0 { keys := k, tt := accessOf a, history := [] }))
    (hsat : Iter5SatAgree (iter5Final root rng0 d.toNat { keys := k, tt := accessOf a, history := l } (fun n => workersOfGen mtc mnt n.toUInt64) cancel).tt)
    (art' : Iter5SearchArtifact) (evs : List Iter5Event)
    (hret : Searcher.analyze_iterative (stateOf root) ⟨eval.EVALUATORS⟩ rng0 (some d) ⟨cancel⟩ (some ⟨zobristOf k, a, hist⟩) mtc mnt = .ok (art', evs))
    (fuel : Nat) :
    (iterate root rng0 (some d.toNat) { keys := k, tt := accessOf a, history := l } (fun n => workersOfGen mtc mnt n.toUInt64) cancel fuel).panic = none ∧
    evs.map iter5EventOf =
      (iterate root rng0 (some d.toNat) { keys := k, tt := accessOf a, history := l } (fun n => workersOfGen mtc mnt n.toUInt64) cancel fuel).events ∧
    Iter5ArtRep art'
      (iterate root rng0 (some d.toNat) { keys := k, tt := accessOf a, history := l } (fun n => workersOfGen mtc mnt n.toUInt64) cancel fuel).artifact := by
  obtain ⟨hist', hinc, hh'⟩ := StateHistory.increment_rep hh (Wee.hash k.keys root) hlen
  have hhash := ZobristHasher.hash_keyTable k ht he root ok.ep
  unfold Searcher.analyze_iterative at hret
  unfold Searcher.analyze_iterative.body at hret
  simp only [Option.getD_some, iter5_pure_bind, hhash, iter5_liftP_some_bind, hinc] at hret
  cases hlm : MoveGenerator.compute_legal_moves (stateOf root) with
  | none => rw [hlm] at hret; simp only [iter5_liftP_none_bind] at hret; cases hret
  | some ms =>
    rw [hlm] at hret
    simp only [iter5_liftP_some_bind, iter5_limit_rule root ok ms hlm] at hret
    generalize hmax : (if (legalMoves root).isEmpty = true then (0 : UInt64) else d) = maxD at hret
    have hmd : maxD.toNat + 90 < 2 ^ 31 := by
      subst hmax; split
      · simp
      · exact hd
    have hfin : iter5Final root rng0 d.toNat { keys := k, tt := accessOf a, history := l } (fun n => workersOfGen mtc mnt n.toUInt64) cancel =
        iterLoop { keys := k.keys, history := Wee.hash k.keys root :: l, cancelAt := cancel } root (Wee.hash k.keys root)
          (fun n => workersOfGen mtc mnt n.toUInt64) maxD.toNat 0 (SearchCtl.iterInit rng0 { keys := k, tt := accessOf a, history := [] }) := by
      subst hmax
      unfold iter5Final SearchCtl.iterInit
      by_cases hE : (legalMoves root).isEmpty = true <;> simp [hE]
    have hL := Searcher.analyze_iterative.loop_refines_init k ht he hist' (Wee.hash k.keys root :: l) hh' cancel root ok mtc mnt Inv hstep hwalk
      maxD hmd rng0 a wf hinv
    rw [← hfin] at hL
    rw [iter5_iterate_some]
    generalize iter5Final root rng0 d.toNat { keys := k, tt := accessOf a, history := l } (fun n => workersOfGen mtc mnt n.toUInt64) cancel = stF at hL hsat ⊢
    rw [iter5_bind] at hret
    unfold Iter5Prim.run_loop at hret
    generalize Searcher.analyze_iterative.loop _ _ _ _ _ _ _ _ _ _ _ = out at hL hret
    obtain ⟨res, ic'⟩ := out
    cases res with
    | error e => cases hret
    | ok ls' =>
      obtain ⟨hpanic, hrep⟩ := hL
      simp only [] at hret
      have hev : (ic'.events.map Iter5Event.Status).map iter5EventOf = stF.events := by
        rw [List.map_map, ← hrep.events]; rfl
      cases hs : TranspositionTableAccess.saturation ic'.transpositions with
      | none => rw [hs] at hret; cases hret
      | some v =>
        have hv := TranspositionTableAccess.saturation_inv _ hrep.wf v hs
        rw [hrep.tt] at hv
        have hcmp : Iter5Prim.f32_gt v ((1 : Rat) / 2) = decide (stF.tt.entries * 2 > stF.tt.maxEntries) := by
          unfold Iter5Prim.f32_gt
          rw [hv]
          exact decide_eq_decide.2 hsat
        rw [hs] at hret
        simp only [iter5_liftP_some_bind, hcmp] at hret
        by_cases hc : stF.tt.entries * 2 > stF.tt.maxEntries
        · simp only [hc, decide_true, if_true, iter5_bind, iter5_liftP_some, Iter5M.emit, iter5_pure, List.nil_append,
            Except.ok.injEq, Prod.mk.injEq] at hret
          obtain ⟨ha, he'⟩ := hret
          subst ha; subst he'
          simp only [hpanic, Option.isNone_none, Bool.true_and, hc, decide_true, if_true]
          refine ⟨trivial, ?_, ⟨rfl, hrep.tt, hrep.wf, hh'⟩⟩
          rw [List.map_append, hev]; rfl
        · simp only [hc, decide_false, iter5_bind, iter5_pure, List.nil_append, Bool.false_eq_true, if_false,
            Except.ok.injEq, Prod.mk.injEq] at hret
          obtain ⟨ha, he'⟩ := hret
          subst ha; subst he'
          simp only [hpanic, Option.isNone_none, Bool.true_and, hc, decide_false]
          exact ⟨trivial, hev, ⟨rfl, hrep.tt, hrep.wf, hh'⟩⟩

/-- **`Searcher::analyze_iterative` without a previous artifact** (`ZobristHasher::with(&mut rng)` = `KeyTable.ofRng`, 128 empty tables of 26214 buckets,
empty history): the model's `iterate` from `iter5FreshArtifact kr.1` with the generator after the key draws.  `hkt` / `hke`: the drawn key table has
2 turn keys and 8 en-passant keys (true by construction -- `drawN_size` -- but a term that projects out of `KeyTable.ofRng rng0` makes the kernel unfold the draws
of the generator and exhaust its recursion depth; so the table is named `kr` with `hkr : KeyTable.ofRng rng0 = kr` -- instantiate `kr := KeyTable.ofRng rng0`,
`hkr := rfl` -- and the two sizes are carried). -/
theorem Searcher.analyze_iterative_refines_fresh (root : Wee.State) (ok : StateOK root) (rng0 : Rng.ChaCha8)
    (kr : KeyTable × Rng.ChaCha8) (hkr : KeyTable.ofRng rng0 = kr)
    (hkt : kr.1.turn.size = 2) (hke : kr.1.epFile.size = 8)
    (d : UInt64) (hd : d.toNat + 90 < 2 ^ 31) (cancel : Option Nat) (mtc : Option UInt64) (mnt : UInt64)
    (Inv : Nat → IterSt → Prop)
    (hstep : ∀ n st, Inv n st → st.finished = false → st.panic = none →
      Inv (n + 1) (iterBody { keys := kr.1.keys, history := [Wee.hash kr.1.keys root], cancelAt := cancel } root
        (Wee.hash kr.1.keys root) (workersOfGen mtc mnt n.toUInt64) n st))
    (hwalk : ∀ n st, Inv n st → st.finished = false → st.panic = none →
      WalkOK kr.1.keys (workersOut { keys := kr.1.keys, history := [Wee.hash kr.1.keys root], cancelAt := cancel } root
        (workersOfGen mtc mnt n.toUInt64) n
        (boundaryPoll { keys := kr.1.keys, history := [Wee.hash kr.1.keys root], cancelAt := cancel } n st)).tt (n + 1) root)
    (hinv : Inv 0 (SearchCtl.iterInit kr.2 { keys := kr.1, tt := TT.Access.new 128 26214, history := [] }))
    (hsat : Iter5SatAgree (iter5Final root kr.2 d.toNat (iter5FreshArtifact kr.1) (fun n => workersOfGen mtc mnt n.toUInt64) cancel).tt)
    (art' : Iter5SearchArtifact) (evs : List Iter5Event)
    (hret : Searcher.analyze_iterative (stateOf root) ⟨eval.EVALUATORS⟩ rng0 (some d) ⟨cancel⟩ none mtc mnt = .ok (art', evs))
    (fuel : Nat) :
    (iterate root kr.2 (some d.toNat) (iter5FreshArtifact kr.1) (fun n => workersOfGen mtc mnt n.toUInt64) cancel fuel).panic = none ∧
    evs.map iter5EventOf =
      (iterate root kr.2 (some d.toNat) (iter5FreshArtifact kr.1) (fun n => workersOfGen mtc mnt n.toUInt64) cancel fuel).events ∧
    Iter5ArtRep art'
      (iterate root kr.2 (some d.toNat) (iter5FreshArtifact kr.1) (fun n => workersOfGen mtc mnt n.toUInt64) cancel fuel).artifact := by
  unfold iter5FreshArtifact at hsat ⊢
  rw [← iter5FreshAccess_rep] at hinv hsat ⊢
  refine Searcher.analyze_iterative_refines_prev kr.1 hkt hke iter5FreshAccess iter5FreshAccess_wf StateHistory.new []
    StateHistory.new_rep (by simp) root ok kr.2 d hd cancel mtc mnt Inv hstep hwalk hinv hsat art' evs ?_ fuel
  unfold Searcher.analyze_iterative at hret ⊢
  rw [Searcher.analyze_iterative.body_none] at hret
  simp only [hkr] at hret
  exact hret

/-- how the `previous_artifact` argument and the generator are represented in the model: `art` is the artifact `iterate` starts from, `rng1` its generator -/
inductive Iter5PrevRep : Option Iter5SearchArtifact → Rng.ChaCha8 → Artifact → Rng.ChaCha8 → Prop
  | prev (k : KeyTable) (ht : k.turn.size = 2) (he : k.epFile.size = 8) (a : TranspositionTableAccess) (wf : AccessWF a)
      (hist : StateHistory) (l : List UInt64) (hh : HistRep hist l) (hlen : l.length + 1 < 2 ^ 64) (rng0 : Rng.ChaCha8) :
      Iter5PrevRep (some ⟨zobristOf k, a, hist⟩) rng0 { keys := k, tt := accessOf a, history := l } rng0
  | fresh (rng0 : Rng.ChaCha8) (kr : KeyTable × Rng.ChaCha8) (hkr : KeyTable.ofRng rng0 = kr) (hkt : kr.1.turn.size = 2) (hke : kr.1.epFile.size = 8) :
      Iter5PrevRep none rng0 (iter5FreshArtifact kr.1) kr.2

/-- **`Searcher::analyze_iterative` (depth limit `Some(d)`) refines the model's `iterate`**, for a previous artifact represented in the model or none -/
theorem Searcher.analyze_iterative_refines (prev : Option Iter5SearchArtifact) (rng0 rng1 : Rng.ChaCha8) (art : Artifact)
    (hprev : Iter5PrevRep prev rng0 art rng1)
    (root : Wee.State) (ok : StateOK root) (d : UInt64) (hd : d.toNat + 90 < 2 ^ 31)
    (cancel : Option Nat) (mtc : Option UInt64) (mnt : UInt64)
    (Inv : Nat → IterSt → Prop)
    (hstep : ∀ n st, Inv n st → st.finished = false → st.panic = none →
      Inv (n + 1) (iterBody { keys := art.keys.keys, history := Wee.hash art.keys.keys root :: art.history, cancelAt := cancel } root
        (Wee.hash art.keys.keys root) (workersOfGen mtc mnt n.toUInt64) n st))
    (hwalk : ∀ n st, Inv n st → st.finished = false → st.panic = none →
      WalkOK art.keys.keys (workersOut { keys := art.keys.keys, history := Wee.hash art.keys.keys root :: art.history, cancelAt := cancel } root
        (workersOfGen mtc mnt n.toUInt64) n
        (boundaryPoll { keys := art.keys.keys, history := Wee.hash art.keys.keys root :: art.history, cancelAt := cancel } n st)).tt (n + 1) root)
    (hinv : Inv 0 (SearchCtl.iterInit rng1 { keys := art.keys, tt := art.tt, history := [] }))
    (hsat : Iter5SatAgree (iter5Final root rng1 d.toNat art (fun n => workersOfGen mtc mnt n.toUInt64) cancel).tt)
    (art' : Iter5SearchArtifact) (evs : List Iter5Event)
    (hret : Searcher.analyze_iterative (stateOf root) ⟨eval.EVALUATORS⟩ rng0 (some d) ⟨cancel⟩ prev mtc mnt = .ok (art', evs))
    (fuel : Nat) :
    (iterate root rng1 (some d.toNat) art (fun n => workersOfGen mtc mnt n.toUInt64) cancel fuel).panic = none ∧
    evs.map iter5EventOf = (iterate root rng1 (some d.toNat) art (fun n => workersOfGen mtc mnt n.toUInt64) cancel fuel).events ∧
    Iter5ArtRep art' (iterate root rng1 (some d.toNat) art (fun n => workersOfGen mtc mnt n.toUInt64) cancel fuel).artifact := by
  cases hprev with
  | prev k ht he a wf hist l hh hlen =>
    exact Searcher.analyze_iterative_refines_prev k ht he a wf hist l hh hlen root ok rng0 d hd cancel mtc mnt Inv hstep hwalk hinv hsat art' evs hret fuel
  | fresh _ kr hkr hkt hke =>
    dsimp only [iter5FreshArtifact] at hstep hwalk hinv
    exact Searcher.analyze_iterative_refines_fresh root ok rng0 kr hkr hkt hke d hd cancel mtc mnt Inv hstep hwalk hinv hsat art' evs hret fuel

end GenFns
end Wee
