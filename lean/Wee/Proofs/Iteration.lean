import Wee.Model.SearchEnv
/-!
# The iteration level of `analyze_iterative`: boundary read, workers, report step, loop

Each layer of `iterate` has its lemmas here, and the proofs about the layers above `searchNode` rest on them instead of
unfolding the model:

* `boundaryPoll` (the read of the cancellation flag at an iteration boundary, since the repair of F11) touches `polls`
  and `finished` only;
* `runWorkers` folds `WorkersOut.join` over the workers' runs while no worker has stopped (`runWorkers_cons`); a property
  of the joined results that every worker keeps holds of what `runWorkers` returns (`runWorkers_rule`);
* the report step `finishStep`, for ANY joined results (the sequential ones of `runWorkers` or those of racing workers),
  is one of three record updates (`finishStep_panic`, `finishStep_interrupt`, `finishStep_complete`; as one disjunction over
  the fields the loop invariants speak of: `Env.finishStep_cases`);
* the loop unfolded once (`iterLoop_succ`) and the induction over it for a property that speaks of the depth
  (`iterLoop_keeps_depth`);
* the first move of the line the report step reads from the table (`walkLine_head?_eq_some`).
-/
namespace Wee.Search
open Wee

/-! ## the boundary read of the flag; the seeds of an iteration -/

/-- the answer of the flag to a poll that `p` polls preceded -/
def flagSays (ctx : Ctx) (p : Nat) : Bool :=
  match ctx.cancelAt with | some k => decide (p ≥ k) | Option.none => false

theorem boundaryPoll_zero (ctx : Ctx) (st : IterSt) : boundaryPoll ctx 0 st = st := rfl

theorem boundaryPoll_pos (ctx : Ctx) {depth : Nat} (h : 0 < depth) (st : IterSt) :
    boundaryPoll ctx depth st = { st with polls := st.polls + 1, finished := flagSays ctx st.polls } := by
  unfold boundaryPoll flagSays; rw [if_pos h]; rfl

/-- `boundaryPoll` as a record update: all other fields are untouched -/
theorem boundaryPoll_eq (ctx : Ctx) (depth : Nat) (st : IterSt) :
    boundaryPoll ctx depth st =
      { st with polls := (boundaryPoll ctx depth st).polls, finished := (boundaryPoll ctx depth st).finished } := by
  unfold boundaryPoll; split <;> rfl

@[simp] theorem boundaryPoll_tt (ctx : Ctx) (depth : Nat) (st : IterSt) : (boundaryPoll ctx depth st).tt = st.tt := by
  rw [boundaryPoll_eq]
@[simp] theorem boundaryPoll_rng (ctx : Ctx) (depth : Nat) (st : IterSt) : (boundaryPoll ctx depth st).rng = st.rng := by
  rw [boundaryPoll_eq]
@[simp] theorem boundaryPoll_events (ctx : Ctx) (depth : Nat) (st : IterSt) :
    (boundaryPoll ctx depth st).events = st.events := by
  rw [boundaryPoll_eq]
@[simp] theorem boundaryPoll_nodes (ctx : Ctx) (depth : Nat) (st : IterSt) :
    (boundaryPoll ctx depth st).nodes = st.nodes := by
  rw [boundaryPoll_eq]
@[simp] theorem boundaryPoll_bestEval (ctx : Ctx) (depth : Nat) (st : IterSt) :
    (boundaryPoll ctx depth st).bestEval = st.bestEval := by
  rw [boundaryPoll_eq]
@[simp] theorem boundaryPoll_bestMv (ctx : Ctx) (depth : Nat) (st : IterSt) :
    (boundaryPoll ctx depth st).bestMv = st.bestMv := by
  rw [boundaryPoll_eq]
@[simp] theorem boundaryPoll_panic (ctx : Ctx) (depth : Nat) (st : IterSt) :
    (boundaryPoll ctx depth st).panic = st.panic := by
  rw [boundaryPoll_eq]

/-- the poll is counted iff it happens (`depth > 0`) -/
theorem boundaryPoll_polls (ctx : Ctx) (depth : Nat) (st : IterSt) :
    (boundaryPoll ctx depth st).polls = if depth > 0 then st.polls + 1 else st.polls := by
  unfold boundaryPoll; split <;> rfl

theorem boundaryPoll_polls_le (ctx : Ctx) (depth : Nat) (st : IterSt) : st.polls ≤ (boundaryPoll ctx depth st).polls := by
  rw [boundaryPoll_polls]; split <;> omega

/-- on an unfinished state: the loop ends here iff `depth > 0` and the flag says "cancelled" -/
theorem boundaryPoll_finished (ctx : Ctx) (depth : Nat) (st : IterSt) (hf : st.finished = false) :
    (boundaryPoll ctx depth st).finished = (decide (depth > 0) && flagSays ctx st.polls) := by
  unfold boundaryPoll flagSays
  split
  · rename_i h; simp only [h, decide_true, Bool.true_and]; rfl
  · rename_i h; simp [h, hf]

/-- without a Stop request the boundary read never ends the loop -/
theorem boundaryPoll_finished_of_none (ctx : Ctx) (hc : ctx.cancelAt = Option.none) (depth : Nat) (st : IterSt) :
    (boundaryPoll ctx depth st).finished = if depth > 0 then false else st.finished := by
  unfold boundaryPoll; rw [hc]; split <;> rfl

/-- the one seed of an iteration with one worker -/
theorem drawSeeds_one (r : Rng.ChaCha8) : (drawSeeds 1 r).1 = [(Rng.nextU64 r).1] := by
  unfold drawSeeds
  rcases Rng.nextU64 r with ⟨v, r'⟩
  rfl

/-! ## the workers of one iteration -/

/-- the joined results after one more worker has ended with `out` (the three arms of `runWorkers`) -/
def WorkersOut.join (acc : WorkersOut) : Except Stop Eval × St → WorkersOut
  | (.ok e, st) =>
    { acc with tt := st.tt, polls := st.polls, evals := acc.evals ++ [e], sumNodes := acc.sumNodes + st.nodes }
  | (.error .interrupt, st) => { acc with tt := st.tt, polls := st.polls, interrupted := true }
  | (.error (.panic why), _) => { acc with panic := some why }

/-- a worker has been interrupted or has panicked: no further one is started -/
abbrev WorkersOut.stopped (acc : WorkersOut) : Bool := acc.interrupted || acc.panic.isSome

/-- the run of worker `p = (i, seed)` of iteration `depth`, started on the joined results `acc` -/
def workerRun (ctx : Ctx) (root : State) (depth : Nat) (bestMv : Option Move) (p : Nat × UInt64) (acc : WorkersOut) :
    Except Stop Eval × St :=
  runWorker ctx root ((depth - p.1 % 2) + 1) (if p.1 == 0 then bestMv else Option.none) acc.tt (Rng.seedFromU64 p.2)
    acc.polls

theorem WorkersOut.join_stopped (acc : WorkersOut) (e : Stop) (st : St) : (acc.join (.error e, st)).stopped = true := by
  cases e <;> simp [WorkersOut.join]

/-- what is read off a worker's outcome: its table and poll count, unless it panicked -/
theorem WorkersOut.join_cases (acc : WorkersOut) (out : Except Stop Eval × St) :
    ((acc.join out).tt = out.2.tt ∧ (acc.join out).polls = out.2.polls ∧ (acc.join out).panic = acc.panic ∧
      ∀ w, out.1 ≠ .error (.panic w)) ∨
    ((acc.join out).tt = acc.tt ∧ (acc.join out).polls = acc.polls ∧ ∃ w, out.1 = .error (.panic w)) := by
  obtain ⟨r, st⟩ := out
  cases r with
  | ok e => exact .inl ⟨rfl, rfl, rfl, fun _ h => nomatch h⟩
  | error e => cases e with
    | interrupt => exact .inl ⟨rfl, rfl, rfl, fun _ h => nomatch h⟩
    | panic w => exact .inr ⟨rfl, rfl, w, rfl⟩

/-- after an interrupt or a panic nothing more is run -/
theorem runWorkers_stopped (ctx : Ctx) (root : State) (depth : Nat) (bestMv : Option Move)
    (l : List (Nat × UInt64)) (acc : WorkersOut) (h : acc.stopped = true) :
    runWorkers ctx root depth bestMv l acc = acc := by
  cases l with
  | nil => rfl
  | cons x rest => obtain ⟨i, seed⟩ := x; rw [runWorkers, if_pos h]

/-- the loop over the workers, one unfolding: `runWorkers` folds `join` over the workers' runs while the joined results
are not stopped -/
theorem runWorkers_cons (ctx : Ctx) (root : State) (depth : Nat) (bestMv : Option Move) (p : Nat × UInt64)
    (rest : List (Nat × UInt64)) (acc : WorkersOut) :
    runWorkers ctx root depth bestMv (p :: rest) acc =
      if acc.stopped then acc
      else runWorkers ctx root depth bestMv rest (acc.join (workerRun ctx root depth bestMv p acc)) := by
  obtain ⟨i, seed⟩ := p
  rw [runWorkers]
  by_cases hc : acc.stopped = true
  · rw [if_pos hc, if_pos hc]
  rw [if_neg hc, if_neg hc]
  unfold workerRun
  dsimp only
  generalize runWorker ctx root _ _ acc.tt _ acc.polls = out
  obtain ⟨r, st⟩ := out
  cases r with
  | ok e => rfl
  | error e => rw [runWorkers_stopped _ _ _ _ _ _ (acc.join_stopped _ _)]; cases e <;> rfl

/-- **the invariant rule of `runWorkers`**: a property of the joined results that survives every worker started holds of
what `runWorkers` returns.  The worker's outcome is handed over as a variable `out` with its equation, so that a proof
never computes with `runWorker`. -/
theorem runWorkers_rule {P : WorkersOut → Prop} (ctx : Ctx) (root : State) (depth : Nat) (bestMv : Option Move)
    (h : ∀ p acc out, acc.stopped = false → workerRun ctx root depth bestMv p acc = out → P acc → P (acc.join out)) :
    ∀ (l : List (Nat × UInt64)) (acc : WorkersOut), P acc → P (runWorkers ctx root depth bestMv l acc) := by
  intro l
  induction l with
  | nil => exact fun _ h => h
  | cons p rest ih =>
    intro acc ha
    rw [runWorkers_cons]
    by_cases hc : acc.stopped = true
    · rw [if_pos hc]; exact ha
    · rw [if_neg hc]; exact ih _ (h p acc _ (Bool.eq_false_iff.2 hc) rfl ha)

/-! ## the report step, for any joined results -/

section finishStep
variable {ctx : Ctx} {root : State} {rootHash : UInt64} {depth : Nat} {rng : Rng.ChaCha8} {w : WorkersOut} {st : IterSt}

/-- a worker panicked: the generator state and the panic are recorded and the loop ends; nothing else changes -/
theorem finishStep_panic {why : String} (hp : w.panic = some why) :
    finishStep ctx root rootHash depth rng w st = { st with rng, panic := some why, finished := true } := by
  unfold finishStep; rw [hp]

/-- a worker was interrupted: the workers' table and poll count are taken over, the root's entry is reported if it improves on
the previous iteration, the loop ends -/
theorem finishStep_interrupt (hp : w.panic = Option.none) (hi : w.interrupted = true) :
    finishStep ctx root rootHash depth rng w st =
      { st with
        tt := w.tt, rng, polls := w.polls, finished := true
        events := match w.tt.find rootHash.toNat with
          | some x =>
            if x.eval > st.bestEval then
              let line := walkLine ctx.keys w.tt (depth + 1) root
              if line.isEmpty then st.events else st.events ++ [.best x.eval line]
            else st.events
          | Option.none => st.events } := by
  unfold finishStep; rw [hp, hi]; rfl

/-- all workers returned: progress is reported, and the walked line if there is one (the head of an empty line is
`none`, so `bestMv` needs no case distinction) -/
theorem finishStep_complete (hp : w.panic = Option.none) (hi : w.interrupted = false) :
    finishStep ctx root rootHash depth rng w st =
      let nodes := st.nodes + w.sumNodes
      let bestEval := match w.evals with | [] => st.bestEval | e :: es => es.foldl max e
      let line := walkLine ctx.keys w.tt (depth + 1) root
      let events := st.events ++ [.progress (depth + 1) nodes]
      { st with
        tt := w.tt, rng, polls := w.polls, nodes, bestEval, bestMv := line.head?
        events := if line.isEmpty then events else events ++ [.best bestEval line]
        finished := if line.isEmpty then st.finished else decide (bestEval ≥ Ev.posInf) } := by
  unfold finishStep; rw [hp, hi]
  dsimp only
  generalize walkLine ctx.keys _ (depth + 1) root = line
  cases line <;> rfl

variable (ctx root rootHash depth rng w st)

/-- the poll count handed on is the workers', or after a panic the old one -/
theorem finishStep_polls :
    (finishStep ctx root rootHash depth rng w st).polls = if w.panic.isSome then st.polls else w.polls := by
  cases hp : w.panic with
  | some why => rw [finishStep_panic hp]; rfl
  | none => cases hi : w.interrupted with
    | true => rw [finishStep_interrupt hp hi]; rfl
    | false => rw [finishStep_complete hp hi]; rfl

/-- the report step only appends events -/
theorem finishStep_events_mono : ∀ ev ∈ st.events, ev ∈ (finishStep ctx root rootHash depth rng w st).events := by
  intro ev hev
  cases hp : w.panic with
  | some why => rw [finishStep_panic hp]; exact hev
  | none => cases hi : w.interrupted with
    | true =>
      rw [finishStep_interrupt hp hi]
      dsimp only
      cases w.tt.find rootHash.toNat with
      | none => exact hev
      | some x =>
        dsimp only
        by_cases hx : x.eval > st.bestEval
        · rw [if_pos hx]
          by_cases hemp : (walkLine ctx.keys w.tt (depth + 1) root).isEmpty = true
          · rw [if_pos hemp]; exact hev
          · rw [if_neg hemp]; exact List.mem_append_left _ hev
        · rw [if_neg hx]; exact hev
    | false =>
      rw [finishStep_complete hp hi]
      dsimp only
      by_cases hemp : (walkLine ctx.keys w.tt (depth + 1) root).isEmpty = true
      · rw [if_pos hemp]; exact List.mem_append_left _ hev
      · rw [if_neg hemp]; exact List.mem_append_left _ (List.mem_append_left _ hev)

end finishStep

/-! ## the deepening loop -/

/-- the loop, one unfolding (the shape every induction over it uses) -/
theorem iterLoop_succ (ctx : Ctx) (root : State) (rootHash : UInt64) (workersOf : Nat → Nat) (n depth : Nat) (st : IterSt) :
    iterLoop ctx root rootHash workersOf (n + 1) depth st =
      if st.finished then st
      else if (boundaryPoll ctx depth st).finished then boundaryPoll ctx depth st
      else iterLoop ctx root rootHash workersOf n (depth + 1)
        (iterStep ctx root rootHash (workersOf depth) depth (boundaryPoll ctx depth st)) := by
  rw [iterLoop]

theorem iterLoop_finished (ctx : Ctx) (root : State) (rootHash : UInt64) (workersOf : Nat → Nat)
    (n depth : Nat) (st : IterSt) (h : st.finished = true) :
    iterLoop ctx root rootHash workersOf n depth st = st := by
  cases n with
  | zero => rfl
  | succ n => rw [iterLoop, if_pos h]

/-- **the invariant rule of the deepening loop for a property that speaks of the depth**: `P d st` says what holds of the
loop state before iteration `d`.  If it survives the boundary read and is carried from `d` to `d + 1` by every iteration
step from a state that is not finished, then it holds of what the loop returns, for some `d'` — which is `depth + n` unless
the loop ended by `finished` -/
theorem iterLoop_keeps_depth {P : Nat → IterSt → Prop} (ctx : Ctx) (root : State) (rootHash : UInt64)
    (workersOf : Nat → Nat) (hb : ∀ d st, st.finished = false → P d st → P d (boundaryPoll ctx d st))
    (hs : ∀ d st, st.finished = false → P d st → P (d + 1) (iterStep ctx root rootHash (workersOf d) d st)) :
    ∀ (n depth : Nat) (st : IterSt), P depth st →
      ∃ d', P d' (iterLoop ctx root rootHash workersOf n depth st) ∧
        ((iterLoop ctx root rootHash workersOf n depth st).finished = false → d' = depth + n) := by
  intro n
  induction n with
  | zero => exact fun depth st h => ⟨depth, h, fun _ => rfl⟩
  | succ n ih =>
    intro depth st h
    rw [iterLoop_succ]
    by_cases hf : st.finished = true
    · rw [if_pos hf]; exact ⟨depth, h, fun h' => by rw [hf] at h'; cases h'⟩
    · rw [if_neg hf]
      have hf0 : st.finished = false := Bool.eq_false_iff.2 hf
      by_cases hf' : (boundaryPoll ctx depth st).finished = true
      · rw [if_pos hf']; exact ⟨depth, hb depth st hf0 h, fun h' => by rw [hf'] at h'; cases h'⟩
      · rw [if_neg hf']
        obtain ⟨d', h1, h2⟩ := ih (depth + 1) _ (hs depth _ (Bool.eq_false_iff.2 hf') (hb depth st hf0 h))
        exact ⟨d', h1, fun h' => by rw [h2 h']; omega⟩

/-! ## the line the report step reads from the table -/

/-- the first move of the line read from the table: the move of the entry under the position's key, if it can be played -/
theorem walkLine_head?_eq_some {keys : Keys} {tt : TT.Access} {n : Nat} {s : State} {m : Move} :
    (walkLine keys tt (n + 1) s).head? = some m ↔
      ∃ e next, tt.find (hash keys s).toNat = some e ∧ e.mv.toUInt32 = m ∧ performMove s m = some (.ok next) := by
  rw [walkLine.eq_2]
  cases hf : tt.find (hash keys s).toNat with
  | none => exact ⟨fun h => (nomatch h), fun ⟨_, _, h, _⟩ => (nomatch h)⟩
  | some e =>
    dsimp only
    split
    · rename_i next hp
      rw [List.head?_cons]
      exact ⟨fun h => ⟨e, next, rfl, Option.some.inj h, Option.some.inj h ▸ hp⟩,
        fun ⟨e', _, h1, h2, _⟩ => by cases h1; rw [h2]⟩
    · rename_i hx
      exact ⟨fun h => (nomatch h), fun ⟨e', next, h1, h2, h3⟩ => by cases h1; subst h2; exact absurd h3 (hx next)⟩

theorem walkLine_isEmpty {keys : Keys} {tt : TT.Access} {n : Nat} {s : State} :
    (walkLine keys tt n s).isEmpty = (walkLine keys tt n s).head?.isNone := by
  cases walkLine keys tt n s <;> rfl

end Wee.Search

namespace Wee.Env
open Wee Wee.Search

/-- **what the report step does**, by cases, over the fields the loop invariants speak of: after a panic of a worker the
table, the remembered move and evaluation and the events are unchanged (the panic itself and `finished` are in
`finishStep_panic`); otherwise the joined table is taken over and, after an interrupt, at most the root entry's line is reported, while a completed
iteration reports its node count and — if the walk from the root finds a line `L` — the line with the maximum `E` of the
workers' values, which become the remembered move and evaluation -/
theorem finishStep_cases (ctx : Ctx) (root : State) (rootHash : UInt64) (depth : Nat) (rng : Rng.ChaCha8)
    (w : WorkersOut) (st : IterSt) {st' : IterSt} (hst : st' = finishStep ctx root rootHash depth rng w st)
    {L : List Move} (hL : L = walkLine ctx.keys w.tt (depth + 1) root)
    {E : Eval} (hE : E = match w.evals with | [] => st.bestEval | e :: es => es.foldl max e) :
    (w.panic ≠ Option.none ∧ st'.tt = st.tt ∧ st'.bestMv = st.bestMv ∧ st'.bestEval = st.bestEval ∧ st'.events = st.events) ∨
    (w.panic = Option.none ∧ st'.tt = w.tt ∧ st'.panic = st.panic ∧
      ((w.interrupted = true ∧ st'.bestMv = st.bestMv ∧ st'.bestEval = st.bestEval ∧
          (st'.events = st.events ∨ ∃ x, w.tt.find rootHash.toNat = some x ∧ x.eval > st.bestEval ∧ L.isEmpty = false ∧
            st'.events = st.events ++ [.best x.eval L])) ∨
       (w.interrupted = false ∧ st'.bestEval = E ∧
          ((L.isEmpty = true ∧ st'.bestMv = Option.none ∧
              st'.events = st.events ++ [.progress (depth + 1) (st.nodes + w.sumNodes)]) ∨
           (L.isEmpty = false ∧ st'.bestMv = L.head? ∧
              st'.events = st.events ++ [.progress (depth + 1) (st.nodes + w.sumNodes)] ++ [.best E L]))))) := by
  subst hst hL hE
  unfold finishStep
  dsimp only
  cases hp : w.panic with
  | some why => exact .inl ⟨(fun h => nomatch h), rfl, rfl, rfl, rfl⟩
  | none =>
    refine .inr ⟨rfl, ?_⟩
    cases hi : w.interrupted with
    | false =>
      cases hl : (walkLine ctx.keys w.tt (depth + 1) root).isEmpty with
      | true => exact ⟨rfl, rfl, .inr ⟨rfl, rfl, .inl ⟨rfl, rfl, rfl⟩⟩⟩
      | false => exact ⟨rfl, rfl, .inr ⟨rfl, rfl, .inr ⟨rfl, rfl, rfl⟩⟩⟩
    | true =>
      rw [if_neg (by decide : ¬ (!true) = true)]
      refine ⟨rfl, rfl, .inl ⟨rfl, rfl, rfl, ?_⟩⟩
      cases hf : w.tt.find rootHash.toNat with
      | none => exact .inl rfl
      | some x =>
        dsimp only
        by_cases hgt : x.eval > st.bestEval
        · rw [if_pos hgt]
          cases hl : (walkLine ctx.keys w.tt (depth + 1) root).isEmpty with
          | true => exact .inl rfl
          | false => exact .inr ⟨x, rfl, hgt, rfl, rfl⟩
        · rw [if_neg hgt]
          exact .inl rfl

end Wee.Env

namespace Wee.Pairing
open Wee Wee.Search

/-- the evaluation `finishStep` reports for a completed iteration: the `match` that `finishStep_complete` and
`finishStep_cases` (as `E`) spell out; the statements of `PairingLemmas.lean` and `MateComplete2.lean` use the name -/
def reportedEval (w : WorkersOut) (st : IterSt) : Eval :=
  match w.evals with | [] => st.bestEval | e :: es => es.foldl max e

end Wee.Pairing
