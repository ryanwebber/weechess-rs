import Wee.Proofs.HashLemmas
import Wee.Proofs.ListLemmas
import Wee.Props.C09
import Wee.Proofs.MoveGenLemmas
import Wee.Proofs.MoveWF
/-!
# The legal moves of a position depend on its rule-relevant key only (namespace `Wee.Book`)

Used for the book (C16) and for the consumers of the hash (C08, `Props/Compose`).  Move generation never reads the clocks
(`halfmove`, `fullmove`: they are only copied into the successor).  An en-passant target on which no pawn of the side to
move can capture generates no move: when the hasher's `compute_pawn_attacks(target, !turn) & own pawns` is empty, so
is the generator's en-passant mask (`epBB`: the pawns' attacks met with the target; `firstOne_epBB_not_capturable` — only
this direction is needed).  So two positions with the same `key` (and en-passant targets on the
rank the side to move implies) have the same legal moves.
-/
namespace Wee.Book
open Wee Std Wee.Gen

/-! ## The clocks -/

def setClocks (s : State) (h f : Nat) : State := { s with halfmove := h, fullmove := f }

/-- what `by_performing_move` does to the clocks of the successor -/
def reclock (mv : Move) (turn : Color) (h f : Nat) (n : State) : State :=
  setClocks n (if Move.isCapture mv || Move.piece mv == .pawn then 0 else clockSucc h)
    (if turn == .black then clockSucc f else f)

theorem pseudoLegalMoves_setClocks (s : State) (h f : Nat) :
    pseudoLegalMoves (setClocks s h f) = pseudoLegalMoves s := by rfl

theorem performMove_setClocks (s : State) (h f : Nat) (mv : Move) :
    performMove (setClocks s h f) mv =
      (performMove s mv).map (fun e => e.map (reclock mv s.turn h f)) := by
  rw [C02.performMove_nf, C02.performMove_nf]
  cases hp : Move.piece? mv with
  | none => rfl
  | some p =>
    have hpp : Move.piece mv = p := Move.piece_of_piece? hp
    subst hpp
    dsimp only
    split
    · show (match C02.capStep s mv (C02.baseMap s mv _) with | .error e => _ | .ok map => _) = _
      cases C02.capStep s mv (C02.baseMap s mv (Move.piece mv)) <;> rfl
    · rfl

theorem tryAsLegal_setClocks (s : State) (h f : Nat) (mv : Move) :
    tryAsLegal (setClocks s h f) mv =
      (tryAsLegal s mv).map (Option.map fun r => (r.1, reclock mv s.turn h f r.2)) := by
  unfold tryAsLegal
  rw [performMove_setClocks]
  cases performMove s mv with
  | none => rfl
  | some e =>
    cases e with
    | error _ => rfl
    | ok next =>
      simp only [Option.map_some, Except.map]
      have h1 : (reclock mv s.turn h f next).pieces = next.pieces := rfl
      have h2 : (reclock mv s.turn h f next).turn = next.turn := rfl
      have h3 : (setClocks s h f).turn = s.turn := rfl
      rw [h1, h2, h3]
      split <;> rfl

/-- the moves of `compute_legal_moves` without their successors: `try_as_legal_move` is only asked whether it accepts -/
theorem legalMoves?_map_fst (s : State) :
    (legalMoves? s).map (List.map Prod.fst) =
      (pseudoLegalMoves s).bind fun ps =>
        (ps.mapM fun mv => (tryAsLegal s mv).map (Option.map Prod.fst)).map (List.filterMap id) := by
  unfold legalMoves?
  cases pseudoLegalMoves s with
  | none => rfl
  | some ps =>
    simp only [Option.bind_eq_bind, Option.bind_some, Option.pure_def]
    rw [← mapM_map_option]
    cases ps.mapM (tryAsLegal s) with
    | none => rfl
    | some rs =>
      simp only [Option.bind_some, Option.map_some, List.map_filterMap, List.filterMap_map, Option.some.injEq]
      rfl

theorem legalMoves_map_fst (s : State) :
    (legalMoves s).map (·.1) = ((legalMoves? s).map (List.map Prod.fst)).getD [] := by
  unfold legalMoves
  cases legalMoves? s <;> rfl

/-- the moves of `compute_legal_moves`, without their successors, depend only on the pseudo-legal list and on which of its
members `try_as_legal_move` accepts -/
theorem legalMoves_fst_congr {s s' : State} (hp : pseudoLegalMoves s = pseudoLegalMoves s')
    (ht : ∀ ps, pseudoLegalMoves s' = some ps → ∀ mv ∈ ps,
      (tryAsLegal s mv).map (Option.map Prod.fst) = (tryAsLegal s' mv).map (Option.map Prod.fst)) :
    (legalMoves s).map (·.1) = (legalMoves s').map (·.1) := by
  rw [legalMoves_map_fst, legalMoves_map_fst, legalMoves?_map_fst, legalMoves?_map_fst]
  refine congrArg (fun o => Option.getD o []) ?_
  rw [hp]
  exact Option.bind_congr fun ps hps => by rw [mapM_congr_mem _ _ ps (ht ps hps)]

theorem legalMoves_setClocks (s : State) (h f : Nat) :
    (legalMoves (setClocks s h f)).map (·.1) = (legalMoves s).map (·.1) :=
  legalMoves_fst_congr (pseudoLegalMoves_setClocks s h f) fun ps _ mv _ => by
    rw [tryAsLegal_setClocks]
    cases tryAsLegal s mv with
    | none => rfl
    | some r => cases r <;> rfl

theorem legalMoves_congr_fields (q p : State) (h1 : q.pieces = p.pieces) (h2 : q.turn = p.turn)
    (h3 : q.castleW = p.castleW) (h4 : q.castleB = p.castleB) (h5 : q.ep = p.ep) :
    (legalMoves q).map (·.1) = (legalMoves p).map (·.1) := by
  have : q = setClocks p q.halfmove q.fullmove := by
    cases q; cases p
    simp only at h1 h2 h3 h4 h5
    subst h1 h2 h3 h4 h5
    rfl
  rw [this, legalMoves_setClocks]

/-! ## An en-passant target nobody can capture on -/

theorem isEnPassant_zero : Move.isEnPassant 0 = false := by decide

theorem pawnEpSeg_of_none (h : Helper) (east : Bool) (hz : firstOne (epBB h east) = Option.none) :
    pawnEpSeg h east = some [] := by
  unfold pawnEpSeg; rw [hz]; rfl

/-- the generator sets the en-passant flag only on the square of a mask (`Generated`, `Wee/Proofs/MoveWF.lean`) -/
theorem noEp_pseudoLegalMoves (s : State) (hz : ∀ east, firstOne (epBB (Helper.of s) east) = Option.none)
    (L : List Move) (hL : pseudoLegalMoves s = some L) : ∀ m ∈ L, Move.isEnPassant m = false := by
  intro m hm
  obtain ⟨c, p, o, d, cap, pr, ep, cq, ck, ho, hd, _, hE, rfl⟩ := pseudoLegalMoves_generated s L hL m hm
  rw [Move.isEnPassant_mk c p o d cap pr ep cq ck ho hd]
  cases ep with
  | false => rfl
  | true => obtain ⟨east, hf⟩ := hE rfl; rw [hz east] at hf; cases hf

/-- a pawn on `o` that could capture onto `t` stands where a pawn of the other colour on `t` would attack -/
theorem pawnAttacks_opp_of_step (c : Color) (east : Bool) {o t : Nat} (ho : o < 64) (ht : t < 64)
    (h : Spec.step o (capDf east) (absColor c).fwd = some t) : test (pawnAttacks c.opp t) o = true := by
  rw [C09_pawn (fun _ => false) c.opp t o ht ho, List.contains_iff_mem]
  refine List.mem_filterMap.2 ⟨(-capDf east, -(absColor c).fwd), ?_, step_rev ho h⟩
  cases c <;> cases east <;> decide

theorem pawnAtt_of_not_capturable (s : State) (t : Nat) (ht : t < 64) (hep : s.ep = some t)
    (hc : epCapturable s = Option.none) (east : Bool) : test (pawnAtt (Helper.of s) east) t = false := by
  rw [Bool.eq_false_iff]
  intro hcase
  obtain ⟨o, ho, hst⟩ := (test_pawnAtt _ east t ht).1 hcase
  have hboth : test (pawnAttacks s.turn.opp t &&& s.pieces.get s.turn .pawn) o = true := by
    rw [test_and, pawnAttacks_opp_of_step s.turn east (test_lt _ _ ho) ht hst]
    exact ho
  unfold epCapturable at hc
  rw [hep] at hc
  by_cases hb : bbAny (pawnAttacks s.turn.opp t &&& s.pieces.get s.turn .pawn) = true
  · simp only [if_pos hb] at hc; cases hc
  · have hz : pawnAttacks s.turn.opp t &&& s.pieces.get s.turn .pawn = 0 := by simpa [bbAny] using hb
    rw [hz, test_zero] at hboth
    cases hboth

def dropEp (s : State) : State := { s with ep := Option.none }

theorem firstOne_epBB_not_capturable (s : State) (t : Nat) (ht : t < 64) (hep : s.ep = some t)
    (hc : epCapturable s = Option.none) (east : Bool) : firstOne (epBB (Helper.of s) east) = Option.none := by
  rw [firstOne_epBB (Helper.of s) east t ht hep, pawnAtt_of_not_capturable s t ht hep hc east]
  rfl

theorem pawnMoves_dropEp (s : State) (t : Nat) (ht : t < 64) (hep : s.ep = some t)
    (hc : epCapturable s = Option.none) : pawnMoves (Helper.of s) = pawnMoves (Helper.of (dropEp s)) := by
  have hside : ∀ east, pawnSideSeg (Helper.of s) east = pawnSideSeg (Helper.of (dropEp s)) east := by
    intro east
    rw [pawnSideSeg_eq, pawnSideSeg_eq,
      pawnEpSeg_of_none _ east (firstOne_epBB_not_capturable s t ht hep hc east),
      pawnEpSeg_of_none _ east (firstOne_epBB_none (Helper.of (dropEp s)) east rfl)]
    rfl
  rw [pawnMoves_eq, pawnMoves_eq, hside true, hside false]
  rfl

theorem pseudoLegalMoves_dropEp (s : State) (t : Nat) (ht : t < 64) (hep : s.ep = some t)
    (hc : epCapturable s = Option.none) : pseudoLegalMoves s = pseudoLegalMoves (dropEp s) := by
  rw [pseudoLegalMoves_eq, pseudoLegalMoves_eq, pawnMoves_dropEp s t ht hep hc]
  rfl

theorem performMove_dropEp (s : State) (mv : Move) (h : Move.isEnPassant mv = false) :
    performMove s mv = performMove (dropEp s) mv := by
  have : ∀ p, C02.capStep (dropEp s) mv (C02.baseMap (dropEp s) mv p) = C02.capStep s mv (C02.baseMap s mv p) := by
    intro p; unfold C02.capStep; simp only [h]; rfl
  rw [C02.performMove_nf, C02.performMove_nf]
  cases Move.piece? mv with
  | none => rfl
  | some p => dsimp only; rw [this]; rfl

theorem tryAsLegal_dropEp (s : State) (mv : Move) (h : Move.isEnPassant mv = false) :
    tryAsLegal s mv = tryAsLegal (dropEp s) mv := by
  unfold tryAsLegal
  rw [performMove_dropEp s mv h]
  rfl

theorem legalMoves?_dropEp (s : State) (t : Nat) (ht : t < 64) (hep : s.ep = some t)
    (hc : epCapturable s = Option.none) : legalMoves? s = legalMoves? (dropEp s) :=
  legalMoves?_congr (pseudoLegalMoves_dropEp s t ht hep hc) fun ps hps mv hmv =>
    tryAsLegal_dropEp s mv
      (noEp_pseudoLegalMoves (dropEp s) (fun east => firstOne_epBB_none (Helper.of (dropEp s)) east rfl) ps hps mv hmv)

/-! ## The key decides the legal moves -/

/-- the en-passant target, if any, is on the rank the side to move implies (rank 6 when White is to move, rank 3 when
Black is).  Every `LegalPos` satisfies it (`EpOK_of_legalPos`). -/
def EpOK (s : State) : Prop :=
  ∀ t, s.ep = some t → t < 64 ∧ rankOf t = (match s.turn with | .white => 5 | .black => 2)

def normEp (s : State) : State := { s with ep := epCapturable s }

theorem epCapturable_cases (s : State) : epCapturable s = s.ep ∨ (epCapturable s = Option.none ∧ ∃ t, s.ep = some t) := by
  unfold epCapturable
  cases hep : s.ep with
  | none => exact Or.inl rfl
  | some t =>
    simp only []
    split
    · exact Or.inl rfl
    · exact Or.inr ⟨rfl, t, rfl⟩

theorem legalMoves?_normEp (s : State) (hok : EpOK s) : legalMoves? s = legalMoves? (normEp s) := by
  rcases epCapturable_cases s with h | ⟨h, t, hep⟩
  · have : normEp s = s := by unfold normEp; rw [h]
    rw [this]
  · have : normEp s = dropEp s := by unfold normEp dropEp; rw [h]
    rw [this]
    exact legalMoves?_dropEp s t (hok t hep).1 hep h

theorem epCapturable_eq_of_key (q p : State) (hk : key q = key p) (hq : EpOK q) (hp : EpOK p) :
    epCapturable q = epCapturable p := by
  simp only [key, Prod.mk.injEq] at hk
  obtain ⟨_, hturn, _, _, hf⟩ := hk
  unfold epFile? at hf
  have hsub : ∀ s : State, ∀ t, epCapturable s = some t → s.ep = some t := by
    intro s t h
    rcases epCapturable_cases s with h' | ⟨h', _⟩
    · rw [← h', h]
    · rw [h'] at h; cases h
  cases hcq : epCapturable q with
  | none =>
    cases hcp : epCapturable p with
    | none => rfl
    | some tp => rw [hcq, hcp] at hf; cases hf
  | some tq =>
    cases hcp : epCapturable p with
    | none => rw [hcq, hcp] at hf; cases hf
    | some tp =>
      rw [hcq, hcp] at hf
      simp only [Option.map_some, Option.some.injEq] at hf
      obtain ⟨_, hrq⟩ := hq tq (hsub q tq hcq)
      obtain ⟨_, hrp⟩ := hp tp (hsub p tp hcp)
      rw [hturn] at hrq
      have hr : rankOf tq = rankOf tp := by rw [hrq, hrp]
      unfold fileOf at hf
      unfold rankOf at hr
      have : tq = tp := by omega
      rw [this]

theorem legalMoves_congr_key (q p : State) (hk : key q = key p) (hq : EpOK q) (hp : EpOK p) :
    (legalMoves q).map (·.1) = (legalMoves p).map (·.1) := by
  rw [legalMoves_congr (legalMoves?_normEp q hq), legalMoves_congr (legalMoves?_normEp p hp)]
  have he := epCapturable_eq_of_key q p hk hq hp
  simp only [key, Prod.mk.injEq] at hk
  obtain ⟨h1, h2, h3, h4, _⟩ := hk
  exact legalMoves_congr_fields (normEp q) (normEp p) h1 h2 h3 h4 he

theorem EpOK_of_legalPos (s : State) (h : LegalPos s = true) : EpOK s := by
  intro e he
  have h1 := ((legal_abs h).ep e he).1
  have hturn : (abs s).turn = absColor s.turn := rfl
  rw [hturn] at h1
  unfold rankOf
  revert h1
  cases s.turn <;> simp only [absColor, Spec.Color.opp, Spec.homeRank, Spec.Color.fwd] <;> omega

end Wee.Book
