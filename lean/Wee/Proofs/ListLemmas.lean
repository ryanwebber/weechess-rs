/-!
# Lists: facts about `List.mapM` in `Option`, `filter` and `Nodup` that several layers use

`l.mapM f = some rs` is how the model writes "the loop over `l` did not panic and collected `rs`" (`compute_legal_moves`,
`try_as_legal_move` over the pseudo-legal moves, the book builder).
-/
namespace Wee

/-- a successful `mapM` in `Option` relates inputs and outputs element by element, in both directions -/
theorem mapM_option_mem {α β : Type} (f : α → Option β) : ∀ (l : List α) (rs : List β), l.mapM f = some rs →
    (∀ x ∈ l, ∃ y, f x = some y ∧ y ∈ rs) ∧ (∀ y ∈ rs, ∃ x ∈ l, f x = some y) := by
  intro l
  induction l with
  | nil =>
    intro rs h
    rw [List.mapM_nil] at h
    cases h
    exact ⟨fun x hx => (nomatch hx), fun y hy => (nomatch hy)⟩
  | cons a l ih =>
    intro rs h
    rw [List.mapM_cons] at h
    cases hfa : f a with
    | none => rw [hfa] at h; cases h
    | some y =>
      rw [hfa] at h
      cases hl : l.mapM f with
      | none => rw [hl] at h; cases h
      | some ys =>
        rw [hl] at h
        cases h
        obtain ⟨i1, i2⟩ := ih ys hl
        refine ⟨fun x hx => ?_, fun y' hy' => ?_⟩
        · rcases List.mem_cons.1 hx with rfl | hx
          · exact ⟨y, hfa, List.mem_cons_self⟩
          · obtain ⟨y', h1, h2⟩ := i1 x hx
            exact ⟨y', h1, List.mem_cons_of_mem _ h2⟩
        · rcases List.mem_cons.1 hy' with rfl | hy'
          · exact ⟨a, List.mem_cons_self, hfa⟩
          · obtain ⟨x, h1, h2⟩ := i2 y' hy'
            exact ⟨x, List.mem_cons_of_mem _ h1, h2⟩

theorem mapM_some_mem {α β : Type} {f : α → Option β} {l : List α} {rs : List β} (h : l.mapM f = some rs) :
    ∀ y ∈ rs, ∃ x ∈ l, f x = some y :=
  (mapM_option_mem f l rs h).2

/-- the loop does not panic when its body panics on no element -/
theorem mapM_ne_none {α β : Type} (f : α → Option β) :
    ∀ l : List α, (∀ x ∈ l, f x ≠ Option.none) → ∃ ys, l.mapM f = some ys
  | [], _ => ⟨[], rfl⟩
  | a :: l, h => by
    obtain ⟨y, hy⟩ := Option.ne_none_iff_exists'.1 (h a List.mem_cons_self)
    obtain ⟨ys, hys⟩ := mapM_ne_none f l fun x hx => h x (List.mem_cons_of_mem _ hx)
    exact ⟨y :: ys, by rw [List.mapM_cons, hy, hys]; rfl⟩

/-- in a list without duplicates a predicate that singles out `a` filters to `[a]` (`MoveSet::filter` with a query that
matches one move) -/
theorem filter_eq_singleton {α : Type} (p : α → Bool) (l : List α) (a : α) (hnd : l.Nodup) (ha : a ∈ l)
    (hp : ∀ x ∈ l, (p x = true ↔ x = a)) : l.filter p = [a] := by
  induction l with
  | nil => cases ha
  | cons b l ih =>
    rw [List.nodup_cons] at hnd
    by_cases hb : b = a
    · subst hb
      have hrest : l.filter p = [] := by
        rw [List.filter_eq_nil_iff]
        intro x hx hxt
        have := (hp x (List.mem_cons_of_mem _ hx)).1 hxt
        exact hnd.1 (this ▸ hx)
      rw [List.filter_cons, if_pos ((hp b (List.mem_cons_self ..)).2 rfl), hrest]
    · have ha' : a ∈ l := by
        rcases List.mem_cons.1 ha with h | h
        · exact absurd h.symm hb
        · exact h
      have hbt : ¬ p b = true := fun h => hb ((hp b (List.mem_cons_self ..)).1 h)
      rw [List.filter_cons, if_neg hbt]
      exact ih hnd.2 ha' (fun x h' => hp x (List.mem_cons_of_mem _ h'))

theorem nodup_of_nodup_map {α β : Type} (f : α → β) (l : List α) (h : (l.map f).Nodup) : l.Nodup :=
  List.Pairwise.of_map f (fun _ _ hne e => hne (e ▸ rfl)) h

theorem inj_of_nodup_map {α β : Type} (f : α → β) : ∀ (l : List α), (l.map f).Nodup →
    ∀ x ∈ l, ∀ y ∈ l, f x = f y → x = y := by
  intro l
  induction l with
  | nil => intro _ x hx; cases hx
  | cons a l ih =>
    intro hnd x hx y hy e
    rw [List.map_cons, List.nodup_cons] at hnd
    rcases List.mem_cons.1 hx with h1 | h1 <;> rcases List.mem_cons.1 hy with h2 | h2
    · rw [h1, h2]
    · subst h1; exact absurd (e ▸ List.mem_map_of_mem h2) hnd.1
    · subst h2; exact absurd (e ▸ List.mem_map_of_mem h1) hnd.1
    · exact ih hnd.2 x h1 y h2 e

/-- no duplicates in a list of lists: the index list has none, no list has, and a common member of two of the lists
forces the same index -/
theorem nodup_flatMap_of {α β : Type} {l : List α} {f : α → List β} (hl : l.Nodup) (hf : ∀ a ∈ l, (f a).Nodup)
    (hd : ∀ a₁ ∈ l, ∀ a₂ ∈ l, ∀ x ∈ f a₁, x ∈ f a₂ → a₁ = a₂) : (l.flatMap f).Nodup :=
  List.pairwise_flatMap.2
    ⟨hf, hl.imp_of_mem fun h1 h2 hne x hx _ hy e => hne (hd _ h1 _ h2 x hx (e ▸ hy))⟩

theorem flatMap_single {α β : Type} (g : α → β) (l : List α) : l.flatMap (fun x => [g x]) = l.map g :=
  List.map_eq_flatMap.symm

theorem mem_map_eq {α β : Type} (f : α → β) (l : List α) (x : β) : x ∈ l.map f ↔ ∃ a ∈ l, x = f a := by
  simp only [List.mem_map, eq_comm]

theorem mem_map_some {α : Type} (l : List α) (x : Option α) : x ∈ l.map some ↔ ∃ a ∈ l, x = some a :=
  mem_map_eq some l x

/-- the running maximum over a list is one of its members, or the start value -/
theorem foldl_max_mem (e : Int) (es : List Int) : es.foldl max e ∈ e :: es := by
  induction es generalizing e with
  | nil => exact List.mem_cons_self
  | cons x xs ih =>
    rw [List.foldl_cons]
    rcases List.mem_cons.1 (ih (max e x)) with h | h
    · rw [h]
      by_cases hle : e ≤ x
      · rw [Int.max_eq_right hle]; exact List.mem_cons_of_mem _ List.mem_cons_self
      · rw [Int.max_eq_left (by omega)]; exact List.mem_cons_self
    · exact List.mem_cons_of_mem _ (List.mem_cons_of_mem _ h)

theorem le_foldl_max (e : Int) (es : List Int) : e ≤ es.foldl max e := by
  induction es generalizing e with
  | nil => exact Int.le_refl _
  | cons x xs ih =>
    rw [List.foldl_cons]
    exact Int.le_trans (Int.le_max_left e x) (ih (max e x))

/-- `mapM` in `Option` commutes with mapping the results -/
theorem mapM_map_option {α β γ : Type} (g : α → Option β) (φ : β → γ) (l : List α) :
    (l.mapM g).map (List.map φ) = l.mapM (fun a => (g a).map φ) := by
  induction l with
  | nil => rfl
  | cons a l ih =>
    rw [List.mapM_cons, List.mapM_cons, ← ih]
    cases g a <;> cases l.mapM g <;> rfl

theorem mapM_congr_mem {α β : Type} (f g : α → Option β) (l : List α) (h : ∀ a ∈ l, f a = g a) :
    l.mapM f = l.mapM g := by
  induction l with
  | nil => rfl
  | cons a l ih =>
    rw [List.mapM_cons, List.mapM_cons, h a (by simp), ih (fun a' ha' => h a' (List.mem_cons_of_mem _ ha'))]

theorem filterMap_congr {α β : Type} {f g : α → Option β} : ∀ (l : List α), (∀ x ∈ l, f x = g x) →
    l.filterMap f = l.filterMap g := by
  intro l
  induction l with
  | nil => intro _; rfl
  | cons a t ih =>
    intro h
    rw [List.filterMap_cons, List.filterMap_cons, h a List.mem_cons_self,
      ih (fun x hx => h x (List.mem_cons_of_mem _ hx))]

/-! ## a total `mapM` in `Option` is a `filterMap`; what a filtering `mapM` keeps is a sublist -/

theorem mapM_eq_filterMap {α β : Type} (f : α → Option β) :
    ∀ (l : List α), (∀ x ∈ l, ∃ y, f x = some y) → l.mapM f = some (l.filterMap f) := by
  intro l
  induction l with
  | nil => intro _; rfl
  | cons a t ih =>
    intro h
    obtain ⟨y, hy⟩ := h a List.mem_cons_self
    rw [List.mapM_cons, hy, ih (fun x hx => h x (List.mem_cons_of_mem _ hx)), List.filterMap_cons, hy]
    rfl

/-- a loop that keeps some of its inputs, each as the first component of its result: the kept ones are a sublist -/
theorem mapM_kept_sublist {α β : Type} (f : α → Option (Option (α × β))) (hf : ∀ a r, f a = some (some r) → r.1 = a) :
    ∀ (l : List α) (rs : List (Option (α × β))), l.mapM f = some rs → ((rs.filterMap id).map Prod.fst).Sublist l := by
  intro l
  induction l with
  | nil =>
    intro rs h
    rw [List.mapM_nil] at h
    cases h
    exact List.Sublist.slnil
  | cons a t ih =>
    intro rs h
    rw [List.mapM_cons] at h
    cases hfa : f a with
    | none => rw [hfa] at h; cases h
    | some y =>
      rw [hfa] at h
      cases ht : t.mapM f with
      | none => rw [ht] at h; cases h
      | some ys =>
        rw [ht] at h
        cases h
        cases y with
        | none => exact List.Sublist.cons _ (ih ys ht)
        | some r =>
          rw [List.filterMap_cons_some (f := id) (a := some r) (b := r) rfl, List.map_cons, hf a r hfa]
          exact List.Sublist.cons_cons _ (ih ys ht)

/-! ## `if c then [x] else []` -/

theorem mem_ite_single' {α : Type} {c : Prop} [Decidable c] {x a : α} (h : a ∈ (if c then [x] else [])) :
    c ∧ a = x := by
  by_cases hc : c
  · rw [if_pos hc] at h; exact ⟨hc, List.mem_singleton.1 h⟩
  · rw [if_neg hc] at h; cases h

theorem mem_ite_single {α : Type} {c : Prop} [Decidable c] {x a : α} (h : a ∈ (if c then [x] else [])) : a = x :=
  (mem_ite_single' h).2

theorem ite_single_nodup {α : Type} {c : Prop} [Decidable c] (x : α) : (if c then [x] else []).Nodup := by
  split <;> simp

theorem ite_singleton_length {α : Type} (c : Prop) [Decidable c] (m : α) : (if c then [m] else []).length ≤ 1 := by
  split <;> simp

theorem map_ite_single {α β γ : Type} (c : Prop) [Decidable c] (f : α → γ) (g : β → γ) (x : α) (y : β)
    (h : f x = g y) : List.map f (if c then [x] else []) = List.map g (if c then [y] else []) := by
  split <;> simp [h]

/-! ## filters, `flatMap`, `Nodup`, an induction from the end -/

/-- a filter that keeps at most one element keeps none, or exactly one member of the list -/
theorem filter_le_one {α : Type} (p : α → Bool) (l : List α) (h : (l.filter p).length ≤ 1) :
    l.filter p = [] ∨ ∃ a ∈ l, p a = true ∧ l.filter p = [a] := by
  match hm : l.filter p, h with
  | [], _ => exact .inl rfl
  | [a], _ =>
    have ha : a ∈ l.filter p := by rw [hm]; exact List.mem_singleton.2 rfl
    exact .inr ⟨a, (List.mem_filter.1 ha).1, (List.mem_filter.1 ha).2, rfl⟩

theorem flatten_map_eq_flatMap {α β : Type} (f : α → β) (l : List (List α)) :
    l.flatten.map f = l.flatMap (List.map f) := by
  induction l with
  | nil => rfl
  | cons a t ih => simp [ih]

theorem flatMap_length_le {α β : Type} (f : α → List β) (B : Nat) (hf : ∀ x, (f x).length ≤ B) :
    ∀ l : List α, (l.flatMap f).length ≤ B * l.length := by
  intro l
  induction l with
  | nil => simp
  | cons x xs ih =>
    rw [List.flatMap_cons, List.length_append, List.length_cons]
    have := hf x
    rw [Nat.mul_succ]
    omega

theorem map_some_nodup {α : Type} {l : List α} (h : l.Nodup) : (l.map some).Nodup := by
  rw [List.nodup_iff_pairwise_ne, List.pairwise_map]
  exact (List.nodup_iff_pairwise_ne.1 h).imp (fun hne e => hne (Option.some.inj e))

theorem snoc_induction {α : Type} {P : List α → Prop} (nil : P [])
    (snoc : ∀ l a, P l → P (l ++ [a])) : ∀ l, P l := by
  intro l
  rw [← List.reverse_reverse l]
  induction l.reverse with
  | nil => exact nil
  | cons a t ih => rw [List.reverse_cons]; exact snoc _ a ih

/-! ## `set` on a list; sums and folds of integers -/

theorem getD_set_self {α : Type} (l : List α) (i : Nat) (v d : α) (h : i < l.length) :
    (l.set i v).getD i d = v := by
  simp [List.getD_eq_getElem?_getD, h]

theorem getD_set_ne {α : Type} (l : List α) {i j : Nat} (v d : α) (h : i ≠ j) :
    (l.set i v).getD j d = l.getD j d := by
  simp [List.getD_eq_getElem?_getD, h]

theorem sum_map_set {α : Type} (f : α → Nat) {l : List α} {i : Nat} {v : α} (d : α) {c : Nat}
    (h : i < l.length) (hv : f v = f (l.getD i d) + c) :
    ((l.set i v).map f).sum = (l.map f).sum + c := by
  rw [List.getD_eq_getElem?_getD, List.getElem?_eq_getElem h, Option.getD_some] at hv
  rw [List.set_eq_take_append_cons_drop, if_pos h]
  conv => rhs; rw [← List.take_append_drop i l, List.drop_eq_getElem_cons h]
  simp only [List.map_append, List.map_cons, List.sum_append_nat, List.sum_cons, hv]
  omega

/-- a left fold whose step at `x` moves the accumulator by an amount in `[lo x, hi x]` -/
theorem foldl_bounds {α : Type} (f : Int → α → Int) (lo hi : α → Int) :
    ∀ (l : List α) (a : Int), (∀ acc, ∀ x ∈ l, acc + lo x ≤ f acc x ∧ f acc x ≤ acc + hi x) →
      a + (l.map lo).sum ≤ l.foldl f a ∧ l.foldl f a ≤ a + (l.map hi).sum
  | [], a, _ => by simp
  | x :: xs, a, h => by
    have hx := h a x List.mem_cons_self
    have := foldl_bounds f lo hi xs (f a x) fun acc y hy => h acc y (List.mem_cons_of_mem _ hy)
    simp only [List.foldl_cons, List.map_cons, List.sum_cons]
    omega

theorem sum_map_const {α : Type} (c : Int) (l : List α) : (l.map fun _ => c).sum = c * l.length := by
  induction l with
  | nil => simp
  | cons x xs ih =>
    simp only [List.map_cons, List.sum_cons, ih, List.length_cons]; rw [Int.natCast_add, Int.mul_add]; omega

theorem foldl_add_bounds {α : Type} (g : α → Int) (lo hi : Int) (l : List α) (a : Int)
    (h : ∀ x ∈ l, lo ≤ g x ∧ g x ≤ hi) :
    a + lo * l.length ≤ l.foldl (fun acc x => acc + g x) a ∧
    l.foldl (fun acc x => acc + g x) a ≤ a + hi * l.length := by
  have := foldl_bounds (fun acc x => acc + g x) (fun _ => lo) (fun _ => hi) l a
    fun acc x hx => by have := h x hx; omega
  rwa [sum_map_const, sum_map_const] at this

theorem foldl_add_congr {α : Type} (g g' : α → Int) (l : List α) (a : Int) (h : ∀ x ∈ l, g x = g' x) :
    l.foldl (fun acc x => acc + g x) a = l.foldl (fun acc x => acc + g' x) a := by
  induction l generalizing a with
  | nil => rfl
  | cons x xs ih =>
    simp only [List.foldl_cons]
    rw [h x List.mem_cons_self]
    exact ih _ (fun y hy => h y (List.mem_cons_of_mem _ hy))

/-- what `getD` reads is an element of the list or the default -/
theorem mem_getD_or {α : Type} (l : List α) (i : Nat) (d : α) : l.getD i d ∈ l ∨ l.getD i d = d := by
  by_cases h : i < l.length
  · left; simp [List.getD_eq_getElem?_getD, h]
  · right; simp [List.getD_eq_getElem?_getD, Nat.not_lt.1 h]

end Wee
