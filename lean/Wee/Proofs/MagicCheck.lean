import Wee.Model.Attacks
import Wee.Proofs.BitLemmas
import Wee.Proofs.Step
/-!
# Exhaustive check of one magic table against a ray walk

`walk occ df dr fuel sq` is the bitboard of the squares met when stepping from `sq` in direction
`(df, dr)` up to and including the first square set in `occ` (it uses the model's `offset`, i.e.
`Square::offset`; `Wee/Proofs/Slide.lean` proves it equal to the independent `Spec.slideDir`).

`checkRook sq magic bits` evaluates, for every `b < 2^bits`, the real pipeline
(`blockersFromIndex`, wrapping multiply, shift, look-up in the table built by the fold of
`compute_rook_magic_table`) and compares the entry found with the ray walk; it also checks that the
index is inside the 4096-entry `Vec` (an index `≥ 4096` is a Rust panic) and that the index width
is large enough for every subset of the mask to be enumerated.

`rookFits sq magic bits` is the form of the same check that the kernel evaluates in `Wee/Props/C09/*`
(`Wee/Proofs/Sweep.lean`: `rookFits sq m b = true → checkRook sq m b = true`).
-/
namespace Wee

/-- squares seen from `sq` along `(df, dr)`: up to and including the first square set in `occ` -/
def walk (occ : UInt64) (df dr : Int) : Nat → Nat → UInt64
  | 0, _ => 0
  | fuel+1, sq =>
    match offset sq df dr with
    | Option.none => 0
    | some n => if test occ n then bit n else bit n ||| walk occ df dr fuel n

/-- rook reference: the four orthogonal ray walks -/
def rookWalk (sq : Nat) (occ : UInt64) : UInt64 :=
  walk occ 0 1 8 sq ||| walk occ 0 (-1) 8 sq ||| walk occ 1 0 8 sq ||| walk occ (-1) 0 8 sq

/-- bishop reference: the four diagonal ray walks -/
def bishopWalk (sq : Nat) (occ : UInt64) : UInt64 :=
  walk occ 1 1 8 sq ||| walk occ (-1) 1 8 sq ||| walk occ 1 (-1) 8 sq ||| walk occ (-1) (-1) 8 sq

/-- for `b = b₀ .. b₀+n-1`: the index of `blockersFromIndex b mask` is inside the table (`< size`) and
the table holds the reference value there -/
def checkLoop (table size : Nat) (ref : UInt64 → UInt64) (mask magic : UInt64) (bits : Nat) : Nat → Nat → Bool
  | 0, _ => true
  | n+1, b =>
    (decide (magicIndex (blockersFromIndex b mask) magic bits < size) &&
      tget table (magicIndex (blockersFromIndex b mask) magic bits) == ref (blockersFromIndex b mask)) &&
    checkLoop table size ref mask magic bits n (b+1)

def checkRook (sq : Nat) (magic : UInt64) (bits : Nat) : Bool :=
  decide (bits ≤ 12) && decide (popcount (rookMask sq) ≤ bits) &&
  checkLoop (rookTableOf sq magic bits) Gen.rookTableSize (rookWalk sq) (rookMask sq) magic bits (2 ^ bits) 0

def checkBishop (sq : Nat) (magic : UInt64) (bits : Nat) : Bool :=
  decide (bits ≤ 12) && decide (popcount (bishopMask sq) ≤ bits) &&
  checkLoop (bishopTableOf sq magic bits) Gen.bishopTableSize (bishopWalk sq) (bishopMask sq) magic bits (2 ^ bits) 0

/-! ## the check as the kernel runs it

`checkRook` is slow to evaluate: every `UInt64` operation unfolds to `BitVec` and `Fin`, and every index is
deposited bit by bit.  Here everything in the inner loop is a `Nat` operation on literals, which the kernel
performs in one step.  Each of the four rays contributes the table of its own blocker subsets with their
ray walks (`tabOf`, at most 64 rows), and the subsets of the whole mask with their reference attack sets are
the unions of one row per ray (`sweep`).  The magic table is filled and checked in one pass: `place` writes
the attack set into the slot of a blocker set if the slot is empty (`0`; `place` refuses an empty attack
set) and fails if it holds anything else, so that after a successful sweep every slot that any blocker set
hashes to holds the attack set of all of them, whatever the order of the writes. -/

/-- the squares of the ray from `sq` in direction `(df, dr)`, in walking order (`compute_ray`) -/
def rayList (df dr : Int) : Nat → Nat → List Nat
  | 0, _ => []
  | fuel+1, sq =>
    match offset sq df dr with
    | Option.none => []
    | some n => n :: rayList df dr fuel n

/-- `walk` over a precomputed ray list -/
def walkL (occ : UInt64) : List Nat → UInt64
  | [] => 0
  | n :: rest => if test occ n then bit n else bit n ||| walkL occ rest

/-- slot `i` of the table `t` must hold `v`: fill it if it is empty, fail if it holds another value,
if `v` is the empty-slot marker `0`, or if `i` is outside the table -/
def place (size v t i : Nat) : Option Nat :=
  bif Nat.blt i size && !Nat.beq v 0 then
    bif Nat.beq ((t >>> (64 * i)) % 2 ^ 64) v then some t
    else bif Nat.beq ((t >>> (64 * i)) % 2 ^ 64) 0 then some (t ||| v <<< (64 * i)) else none
  else none

/-- `f x w` over the rows `(x, w)` of a ray table, threading the magic table -/
def forRows (f : Nat → Nat → Nat → Option Nat) : List (Nat × Nat) → Nat → Option Nat
  | [], t => some t
  | (x, w) :: r, t =>
    match f x w t with
    | Option.none => Option.none
    | some t' => forRows f r t'

/-- for every choice of one row `(x, w)` per ray: `place` the union of the `w` (with `v`) at the magic
index `(s * magic mod 2^64) >> sh` of the union `s` of the `x` -/
def sweep (magic sh size : Nat) : List (List (Nat × Nat)) → Nat → Nat → Nat → Option Nat
  | [], s, v, t => place size v t ((s * magic % 2 ^ 64) >>> sh)
  | r :: rs, s, v, t => forRows (fun x w t => sweep magic sh size rs (s ||| x) (v ||| w) t) r t

/-! `place`, `forRows` and `sweep` once more, in the form the kernel evaluates fastest: the recursors of `List`, `Option`
and `Bool` in place of compiled structural recursion and `match` (the kernel unfolds a function compiled from structural
recursion through `brecOn` and the tuple of all results below the argument, at every call), and `Nat.shiftRight`,
`Nat.lor` … in place of `>>>`, `|||` … (each notation is four or five instance unfoldings away from the operation the
kernel performs in one step).  The sweep makes a few thousand calls per square, and in this form each is cheaper for the
kernel.  (Recursors are not compiled, so these are `noncomputable`: `place`, `forRows` and `sweep` remain the
definitions one reads and runs, and `Proofs/Sweep.lean` is about them.) -/

noncomputable def placeR (size v t i : Nat) : Option Nat :=
  @Bool.rec (fun _ => Option Nat) Option.none
    (@Bool.rec (fun _ => Option Nat)
      (@Bool.rec (fun _ => Option Nat)
        (@Bool.rec (fun _ => Option Nat) Option.none (some (Nat.lor t (Nat.shiftLeft v (Nat.mul 64 i))))
          (Nat.beq (Nat.mod (Nat.shiftRight t (Nat.mul 64 i)) 18446744073709551616) 0))
        (some t) (Nat.beq (Nat.mod (Nat.shiftRight t (Nat.mul 64 i)) 18446744073709551616) v))
      Option.none (Nat.beq v 0))
    (Nat.blt i size)

noncomputable def forRowsR (f : Nat → Nat → Nat → Option Nat) (rows : List (Nat × Nat)) : Nat → Option Nat :=
  @List.rec (Nat × Nat) (fun _ => Nat → Option Nat) (fun t => some t)
    (fun p _ ih t => @Option.rec Nat (fun _ => Option Nat) Option.none ih (f p.1 p.2 t)) rows

noncomputable def sweepR (magic sh size : Nat) (rays : List (List (Nat × Nat))) : Nat → Nat → Nat → Option Nat :=
  @List.rec (List (Nat × Nat)) (fun _ => Nat → Nat → Nat → Option Nat)
    (fun s v t => placeR size v t (Nat.shiftRight (Nat.mod (Nat.mul s magic) 18446744073709551616) sh))
    (fun r _ ih s v t => forRowsR (fun x w t => ih (Nat.lor s x) (Nat.lor v w) t) r t) rays

theorem placeR_eq (size v t i : Nat) : placeR size v t i = place size v t i := by
  have e1 : Nat.mod (Nat.shiftRight t (Nat.mul 64 i)) 18446744073709551616 = (t >>> (64 * i)) % 2 ^ 64 := rfl
  have e2 : Nat.lor t (Nat.shiftLeft v (Nat.mul 64 i)) = t ||| v <<< (64 * i) := rfl
  unfold placeR place
  rw [e1, e2]
  cases Nat.blt i size <;> cases Nat.beq v 0 <;> cases Nat.beq ((t >>> (64 * i)) % 2 ^ 64) v <;>
    cases Nat.beq ((t >>> (64 * i)) % 2 ^ 64) 0 <;> rfl

theorem forRowsR_eq (f : Nat → Nat → Nat → Option Nat) : ∀ rows t, forRowsR f rows t = forRows f rows t
  | [], _ => rfl
  | (x, w) :: r, t => by
    show @Option.rec Nat (fun _ => Option Nat) Option.none (forRowsR f r) (f x w t) = forRows f ((x, w) :: r) t
    rw [forRows]; cases f x w t
    · rfl
    · exact forRowsR_eq f r _

theorem sweepR_eq (magic sh size : Nat) : ∀ rays s v t, sweepR magic sh size rays s v t = sweep magic sh size rays s v t
  | [], _, _, _ => placeR_eq ..
  | r :: rs, s, v, t => by
    show forRowsR (fun x w t => sweepR magic sh size rs (s ||| x) (v ||| w) t) r t = sweep magic sh size (r :: rs) s v t
    rw [sweep, forRowsR_eq]
    exact congrArg (fun g => forRows g r t) (funext fun x => funext fun w => funext fun t => sweepR_eq magic sh size rs _ _ t)

theorem sweep_eq_sweepR : @sweep = @sweepR := by
  funext magic sh size rays s v t; exact (sweepR_eq magic sh size rays s v t).symm

/-- rows `i₀ .. i₀+n-1` of a ray table: the `i`-th subset of the ray mask (bits `L`) and its walk along
the ray squares `R` -/
def rayRows (L R : List Nat) : Nat → Nat → List (Nat × Nat)
  | 0, _ => []
  | n+1, i => ((Fast.depositL i L).toNat, (walkL (Fast.depositL i L) R).toNat) :: rayRows L R n (i+1)

/-- every blocker subset of the part `m` of the relevance mask that lies on the ray `(df, dr)` from `sq`,
with its ray walk -/
def tabOf (m : UInt64) (df dr : Int) (sq : Nat) : List (Nat × Nat) :=
  rayRows (bitsOf m) (rayList df dr 8 sq) (2 ^ popcount m) 0

/-- the four parts of `compute_rook_slide_masks`, each with the direction of its ray, in the order of the
rays in `rookWalk` -/
def rookParts (sq : Nat) : List (UInt64 × Int × Int) :=
  [(ray .n sq &&& ~~~(rankMask 7), 0, 1), (ray .s sq &&& ~~~(rankMask 0), 0, -1),
   (ray .e sq &&& ~~~(fileMask 7), 1, 0), (ray .w sq &&& ~~~(fileMask 0), -1, 0)]

/-- the four parts of `compute_bishop_slide_masks`, in the order of the rays in `bishopWalk` -/
def bishopParts (sq : Nat) : List (UInt64 × Int × Int) :=
  [(ray .ne sq &&& ~~~(fileMask 7 ||| rankMask 7), 1, 1), (ray .nw sq &&& ~~~(fileMask 0 ||| rankMask 7), -1, 1),
   (ray .se sq &&& ~~~(fileMask 7 ||| rankMask 0), 1, -1), (ray .sw sq &&& ~~~(fileMask 0 ||| rankMask 0), -1, -1)]

def tabsOf (sq : Nat) (parts : List (UInt64 × Int × Int)) : List (List (Nat × Nat)) :=
  parts.map fun p => tabOf p.1 p.2.1 p.2.2 sq

/-- the statement checked by the kernel for each rook square -/
def rookFits (sq : Nat) (magic : UInt64) (bits : Nat) : Bool :=
  decide (0 < bits) && decide (bits ≤ 12) && decide (popcount (rookMask sq) ≤ bits) &&
  (sweep magic.toNat (64 - bits) Gen.rookTableSize (tabsOf sq (rookParts sq)) 0 0 0).isSome

/-- the statement checked by the kernel for each bishop square -/
def bishopFits (sq : Nat) (magic : UInt64) (bits : Nat) : Bool :=
  decide (0 < bits) && decide (bits ≤ 12) && decide (popcount (bishopMask sq) ≤ bits) &&
  (sweep magic.toNat (64 - bits) Gen.bishopTableSize (tabsOf sq (bishopParts sq)) 0 0 0).isSome

/-- all eight squares of rank `r` (`r = 0` is rank 1) -/
def rookRankFits (r : Nat) : Bool :=
  (List.range 8).all fun f => rookFits (8 * r + f) (Gen.rookMagics.getD (8 * r + f) 0) (Gen.rookBitsTab.getD (8 * r + f) 0)

def bishopRankFits (r : Nat) : Bool :=
  (List.range 8).all fun f =>
    bishopFits (8 * r + f) (Gen.bishopMagics.getD (8 * r + f) 0) (Gen.bishopBitsTab.getD (8 * r + f) 0)

theorem checkLoop_sound (table size : Nat) (ref : UInt64 → UInt64) (mask magic : UInt64) (bits : Nat) :
    ∀ n b₀, checkLoop table size ref mask magic bits n b₀ = true →
      ∀ b, b₀ ≤ b → b < b₀ + n →
        magicIndex (blockersFromIndex b mask) magic bits < size ∧
        tget table (magicIndex (blockersFromIndex b mask) magic bits) = ref (blockersFromIndex b mask) := by
  intro n
  induction n with
  | zero => intro b₀ _ b h1 h2; omega
  | succ n ih =>
    intro b₀ h b h1 h2
    simp only [checkLoop, Bool.and_eq_true, decide_eq_true_eq, beq_iff_eq] at h
    by_cases hb : b = b₀
    · subst hb; exact h.1
    · exact ih (b₀+1) h.2 b (by omega) (by omega)

/-! ## the squares of a ray as a list: the walk, the whole ray and their bitboards are functions of `rayList` -/

theorem walk_eq_walkL (occ : UInt64) (df dr : Int) : ∀ fuel sq,
    walk occ df dr fuel sq = walkL occ (rayList df dr fuel sq) := by
  intro fuel
  induction fuel with
  | zero => intro sq; rfl
  | succ f ih =>
    intro sq
    unfold walk rayList
    cases offset sq df dr with
    | none => rfl
    | some n => simp only [walkL, ih]

theorem mem_rayList_lt (df dr : Int) : ∀ fuel sq n, n ∈ rayList df dr fuel sq → n < 64 := by
  intro fuel
  induction fuel with
  | zero => intro sq n h; cases h
  | succ f ih =>
    intro sq n h
    unfold rayList at h
    cases hoff : offset sq df dr with
    | none => rw [hoff] at h; cases h
    | some m =>
      rw [hoff] at h
      cases h with
      | head => exact offset_lt hoff
      | tail _ h => exact ih m n h

/-- the bitboard of a list of squares -/
def orBits : List Nat → UInt64
  | [] => 0
  | n :: rest => bit n ||| orBits rest

theorem test_orBits : ∀ (l : List Nat), (∀ n ∈ l, n < 64) → ∀ t, test (orBits l) t = decide (t ∈ l) := by
  intro l
  induction l with
  | nil => intro _ t; simp [orBits, test_zero]
  | cons n rest ih =>
    intro h t
    rw [orBits, test_or, test_bit n t (h n List.mem_cons_self), ih (fun m hm => h m (List.mem_cons_of_mem _ hm))]
    simp [eq_comm]

theorem rayFrom_eq_orBits (df dr : Int) : ∀ fuel sq, rayFrom df dr fuel sq = orBits (rayList df dr fuel sq) := by
  intro fuel
  induction fuel with
  | zero => intro sq; rfl
  | succ f ih =>
    intro sq
    unfold rayFrom rayList
    cases offset sq df dr with
    | none => rfl
    | some n => simp only [orBits, ih]

end Wee
