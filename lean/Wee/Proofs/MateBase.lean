import Wee.Proofs.EvalLemmas
import Wee.Proofs.ApplyGen
import Wee.Model.Search
import Wee.Spec.Outcome
import Wee.Proofs.TTLemmas
import Wee.Proofs.SearchCtlBase
import Wee.Proofs.MateSolver
/-!
# Lemmas for C06 (mate claims are true): everything the soundness of `searchNode` is stated with

1. `static_ok`: a terminal static evaluation is the mate branch, for every state since the repair of F10 (the
   heuristic result of `evaluate` is clamped).  `MaterialBounded` / `TreeBounded`, the C05 bound, and `Reachable` (the
   positions reachable by legal moves) are defined here because property theorems (`Props/C06`, `C06Complete`,
   `C05Closed`) speak of them;
2. `quiesce_sound`: quiescence values are `SoundVal`;
3. `try_of_legal`: a legal move passes `try_as_legal_move` (the membership facts themselves are in `ApplyGen.lean`), so a
   legal move is determined by its move word (`legal_unique`);
4. `SoundEntry`, `SoundTT`, the `Domain` of positions;
5. the move buffer (`PrioOK`, `buffer_legal`); the static value is a sound return value (`static_sound`);
6. the table invariant `TTInv` and `TTInv.insert`.

The solvers (`forcedMate`/`lostIn`, `fmH`/`liH`) are in `MateSolver.lean`.  The theorem these serve, `searchNode_sound`, is in
`EnvSound.lean` (for the worker in an environment, through `AlphaBeta.lean` and `HoldsP.lean`, and its sequential instance).
-/
namespace Wee.C06
open Wee Wee.Search Wee.Outcome

/-! ## 1. the material bound, reachable positions, static evaluation -/

/-- the bound of `C05_nonterminal_partial`, for the side to move -/
def MaterialBounded (s : State) : Prop :=
  (C05.materialDiff s s.turn).natAbs + C05.positionalDiff s s.turn < 10000

instance (s : State) : Decidable (MaterialBounded s) := by unfold MaterialBounded; infer_instance

/-- positions reachable by legal moves (reflexive-transitive closure) -/
inductive Reachable : State → State → Prop
  | refl (s : State) : Reachable s s
  | step {s t : State} (r : Move × State) : Reachable s t → r ∈ legalMoves t → Reachable s r.2

theorem Reachable.trans {a b c : State} (h1 : Reachable a b) (h2 : Reachable b c) : Reachable a c := by
  induction h2 with
  | refl => exact h1
  | step r _ hr ih => exact Reachable.step r ih hr

theorem Reachable.of_move {s : State} {r : Move × State} (hr : r ∈ legalMoves s) : Reachable s r.2 :=
  Reachable.step r (Reachable.refl s) hr

/-- what holds of the root and is kept by every listed legal move holds of every reachable position -/
theorem Reachable.least {P : State → Prop} {root : State} (h0 : P root)
    (hstep : ∀ s, P s → ∀ r ∈ legalMoves s, P r.2) : ∀ s, Reachable root s → P s := by
  intro s h
  induction h with
  | refl => exact h0
  | step r _ hr ih => exact hstep _ ih r hr

/-- the positions reachable from a root all of whose successors have no legal move -/
theorem Reachable.depth_one {root : State} (h : ∀ r ∈ legalMoves root, legalMoves r.2 = []) :
    ∀ s, Reachable root s → s = root ∨ ∃ r ∈ legalMoves root, s = r.2 :=
  Reachable.least (Or.inl rfl) fun s hs r hr => by
    rcases hs with rfl | ⟨r0, hr0, rfl⟩
    · exact Or.inr ⟨r, hr, rfl⟩
    · rw [h r0 hr0] at hr; exact nomatch hr

/-- every position reachable from `s` by legal moves satisfies the material bound (promotions can
raise material, so the bound is asked of the whole tree) -/
def TreeBounded (s : State) : Prop := ∀ s', Reachable s s' → MaterialBounded s'

theorem TreeBounded.here {s : State} (h : TreeBounded s) : MaterialBounded s := h s (Reachable.refl s)

theorem TreeBounded.child {s : State} (h : TreeBounded s) {r : Move × State} (hr : r ∈ legalMoves s) :
    TreeBounded r.2 := fun s' hs' => h s' ((Reachable.of_move hr).trans hs')

theorem heuristic_lt {s : State} (hb : MaterialBounded s) :
    -10000 < evalHeuristic (Variation.of s) s.turn ∧ evalHeuristic (Variation.of s) s.turn < 10000 := by
  have h := C05.evalHeuristic_natAbs_le s s.turn
  unfold MaterialBounded at hb
  constructor <;> eomega


/-- the three possible results of `evaluate` from the side to move's perspective -/
theorem evaluate_cases {s : State} {d : Nat} {e : Eval} (h : evaluate s s.turn d = some e) :
    (legalMoves? s = some [] ∧ s.isCheck = true ∧ e = - Ev.mateInPly d) ∨ e = 0 ∨
      e = clampHeuristic (evalHeuristic (Variation.of s) s.turn) := by
  rcases evaluate_cases_any h with ⟨h1, h2, h3⟩ | ⟨_, _, h0⟩ | hh
  · exact .inl ⟨h1, h2, by rw [h3, if_pos rfl]⟩
  · exact .inr (.inl h0)
  · exact .inr (.inr hh)

/-- A terminal static evaluation (from the side to move's perspective) is the
checkmate branch: no legal move, in check, value `-mate_in_ply(depth)`.  (For every state, by the clamp
that repaired F10; before the repair only under the material bound `MaterialBounded s`.) -/
theorem static_ok {s : State} {d : Nat} {e : Eval}
    (h : evaluate s s.turn d = some e) (ht : Ev.isTerminal e = true) :
    legalMoves? s = some [] ∧ s.isCheck = true ∧ e = - Ev.mateInPly d := by
  have := evaluate_terminal h ht
  rwa [if_pos rfl] at this

/-- with a legal move the static value is strictly inside `(-10000, 10000)` -/
theorem static_nonterminal {s : State} {d : Nat} {e : Eval}
    (h : evaluate s s.turn d = some e) (hm : legalMoves? s ≠ some []) : -10000 < e ∧ e < 10000 := by
  rcases evaluate_cases h with h1 | h0 | hh
  · exact absurd h1.1 hm
  · subst h0; eomega
  · rw [hh]; exact clampHeuristic_strict _

/-- the static value never claims a win for the side to move -/
theorem static_lt {s : State} {d : Nat} {e : Eval}
    (h : evaluate s s.turn d = some e) : e < 10000 := by
  rcases evaluate_cases h with h1 | h0 | hh
  · have : (10000 : Int) ≤ Ev.mateInPly d := Ev.posInf_le_mateInPly d; eomega
  · subst h0; eomega
  · rw [hh]; exact (clampHeuristic_strict _).2

/-! ## 2. quiescence -/

/-- a returned value that claims a win inside the window is a true forced win for the side to
move, and symmetrically for a loss -/
def SoundVal (s : State) (α β r : Eval) : Prop :=
  (Ev.posInf ≤ r ∧ α < r → Win s) ∧ (r ≤ Ev.negInf ∧ r < β → Lost s)

theorem SoundVal.of_nonterminal {s : State} {α β r : Eval} (h1 : -10000 < r) (h2 : r < 10000) :
    SoundVal s α β r := by
  refine ⟨fun h => ?_, fun h => ?_⟩
  · rw [posInf_eq] at h; eomega
  · rw [negInf_eq] at h; eomega

theorem lost_of_mate {s : State} (hl : legalMoves? s = some []) (hc : s.isCheck = true) : Lost s := by
  refine Lost.mated s ?_
  unfold isMated; rw [legalMoves_of_some hl, hc]; rfl


/-- **quiescence is sound.**  Every value returned by `quiescence_search` — on ANY position — is `SoundVal` for the
window it was called with.  The running `alpha` of the capture loop stays above `-10000` (the static value of a position
with a legal move is) and below `beta`, and claims a win only if a capture leads to a lost position. -/
theorem quiesce_sound (fuel : Nat) (s : State) (depth : Nat) (α β r : Eval) (hαβ : α < β)
    (h : quiesce evaluate fuel s depth α β = .ok r) : SoundVal s α β r := by
  refine SearchCtl.QRule.ok (Allowed := fun _ => True) (F := fun _ _ _ α β => α < β)
    (Q := fun s _ α β v => SoundVal s α β v)
    (I := fun s _ α β a => -10000 < a ∧ a < β ∧ (10000 ≤ a ∧ α < a → Win s))
    ⟨fun _ => trivial, fun _ _ => trivial, fun _ _ => trivial, ?_, ?_, ?_, ?_, ?_⟩ hαβ h
  · -- checkmate, stalemate, or a heuristic value
    intro fuel s d α β ms e _ _ he _
    rcases evaluate_cases he with h1 | h0 | hh
    · refine ⟨fun h => ?_, fun _ => lost_of_mate h1.1 h1.2.1⟩
      have : (10000 : Int) ≤ Ev.mateInPly d := Ev.posInf_le_mateInPly d
      rw [posInf_eq] at h; eomega
    · subst h0; exact SoundVal.of_nonterminal (by eomega) (by eomega)
    · rw [hh]; exact SoundVal.of_nonterminal (clampHeuristic_strict _).1 (clampHeuristic_strict _).2
  · intro fuel s d α β ms e hF hl he hemp
    have := static_nonterminal he (by rw [hl]; intro hh; cases hh; exact hemp rfl)
    refine ⟨fun hge => ⟨fun h => by rw [posInf_eq] at h; eomega, fun h => by eomega⟩, fun hcut => ?_⟩
    by_cases hlt : α < e
    · rw [if_pos hlt]; exact ⟨this.1, by eomega, fun h => by eomega⟩
    · rw [if_neg hlt]; exact ⟨by eomega, hF, fun h => by eomega⟩
  · intro fuel s d α β ms a r _ _ ha _ _
    show -β < -a
    have := ha.2.1
    eomega
  · intro fuel s d α β ms a r v _ hl ha hr hc
    -- a capture whose value claims a loss of the successor wins
    have hwin : 10000 ≤ -v → a < -v → Win s := fun h1 h2 =>
      Win.intro _ _ (by rw [legalMoves_of_some hl]; exact hr) (hc.2 ⟨by rw [negInf_eq]; eomega, by eomega⟩)
    have := ha.1
    have := ha.2.1
    refine ⟨fun hge => ⟨fun h => hwin (by rw [posInf_eq] at h; eomega) (by eomega), fun h => by eomega⟩, fun hge => ?_⟩
    by_cases hgt : -v > a
    · rw [if_pos hgt]; exact ⟨by eomega, by eomega, fun h => hwin h.1 hgt⟩
    · rw [if_neg hgt]; exact ha
  · intro fuel s d α β a _ ha
    exact ⟨fun h => ha.2.2 ⟨by rw [posInf_eq] at h; exact h.1, h.2⟩, fun h => by rw [negInf_eq] at h; have := ha.1; eomega⟩

/-! ## 3. legal moves and `try_as_legal_move` -/

/-- a legal move passes `try_as_legal_move` with itself as result -/
theorem try_of_legal {s : State} {ms : List (Move × State)} (hl : legalMoves? s = some ms)
    {r : Move × State} (hr : r ∈ legalMoves s) : tryAsLegal s r.1 = some (some r) := by
  obtain ⟨ps, hp, _⟩ := legalMoves?_eq_some.1 hl
  rw [legalMoves_of_some hl] at hr
  obtain ⟨mv, _, ht⟩ := (mem_legalMoves?_iff hl hp r).1 hr
  obtain ⟨next, _, _, rfl⟩ := tryAsLegal_eq_some_some.1 ht
  exact ht

theorem legal_unique {s : State} {ms : List (Move × State)} (hl : legalMoves? s = some ms)
    {r r' : Move × State} (hr : r ∈ legalMoves s) (hr' : r' ∈ legalMoves s) (h : r.1 = r'.1) : r = r' := by
  have h1 := try_of_legal hl hr
  have h2 := try_of_legal hl hr'
  rw [h, h2] at h1
  cases h1; rfl

/-! ## 4. sound table entries, the domain of positions -/

/-- what a stored entry claims about a position `s` with its key: the move is legal in `s`;
a winning value (of whatever kind: the engine only ever stores `Exact` and `LowerBound` entries, and the
interrupt path reports the root entry without looking at its kind) comes with a move into a `Lost` position;
a losing value of an `Exact`/`UpperBound` entry means `s` is `Lost`.
(`analyze_recursive` treats every kind that is neither `Exact` nor `UpperBound` as `LowerBound`.) -/
def SoundEntry (s : State) (e : TT.Entry) : Prop :=
  (∃ r ∈ legalMoves s, r.1.toNat = e.mv) ∧
  (Ev.posInf ≤ e.eval → ∃ r ∈ legalMoves s, r.1.toNat = e.mv ∧ Lost r.2) ∧
  (e.kind = kindExact ∨ e.kind = kindUpper → e.eval ≤ Ev.negInf → Lost s)

/-- every entry found under the key of a position of the domain is sound for that position -/
def SoundTT (K : Keys) (D : State → Prop) (tt : TT.Access) : Prop :=
  ∀ s e, D s → tt.find (hash K s).toNat = some e → SoundEntry s e

/-- the set of positions a search may visit: closed under legal moves, the move generator does not
panic on it, and positions with the same key are interchangeable for the claims of a table entry
(no harmful hash collision inside the set).  (No material bound is asked of the set: since the repair of
F10 the clamp at the end of `Evaluator::evaluate` makes `static_ok` hold for every state.) -/
structure Domain (K : Keys) (D : State → Prop) : Prop where
  closed : ∀ s, D s → ∀ r ∈ legalMoves s, D r.2
  genOK : ∀ s, D s → legalMoves? s ≠ none
  coll : ∀ s s', D s → D s' → (hash K s).toNat = (hash K s').toNat → ∀ e, SoundEntry s e → SoundEntry s' e

/-- the positions reachable from a position of the domain are in the domain -/
theorem Domain.reach {K : Keys} {D : State → Prop} (dom : Domain K D) {s : State} (hs : D s) :
    ∀ s', Reachable s s' → D s' := Reachable.least hs dom.closed

theorem Domain.gen {K : Keys} {D : State → Prop} (dom : Domain K D) {s : State} (hs : D s) :
    ∃ ms, legalMoves? s = some ms := by
  cases h : legalMoves? s with
  | none => exact absurd h (dom.genOK s hs)
  | some ms => exact ⟨ms, rfl⟩

/-! ## 5. the move buffer; the static value is sound -/

/-- the move handed over from the previous iteration (root only) is a legal move -/
def PrioOK (a : NodeArgs) : Prop := ∀ m, a.prioritized = some m → ∃ r ∈ legalMoves a.s, r.1 = m

theorem mem_buffer (prio : Option Move) (sorted : List Move) (mv : Move) :
    mv ∈ (match prio with | some m => sorted ++ [m] | Option.none => sorted).reverse ↔
      mv ∈ sorted ∨ prio = some mv := by
  cases prio with
  | none => simp
  | some m => simp [eq_comm, or_comm]

/-- a move of the buffer that passes `try_as_legal_move` is a legal move -/
theorem buffer_legal {a : NodeArgs} {ms : List (Move × State)} {ps : List Move} (hms : legalMoves? a.s = some ms)
    (hps : pseudoLegalMoves a.s = some ps) (hprio : PrioOK a) {mv : Move} (hmv : SearchCtl.InBuffer a ps mv)
    {r : Move × State} (ht : tryAsLegal a.s mv = some (some r)) : r ∈ legalMoves a.s := by
  rcases hmv with h | h
  · rw [legalMoves_of_some hms]; exact (mem_legalMoves?_iff hms hps r).2 ⟨mv, h, ht⟩
  · obtain ⟨r0, hr0, h0⟩ := hprio mv h
    have := try_of_legal hms hr0
    rw [h0, ht] at this
    cases this; exact hr0

/-- the static value (from the side to move's perspective) is always a sound return value -/
theorem static_sound {s : State} {d : Nat} {e α β : Eval}
    (he : evaluate s s.turn d = some e) : SoundVal s α β e := by
  refine ⟨fun h => ?_, fun h => ?_⟩
  · have := static_lt he
    rw [posInf_eq] at h; eomega
  · have ht : Ev.isTerminal e = true := by
      unfold Ev.isTerminal
      rw [Bool.or_eq_true, decide_eq_true_eq]
      exact Or.inl h.1
    obtain ⟨h1, h2, _⟩ := static_ok he ht
    exact lost_of_mate h1 h2

/-! ## 6. the table invariant -/

/-- the shape invariant of the table (`TT.AInv`, C15) together with the soundness of its entries -/
def TTInv (K : Keys) (D : State → Prop) (L nT nB : Nat) (tt : TT.Access) : Prop :=
  TT.AInv L nT nB tt ∧ SoundTT K D tt

/-- table geometry: bucket length, number of sub-tables, buckets per sub-table — all positive -/
structure Geo (L nT nB : Nat) : Prop where
  hL : 0 < L
  hT : 0 < nT
  hB : 0 < nB

theorem TTInv.insert {K : Keys} {D : State → Prop} {L nT nB : Nat} (g : Geo L nT nB) (dom : Domain K D)
    {tt : TT.Access} (h : TTInv K D L nT nB tt) {s : State} (hs : D s) {e : TT.Entry} (he : SoundEntry s e) :
    TTInv K D L nT nB (tt.insert (hash K s).toNat e) := by
  refine ⟨h.1.insert g.hL g.hT g.hB _ _, fun s' e' hs' hf => ?_⟩
  rcases h.1.find_insert_some g.hL g.hT g.hB hf with ⟨hk, rfl⟩ | ⟨_, h1⟩
  · exact dom.coll s s' hs hs' hk.symm e' he
  · exact h.2 s' e' hs' h1

end Wee.C06
