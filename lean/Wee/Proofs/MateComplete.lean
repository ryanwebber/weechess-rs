import Wee.Proofs.MateRoot
import Wee.Props.C05
/-!
# C06 completeness, part 1: forced mates that avoid the recorded positions; the node-level induction

`analyze_recursive` values every non-root node whose key is recorded in the state history as a draw.  A forced mate
is therefore only *visible* to the search if its strategy tree avoids recorded keys: `fmH K H n s` / `liH K H n s`
(`Wee/Proofs/MateSolver.lean`) are the solver `forcedMate n` / `lostIn n` of `Wee/Spec/Outcome.lean` with that extra
condition on every successor.

The induction (`searchNodeE_complete`, for the worker in an environment that keeps the table complete; `searchNode_complete`
is its case in the empty environment; a run of a node is a `NodeOut` by `nodeE_outP`, and `NodeOut.ab` at the reading
`Bounds.complete` is the rest) shows, for a fail-hard node with window `(α, β)` and remaining depth `rem`:

* `fmH rem s`  ⇒ the value is `≥ min β POS_INF`;
* `liH rem s`  ⇒ the value is `≤ max α NEG_INF`;

(`CVal`), given the table invariant `CInv` (the shape of a reachable table and `CompleteTT`; every write of the node
re-establishes it) and that positions with equal keys have equal visible mate distances (`CollH`,
`Wee/Proofs/MateSolver.lean`).
-/
namespace Wee.C06
open Wee Wee.Search Wee.Outcome

/-! ## 1. complete values, complete table entries -/

/-- what completeness asks of a value returned for a node with window `(α, β)` and remaining depth `rem`:
a visible forced mate within `rem` plies is reported as a fail-high or a winning score, a visible forced loss
within `rem` plies as a fail-low or a losing score -/
def CVal (K : Keys) (H : List UInt64) (s : State) (rem : Nat) (α β r : Eval) : Prop :=
  (fmH K H rem s = true → β ≤ r ∨ 10000 ≤ r) ∧ (liH K H rem s = true → r ≤ α ∨ r ≤ -10000)

/-- what completeness asks of a stored entry `e` for a position `s` with its key (`R = e.maxDepth - e.depth` is the
remaining depth it was searched with; only depths up to the bound `B` are constrained): an `Exact` (or `UpperBound`)
value is winning when `s` is a visible forced mate within `R`; an `Exact` or `LowerBound` value is losing when `s` is
a visible forced loss within `R` (a cut-off `ev ≥ β` in a lost position can only happen with `β ≤ NEG_INF`). -/
def CompleteEntry (K : Keys) (H : List UInt64) (B : Nat) (s : State) (e : TT.Entry) : Prop :=
  ∀ k, k ≤ e.maxDepth - e.depth → k ≤ B →
    ((e.kind = kindExact ∨ e.kind = kindUpper) → fmH K H k s = true → 10000 ≤ e.eval) ∧
    (e.kind ≠ kindUpper → liH K H k s = true → e.eval ≤ -10000)

/-- every entry found under the key of a position of the domain is complete for that position -/
def CompleteTT (K : Keys) (H : List UInt64) (D : State → Prop) (B : Nat) (tt : TT.Access) : Prop :=
  ∀ s e, D s → tt.find (hash K s).toNat = some e → CompleteEntry K H B s e

theorem CompleteEntry.transfer {K : Keys} {H : List UInt64} {D : State → Prop} {B : Nat} (coll : CollH K H D B)
    {s s' : State} (hs : D s) (hs' : D s') (hk : hash K s = hash K s') {e : TT.Entry}
    (he : CompleteEntry K H B s e) : CompleteEntry K H B s' e := by
  intro k hk1 hk2
  obtain ⟨c1, c2⟩ := coll s s' hs hs' hk k hk2
  rw [← c1, ← c2]
  exact he k hk1 hk2

/-- shape invariant of the table plus completeness of its entries -/
def CInv (K : Keys) (H : List UInt64) (D : State → Prop) (B L nT nB : Nat) (st : St) : Prop :=
  TT.AInv L nT nB st.tt ∧ CompleteTT K H D B st.tt

theorem CInv.insert {K : Keys} {H : List UInt64} {D : State → Prop} {B L nT nB : Nat} (g : Geo L nT nB)
    (coll : CollH K H D B) {st : St} (h : CInv K H D B L nT nB st) {s : State} (hs : D s) {e : TT.Entry}
    (he : CompleteEntry K H B s e) :
    CInv K H D B L nT nB { st with tt := st.tt.insert (hash K s).toNat e } := by
  refine ⟨h.1.insert g.hL g.hT g.hB _ _, fun s' e' hs' hf => ?_⟩
  rcases h.1.find_insert_some g.hL g.hT g.hB (a := st.tt) hf with ⟨hk, rfl⟩ | ⟨_, h1⟩
  · exact he.transfer coll hs hs' (UInt64.toNat_inj.1 hk.symm)
  · exact h.2 s' e' hs' h1

/-! ## 2. the static evaluation of a mated position -/

theorem evaluate_mated {s : State} {d : Nat} {e : Eval} (hl : legalMoves? s = some []) (hc : s.isCheck = true)
    (h : evaluate s s.turn d = some e) : e = - Ev.mateInPly d := by
  rw [C05.C05_mate s s.turn d hl hc, if_pos rfl] at h
  exact (Option.some.inj h).symm

theorem neg_mate_le (d : Nat) : - Ev.mateInPly d ≤ (-10000 : Eval) := by
  have : (10000 : Int) ≤ Ev.mateInPly d := Ev.posInf_le_mateInPly d
  eomega

/-- quiescence on a mated position returns the mate score -/
theorem quiesce_mated {s : State} {d : Nat} {α β v : Eval} (hl : legalMoves? s = some []) (hc : s.isCheck = true)
    (hq : quiesce evaluate (quiesceFuel s) s d α β = .ok v) : v = - Ev.mateInPly d := by
  unfold quiesceFuel at hq
  rw [SearchCtl.quiesce_nil _ _ d α β hl] at hq
  cases hev : evaluate s s.turn d with
  | none => rw [hev] at hq; cases hq
  | some e =>
    rw [hev] at hq
    cases hq
    exact evaluate_mated hl hc hev

/-! ## 3. the node: a run is a `NodeOut` whose children keep the contract under `Bounds.complete` -/

/-- the contract under the reading `Bounds.complete` implies `CVal` -/
theorem Bounds.complete_val {K : Keys} {H : List UInt64} {rem : Nat} {s : State} {α β r : Eval}
    (h : (Bounds.complete K H rem s).Val α β r) : CVal K H s rem α β r :=
  ⟨fun hw => by
    by_cases hlt : r < β
    · exact Or.inr (h.2 hlt hw)
    · exact Or.inl (by eomega),
   fun hl => by
    by_cases hlt : α < r
    · exact Or.inr (h.1 hlt hl)
    · exact Or.inl (by eomega)⟩

/-- postcondition of a node: the table invariant, one more counted node, a complete value unless the node was cut
by the history — and in that case the value `0` -/
def NodePost (K : Keys) (H : List UInt64) (D : State → Prop) (B L nT nB : Nat) (a : NodeArgs) (rem n : Nat)
    (r : Eval) (st' : St) : Prop :=
  CInv K H D B L nT nB st' ∧ n < st'.nodes ∧
  ((a.curDepth = 0 ∨ inHist K H a.s = false) → CVal K H a.s rem a.alpha a.beta r) ∧
  (0 < a.curDepth → inHist K H a.s = true → r = 0)

section complete
open Wee.Env
variable {K : Keys} {H : List UInt64} {D : State → Prop} {B L nT nB : Nat} (g : Geo L nT nB) (dom : Domain K D)
  (coll : CollH K H D B) (ctx : Ctx) {env : Env} (hst : Stable env (CInv K H D B L nT nB))
include g dom coll hst

/-- **`analyze_recursive` is complete**, for the worker in an environment that keeps the table complete -/
theorem searchNodeE_complete (hK : ctx.keys = K) (hH : ctx.history = H) :
    ∀ (rem : Nat) (a : NodeArgs), D a.s → a.alpha < a.beta → a.maxDepth = a.curDepth + rem → rem ≤ B → PrioOK a →
      ∀ n, HoldsP Spec.triv (fun st => CInv K H D B L nT nB st ∧ n ≤ st.nodes) (searchNodeE env ctx rem a)
        (fun r st' => (CInv K H D B L nT nB st' ∧ n < st'.nodes) ∧
          ((a.curDepth = 0 ∨ inHist K H a.s = false) → (Bounds.complete K H rem a.s).Val a.alpha a.beta r) ∧
          (0 < a.curDepth → inHist K H a.s = true → r = 0)) := by
  subst hK
  subst hH
  refine fun rem a hD hab hrem hB hprio => searchNodeE_induct
    (Pre := fun rem a => D a.s ∧ a.alpha < a.beta ∧ a.maxDepth = a.curDepth + rem ∧ rem ≤ B ∧ PrioOK a)
    (T := fun rem a x => ∀ n, HoldsP Spec.triv (fun st => CInv ctx.keys ctx.history D B L nT nB st ∧ n ≤ st.nodes) x
      (fun r st' => (CInv ctx.keys ctx.history D B L nT nB st' ∧ n < st'.nodes) ∧
        ((a.curDepth = 0 ∨ inHist ctx.keys ctx.history a.s = false) →
          (Bounds.complete ctx.keys ctx.history rem a.s).Val a.alpha a.beta r) ∧
        (0 < a.curDepth → inHist ctx.keys ctx.history a.s = true → r = 0)))
    (fun rem a rec ⟨hD, hab, hrem, hB, hprio⟩ hleaf hrec n => ?_) rem a ⟨hD, hab, hrem, hB, hprio⟩
  obtain ⟨ms, hms⟩ := dom.gen hD
  have hlm := legalMoves_of_some hms
  let Bd := Bounds.complete ctx.keys ctx.history rem a.s
  have hstatic : legalMoves a.s = [] → ∀ e, evaluate a.s a.s.turn a.curDepth = some e → ∀ α β, Bd.Val α β e := by
    intro hnil e he α β
    have hms' : legalMoves? a.s = some [] := by rw [hms, ← hlm, hnil]
    exact ⟨fun _ hl => by rw [evaluate_mated hms' (liH_nomoves _ _ hl hnil) he]; exact neg_mate_le _,
      fun _ hw => absurd hnil (fmH_moves _ _ hw)⟩
  -- an entry of this node whose value is a lower bound and (unless it is a `LowerBound` entry) an upper bound is complete
  have hentry : ∀ {k : Nat} {m : Move} {r : Eval}, Bd.LowM r m → (k = kindLower ∨ Bd.Up r) →
      CompleteEntry ctx.keys ctx.history B a.s (SearchCtl.entryOf a k m r) := by
    intro k m r hlow hup k' hk1 _
    have hk : k' ≤ rem := by
      have : k' ≤ a.maxDepth - a.curDepth := hk1
      omega
    refine ⟨fun hkind hw => ?_, fun _ hl => hlow (liH_le _ _ hk hl)⟩
    rcases hup with rfl | hup
    · exact absurd hkind kindLower_ne
    · exact hup (fmH_le _ _ hk hw)
  refine holdsP_conseq (nodeE_outP (V := Spec.triv) (P0 := CInv ctx.keys ctx.history D B L nT nB)
    (P := CInv ctx.keys ctx.history D B L nT nB) (Q := fun _ _ st => CInv ctx.keys ctx.history D B L nT nB st)
    (C := fun β => Bd.Child β) hst (fun _ h => h) hst (fun _ _ => trivial) ctx a rec (.ofAll fun _ => trivial) (.lt hab)
    (SearchCtl.tick_post ctx trivial (fun _ _ => trivial) fun _ _ h => h) (fun _ _ h => h)
    (fun _ => ⟨?child, fun _ _ _ _ _ _ _ _ _ => trivial, fun _ => ?store⟩) n)
    (fun _ h => h) ?post
  case child =>
    intro child hc ps hps alpha beta mv hmv m next ht α k hα
    obtain ⟨r, hr1, hch⟩ := hrec child hc
    obtain rfl : r = rem - 1 := by omega
    have hr := buffer_legal hms hps hprio hmv ht
    exact holdsP_conseq (hch _ ⟨dom.closed _ hD _ hr, by show -beta < -α; eomega,
        by show a.maxDepth + _ = a.curDepth + 1 + _ + (rem - 1); omega, by omega,
        fun _ hm => nomatch (show Option.none = some _ from hm)⟩ k)
      (fun _ h => h) fun v st' h => ⟨h.1, hr, fun hv c1 c2 => (h.2.1 (Or.inr c1)).2 hv c2,
        fun hv c1 c2 => (h.2.1 (Or.inr c1)).1 hv c2⟩
  case store =>
    intro ps alpha beta buf r e st hps hbuf hlt hout hp
    obtain ⟨k, m, rfl, hl, hu⟩ := (hout.ab Bd hms hps hprio hbuf hlt fun hn e he => hstatic hn e he _ _).2 e rfl
    exact ⟨CInv.insert g coll hp hD (hentry hl hu), trivial⟩
  case post =>
    rintro r st' ⟨hn, found, stored, ⟨st0, hp0, hf⟩, hout, _, h1, h2⟩
    refine ⟨⟨?_, hn⟩, fun hvis => ?_, fun hd hh => (hout.hist_zero hd hh).1⟩
    · cases stored with
      | none => exact h1 rfl
      | some e => exact h2 e rfl
    · refine (hout.ab Bd hms hprio hab (fun hd hh => ?_) (fun e he hdp => hp0.2 a.s e hD (hf.trans he) rem (by omega) hB)
        (fun hdeep α β v _ hq => ?_) hstatic).1
      · rcases hvis with h | h
        · omega
        · rw [inHist, hh] at h; cases h
      · have h0 : rem = 0 := hleaf (by cases rec with | none => rfl | some _ => cases hdeep)
        refine ⟨fun _ hl => ?_, fun _ hw => ?_⟩
        · rw [h0] at hl
          have he := liH_zero_nomoves _ _ hl
          have hms' : legalMoves? a.s = some [] := by rw [hms, ← hlm, he]
          rw [quiesce_mated hms' (liH_nomoves _ _ hl he) hq]
          exact neg_mate_le _
        · rw [h0, fmH.eq_1] at hw; cases hw

end complete

section
variable {K : Keys} {H : List UInt64} {D : State → Prop} {B L nT nB : Nat} (g : Geo L nT nB) (dom : Domain K D)
  (coll : CollH K H D B) (ctx : Ctx)
include g dom coll

/-- **`analyze_recursive` is complete.**  For every remaining depth `rem ≤ B`, every node whose position lies in the
domain, with window `alpha < beta`, depth bookkeeping `max_depth = current_depth + rem` and a legal (or no)
prioritised move, every generator state, poll counter and cancellation point: if the call returns, the table
invariant `CInv` (shape + `CompleteTT`) holds again, at least one more node has been counted, and — for the root
(`current_depth = 0`) and for every node whose key is not recorded — the value is `CVal`: a visible forced mate
within `rem` plies is reported as `≥ min beta POS_INF`, a visible forced loss as `≤ max alpha NEG_INF`. -/
theorem searchNode_complete (hK : ctx.keys = K) (hH : ctx.history = H) :
    ∀ (rem : Nat) (a : NodeArgs), D a.s → a.alpha < a.beta → a.maxDepth = a.curDepth + rem → rem ≤ B → PrioOK a →
      ∀ n, Triple (fun st => CInv K H D B L nT nB st ∧ n ≤ st.nodes) (searchNode ctx rem a)
        (NodePost K H D B L nT nB a rem n) :=
  fun rem a hD hab hrem hB hp n =>
    (Triple.of_holdsP (Env.searchNodeE_empty ctx rem a) (searchNodeE_complete (env := Env.empty) g dom coll ctx
      (fun _ _ h => h) hK hH rem a hD hab hrem hB hp n)).conseq (fun _ h => h)
      fun _ _ h => ⟨h.1.1, h.1.2, fun hv => Bounds.complete_val (h.2.1 hv), h.2.2⟩

end

end Wee.C06
