import Wee.Proofs.MateComplete
import Wee.Proofs.SeqSchedule
/-!
# C06 completeness, part 2: the iteration and the deepening loop, any number of workers per iteration

The model runs the workers of an iteration sequentially on the shared table.  For any number of workers "some report
is winning, and it is the last one" is shown; the pairing of the reported evaluation with the reported first move is
claimed only when every iteration has one worker (see `C06_report_pairing_partial`), as a clause of the same chain
`iterStep_completeK` → `iterLoop_completeK` → `iterate_complete_workers`.  The workers of an iteration go through
`runWorkers_rule` / `runWorkers_cons`, the loop is `iterLoop_keeps_depth` (`Wee/Proofs/Iteration.lean`) at the loop state
`CLoopK` defined below.

Key facts: the entries under the root's key are written by root calls only, so they are `Exact` entries or the
`LowerBound` entry of a root cut-off (value `beta = mate_in_ply(0)`); a root call that finds such an entry with at least
its own remaining depth returns at once and leaves the table unchanged; a root call that returns a winning value
leaves an entry with at least its remaining depth.  Hence, in the iteration whose depth reaches the visible mate
distance, worker 0 returns a winning value and leaves a root entry with remaining depth at least `depth + 1`, and every
later worker (search depth `depth` or `depth + 1`) leaves what is found under the root's key as it is (`workersOut_first`);
that the entry is a winning one is stated for one worker only (`workersOut_one_entries`).
-/
namespace Wee.C06
open Wee Wee.Search Wee.Outcome
open Wee.SearchCtl (workersOut runWorker_no_interrupt)

/-! ## 1. the workers of an iteration, one after the other -/

/-- the entries under the root's key have remaining depth at most `depth` and avoid the history: what a loop with one
worker per iteration keeps of them (every root call then searches deeper than all of them) -/
def RootEntries (K : Keys) (H : List UInt64) (root : State) (depth : Nat) (tt : TT.Access) : Prop :=
  ∀ x, tt.find (hash K root).toNat = some x → x.maxDepth - x.depth ≤ depth ∧ Avoids K H root x

/-- the reported line starts with a legal move into a position that is `Lost` for the opponent and not recorded -/
def FirstMoveKeeps (K : Keys) (H : List UInt64) (root : State) (line : List Move) : Prop :=
  ∃ r ∈ legalMoves root, line.head? = some r.1 ∧ Lost r.2 ∧ inHist K H r.2 = false

/-- what every worker needs of the shared table and leaves behind: soundness, completeness, root entries of root kind -/
def AccInv (K : Keys) (H : List UInt64) (D : State → Prop) (B L nT nB : Nat) (root : State) (tt : TT.Access) : Prop :=
  TTInv K D L nT nB tt ∧ CompleteTT K H D B tt ∧ ∀ x, tt.find (hash K root).toNat = some x → RootKind x

/-- worker 0 is the first of the workers of an iteration -/
theorem zip_range_succ (w : Nat) (r : Rng.ChaCha8) :
    ∃ seed rest, (List.range (w + 1)).zip (drawSeeds (w + 1) r).1 = (0, seed) :: rest := by
  rw [drawSeeds.eq_2, List.range_succ_eq_map]
  rcases Rng.nextU64 r with ⟨v, r'⟩
  simp only
  rcases drawSeeds w r' with ⟨vs, r''⟩
  exact ⟨v, _, List.zip_cons_cons⟩

section workersK
variable {K : Keys} {H : List UInt64} {D : State → Prop} {B L nT nB : Nat} (g : Geo L nT nB) (dom : Domain K D)
  (coll : CollH K H D B) (ctx : Ctx) (hK : ctx.keys = K) (hH : ctx.history = H)
  (root : State) (hD : D root) (hhist : H.contains (hash K root) = true)
include g dom coll hK hH hD hhist

omit hhist in
/-- a worker that returns keeps the table complete, and its value is winning if the root is a visible forced mate within
its search depth -/
theorem runWorker_complete (sd : Nat) (hsd : sd + 1 ≤ B) (best : Option Move) (hbest : BestOK root best)
    (tt : TT.Access) (hA : TT.AInv L nT nB tt) (hct : CompleteTT K H D B tt) (rng : Rng.ChaCha8) (polls : Nat)
    (e : Eval) (stw : St) (hrun : runWorker ctx root (sd + 1) best tt rng polls = (.ok e, stw)) :
    CompleteTT K H D B stw.tt ∧ (fmH K H (sd + 1) root = true → 10000 ≤ e) := by
  rw [runWorker_eq] at hrun
  obtain ⟨c1, _, c3, _⟩ := searchNode_complete g dom coll ctx hK hH (sd + 1) (rootArgs root (sd + 1) best) hD
    (show - Ev.mateInPly 0 < Ev.mateInPly 0 by decide) (show sd + 1 = 0 + (sd + 1) by omega) hsd hbest 0
    { tt := tt, rng := rng, nodes := 0, polls := polls } ⟨⟨hA, hct⟩, Nat.le_refl _⟩ e stw hrun
  refine ⟨c1.2, fun hw => ?_⟩
  have hv : Ev.mateInPly 0 ≤ e ∨ 10000 ≤ e := (c3 (Or.inl rfl)).1 hw
  rw [root_window.2] at hv
  eomega

/-- … and what it leaves under the root's key: entries of root kind; after a winning value an entry with at least the
worker's remaining depth; and if such an entry was there already, the same entry (the root's probe returned) -/
theorem runWorker_completeK (sd : Nat) (hsd : sd + 1 ≤ B) (best : Option Move) (hbest : BestOK root best)
    (tt : TT.Access) (hacc : AccInv K H D B L nT nB root tt) (rng : Rng.ChaCha8) (polls : Nat) (e : Eval) (stw : St)
    (hrun : runWorker ctx root (sd + 1) best tt rng polls = (.ok e, stw)) :
    AccInv K H D B L nT nB root stw.tt ∧ (fmH K H (sd + 1) root = true → 10000 ≤ e) ∧
    (10000 ≤ e → ∃ x, stw.tt.find (hash K root).toNat = some x ∧ sd + 1 ≤ x.maxDepth - x.depth) ∧
    ((∃ x, tt.find (hash K root).toNat = some x ∧ sd + 1 ≤ x.maxDepth - x.depth) →
      stw.tt.find (hash K root).toNat = tt.find (hash K root).toNat) := by
  obtain ⟨htt, hct, hrk⟩ := hacc
  have hspec := runWorker_spec g dom ctx hK root hD sd best hbest tt htt rng polls
  rw [hrun] at hspec
  obtain ⟨c1, c2⟩ := runWorker_complete g dom coll ctx hK hH root hD sd hsd best hbest tt htt.1 hct rng polls e stw hrun
  subst hK
  subst hH
  obtain ⟨ms, hms⟩ := dom.gen hD
  obtain ⟨_, r2, r3, r4⟩ := (runWorker_rootOut g ctx root hhist hms sd best hbest tt htt.1 rng polls e stw hrun).kinds rfl
    (show - Ev.mateInPly 0 < 10000 by decide) root_window.2 fun x hx => hrk x hx
  have hsd' : (rootArgs root (sd + 1) best).maxDepth - (rootArgs root (sd + 1) best).curDepth = sd + 1 :=
    show sd + 1 - 0 = sd + 1 by omega
  rw [hsd'] at r3 r4
  exact ⟨⟨hspec.1, c1, r2⟩, c2, r3, fun ⟨x, hx, hR⟩ => r4 ⟨x, hx, hR⟩⟩

/-- the invariant of the shared table survives the workers of an iteration, and without a cancellation instant none of
them is interrupted; once the root's entry has remaining depth `depth + 1`, the remaining workers (search depth
`depth` or `depth + 1`) return from the root's probe and leave that entry alone -/
theorem runWorkers_inv (hc : ctx.cancelAt = Option.none) (depth : Nat) (hdB : depth + 1 ≤ B) (bestMv : Option Move)
    (hbest : BestOK root bestMv) :
    ∀ (l : List (Nat × UInt64)) (acc : WorkersOut), AccInv K H D B L nT nB root acc.tt → acc.interrupted = false →
      AccInv K H D B L nT nB root (runWorkers ctx root depth bestMv l acc).tt ∧
      (runWorkers ctx root depth bestMv l acc).interrupted = false ∧
      ((∃ x, acc.tt.find (hash K root).toNat = some x ∧ depth + 1 ≤ x.maxDepth - x.depth) →
        (runWorkers ctx root depth bestMv l acc).tt.find (hash K root).toNat = acc.tt.find (hash K root).toNat ∧
        ∃ es, (runWorkers ctx root depth bestMv l acc).evals = acc.evals ++ es) := by
  intro l acc0 h0 hi0
  refine runWorkers_rule (P := fun acc => AccInv K H D B L nT nB root acc.tt ∧ acc.interrupted = false ∧
    ((∃ x, acc0.tt.find (hash K root).toNat = some x ∧ depth + 1 ≤ x.maxDepth - x.depth) →
      acc.tt.find (hash K root).toNat = acc0.tt.find (hash K root).toNat ∧ ∃ es, acc.evals = acc0.evals ++ es))
    ctx root depth bestMv (fun p acc out _ hout ⟨h, hi, hd⟩ => ?_) l acc0
    ⟨h0, hi0, fun _ => ⟨rfl, [], (List.append_nil _).symm⟩⟩
  unfold workerRun at hout
  obtain ⟨r, st⟩ := out
  cases r with
  | ok e =>
    have hb : BestOK root (if (p.1 == 0) = true then bestMv else Option.none) := by
      split
      · exact hbest
      · exact fun m hm => nomatch hm
    have hw := runWorker_completeK g dom coll ctx hK hH root hD hhist (depth - p.1 % 2) (by omega) _ hb acc.tt h
      (Rng.seedFromU64 p.2) acc.polls e st hout
    refine ⟨hw.1, hi, fun ⟨x, hx1, hx2⟩ => ?_⟩
    obtain ⟨j1, es, j2⟩ := hd ⟨x, hx1, hx2⟩
    -- the root's entry is deep enough for this worker too: it returns from the probe
    have hsame := hw.2.2.2 ⟨x, by rw [j1]; exact hx1, by omega⟩
    exact ⟨by show st.tt.find _ = _; rw [hsame, j1], es ++ [e], by
      show acc.evals ++ [e] = _; rw [j2, List.append_assoc]⟩
  | error err =>
    cases err with
    | interrupt => exact absurd hout (runWorker_no_interrupt ctx root hc _ _ _ _ _ _)
    | panic why => exact ⟨h, hi, hd⟩

/-- the iteration whose search depth reaches the visible mate distance: worker 0 returns a winning value and leaves a
root entry that survives the other workers -/
theorem workersOut_first (hc : ctx.cancelAt = Option.none) (workers : Nat) (hwk : 0 < workers) (depth : Nat)
    (hdB : depth + 1 ≤ B) (st : IterSt) (hbest : BestOK root st.bestMv) (hacc : AccInv K H D B L nT nB root st.tt)
    (hw : fmH K H (depth + 1) root = true) (hnp : (workersOut ctx root workers depth st).panic = Option.none) :
    10000 ≤ Pairing.reportedEval (workersOut ctx root workers depth st) st ∧
      ∃ x, (workersOut ctx root workers depth st).tt.find (hash K root).toNat = some x := by
  obtain ⟨w', rfl⟩ : ∃ w', workers = w' + 1 := ⟨workers - 1, by omega⟩
  obtain ⟨seed, rest, hz⟩ := zip_range_succ w' st.rng
  unfold workersOut Pairing.reportedEval at *
  rw [hz] at hnp ⊢
  rw [runWorkers_cons, if_neg (fun h => nomatch h)] at hnp ⊢
  generalize hrun : workerRun ctx root depth st.bestMv (0, seed) _ = out at hnp ⊢
  replace hrun : runWorker ctx root (depth - 0 % 2 + 1) st.bestMv st.tt (Rng.seedFromU64 seed) st.polls = out := hrun
  obtain ⟨res, stw⟩ := out
  cases res with
  | error err =>
    cases err with
    | interrupt => exact absurd hrun (runWorker_no_interrupt ctx root hc _ _ _ _ _ _)
    | panic why => rw [runWorkers_stopped _ _ _ _ _ _ (WorkersOut.join_stopped _ _ _)] at hnp; cases hnp
  | ok e =>
    have hwk := runWorker_completeK g dom coll ctx hK hH root hD hhist depth hdB st.bestMv hbest st.tt hacc
      (Rng.seedFromU64 seed) st.polls e stw hrun
    have hwin := hwk.2.1 hw
    obtain ⟨x, hx1, hx2⟩ := hwk.2.2.1 hwin
    obtain ⟨k1, es, k2⟩ := (runWorkers_inv g dom coll ctx hK hH root hD hhist hc depth hdB st.bestMv hbest rest
      (WorkersOut.join { tt := st.tt, polls := st.polls, evals := [], sumNodes := 0 } (.ok e, stw)) hwk.1 rfl).2.2
      ⟨x, hx1, hx2⟩
    rw [k2]
    refine ⟨?_, x, by rw [k1]; exact hx1⟩
    show 10000 ≤ List.foldl max e es
    have := le_foldl_max e es
    eomega

omit coll in
/-- one worker: after its root call the entries under the root's key have remaining depth at most the search depth and
avoid the history, and a winning value leaves only winning entries there -/
theorem workersOut_one_entries (hc : ctx.cancelAt = Option.none) (depth : Nat) (st : IterSt)
    (hbest : BestOK root st.bestMv) (htt : TTInv K D L nT nB st.tt) (hre : RootEntries K H root depth st.tt) :
    RootEntries K H root (depth + 1) (workersOut ctx root 1 depth st).tt ∧
    ((workersOut ctx root 1 depth st).panic = Option.none → 10000 ≤ Pairing.reportedEval (workersOut ctx root 1 depth st) st →
      ∀ x, (workersOut ctx root 1 depth st).tt.find (hash K root).toNat = some x → 10000 ≤ x.eval) := by
  obtain ⟨ms, hms⟩ := dom.gen hD
  have hw := runWorker_spec g dom ctx hK root hD depth st.bestMv hbest st.tt htt
    (Rng.seedFromU64 (Rng.nextU64 st.rng).1) st.polls
  rw [SearchCtl.workersOut_one]
  generalize hrun : runWorker ctx root (depth + 1) st.bestMv st.tt _ st.polls = out at hw
  obtain ⟨res, stw⟩ := out
  cases res with
  | error err =>
    cases err with
    | interrupt => exact absurd hrun (runWorker_no_interrupt ctx root hc _ _ _ _ _ _)
    | panic why => exact ⟨fun x hx => ⟨Nat.le_succ_of_le (hre x hx).1, (hre x hx).2⟩, fun hp => nomatch hp⟩
  | ok e =>
    subst hK
    subst hH
    exact ⟨((runWorker_rootOut g ctx root hhist hms depth st.bestMv hbest st.tt htt.1 _ st.polls e stw hrun).entries rfl
      rfl rfl (show - Ev.mateInPly 0 < Ev.mateInPly 0 by decide) (show - Ev.mateInPly 0 < 10000 by decide)
      (show depth + 1 - 0 = depth + 1 by omega) (fun x hx => hre x hx) hms hbest).2.1,
      fun _ he => (hw.2 e rfl).2 hhist he⟩

end workersK

/-! ## 2. one iteration, the loop -/

/-- the fields of the loop state after an iteration whose workers all returned -/
theorem iterStep_fields {ctx : Ctx} {root : State} {workers depth : Nat} {st : IterSt} (rootHash : UInt64)
    (hp : (workersOut ctx root workers depth st).panic = Option.none)
    (hi : (workersOut ctx root workers depth st).interrupted = false) :
    (iterStep ctx root rootHash workers depth st).tt = (workersOut ctx root workers depth st).tt ∧
    ((walkLine ctx.keys (workersOut ctx root workers depth st).tt (depth + 1) root).isEmpty = true →
      (iterStep ctx root rootHash workers depth st).finished = st.finished) ∧
    ((walkLine ctx.keys (workersOut ctx root workers depth st).tt (depth + 1) root).isEmpty = false →
      (iterStep ctx root rootHash workers depth st).finished =
        decide (Pairing.reportedEval (workersOut ctx root workers depth st) st ≥ Ev.posInf) ∧
      ∃ pre, (iterStep ctx root rootHash workers depth st).events =
        pre ++ [.best (Pairing.reportedEval (workersOut ctx root workers depth st) st)
          (walkLine ctx.keys (workersOut ctx root workers depth st).tt (depth + 1) root)]) := by
  rw [SearchCtl.iterStep_complete hp hi]
  refine ⟨rfl, fun hl => ?_, fun hl => ⟨?_, ?_⟩⟩
  · dsimp only
    rw [if_pos hl]
  · dsimp only
    rw [if_neg (by rw [hl]; decide)]
    rfl
  · dsimp only
    rw [if_neg (by rw [hl]; decide)]
    exact ⟨_, rfl⟩

/-- loop invariant for completeness with any number of workers -/
def CIterK (K : Keys) (H : List UInt64) (D : State → Prop) (B L nT nB : Nat) (root : State) (st : IterSt) : Prop :=
  IterOK K D L nT nB root st ∧ CompleteTT K H D B st.tt ∧
  ∀ x, st.tt.find (hash K root).toNat = some x → RootKind x

/-- the loop state before iteration `d` of a search that is never cancelled and whose root is a visible forced mate within
`n₀` plies: the loop has ended — by a panic, or with a winning report as its last event — or it goes on with the invariant
and the search depths so far were below `n₀`.  `one` is any proposition that implies "every iteration has one
worker": under it the pairing facts (`FirstMoveKeeps` of the report, `RootEntries` of the table) are carried along. -/
def CLoopK (K : Keys) (H : List UInt64) (D : State → Prop) (B L nT nB : Nat) (root : State) (one : Prop) (n₀ d : Nat)
    (st : IterSt) : Prop :=
  (st.finished = true ∧ (st.panic = Option.none → ∃ pre ev line, st.events = pre ++ [.best ev line] ∧ 10000 ≤ ev ∧
    (one → FirstMoveKeeps K H root line))) ∨
  (st.finished = false ∧ CIterK K H D B L nT nB root st ∧ d < n₀ ∧ (one → RootEntries K H root d st.tt))

section iterK
variable {K : Keys} {H : List UInt64} {D : State → Prop} {B L nT nB : Nat} (g : Geo L nT nB) (dom : Domain K D)
  (coll : CollH K H D B) (ctx : Ctx) (hK : ctx.keys = K) (hH : ctx.history = H)
  (root : State) (hD : D root) (hhist : H.contains (hash K root) = true)
include g dom coll hK hH hD hhist

/-- **one iteration, any number of workers** (run one after the other, never cancelled): either it ends the loop — by a
panic, or with a winning report as its last event — or the loop goes on with the invariant, and then the root is not a
visible forced mate within the iteration's search depth. -/
theorem iterStep_completeK (hc : ctx.cancelAt = Option.none) (workers : Nat) (hwk : 0 < workers) (depth : Nat)
    (hdB : depth + 1 ≤ B) (st : IterSt) (hci : CIterK K H D B L nT nB root st) (hfin : st.finished = false)
    {one : Prop} (h1w : one → workers = 1) (hre : one → RootEntries K H root depth st.tt) :
    ((iterStep ctx root (hash K root) workers depth st).finished = true ∧
        ((iterStep ctx root (hash K root) workers depth st).panic = Option.none →
          ∃ pre ev line, (iterStep ctx root (hash K root) workers depth st).events = pre ++ [.best ev line] ∧
            10000 ≤ ev ∧ (one → FirstMoveKeeps K H root line))) ∨
    ((iterStep ctx root (hash K root) workers depth st).finished = false ∧
        CIterK K H D B L nT nB root (iterStep ctx root (hash K root) workers depth st) ∧
        ¬ fmH K H (depth + 1) root = true ∧
        (one → RootEntries K H root (depth + 1) (iterStep ctx root (hash K root) workers depth st).tt)) := by
  obtain ⟨hio, hct, hrk⟩ := hci
  have hsound := (Env.stepS_sound g dom ctx hK root hD (hash K root) (by rw [hK]) workers depth st _ hio
    (Env.iterStep_stepS ctx root (hash K root) workers depth st)).1
  have hacc0 : AccInv K H D B L nT nB root st.tt := ⟨hio.1, hct, hrk⟩
  have hinv := runWorkers_inv g dom coll ctx hK hH root hD hhist hc depth hdB st.bestMv hio.2.1
    ((List.range workers).zip (drawSeeds workers st.rng).1)
    { tt := st.tt, polls := st.polls, evals := [], sumNodes := 0 } hacc0 rfl
  replace hinv : AccInv K H D B L nT nB root (workersOut ctx root workers depth st).tt ∧
      (workersOut ctx root workers depth st).interrupted = false := ⟨hinv.1, hinv.2.1⟩
  cases hpw : (workersOut ctx root workers depth st).panic with
  | some why => rw [SearchCtl.iterStep_panic hpw]; exact Or.inl ⟨rfl, fun h => nomatch h⟩
  | none =>
  obtain ⟨g1, g2, g3⟩ := iterStep_fields (hash K root) hpw hinv.2
  obtain ⟨ms, hms⟩ := dom.gen hD
  -- one worker: its root call searches deeper than every entry under the root's key, and pairs a winning value
  -- with a winning entry there
  have hone : one → RootEntries K H root (depth + 1) (workersOut ctx root workers depth st).tt ∧
      (10000 ≤ Pairing.reportedEval (workersOut ctx root workers depth st) st →
        ∀ x, (workersOut ctx root workers depth st).tt.find (hash K root).toNat = some x → 10000 ≤ x.eval) := by
    intro ho
    have h1 := h1w ho
    subst h1
    obtain ⟨a, b⟩ := workersOut_one_entries g dom ctx hK hH root hD hhist hc depth st hio.2.1 hio.1 (hre ho)
    exact ⟨a, b hpw⟩
  -- under a visible mate within the search depth: a winning first value and a root entry
  have hfirst : fmH K H (depth + 1) root = true →
      10000 ≤ Pairing.reportedEval (workersOut ctx root workers depth st) st ∧
      (walkLine ctx.keys (workersOut ctx root workers depth st).tt (depth + 1) root).isEmpty = false := by
    intro hw
    obtain ⟨k1, x, k3⟩ := workersOut_first g dom coll ctx hK hH root hD hhist hc workers hwk depth hdB st hio.2.1 hacc0
      hw hpw
    exact ⟨k1, (walkLine_nonempty (n := depth) (by rw [hK]; exact k3) (root_entry_move hinv.1.1.2 hD k3).1).1⟩
  -- if the loop goes on, it goes on with the invariant
  have hci' : CIterK K H D B L nT nB root (iterStep ctx root (hash K root) workers depth st) :=
    ⟨hsound, by rw [g1]; exact hinv.1.2.1, by rw [g1]; exact hinv.1.2.2⟩
  have hre' : one → RootEntries K H root (depth + 1) (iterStep ctx root (hash K root) workers depth st).tt :=
    fun h1 => by rw [g1]; exact (hone h1).1
  by_cases hl : (walkLine ctx.keys (workersOut ctx root workers depth st).tt (depth + 1) root).isEmpty = true
  · refine Or.inr ⟨by rw [g2 hl]; exact hfin, hci', fun hw => ?_, hre'⟩
    rw [(hfirst hw).2] at hl; cases hl
  · have hl' : (walkLine ctx.keys (workersOut ctx root workers depth st).tt (depth + 1) root).isEmpty = false :=
      Bool.eq_false_iff.2 hl
    obtain ⟨q1, pre, q2⟩ := g3 hl'
    by_cases hwin : 10000 ≤ Pairing.reportedEval (workersOut ctx root workers depth st) st
    · left
      refine ⟨?_, fun _ => ⟨pre, _, _, q2, hwin, fun h1 => ?_⟩⟩
      · rw [q1, decide_eq_true_eq, posInf_eq]
        exact hwin
      · -- the line starts with the move of the root's entry, which is winning, sound, and avoids the history
        obtain ⟨x, hx1, hx2⟩ := walkLine_head hl'
        rw [hK] at hx1
        have hxw := (hone h1).2 hwin x hx1
        obtain ⟨r, hr, hr1, hr2⟩ := (root_entry_move hinv.1.1.2 hD hx1).2 hxw
        obtain ⟨r', hr', hr1', hr2'⟩ := ((hone h1).1 x hx1).2 hxw
        have hrr : r' = r := legal_unique hms hr' hr (by rw [hr1, ← toUInt32_of_toNat hr1'])
        subst hrr
        exact ⟨r', hr, by rw [hx2, hr1], hr2, hr2'⟩
    · refine Or.inr ⟨?_, hci', fun hw => hwin (hfirst hw).1, hre'⟩
      rw [q1, decide_eq_false_iff_not, posInf_eq]
      exact hwin

/-- the deepening loop with any number of workers per iteration: from the invariant and a search depth still below
the visible mate distance `n₀`, a loop of enough iterations that does not panic ends with a winning report as its last
event -/
theorem iterLoop_completeK (hc : ctx.cancelAt = Option.none) (workersOf : Nat → Nat) (hwk : ∀ k, 0 < workersOf k)
    (n₀ : Nat) (hn₀B : n₀ ≤ B) (hw : fmH K H n₀ root = true) :
    ∀ (n depth : Nat) (st : IterSt), CIterK K H D B L nT nB root st → st.finished = false →
      n₀ ≤ depth + n → depth < n₀ →
      (iterLoop ctx root (hash K root) workersOf n depth st).panic = Option.none →
      ((∀ k, workersOf k = 1) → RootEntries K H root depth st.tt) →
      ∃ pre ev line, (iterLoop ctx root (hash K root) workersOf n depth st).events = pre ++ [.best ev line] ∧
        10000 ≤ ev ∧ ((∀ k, workersOf k = 1) → FirstMoveKeeps K H root line) := by
  intro n depth st hci0 hfin0 h1 h2 hnp hre0
  have hb : ∀ d st, st.finished = false → CLoopK K H D B L nT nB root (∀ k, workersOf k = 1) n₀ d st →
      CLoopK K H D B L nT nB root (∀ k, workersOf k = 1) n₀ d (boundaryPoll ctx d st) := by
    -- never cancelled: the boundary read of the flag does not end the loop and keeps the invariant
    intro d st hfin hp
    rcases hp with ⟨hf, _⟩ | ⟨_, hci, hlt, hre⟩
    · rw [hfin] at hf; cases hf
    · refine Or.inr ⟨?_, ?_, hlt, by rw [boundaryPoll_tt]; exact hre⟩
      · rw [boundaryPoll_finished_of_none ctx hc]; split
        · rfl
        · exact hfin
      · unfold CIterK; rw [boundaryPoll_tt]; exact ⟨hci.1.boundaryPoll ctx d, hci.2⟩
  have hs : ∀ d st, st.finished = false → CLoopK K H D B L nT nB root (∀ k, workersOf k = 1) n₀ d st →
      CLoopK K H D B L nT nB root (∀ k, workersOf k = 1) n₀ (d + 1)
        (iterStep ctx root (hash K root) (workersOf d) d st) := by
    intro d st hfin hp
    rcases hp with ⟨hf, _⟩ | ⟨_, hci, hlt, hre⟩
    · rw [hfin] at hf; cases hf
    · rcases iterStep_completeK g dom coll ctx hK hH root hD hhist hc (workersOf d) (hwk d) d (by omega) st hci hfin
        (fun h => h d) hre with h | ⟨hf, hci', hnw, hre'⟩
      · exact Or.inl h
      · refine Or.inr ⟨hf, hci', ?_, hre'⟩
        rcases Nat.lt_or_ge (d + 1) n₀ with h | h
        · exact h
        · exact absurd (fmH_le K H h hw) hnw
  obtain ⟨d', hP, hd'⟩ := iterLoop_keeps_depth ctx root (hash K root) workersOf hb hs n depth st
    (Or.inr ⟨hfin0, hci0, h2, hre0⟩)
  rcases hP with ⟨_, hwin⟩ | ⟨hnf, _, hlt, _⟩
  · exact hwin hnp
  · have := hd' hnf
    omega

end iterK

/-- **`analyze_iterative` finds a visible forced mate** (general history; any number of workers per iteration, run one
after the other as the model runs them).  Fresh table, no cancellation, depth limit `d`.  The history the search runs
with is the root's key followed by the incoming `history`; `D` is a domain containing the root.  If the root is
a visible forced mate within `n₀ ≤ d` plies (`fmH`), keys do not collide harmfully (`Domain`'s `coll` for soundness,
`CollH … n₀` for completeness), every iteration has at least one worker and the search does not panic, then the last
`BestMove` report is winning; if every iteration has exactly one worker, its first move leads to a position that is
`Lost` for the opponent and whose key is not recorded. -/
theorem iterate_complete_workers {D : State → Prop} {nT nB : Nat} (hT : 0 < nT) (hB : 0 < nB) (keys : KeyTable)
    (history : List UInt64) (root : State) (dom : Domain keys.keys D) (hD : D root) (n₀ d : Nat)
    (coll : CollH keys.keys (hash keys.keys root :: history) D n₀)
    (hw : fmH keys.keys (hash keys.keys root :: history) n₀ root = true) (hd : n₀ ≤ d)
    (workersOf : Nat → Nat) (hwk : ∀ k, 0 < workersOf k) (rng0 : Rng.ChaCha8) (fuelDepth : Nat)
    (hnp : (iterate root rng0 (some d) { keys := keys, tt := TT.Access.new nT nB, history := history }
      workersOf Option.none fuelDepth).panic = Option.none) :
    ∃ ev line, (bestReports (iterate root rng0 (some d)
        { keys := keys, tt := TT.Access.new nT nB, history := history } workersOf Option.none fuelDepth).events).getLast? =
        some (ev, line) ∧ Ev.posInf ≤ ev ∧
      ((∀ k, workersOf k = 1) → FirstMoveKeeps keys.keys (hash keys.keys root :: history) root line) := by
  have g : Geo Gen.bucketSize nT nB := ⟨by decide, hT, hB⟩
  have hn₀ : 0 < n₀ := by
    cases n₀ with
    | zero => rw [fmH.eq_1] at hw; cases hw
    | succ _ => omega
  rw [SearchCtl.iterate_eq, SearchCtl.iterFinal_of_moves (fmH_moves _ _ hw)] at hnp ⊢
  dsimp only [Option.getD_some] at hnp ⊢
  have hnew : ∀ k x, (TT.Access.new nT nB).find k = some x → False := fun k x hf => by
    rw [TT.Access.new_find hT hB] at hf; cases hf
  have hinit : CIterK keys.keys (hash keys.keys root :: history) D n₀ Gen.bucketSize nT nB root
      (SearchCtl.iterInit rng0 { keys := keys, tt := TT.Access.new nT nB, history := history }) :=
    ⟨.init ⟨TT.AInv.new nT nB, fun s e _ hf => (hnew _ _ hf).elim⟩ rfl rfl, fun s e _ hf => (hnew _ _ hf).elim,
      fun x hx => (hnew _ _ hx).elim⟩
  obtain ⟨pre, ev, line, hev, h1, h2⟩ := iterLoop_completeK g dom coll
    (SearchCtl.iterCtx root { keys := keys, tt := TT.Access.new nT nB, history := history } Option.none) rfl rfl root hD
    (by simp) rfl workersOf hwk n₀ (Nat.le_refl _) hw d 0 _ hinit rfl (by omega) hn₀ hnp
    fun _ x hx => (hnew _ _ hx).elim
  refine ⟨ev, line, ?_, by rw [posInf_eq]; exact h1, h2⟩
  rw [hev]
  split
  · exact bestReports_last pre ev line _ (Or.inr rfl)
  · have := bestReports_last pre ev line [] (Or.inl rfl)
    rw [List.append_nil] at this
    exact this

/-- one worker per iteration: the last report is winning and its first move leads to a position that is `Lost` for
the opponent and whose key is not recorded -/
theorem iterate_complete {D : State → Prop} {nT nB : Nat} (hT : 0 < nT) (hB : 0 < nB) (keys : KeyTable)
    (history : List UInt64) (root : State) (dom : Domain keys.keys D) (hD : D root) (n₀ d : Nat)
    (coll : CollH keys.keys (hash keys.keys root :: history) D n₀)
    (hw : fmH keys.keys (hash keys.keys root :: history) n₀ root = true) (hd : n₀ ≤ d)
    (rng0 : Rng.ChaCha8) (fuelDepth : Nat)
    (hnp : (iterate root rng0 (some d) { keys := keys, tt := TT.Access.new nT nB, history := history }
      (fun _ => 1) Option.none fuelDepth).panic = Option.none) :
    ∃ ev line r, (bestReports (iterate root rng0 (some d) { keys := keys, tt := TT.Access.new nT nB, history := history }
        (fun _ => 1) Option.none fuelDepth).events).getLast? = some (ev, line) ∧
      Ev.posInf ≤ ev ∧ r ∈ legalMoves root ∧ line.head? = some r.1 ∧ Lost r.2 ∧
      inHist keys.keys (hash keys.keys root :: history) r.2 = false := by
  obtain ⟨ev, line, h1, h2, h3⟩ := iterate_complete_workers hT hB keys history root dom hD n₀ d coll hw hd (fun _ => 1)
    (fun _ => Nat.one_pos) rng0 fuelDepth hnp
  obtain ⟨r, hr, h4⟩ := h3 fun _ => rfl
  exact ⟨ev, line, r, h1, h2, hr, h4⟩

end Wee.C06
