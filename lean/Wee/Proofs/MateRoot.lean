import Wee.Proofs.EnvSound
import Wee.Proofs.SearchCtl
/-!
# C06: the root call and the report of one iteration

* triples with a state-dependent postcondition (`Triple`), which the worker's logic gives in the empty environment
  (`Triple.of_holdsP`);
* the *frame* theorem `searchNodeE_frame`: a call of `analyze_recursive` below the root never writes under a key that is in
  the history (the draw-by-history return comes before every table write), so the entry of the root key can only be
  displaced from a full bucket, never replaced, by the subtree;
* the root call: `searchNode_rootOut` says what it leaves under its own key (`RootOut`: a `NodeOut` of
  `Wee/Proofs/AlphaBeta.lean` together with the frame), `RootOut.cases` the three ways it can end (answered by the
  probe, nothing stored, a lower-bound or exact entry stored); read off the cases: after a winning value whatever is found
  under the key is winning (`RootOut.winning`; that something is found, with which depth and move, is `RootOut.entries`),
  the kinds of the entries (`RootOut.kinds`);
* one worker (`runWorker_spec`) and the report step for any joined results (`finishStep_sound`); the
  iteration and the loop, under any schedule of the workers, are in `Wee/Proofs/AnySchedule.lean` and
  `Wee/Proofs/PairingLemmas.lean`.
-/
namespace Wee.C06
open Wee Wee.Search Wee.Outcome

/-! ## 1. triples with a state-dependent postcondition -/

/-- partial correctness for normal results, with a postcondition that sees the final state -/
def Triple {α : Type} (P : St → Prop) (x : M α) (Q : α → St → Prop) : Prop :=
  ∀ st, P st → ∀ r st', x.run.run st = (.ok r, st') → Q r st'

section triple
variable {α : Type} {P : St → Prop}

theorem Triple.conseq {x : M α} {P' : St → Prop} {Q Q' : α → St → Prop} (h : Triple P x Q)
    (hpre : ∀ st, P' st → P st) (hpost : ∀ a st, Q a st → Q' a st) : Triple P' x Q' :=
  fun st hp r st' he => hpost _ _ (h st (hpre st hp) r st' he)

/-- what the worker's logic shows of a computation that runs like `y` in the empty environment is a triple of `y` -/
theorem Triple.of_holdsP {V : Wee.Env.Spec} {Q : α → St → Prop} {x : ME α} {y : M α} (hs : Wee.Env.Sim x y)
    (h : Wee.Env.HoldsP V P x Q) : Triple P y Q := fun _ hp _ _ he => h.run hs hp he

end triple

/-! ## 2. frame: nothing below the root writes under the root key; the root call -/

/-- shape invariant of the table, and the entry under the key `k0` is `x0` or has been displaced -/
def Frame (L nT nB : Nat) (k0 : Nat) (x0 : Option TT.Entry) (st : St) : Prop :=
  TT.AInv L nT nB st.tt ∧ (st.tt.find k0 = none ∨ st.tt.find k0 = x0)

theorem Frame.insert {L nT nB k0 : Nat} {x0 : Option TT.Entry} (g : Geo L nT nB) {st : St}
    (h : Frame L nT nB k0 x0 st) {k : Nat} (hk : k ≠ k0) (e : TT.Entry) :
    Frame L nT nB k0 x0 { st with tt := st.tt.insert k e } := by
  refine ⟨h.1.insert g.hL g.hT g.hB _ _, ?_⟩
  rcases h.1.find_insert_other g.hL g.hT g.hB k e k0 (Ne.symm hk) with h1 | h1
  · exact Or.inl h1
  · show (st.tt.insert k e).find k0 = none ∨ (st.tt.insert k e).find k0 = x0
    rw [h1]; exact h.2

/-- an entry found under `k0` is the one that was there -/
theorem Frame.found {L nT nB k0 : Nat} {x0 : Option TT.Entry} {st : St} (h : Frame L nT nB k0 x0 st) {x : TT.Entry}
    (hx : st.tt.find k0 = some x) : x0 = some x := by
  rcases h.2 with h | h <;> rw [h] at hx
  · cases hx
  · exact hx

/-- whatever is stored under `k0` has a winning value -/
def RootWinning (k0 : Nat) (st : St) : Prop := ∀ x, st.tt.find k0 = some x → 10000 ≤ x.eval

/-- the move of a winning entry of the position `s` leads to a position whose key is not recorded -/
def Avoids (K : Keys) (H : List UInt64) (s : State) (x : TT.Entry) : Prop :=
  10000 ≤ x.eval → ∃ r ∈ legalMoves s, r.1.toNat = x.mv ∧ inHist K H r.2 = false

/-- after the root call: the entries under the root's key have remaining depth at most `bd` and avoid the history;
a winning value leaves an entry there -/
def RootPost (K : Keys) (H : List UInt64) (L nT nB : Nat) (s : State) (k0 bd : Nat) (r : Eval) (st' : St) : Prop :=
  TT.AInv L nT nB st'.tt ∧ (∀ x, st'.tt.find k0 = some x → x.maxDepth - x.depth ≤ bd ∧ Avoids K H s x) ∧
  (10000 ≤ r → ∃ x, st'.tt.find k0 = some x)

/-- an entry written by a root call: the final `Exact` store, or the `LowerBound` store of a cut-off at
`beta = mate_in_ply(0) = 11000` -/
def RootKind (x : TT.Entry) : Prop := x.kind = kindExact ∨ (x.kind = kindLower ∧ 11000 ≤ x.eval)

/-- after a root call with remaining depth `sd`, started with the entry `x0` under the root's key -/
def RootPostK (L nT nB : Nat) (k0 sd : Nat) (x0 : Option TT.Entry) (r : Eval) (st' : St) : Prop :=
  TT.AInv L nT nB st'.tt ∧ (∀ x, st'.tt.find k0 = some x → RootKind x) ∧
  (10000 ≤ r → ∃ x, st'.tt.find k0 = some x ∧ sd ≤ x.maxDepth - x.depth) ∧
  ((∃ x, x0 = some x ∧ sd ≤ x.maxDepth - x.depth) → st'.tt.find k0 = x0)

/-- **what the root call leaves.**  The root call from a table with `x0` under the root's key `k0` is a `NodeOut` for the
probed entry `x0`, whose children are legal successors and return `0` after a recorded position; if it stores nothing the
entry under `k0` is `x0` or has been displaced (and is `x0` if the probe answered), otherwise it is the entry stored. -/
def RootOut (L nT nB k0 : Nat) (ctx : Ctx) (a : NodeArgs) (x0 : Option TT.Entry) (r : Eval) (st' : St) : Prop :=
  ∃ stored, NodeOut ctx a true (fun β => (Bounds.avoid ctx.keys ctx.history a.s).Child β) x0 r stored ∧
    (∀ v, SearchCtl.probe a x0 = .cut v → st'.tt.find k0 = x0) ∧ (stored = Option.none → Frame L nT nB k0 x0 st') ∧
    ∀ e, stored = some e → TT.AInv L nT nB st'.tt ∧ st'.tt.find k0 = some e

section root
open Wee.Env
variable {L nT nB k0 : Nat} (g : Geo L nT nB) (ctx : Ctx)
  (hk0 : ∀ s, (hash ctx.keys s).toNat = k0 → ctx.history.contains (hash ctx.keys s) = true)
include g hk0

/-- **frame.**  A call of `analyze_recursive` at `current_depth > 0` leaves the entry under a key of
the history untouched or displaces it; it never replaces it (a node that writes was not cut by the history, so its key
is not `k0`).  It counts a node, and returns `0` on a recorded position. -/
theorem searchNodeE_frame {env : Env} {x0 : Option TT.Entry} (hst : Stable env (Frame L nT nB k0 x0)) :
    ∀ (rem : Nat) (a : NodeArgs), 0 < a.curDepth → a.alpha < a.beta → ∀ n,
      HoldsP Spec.triv (fun st => Frame L nT nB k0 x0 st ∧ n ≤ st.nodes) (searchNodeE env ctx rem a)
        (fun r st' => (Frame L nT nB k0 x0 st' ∧ n < st'.nodes) ∧
          (ctx.history.contains (hash ctx.keys a.s) = true → r = 0)) := by
  refine fun rem a hd hab => searchNodeE_induct (Pre := fun _ a => 0 < a.curDepth ∧ a.alpha < a.beta)
    (T := fun _ a x => ∀ n, HoldsP Spec.triv (fun st => Frame L nT nB k0 x0 st ∧ n ≤ st.nodes) x
      (fun r st' => (Frame L nT nB k0 x0 st' ∧ n < st'.nodes) ∧
        (ctx.history.contains (hash ctx.keys a.s) = true → r = 0)))
    (fun _ a rec ⟨hd, hab⟩ _ hrec n => ?_) rem a ⟨hd, hab⟩
  refine holdsP_conseq (nodeE_outP (V := Spec.triv) (P0 := Frame L nT nB k0 x0) (P := Frame L nT nB k0 x0)
    (Q := fun _ _ st => Frame L nT nB k0 x0 st)
    (C := fun _ _ next _ v => ctx.history.contains (hash ctx.keys next) = true → v = 0) hst (fun _ h => h) hst
    (fun _ _ => trivial) ctx a rec (.ofAll fun _ => trivial) (.lt hab)
    (SearchCtl.tick_post ctx trivial (fun _ _ => trivial) fun _ _ h => h) (fun _ _ h => h)
    (fun hnh => ⟨?child, fun _ _ _ _ _ _ _ _ _ => trivial, fun _ => ?store⟩) n) (fun _ h => h) ?post
  case child =>
    intro child hc ps hps alpha beta mv hmv m next ht α k hα
    obtain ⟨_, _, hch⟩ := hrec child hc
    exact hch _ ⟨by show 0 < a.curDepth + 1 + _; omega, by show -beta < -α; eomega⟩ k
  case store =>
    intro ps alpha beta buf r e st _ _ _ _ hp
    exact ⟨hp.insert g (fun h => hnh ⟨hd, hk0 _ h⟩) _, trivial⟩
  case post =>
    rintro r st' ⟨hn, found, stored, _, hout, _, h1, h2⟩
    refine ⟨⟨?_, hn⟩, fun hh => (hout.hist_zero hd hh).1⟩
    cases stored with
    | none => exact h1 rfl
    | some e => exact h2 e rfl

/-- **the root call**: the key of the node's position is recorded in the history (as `analyze_iterative` arranges for the
root), so nothing below writes under it -/
theorem searchNode_rootOut (rem : Nat) (a : NodeArgs) (hcur : a.curDepth = 0) (hab : a.alpha < a.beta)
    (hk : (hash ctx.keys a.s).toNat = k0) {ms : List (Move × State)} (hms : legalMoves? a.s = some ms)
    (hprio : PrioOK a) (x0 : Option TT.Entry) :
    Triple (fun st => TT.AInv L nT nB st.tt ∧ st.tt.find k0 = x0) (searchNode ctx (rem + 1) a)
      (RootOut L nT nB k0 ctx a x0) := by
  refine Triple.of_holdsP (V := Spec.triv) (searchNodeE_empty ctx (rem + 1) a) ?_
  rw [searchNodeE_succ]
  refine holdsP_conseq (nodeE_outP (V := Spec.triv) (env := Env.empty)
    (P0 := fun st => TT.AInv L nT nB st.tt ∧ st.tt.find k0 = x0)
    (P := Frame L nT nB k0 x0) (Q := fun _ e st => TT.AInv L nT nB st.tt ∧ st.tt.find k0 = some e)
    (C := fun β => (Bounds.avoid ctx.keys ctx.history a.s).Child β) (fun _ _ h => h) (fun _ h => ⟨h.1, Or.inr h.2⟩)
    (fun _ _ h => h) (fun _ _ => trivial) ctx a _ (.ofAll fun _ => trivial) (.lt hab)
    (SearchCtl.tick_post ctx trivial (fun _ _ => trivial) fun _ _ h => h)
    (fun _ _ h => h) (fun _ => ⟨?child, fun _ _ _ _ _ _ _ _ _ => trivial, fun _ => ?store⟩) 0) (fun _ h => ⟨h, Nat.zero_le _⟩) ?post
  case child =>
    intro child hc ps hps alpha beta mv hmv m next ht α k hα
    cases hc
    exact holdsP_conseq (searchNodeE_frame (env := Env.empty) g ctx hk0 (fun _ _ h => h) rem _ (by show 0 < a.curDepth + 1 + _; omega)
      (by show -beta < -α; eomega) k) (fun _ h => h)
      fun v st' h => ⟨h.1, buffer_legal hms hps hprio hmv ht, fun _ hin => h.2 hin, fun _ => trivial⟩
  case store =>
    intro ps alpha beta buf r e st _ _ _ _ hp
    refine ⟨⟨hp.1.insert g.hL g.hT g.hB _ _, ?_⟩, trivial⟩
    rw [← hk]
    exact hp.1.find_insert_self g.hL g.hT g.hB _ _
  case post =>
    rintro r st' ⟨_, found, stored, ⟨st0, hp0, hf⟩, hout, h0, h1, h2⟩
    have : found = x0 := by rw [← hf, hk]; exact hp0.2
    subst this
    exact ⟨stored, hout, fun v hv => (h0 v hv).2, h1, h2⟩

end root

section rootOut
variable {L nT nB k0 : Nat} {ctx : Ctx} {a : NodeArgs} {x0 : Option TT.Entry} {r : Eval} {st' : St}
  (h : RootOut L nT nB k0 ctx a x0 r st') (hcur : a.curDepth = 0)
include h hcur

/-- **the root call by cases.**  The probe answered from the entry `e` under the root's key, which is still there; or
the move loop ran in the window `(α, β)` of the probe, and then the node stored nothing — the entry under the key is as
it was or displaced, the value is a static one or `α` — or it stored `e`: the `LowerBound` entry of a cut-off with the
value `β`, or the `Exact` entry of a raised `alpha`. -/
theorem RootOut.cases :
    (∃ e, x0 = some e ∧ r = e.eval ∧ a.maxDepth - a.curDepth ≤ e.maxDepth - e.depth ∧ TT.AInv L nT nB st'.tt ∧
      st'.tt.find k0 = some e) ∨
    ∃ α β, SearchCtl.probe a x0 = .window α β ∧
      ((Frame L nT nB k0 x0 st' ∧ (r < 10000 ∨ r = α)) ∨
        ∃ e, NodeOut ctx a true (fun β => (Bounds.avoid ctx.keys ctx.history a.s).Child β) x0 r (some e) ∧
          TT.AInv L nT nB st'.tt ∧ st'.tt.find k0 = some e ∧
          ((∃ m, e = SearchCtl.entryOf a kindLower m β ∧ r = β) ∨ ∃ m, e = SearchCtl.entryOf a kindExact m r ∧ α < r)) := by
  obtain ⟨stored, hout, h0, h1, h2⟩ := h
  rcases hout.root_cases hcur with ⟨hv, hs⟩ | ⟨α, β, _, _, hw, _, _, ht⟩
  · obtain ⟨e, he, hr, hd, _⟩ := probe_cut hv
    exact Or.inl ⟨e, he, hr, hd, (h1 hs).1, (h0 _ hv).trans he⟩
  · refine Or.inr ⟨α, β, hw, ?_⟩
    cases stored with
    | none => exact Or.inl ⟨h1 rfl, ht.none_value rfl⟩
    | some e => exact Or.inr ⟨e, hout, (h2 e rfl).1, (h2 e rfl).2, ht.some_entry rfl⟩

/-- **the root call pairs a winning value with a winning root entry.**  If the window's `alpha` is below `POS_INF` and
the call returns a value `≥ POS_INF`, then whatever is stored under the node's key afterwards has a value `≥ POS_INF`. -/
theorem RootOut.winning (hα : a.alpha < 10000) (hr : 10000 ≤ r) : RootWinning k0 st' := by
  intro x hx
  rcases h.cases hcur with ⟨e, _, rfl, _, _, hf⟩ | ⟨α, β, hw, ⟨hf, hlt | rfl⟩ | ⟨e, _, _, hf, hs⟩⟩
  · rw [hf] at hx; cases hx; exact hr
  · exfalso; eomega
  · -- a window with `alpha ≥ POS_INF` can only come from a lower bound of the root's own entry, which is still there
    rcases probe_window hw with ⟨rfl, _⟩ | ⟨e, he, _, _, _, ⟨_, rfl, _⟩ | ⟨_, rfl, _⟩⟩
    · exfalso; eomega
    · exfalso; eomega
    · cases he.symm.trans (hf.found hx)
      eomega
  · rw [hf] at hx; cases hx
    rcases hs with ⟨m, rfl, rfl⟩ | ⟨m, rfl, _⟩ <;> exact hr

/-- **the root call and the entries under the root's key.**  If before the call the entries under that key have
remaining depth at most `bound` and avoid the history, and the call searches with remaining depth `bound + 1`, then
afterwards they have remaining depth at most `bound + 1` and avoid the history, and a returned value `≥ POS_INF` leaves
an entry there. -/
theorem RootOut.entries {K : Keys} {H : List UInt64} (hK : ctx.keys = K) (hH : ctx.history = H) (hab : a.alpha < a.beta)
    (hα : a.alpha < 10000) {bound : Nat} (hsd : a.maxDepth - a.curDepth = bound + 1)
    (hx0 : ∀ e, x0 = some e → e.maxDepth - e.depth ≤ bound ∧ Avoids K H a.s e) {ms : List (Move × State)}
    (hms : legalMoves? a.s = some ms) (hprio : PrioOK a) : RootPost K H L nT nB a.s k0 (bound + 1) r st' := by
  subst hK
  subst hH
  -- the entry found was searched less deep than this call, so the probe changes nothing
  have hshallow : ∀ e, x0 = some e → ¬ a.maxDepth - a.curDepth ≤ e.maxDepth - e.depth := fun e he hd => by
    have := (hx0 e he).1
    omega
  rcases h.cases hcur with ⟨e, he, _, hd, _⟩ | ⟨α, β, hw, ⟨hf, hv⟩ | ⟨e, hout, hA, hf, _⟩⟩
  · exact (hshallow e he hd).elim
  · refine ⟨hf.1, fun x hx => ?_, fun hr => ?_⟩
    · have hx := hf.found hx
      exact ⟨Nat.le_succ_of_le (hx0 x hx).1, (hx0 x hx).2⟩
    · exfalso
      rcases probe_window hw with ⟨rfl, rfl, _⟩ | ⟨e, he, hd, _⟩
      · rcases hv with hlt | rfl <;> eomega
      · exact hshallow e he hd
  · obtain ⟨k, m, rfl, hlow, _⟩ := (hout.ab (Bounds.avoid ctx.keys ctx.history a.s) hms hprio hab
      (fun _ _ => ⟨fun _ => trivial, fun _ => trivial⟩) (fun _ _ _ => ⟨fun _ => trivial, fun _ => trivial⟩)
      (fun _ _ _ _ _ _ => ⟨fun _ => trivial, fun _ => trivial⟩)
      (fun _ _ _ _ _ => ⟨fun _ => trivial, fun _ => trivial⟩)).2 e rfl
    refine ⟨hA, fun x hx => ?_, fun _ => ⟨_, hf⟩⟩
    rw [hf] at hx
    cases hx
    refine ⟨by show a.maxDepth - a.curDepth ≤ bound + 1; omega, fun hw => ?_⟩
    obtain ⟨c, hc, rfl, hin⟩ := hlow hw
    exact ⟨c, hc, rfl, hin⟩

/-- **the root call and the kinds of the root's entries.**  Started with the entry `x0` (or none) under the root's
key, all such entries being `RootKind`: afterwards they still are; a winning value leaves an entry with at least the
call's remaining depth; and if `x0` already had at least that remaining depth the entry is still `x0`. -/
theorem RootOut.kinds (hα : a.alpha < 10000) (hβ : a.beta = 11000) (hkind : ∀ x, x0 = some x → RootKind x) :
    RootPostK L nT nB k0 (a.maxDepth - a.curDepth) x0 r st' := by
  rcases h.cases hcur with ⟨e, he, _, hd, hA, hf⟩ | ⟨α, β, hw, hc⟩
  · exact ⟨hA, fun x hx => hkind x (he.trans (hf.symm.trans hx)), fun _ => ⟨e, hf, hd⟩, fun _ => hf.trans he.symm⟩
  · -- an entry of root kind searched at least as deep always ends the probe: the window is the node's own
    obtain ⟨rfl, rfl, hsh⟩ : α = a.alpha ∧ β = a.beta ∧
        ∀ e, x0 = some e → e.maxDepth - e.depth < a.maxDepth - a.curDepth := by
      rcases probe_window hw with h | ⟨e, he, _, hx, hlt, hb⟩
      · exact h
      · exfalso
        rcases hkind e he with h | h
        · exact hx h
        · rcases hb with ⟨hup, _⟩ | ⟨_, rfl, rfl⟩
          · rw [h.1] at hup; exact absurd hup (by decide)
          · have := h.2; eomega
    have hno : ¬ ∃ x, x0 = some x ∧ a.maxDepth - a.curDepth ≤ x.maxDepth - x.depth := by
      rintro ⟨x, hx, hR⟩
      have := hsh x hx
      omega
    rcases hc with ⟨hf, hv⟩ | ⟨e, _, hA, hf, hs⟩
    · refine ⟨hf.1, fun x hx => hkind x (hf.found hx), fun hr => ?_, fun h => absurd h hno⟩
      rcases hv with hlt | rfl <;> exfalso <;> eomega
    · refine ⟨hA, fun x hx => ?_, fun _ => ⟨e, hf, ?_⟩, fun h => absurd h hno⟩
      · rw [hf] at hx
        cases hx
        rcases hs with ⟨m, rfl, _⟩ | ⟨m, rfl, _⟩
        · exact Or.inr ⟨rfl, by show 11000 ≤ a.beta; rw [hβ]; exact Int.le_refl _⟩
        · exact Or.inl rfl
      · rcases hs with ⟨m, rfl, _⟩ | ⟨m, rfl, _⟩ <;> exact Nat.le_refl _

end rootOut

/-! ## 3. one worker; the report step -/

-- the arguments of the root call and the equation of `runWorker`, under the names the C06 files use
export Wee.SearchCtl (rootArgs runWorker_eq)

/-- the move handed to worker 0 is a legal move of the root -/
def BestOK (root : State) (best : Option Move) : Prop := ∀ m, best = some m → ∃ r ∈ legalMoves root, r.1 = m

/-- the root window `(-mate_in_ply(0), mate_in_ply(0))` is `(-11000, 11000)` -/
theorem root_window : - Ev.mateInPly 0 = -11000 ∧ Ev.mateInPly 0 = 11000 := by decide

/-- **the root call of a worker** whose root key is recorded: what it leaves under that key -/
theorem runWorker_rootOut {L nT nB : Nat} (g : Geo L nT nB) (ctx : Ctx) (root : State)
    (hhist : ctx.history.contains (hash ctx.keys root) = true) {ms : List (Move × State)}
    (hms : legalMoves? root = some ms) (sd : Nat) (best : Option Move) (hbest : BestOK root best) (tt : TT.Access)
    (hA : TT.AInv L nT nB tt) (rng : Rng.ChaCha8) (polls : Nat) (e : Eval) (stw : St)
    (hrun : runWorker ctx root (sd + 1) best tt rng polls = (.ok e, stw)) :
    RootOut L nT nB (hash ctx.keys root).toNat ctx (rootArgs root (sd + 1) best) (tt.find (hash ctx.keys root).toNat) e stw := by
  rw [runWorker_eq] at hrun
  exact searchNode_rootOut g ctx (fun s hs => by rw [UInt64.toNat_inj.1 hs]; exact hhist) sd (rootArgs root (sd + 1) best) rfl
    (show - Ev.mateInPly 0 < Ev.mateInPly 0 by decide) rfl hms hbest _ { tt := tt, rng := rng, nodes := 0, polls := polls }
    ⟨hA, rfl⟩ e stw hrun

section worker
variable {K : Keys} {D : State → Prop} {L nT nB : Nat} (g : Geo L nT nB) (dom : Domain K D)
  (ctx : Ctx) (hK : ctx.keys = K) (root : State) (hD : D root)
include g dom hK hD

/-- one worker: the table invariant survives (also an interrupt), the value is sound for the root
window, and — when the root key is in the history — after a winning value whatever is found under the root's key is
winning -/
theorem runWorker_spec (sd : Nat) (best : Option Move) (hbest : BestOK root best) (tt : TT.Access)
    (htt : TTInv K D L nT nB tt) (rng : Rng.ChaCha8) (polls : Nat) :
    TTInv K D L nT nB (runWorker ctx root (sd + 1) best tt rng polls).2.tt ∧
    ∀ e, (runWorker ctx root (sd + 1) best tt rng polls).1 = .ok e →
      SoundVal root (-11000) 11000 e ∧
      (ctx.history.contains (hash K root) = true → 10000 ≤ e →
        RootWinning (hash K root).toNat (runWorker ctx root (sd + 1) best tt rng polls).2) := by
  rw [runWorker_eq]
  have hs := searchNode_sound g dom ctx hK (sd + 1) (rootArgs root (sd + 1) best) hD
    (show - Ev.mateInPly 0 < Ev.mateInPly 0 by decide) hbest
    { tt, rng, nodes := 0, polls } htt
  refine ⟨hs.1, fun e he => ⟨hs.2 e he, fun hh hw => ?_⟩⟩
  subst hK
  obtain ⟨ms, hms⟩ := dom.gen hD
  exact (runWorker_rootOut g ctx root hh hms sd best hbest tt htt.1 rng polls e _ (Prod.ext he rfl)).winning rfl
    (show - Ev.mateInPly 0 < 10000 by decide) hw

end worker

/-- the `BestMove` reports of an event list, in emission order -/
def bestReports (evs : List Event) : List (Eval × List Move) :=
  evs.filterMap fun e => match e with | .best ev line => some (ev, line) | _ => Option.none

theorem bestReports_last (pre : List Event) (ev : Eval) (line : List Move) (tl : List Event)
    (htl : tl = [] ∨ tl = [.warning]) :
    (bestReports (pre ++ [.best ev line] ++ tl)).getLast? = some (ev, line) := by
  unfold bestReports
  rcases htl with h | h <;> subst h <;> simp [List.filterMap_append]

/-- a winning report is a true forced win of the root position -/
def ClaimTrue (root : State) : Event → Prop
  | .best ev _ => Ev.posInf ≤ ev → Win root
  | _ => True

/-- the first move of a winning report leads to a position that is `Lost` for the opponent -/
def MoveKeeps (root : State) : Event → Prop
  | .best ev line => Ev.posInf ≤ ev → ∃ r ∈ legalMoves root, line.head? = some r.1 ∧ Lost r.2
  | _ => True

theorem MoveKeeps.claim {root : State} {ev : Event} (h : MoveKeeps root ev) : ClaimTrue root ev := by
  cases ev with
  | best e line =>
    intro hw
    obtain ⟨r, hr, _, hl⟩ := h hw
    exact Win.intro _ _ hr hl
  | progress _ _ => trivial
  | warning => trivial

/-- a non-empty line read from the table starts with the move of the root entry -/
theorem walkLine_head {keys : Keys} {tt : TT.Access} {n : Nat} {root : State}
    (h : (walkLine keys tt (n + 1) root).isEmpty = false) :
    ∃ e, tt.find (hash keys root).toNat = some e ∧ (walkLine keys tt (n + 1) root).head? = some e.mv.toUInt32 := by
  cases hh : (walkLine keys tt (n + 1) root).head? with
  | none => rw [walkLine_isEmpty, hh] at h; cases h
  | some m =>
    obtain ⟨e, _, hf, rfl, _⟩ := walkLine_head?_eq_some.1 hh
    exact ⟨e, hf, rfl⟩

/-- an entry under the root's key whose move is legal gives a non-empty line starting with that move -/
theorem walkLine_nonempty {keys : Keys} {tt : TT.Access} {n : Nat} {root : State} {x : TT.Entry}
    (hf : tt.find (hash keys root).toNat = some x)
    (hm : ∃ r ∈ legalMoves root, r.1 = x.mv.toUInt32) :
    (walkLine keys tt (n + 1) root).isEmpty = false ∧
      (walkLine keys tt (n + 1) root).head? = some x.mv.toUInt32 := by
  obtain ⟨r, hr, h1⟩ := hm
  have hh := (walkLine_head?_eq_some (n := n)).2 ⟨x, r.2, hf, rfl, h1 ▸ C02.mem_legalMoves hr⟩
  exact ⟨by rw [walkLine_isEmpty, hh]; rfl, hh⟩

theorem toUInt32_of_toNat {m : Move} {n : Nat} (h : m.toNat = n) : n.toUInt32 = m := by
  subst h; exact UInt32.ofNat_toNat

/-- the entry of the root key, if winning, names a move into a `Lost` position -/
theorem root_entry_move {K : Keys} {D : State → Prop} {tt : TT.Access} (hs : SoundTT K D tt) {root : State}
    (hD : D root) {e : TT.Entry} (hf : tt.find (hash K root).toNat = some e) :
    (∃ r ∈ legalMoves root, r.1 = e.mv.toUInt32) ∧
    (10000 ≤ e.eval → ∃ r ∈ legalMoves root, r.1 = e.mv.toUInt32 ∧ Lost r.2) := by
  obtain ⟨⟨r, hr, h1⟩, hw, _⟩ := hs root e hD hf
  refine ⟨⟨r, hr, (toUInt32_of_toNat h1).symm⟩, fun h => ?_⟩
  obtain ⟨r', hr', h1', hl⟩ := hw h
  exact ⟨r', hr', (toUInt32_of_toNat h1').symm, hl⟩

/-- invariant of the iterative-deepening loop: sound table, the remembered best move is a legal move
of the root, a winning remembered evaluation is true -/
def IterOK (K : Keys) (D : State → Prop) (L nT nB : Nat) (root : State) (st : IterSt) : Prop :=
  TTInv K D L nT nB st.tt ∧ BestOK root st.bestMv ∧ (Ev.posInf ≤ st.bestEval → Win root)

/-- the invariant holds at the start of `analyze_iterative` (`best_eval = NEG_INF`, `best_mv = None`) -/
theorem IterOK.init {K : Keys} {D : State → Prop} {L nT nB : Nat} {root : State} {st : IterSt}
    (htt : TTInv K D L nT nB st.tt) (hb : st.bestMv = Option.none) (he : st.bestEval = Ev.negInf) :
    IterOK K D L nT nB root st :=
  ⟨htt, fun _ hm => (nomatch hb.symm.trans hm), fun h => absurd (show Ev.posInf ≤ Ev.negInf from he ▸ h) (by decide)⟩

/-- the boundary read of the flag touches neither the table nor the remembered move and evaluation -/
theorem IterOK.boundaryPoll {K : Keys} {D : State → Prop} {L nT nB : Nat} {root : State} {st : IterSt}
    (h : IterOK K D L nT nB root st) (ctx : Ctx) (depth : Nat) :
    IterOK K D L nT nB root (boundaryPoll ctx depth st) := by
  unfold IterOK; rw [boundaryPoll_tt, boundaryPoll_bestMv, boundaryPoll_bestEval]; exact h

/-- C06: the report step for ANY joined results with a sound table and sound values: the loop invariant survives and the
new events are true claims (that their first move keeps the mate is `Pairing.finishStep_keeps`) -/
theorem finishStep_sound {K : Keys} {D : State → Prop} {L nT nB : Nat} (ctx : Ctx) (hK : ctx.keys = K) (root : State)
    (hD : D root) (rootHash : UInt64) (hrh : rootHash = hash ctx.keys root) (depth : Nat) (rng : Rng.ChaCha8)
    (w : WorkersOut) (st : IterSt) (hwtt : TTInv K D L nT nB w.tt)
    (hwev : ∀ e ∈ w.evals, SoundVal root (-11000) 11000 e) (h : IterOK K D L nT nB root st) :
    IterOK K D L nT nB root (finishStep ctx root rootHash depth rng w st) ∧
    ∃ new, (finishStep ctx root rootHash depth rng w st).events = st.events ++ new ∧ ∀ ev ∈ new, ClaimTrue root ev := by
  subst hrh
  subst hK
  obtain ⟨htt, hbest, hbe⟩ := h
  have hbe' : Ev.posInf ≤ (match w.evals with | [] => st.bestEval | e :: es => List.foldl max e es) → Win root := by
    cases hev : w.evals with
    | nil => exact hbe
    | cons e es =>
      dsimp only
      intro hpos
      have hm := foldl_max_mem e es
      rw [← hev] at hm
      refine (hwev _ hm).1 ⟨hpos, ?_⟩
      rw [posInf_eq] at hpos; eomega
  have none_new : ∀ evs : List Event, ∃ new, evs = evs ++ new ∧ ∀ ev ∈ new, ClaimTrue root ev :=
    fun evs => ⟨[], (List.append_nil _).symm, fun _ h => (nomatch h)⟩
  rcases Env.finishStep_cases ctx root _ depth rng w st rfl rfl rfl with ⟨_, h1, h2, h3, h4⟩ | ⟨hp, htt', _, hc⟩
  · exact ⟨⟨by rw [h1]; exact htt, by rw [h2]; exact hbest, by rw [h3]; exact hbe⟩, by rw [h4]; exact none_new _⟩
  · rcases hc with ⟨_, hb, hbe2, he⟩ | ⟨hi, hE, hc⟩
    · refine ⟨⟨by rw [htt']; exact hwtt, by rw [hb]; exact hbest, by rw [hbe2]; exact hbe⟩, ?_⟩
      rcases he with he | ⟨x, hf, _, hl, he⟩
      · rw [he]; exact none_new _
      · -- the root entry's line after an interrupt: its first move is the entry's move, which keeps a win
        obtain ⟨x', hx1, hx2⟩ := walkLine_head hl
        rw [hf] at hx1
        cases hx1
        obtain ⟨_, hmvw⟩ := root_entry_move hwtt.2 hD hf
        have hkeep : MoveKeeps root (.best x.eval (walkLine ctx.keys w.tt (depth + 1) root)) := by
          intro hpos
          rw [posInf_eq] at hpos
          obtain ⟨r, hr, hr1, hr2⟩ := hmvw hpos
          exact ⟨r, hr, by rw [hx2, hr1], hr2⟩
        exact ⟨[_], he, fun ev hev => by rw [List.mem_singleton.1 hev]; exact hkeep.claim⟩
    · rcases hc with ⟨_, hb, he⟩ | ⟨hl, hb, he⟩
      · exact ⟨⟨by rw [htt']; exact hwtt, by rw [hb]; exact (fun m hm => nomatch hm), by rw [hE]; exact hbe'⟩, [_], he,
          fun ev hev => by rw [List.mem_singleton.1 hev]; trivial⟩
      · obtain ⟨x, hx1, hx2⟩ := walkLine_head hl
        obtain ⟨hmv, hmvw⟩ := root_entry_move hwtt.2 hD hx1
        refine ⟨⟨by rw [htt']; exact hwtt, ?_, by rw [hE]; exact hbe'⟩, [_, _], by rw [he, List.append_assoc]; rfl, ?_⟩
        · rw [hb, hx2]
          intro m hm
          cases hm
          exact hmv
        · intro ev hev
          rcases List.mem_cons.1 hev with h1 | h1
          · rw [h1]; trivial
          · rw [List.mem_singleton.1 h1]; exact hbe'

end Wee.C06
