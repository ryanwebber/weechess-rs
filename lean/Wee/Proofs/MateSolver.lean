import Wee.Spec.Outcome
import Wee.Model.Hash
/-!
# The solvers for forced mates (the game-theoretic side of C06 / C17)

`analyze_recursive` values every non-root node whose key is recorded in the state history as a draw, so a forced mate
is only *visible* to the search if its strategy tree avoids recorded keys: `fmH K H n s` / `liH K H n s` are `forcedMate n` /
`lostIn n` of `Spec/Outcome.lean` with that extra condition on every successor.  This is the one recursion the proofs go
through: the plain solver is its case of an empty history (`solverH_nil`), and what is needed of the plain solver is read
off there (§2).  §3: when only the root's key is recorded, a forced mate of minimal distance is visible
(`solver_hist_equiv`), because along a shortest mate no position repeats the root.
-/
namespace Wee.C06
open Wee Wee.Outcome

/-! ## 1. the solver that avoids recorded positions -/

/-- the key of `s` is recorded in the history `H` -/
def inHist (K : Keys) (H : List UInt64) (s : State) : Bool := H.contains (hash K s)

mutual
/-- the side to move can force checkmate within `n` plies by a strategy none of whose positions (after the first
move) has a recorded key -/
def fmH (K : Keys) (H : List UInt64) : Nat → State → Bool
  | 0, _ => false
  | n+1, s => (legalMoves s).any fun r => !inHist K H r.2 && liH K H n r.2
/-- the side to move is checkmated, or every legal move leads to an unrecorded position in which the opponent
forces mate (avoiding recorded positions) within `n` plies -/
def liH (K : Keys) (H : List UInt64) : Nat → State → Bool
  | 0, s => isMated s
  | n+1, s =>
    let ms := legalMoves s
    if ms.isEmpty then s.isCheck else ms.all fun r => !inHist K H r.2 && fmH K H n r.2
end

section solver
variable (K : Keys) (H : List UInt64)

theorem fmH_succ_iff (n : Nat) (s : State) :
    fmH K H (n+1) s = true ↔ ∃ r ∈ legalMoves s, inHist K H r.2 = false ∧ liH K H n r.2 = true := by
  rw [fmH.eq_2]
  simp only [List.any_eq_true, Bool.and_eq_true, Bool.not_eq_true']

/-- without a legal move, "lost" is "in check", at every depth (the equation; `liH_nomoves` reads it for a lost position) -/
theorem liH_of_nomoves {s : State} (he : legalMoves s = []) (n : Nat) : liH K H n s = s.isCheck := by
  cases n with
  | zero => rw [liH.eq_1, isMated, he]; rfl
  | succ n => rw [liH.eq_2]; simp only [he, List.isEmpty_nil, if_true]

/-- with a legal move, "lost within `n + 1`" is: every legal move leads to an unrecorded position won within `n` -/
theorem liH_succ_iff {n : Nat} {s : State} (hne : legalMoves s ≠ []) :
    liH K H (n+1) s = true ↔ ∀ r ∈ legalMoves s, inHist K H r.2 = false ∧ fmH K H n r.2 = true := by
  rw [liH.eq_2]
  simp only [if_neg fun he => hne (List.isEmpty_iff.1 he), List.all_eq_true, Bool.and_eq_true, Bool.not_eq_true']

theorem liH_succ_child {n : Nat} {s : State} (h : liH K H (n+1) s = true) {r : Move × State}
    (hr : r ∈ legalMoves s) : inHist K H r.2 = false ∧ fmH K H n r.2 = true :=
  (liH_succ_iff K H fun he => by rw [he] at hr; exact nomatch hr).1 h r hr

/-- a lost position without a legal move is in check (mated) -/
theorem liH_nomoves {n : Nat} {s : State} (h : liH K H n s = true) (he : legalMoves s = []) :
    s.isCheck = true := liH_of_nomoves K H he n ▸ h

theorem liH_zero_nomoves {s : State} (h : liH K H 0 s = true) : legalMoves s = [] := by
  rw [liH.eq_1] at h
  unfold isMated at h
  rw [Bool.and_eq_true] at h
  exact List.isEmpty_iff.1 h.1

theorem fmH_moves {n : Nat} {s : State} (h : fmH K H n s = true) : legalMoves s ≠ [] := by
  cases n with
  | zero => rw [fmH.eq_1] at h; cases h
  | succ n =>
    obtain ⟨r, hr, _⟩ := (fmH_succ_iff K H n s).1 h
    intro he; rw [he] at hr; exact nomatch hr

theorem solverH_mono (n : Nat) : ∀ s, (fmH K H n s = true → fmH K H (n+1) s = true) ∧
    (liH K H n s = true → liH K H (n+1) s = true) := by
  induction n with
  | zero =>
    intro s
    refine ⟨fun h => ?_, fun h => ?_⟩
    · rw [fmH.eq_1] at h; cases h
    · have he := liH_zero_nomoves K H h
      rw [liH_of_nomoves K H he] at h ⊢; exact h
  | succ n ih =>
    intro s
    refine ⟨fun h => ?_, fun h => ?_⟩
    · obtain ⟨r, hr, h1, h2⟩ := (fmH_succ_iff K H n s).1 h
      exact (fmH_succ_iff K H (n+1) s).2 ⟨r, hr, h1, (ih r.2).2 h2⟩
    · by_cases he : legalMoves s = []
      · rw [liH_of_nomoves K H he] at h ⊢; exact h
      · exact (liH_succ_iff K H he).2 fun r hr =>
          ⟨(liH_succ_child K H h hr).1, (ih r.2).1 (liH_succ_child K H h hr).2⟩

theorem fmH_le {n m : Nat} (hnm : n ≤ m) {s : State} (h : fmH K H n s = true) : fmH K H m s = true := by
  induction hnm with
  | refl => exact h
  | step _ ih => exact (solverH_mono K H _ s).1 ih

theorem liH_le {n m : Nat} (hnm : n ≤ m) {s : State} (h : liH K H n s = true) : liH K H m s = true := by
  induction hnm with
  | refl => exact h
  | step _ ih => exact (solverH_mono K H _ s).2 ih

end solver

/-! ## 2. the plain solver is the case of an empty history -/

/-- with an empty history nothing is excluded: the two solvers coincide -/
theorem solverH_nil (K : Keys) (n : Nat) : ∀ s,
    fmH K [] n s = forcedMate n s ∧ liH K [] n s = lostIn n s := by
  induction n with
  | zero => intro s; exact ⟨by rw [fmH.eq_1, forcedMate.eq_1], by rw [liH.eq_1, lostIn.eq_1]⟩
  | succ n ih =>
    intro s
    constructor
    · rw [fmH.eq_2, forcedMate.eq_2]
      congr 1
      funext r
      rw [(ih r.2).2]
      rfl
    · rw [liH.eq_2, lostIn.eq_2]
      congr 2
      funext r
      rw [(ih r.2).1]
      rfl

/-- the plain solvers are the solvers that avoid recorded keys, with nothing recorded.  With `H = []` the key table plays no
role (`solverH_nil` holds of every `K`); the default one is written to have a closed term. -/
theorem forcedMate_eq (n : Nat) (s : State) : forcedMate n s = fmH (default : KeyTable).keys [] n s :=
  ((solverH_nil _ n s).1).symm

theorem lostIn_eq (n : Nat) (s : State) : lostIn n s = liH (default : KeyTable).keys [] n s :=
  ((solverH_nil _ n s).2).symm

theorem forcedMate_succ_iff (n : Nat) (s : State) :
    forcedMate (n+1) s = true ↔ ∃ r ∈ legalMoves s, lostIn n r.2 = true := by
  rw [forcedMate_eq, fmH_succ_iff]
  exact ⟨fun ⟨r, hr, _, h⟩ => ⟨r, hr, lostIn_eq n r.2 ▸ h⟩, fun ⟨r, hr, h⟩ => ⟨r, hr, rfl, lostIn_eq n r.2 ▸ h⟩⟩

theorem lostIn_of_nomoves {s : State} (he : legalMoves s = []) (n : Nat) : lostIn n s = s.isCheck := by
  rw [lostIn_eq, liH_of_nomoves _ _ he]

theorem lostIn_succ_child {n : Nat} {s : State} (h : lostIn (n+1) s = true) {r : Move × State}
    (hr : r ∈ legalMoves s) : forcedMate n r.2 = true := by
  rw [lostIn_eq] at h
  rw [forcedMate_eq]
  exact (liH_succ_child _ _ h hr).2

theorem lostIn_zero_nomoves {s : State} (h : lostIn 0 s = true) : legalMoves s = [] := by
  rw [lostIn_eq] at h
  exact liH_zero_nomoves _ _ h

theorem solver_mono (n : Nat) : ∀ s, (forcedMate n s = true → forcedMate (n+1) s = true) ∧
    (lostIn n s = true → lostIn (n+1) s = true) := fun s => by
  rw [forcedMate_eq n s, forcedMate_eq (n+1) s, lostIn_eq n s, lostIn_eq (n+1) s]
  exact solverH_mono _ _ n s

theorem forcedMate_le {n m : Nat} (hnm : n ≤ m) {s : State} (h : forcedMate n s = true) : forcedMate m s = true := by
  rw [forcedMate_eq] at h ⊢
  exact fmH_le _ _ hnm h

theorem lostIn_le {n m : Nat} (hnm : n ≤ m) {s : State} (h : lostIn n s = true) : lostIn m s = true := by
  rw [lostIn_eq] at h ⊢
  exact liH_le _ _ hnm h

/-- the history-aware solver only finds true forced mates -/
theorem solverH_sub (K : Keys) (H : List UInt64) (n : Nat) : ∀ s, (fmH K H n s = true → forcedMate n s = true) ∧
    (liH K H n s = true → lostIn n s = true) := by
  induction n with
  | zero =>
    intro s
    refine ⟨fun h => ?_, fun h => ?_⟩
    · rw [fmH.eq_1] at h; cases h
    · rw [liH.eq_1] at h; rw [lostIn.eq_1]; exact h
  | succ n ih =>
    intro s
    refine ⟨fun h => ?_, fun h => ?_⟩
    · obtain ⟨r, hr, _, h2⟩ := (fmH_succ_iff K H n s).1 h
      exact (forcedMate_succ_iff n s).2 ⟨r, hr, (ih r.2).2 h2⟩
    · by_cases he : legalMoves s = []
      · rw [lostIn_of_nomoves he]; rw [liH_of_nomoves K H he] at h; exact h
      · rw [lostIn_eq]
        exact (liH_succ_iff _ _ he).2 fun r hr =>
          ⟨rfl, by rw [← forcedMate_eq]; exact (ih r.2).1 (liH_succ_child K H h hr).2⟩

theorem solver_sound (n : Nat) : ∀ s, (forcedMate n s = true → Win s) ∧ (lostIn n s = true → Lost s) := by
  induction n with
  | zero =>
    intro s
    refine ⟨fun h => ?_, fun h => ?_⟩
    · rw [forcedMate] at h; cases h
    · rw [lostIn] at h; exact Lost.mated s h
  | succ n ih =>
    intro s
    refine ⟨fun h => ?_, fun h => ?_⟩
    · obtain ⟨r, hr, hl⟩ := (forcedMate_succ_iff n s).1 h
      exact Win.intro s r hr ((ih r.2).2 hl)
    · by_cases he : legalMoves s = []
      · exact Lost.mated s (by rw [← lostIn.eq_1, lostIn_of_nomoves he, ← lostIn_of_nomoves he (n+1)]; exact h)
      · exact Lost.forced s he fun r hr => (ih r.2).1 (lostIn_succ_child h hr)

theorem forcedMate_win {n : Nat} {s : State} (h : forcedMate n s = true) : Win s := (solver_sound n s).1 h
theorem lostIn_lost {n : Nat} {s : State} (h : lostIn n s = true) : Lost s := (solver_sound n s).2 h

/-- nobody both wins and loses: at a common depth the mating move leads to a position that is lost and won -/
theorem win_lost_excl (n m : Nat) (s : State) (hw : forcedMate n s = true) (hl : lostIn m s = true) : False := by
  have same : ∀ N s, forcedMate N s = true → lostIn N s = true → False := by
    intro N
    induction N with
    | zero => intro s h _; rw [forcedMate.eq_1] at h; cases h
    | succ N ih =>
      intro s hw hl
      obtain ⟨r, hr, hrl⟩ := (forcedMate_succ_iff N s).1 hw
      exact ih r.2 (lostIn_succ_child hl hr) hrl
  exact same (max n m) s (forcedMate_le (Nat.le_max_left n m) hw) (lostIn_le (Nat.le_max_right n m) hl)

/-! ## 3. key collisions; a forced mate of minimal distance is visible when only the root's key is recorded -/

/-- no harmful key collision for completeness: positions of the domain with the same key have the same visible mate
distances up to `B` -/
def CollH (K : Keys) (H : List UInt64) (D : State → Prop) (B : Nat) : Prop :=
  ∀ s s', D s → D s' → hash K s = hash K s' → ∀ n, n ≤ B →
    fmH K H n s = fmH K H n s' ∧ liH K H n s = liH K H n s'

/-- no harmful key collision for the mate distances: positions of `D` with the same key are won / lost within the
same numbers of plies (the precise content of "up to 64-bit chance" that completeness needs) -/
def CollisionFreeN (K : Keys) (D : State → Prop) : Prop :=
  ∀ s s', D s → D s' → hash K s = hash K s' → ∀ n, forcedMate n s = forcedMate n s' ∧ lostIn n s = lostIn n s'

theorem inHist_single {K : Keys} {root s : State} (h : inHist K [hash K root] s = true) : hash K s = hash K root := by
  unfold inHist at h
  rw [List.contains_cons] at h
  simpa using h

theorem exists_least (p : Nat → Bool) : ∀ n, p n = true → ∃ m, m ≤ n ∧ p m = true ∧ ∀ k, k < m → p k = false := by
  intro n
  induction n using Nat.strongRecOn with
  | _ n ih =>
    intro h
    by_cases hex : ∃ k, k < n ∧ p k = true
    · obtain ⟨k, hk, hpk⟩ := hex
      obtain ⟨m, hm, h1, h2⟩ := ih k hk hpk
      exact ⟨m, by omega, h1, h2⟩
    · refine ⟨n, Nat.le_refl _, h, fun k hk => ?_⟩
      cases hpk : p k with
      | false => rfl
      | true => exact absurd ⟨k, hk, hpk⟩ hex

section single
variable {K : Keys} {D : State → Prop} (hclosed : ∀ s, D s → ∀ r ∈ legalMoves s, D r.2) (hcf : CollisionFreeN K D)
  {root : State} (hD : D root) {n₀ : Nat} (hw : forcedMate n₀ root = true)
  (hmin : ∀ k, k < n₀ → forcedMate k root = false)
include hclosed hcf hD hw hmin

omit hclosed in
/-- a position of `D` that is won or lost in fewer plies than the root's mate distance has not the root's key: the root
would be won in fewer plies, or lost -/
theorem root_key_fresh {k : Nat} (hk : k < n₀) {s : State} (hs : D s)
    (h : forcedMate k s = true ∨ lostIn k s = true) : inHist K [hash K root] s = false := by
  cases hin : inHist K [hash K root] s with
  | false => rfl
  | true =>
    obtain ⟨c1, c2⟩ := hcf s root hs hD (inHist_single hin) k
    rcases h with h | h
    · rw [h, hmin k hk] at c1
      cases c1
    · rw [h] at c2
      exact (win_lost_excl n₀ k root hw c2.symm).elim

/-- with only the root's key recorded, the solver that avoids it and the plain solver agree up to the root's mate
distance: along a shortest mate no position repeats the root -/
theorem solver_hist_equiv : ∀ k, k ≤ n₀ → ∀ s, D s →
    fmH K [hash K root] k s = forcedMate k s ∧ liH K [hash K root] k s = lostIn k s := by
  suffices h : ∀ k, k ≤ n₀ → ∀ s, D s → (forcedMate k s = true → fmH K [hash K root] k s = true) ∧
      (lostIn k s = true → liH K [hash K root] k s = true) from fun k hk s hs =>
    ⟨Bool.eq_iff_iff.2 ⟨(solverH_sub K _ k s).1, (h k hk s hs).1⟩,
     Bool.eq_iff_iff.2 ⟨(solverH_sub K _ k s).2, (h k hk s hs).2⟩⟩
  intro k
  induction k with
  | zero =>
    intro _ s _
    refine ⟨fun h => ?_, fun h => ?_⟩
    · rw [forcedMate.eq_1] at h; cases h
    · rw [lostIn.eq_1] at h; rw [liH.eq_1]; exact h
  | succ k ih =>
    intro hk s hs
    have ih' := fun r hr => ih (Nat.le_of_succ_le hk) r.2 (hclosed s hs r hr)
    have fresh := fun r hr => root_key_fresh hcf hD hw hmin hk (hclosed s hs r hr)
    refine ⟨fun h => ?_, fun h => ?_⟩
    · obtain ⟨r, hr, hl⟩ := (forcedMate_succ_iff k s).1 h
      exact (fmH_succ_iff K _ k s).2 ⟨r, hr, fresh r hr (Or.inr hl), (ih' r hr).2 hl⟩
    · by_cases he : legalMoves s = []
      · rw [liH_of_nomoves K _ he, ← lostIn_of_nomoves he (k + 1)]; exact h
      · exact (liH_succ_iff K _ he).2 fun r hr =>
          ⟨fresh r hr (Or.inl (lostIn_succ_child h hr)), (ih' r hr).1 (lostIn_succ_child h hr)⟩

theorem collH_single : CollH K [hash K root] D n₀ := by
  intro s s' hs hs' hk n hn
  have e := solver_hist_equiv hclosed hcf hD hw hmin n hn
  rw [(e s hs).1, (e s hs).2, (e s' hs').1, (e s' hs').2]
  exact hcf s s' hs hs' hk n

end single

end Wee.C06
