import Wee.Proofs.EvalMirror
import Wee.Proofs.MoveGenLemmas
import Wee.Proofs.ApplyClosed
/-!
# The rules of chess are colour-mirror symmetric (used by `C13_mirror_closed`)

`Spec.mirrorPos` flips the ranks of a mailbox position and swaps the colours, the side to move and the castling
rights.  Everything the specification computes is equivariant: `step`, `attacksFrom`, `attackedBy`, `inCheck`,
the pseudo-legal generators, `applyMove`, `isLegalAfter`, `legalMoves` (as a membership statement, which is what the
terminal tests of the evaluator need) and `LegalPos`.

The statements are proved for a *pair* of positions related by `Spec.Mirror P Q` (cell `flip sq` of `Q` is the
colour-swapped cell `sq` of `P`, side to move, rights and en-passant square correspond).  The relation is symmetric,
so each implication gives the converse for free.  It holds for `(P, mirrorPos P)`; its cell part `Spec.MirrorAt`
(all that `attackedBy` / `inCheck` look at) also holds — without any array reasoning — for the successors
`(applyMove P m, applyMove Q (mirrorMove m))`, which gives the equivariance of `isLegalAfter`.

The abstraction commutes with the mirrors: `abs (mirrorState s) = Spec.mirrorPos (abs s)`.
-/
namespace Wee.Spec

/-- the rank flip of a square (`a1 ↔ a8`) -/
def flip (sq : Nat) : Nat := (7 - sq / 8) * 8 + sq % 8

/-- a cell with the colour swapped -/
def mirrorCell (x : Option (Color × Kind)) : Option (Color × Kind) := x.map fun ck => (ck.1.opp, ck.2)

/-- the colour-mirrored position: cell `sq` holds the colour-swapped content of cell `flip sq`, the side to move
and the castling rights are swapped, the en-passant square is flipped, the counters are kept -/
def mirrorPos (p : Pos) : Pos :=
  { cells := (Array.range 64).map fun i => mirrorCell (p.at (flip i))
    turn := p.turn.opp
    wk := p.bk, wq := p.bq, bk := p.wk, bq := p.wq
    ep := p.ep.map flip
    halfmove := p.halfmove, fullmove := p.fullmove }

/-- the mirrored move: colour swapped, squares flipped, every other attribute kept -/
def mirrorMove (m : SMove) : SMove := { m with color := m.color.opp, src := flip m.src, dst := flip m.dst }

/-! ## squares -/

theorem flip_lt {n : Nat} (h : n < 64) : flip n < 64 := flipRank_lt h
theorem flip_flip {n : Nat} (h : n < 64) : flip (flip n) = n := flipRank_flipRank h
theorem flip_inj {a b : Nat} (ha : a < 64) (hb : b < 64) (h : flip a = flip b) : a = b := by
  rw [← flip_flip ha, h, flip_flip hb]
theorem flip_ne {a b : Nat} (ha : a < 64) (hb : b < 64) (h : a ≠ b) : flip a ≠ flip b :=
  fun e => h (flip_inj ha hb e)
theorem flip_div {n : Nat} (h : n < 64) : flip n / 8 = 7 - n / 8 := rankOf_flipRank h
theorem flip_mod (n : Nat) : flip n % 8 = n % 8 := by unfold flip; omega

theorem opp_inj {c d : Color} (h : c.opp = d.opp) : c = d := by cases c <;> cases d <;> first | rfl | cases h

theorem mirrorCell_mirrorCell (x : Option (Color × Kind)) : mirrorCell (mirrorCell x) = x := by
  cases x with
  | none => rfl
  | some ck => obtain ⟨c, k⟩ := ck; simp [mirrorCell, opp_opp]

theorem mirrorCell_none : mirrorCell none = none := rfl
theorem mirrorCell_some (c : Color) (k : Kind) : mirrorCell (some (c, k)) = some (c.opp, k) := rfl

theorem mirrorCell_eq_some {x : Option (Color × Kind)} {c : Color} {k : Kind} :
    mirrorCell x = some (c.opp, k) ↔ x = some (c, k) := by
  cases x with
  | none => simp [mirrorCell]
  | some ck =>
    obtain ⟨c', k'⟩ := ck
    simp only [mirrorCell, Option.map_some, Option.some.injEq, Prod.mk.injEq]
    constructor
    · rintro ⟨h1, h2⟩; exact ⟨opp_inj h1, h2⟩
    · rintro ⟨h1, h2⟩; exact ⟨by rw [h1], h2⟩

theorem mirrorCell_eq_none {x : Option (Color × Kind)} : mirrorCell x = none ↔ x = none := by
  cases x <;> simp [mirrorCell]

theorem mirrorCell_isSome (x : Option (Color × Kind)) : (mirrorCell x).isSome = x.isSome := by
  cases x <;> rfl

theorem flip_mk {r f : Nat} (hr : r < 8) (hf : f < 8) : flip (r * 8 + f) = (7 - r) * 8 + f := by
  unfold flip; omega

/-- moving along a rank commutes with the flip -/
theorem flip_add {n k : Nat} (h : n % 8 + k < 8) : flip (n + k) = flip n + k := by unfold flip; omega
theorem flip_sub {n k : Nat} (h : k ≤ n % 8) : flip (n - k) = flip n - k := by unfold flip; omega

/-- **`step` is equivariant**: stepping from the flipped square with the rank direction negated lands on the
flipped square -/
theorem step_flip {sq : Nat} (h : sq < 64) (df dr : Int) : step (flip sq) df (-dr) = (step sq df dr).map flip := by
  have hf : sq % 8 < 8 := Nat.mod_lt _ (by decide)
  have hr : sq / 8 < 8 := by omega
  unfold step
  simp only [flip_mod sq, flip_div h]
  generalize sq % 8 = f at hf ⊢
  generalize sq / 8 = r at hr ⊢
  by_cases hc : 0 ≤ (f : Int) + df ∧ (f : Int) + df ≤ 7 ∧ 0 ≤ (r : Int) + dr ∧ (r : Int) + dr ≤ 7
  · rw [if_pos hc, if_pos (by omega), Option.map_some]
    -- the target file and rank as naturals
    obtain ⟨f', hf'⟩ : ∃ f' : Nat, (f : Int) + df = f' := ⟨_, (Int.toNat_of_nonneg hc.1).symm⟩
    obtain ⟨r', hr'⟩ : ∃ r' : Nat, (r : Int) + dr = r' := ⟨_, (Int.toNat_of_nonneg hc.2.2.1).symm⟩
    rw [hf', hr', Int.toNat_natCast, Int.toNat_natCast, flip_mk (by omega) (by omega)]
    congr 2
    omega
  · rw [if_neg hc, if_neg (by omega)]; rfl

theorem step_flip' {sq : Nat} (h : sq < 64) (df dr : Int) : step (flip sq) df dr = (step sq df (-dr)).map flip := by
  have := step_flip h df (-dr); rwa [Int.neg_neg] at this

theorem step_flip_some {sq t : Nat} {df dr : Int} (h : sq < 64) (hs : step sq df dr = some t) :
    step (flip sq) df (-dr) = some (flip t) := by rw [step_flip h, hs]; rfl

/-! ## attacks -/

/-- a direction list closed under negation of the rank component -/
def RankClosed (dirs : List (Int × Int)) : Prop := ∀ d ∈ dirs, (d.1, -d.2) ∈ dirs

theorem rankClosed_knight : RankClosed knightJumps := by unfold RankClosed; decide
theorem rankClosed_king : RankClosed kingSteps := by unfold RankClosed; decide
theorem rankClosed_rook : RankClosed rookDirs := by unfold RankClosed; decide
theorem rankClosed_bishop : RankClosed bishopDirs := by unfold RankClosed; decide
theorem rankClosed_queen : RankClosed (rookDirs ++ bishopDirs) := by unfold RankClosed; decide

theorem mem_filterMap_step_flip {dirs : List (Int × Int)} (hc : RankClosed dirs) {s t : Nat} (hs : s < 64)
    (h : t ∈ dirs.filterMap fun d => step s d.1 d.2) :
    flip t ∈ dirs.filterMap fun d => step (flip s) d.1 d.2 := by
  rw [List.mem_filterMap] at h ⊢
  obtain ⟨d, hd, hst⟩ := h
  exact ⟨(d.1, -d.2), hc d hd, step_flip_some hs hst⟩

theorem slideDir_flip (occP occQ : Nat → Bool) (hocc : ∀ n, n < 64 → occQ (flip n) = occP n) (df dr : Int) :
    ∀ (fuel sq : Nat), sq < 64 →
      slideDir occQ df (-dr) fuel (flip sq) = (slideDir occP df dr fuel sq).map flip := by
  intro fuel
  induction fuel with
  | zero => intro sq _; rfl
  | succ fuel ih =>
    intro sq hsq
    unfold slideDir
    rw [step_flip hsq]
    cases hst : step sq df dr with
    | none => rfl
    | some n =>
      have hn := Wee.step_lt hst
      simp only [Option.map_some]
      rw [hocc n hn]
      cases occP n
      · simp only [Bool.false_eq_true, if_false, List.map_cons]
        rw [ih n hn]
      · simp only [if_true, List.map_cons, List.map_nil]

theorem mem_slide_flip (occP occQ : Nat → Bool) (hocc : ∀ n, n < 64 → occQ (flip n) = occP n)
    {dirs : List (Int × Int)} (hc : RankClosed dirs) {s t : Nat} (hs : s < 64) (h : t ∈ slide occP dirs s) :
    flip t ∈ slide occQ dirs (flip s) := by
  unfold slide at h ⊢
  rw [List.mem_flatMap] at h ⊢
  obtain ⟨d, hd, ht⟩ := h
  refine ⟨(d.1, -d.2), hc d hd, ?_⟩
  show flip t ∈ slideDir occQ d.1 (-d.2) 8 (flip s)
  rw [slideDir_flip occP occQ hocc d.1 d.2 8 s hs]
  exact List.mem_map_of_mem ht

/-- **`attacksFrom` is equivariant** (membership form): what a piece of colour `c` attacks from `s`, the same
kind of piece of the other colour attacks, flipped, from `flip s` on the flipped occupancy -/
theorem mem_attacksFrom_flip (occP occQ : Nat → Bool) (hocc : ∀ n, n < 64 → occQ (flip n) = occP n)
    (c : Color) (k : Kind) {s t : Nat} (hs : s < 64) (h : t ∈ attacksFrom occP c k s) :
    flip t ∈ attacksFrom occQ c.opp k (flip s) := by
  cases k with
  | pawn =>
    simp only [attacksFrom, List.mem_filterMap, List.mem_cons, List.not_mem_nil, or_false] at h ⊢
    obtain ⟨d, hd, hst⟩ := h
    refine ⟨(d.1, -d.2), ?_, step_flip_some hs hst⟩
    rw [fwd_opp]
    rcases hd with rfl | rfl
    · exact Or.inl rfl
    · exact Or.inr rfl
  | knight => exact mem_filterMap_step_flip rankClosed_knight hs h
  | king => exact mem_filterMap_step_flip rankClosed_king hs h
  | rook => exact mem_slide_flip occP occQ hocc rankClosed_rook hs h
  | bishop => exact mem_slide_flip occP occQ hocc rankClosed_bishop hs h
  | queen => exact mem_slide_flip occP occQ hocc rankClosed_queen hs h

theorem mem_attacksFrom_flip_iff (occP occQ : Nat → Bool) (hocc : ∀ n, n < 64 → occQ (flip n) = occP n)
    (c : Color) (k : Kind) {s t : Nat} (hs : s < 64) (ht : t < 64) :
    flip t ∈ attacksFrom occQ c.opp k (flip s) ↔ t ∈ attacksFrom occP c k s := by
  constructor
  · intro h
    have hocc' : ∀ n, n < 64 → occP (flip n) = occQ n := by
      intro n hn
      have := hocc (flip n) (flip_lt hn)
      rw [flip_flip hn] at this
      exact this.symm
    have := mem_attacksFrom_flip occQ occP hocc' c.opp k (flip_lt hs) h
    rwa [opp_opp, flip_flip hs, flip_flip ht] at this
  · exact mem_attacksFrom_flip occP occQ hocc c k hs


/-! ## the mirror relation between two positions -/

/-- cell level: cell `flip sq` of `Q` is the colour-swapped cell `sq` of `P` -/
def MirrorAt (P Q : Pos) : Prop := ∀ sq, sq < 64 → Q.at (flip sq) = mirrorCell (P.at sq)

theorem MirrorAt.symm {P Q : Pos} (h : MirrorAt P Q) : MirrorAt Q P := by
  intro sq hsq
  have := h (flip sq) (flip_lt hsq)
  rw [flip_flip hsq] at this
  rw [this, mirrorCell_mirrorCell]

theorem MirrorAt.occupied {P Q : Pos} (h : MirrorAt P Q) {n : Nat} (hn : n < 64) :
    Q.occupied (flip n) = P.occupied n := by
  unfold Pos.occupied; rw [h n hn, mirrorCell_isSome]

theorem MirrorAt.at_some {P Q : Pos} (h : MirrorAt P Q) {n : Nat} (hn : n < 64) {c : Color} {k : Kind}
    (hat : P.at n = some (c, k)) : Q.at (flip n) = some (c.opp, k) := by rw [h n hn, hat]; rfl

theorem MirrorAt.at_none {P Q : Pos} (h : MirrorAt P Q) {n : Nat} (hn : n < 64)
    (hat : P.at n = none) : Q.at (flip n) = none := by rw [h n hn, hat]; rfl

/-- **`attackedBy` is equivariant** (one direction; the relation is symmetric) -/
theorem MirrorAt.attackedBy_imp {P Q : Pos} (h : MirrorAt P Q) (c : Color) {t : Nat}
    (ha : P.attackedBy c t = true) : Q.attackedBy c.opp (flip t) = true := by
  rw [Wee.C10.attackedBy_iff] at ha ⊢
  obtain ⟨s, hs, k, hat, hm⟩ := ha
  exact ⟨flip s, flip_lt hs, k, h.at_some hs hat,
    mem_attacksFrom_flip P.occupied Q.occupied (fun n hn => h.occupied hn) c k hs hm⟩

theorem attackedBy_lt {P : Pos} {c : Color} {t : Nat} (ha : P.attackedBy c t = true) : t < 64 := by
  rw [Wee.C10.attackedBy_iff] at ha
  obtain ⟨s, _, k, _, hm⟩ := ha
  exact Wee.attacksFrom_lt _ _ _ _ _ hm

/-- **`attackedBy` is equivariant** -/
theorem MirrorAt.attackedBy {P Q : Pos} (h : MirrorAt P Q) (c : Color) {t : Nat} (ht : t < 64) :
    Q.attackedBy c.opp (flip t) = P.attackedBy c t := by
  rw [Bool.eq_iff_iff]
  constructor
  · intro ha
    have := h.symm.attackedBy_imp c.opp ha
    rwa [opp_opp, flip_flip ht] at this
  · exact h.attackedBy_imp c

theorem MirrorAt.inCheck_imp {P Q : Pos} (h : MirrorAt P Q) (c : Color) (hc : P.inCheck c = true) :
    Q.inCheck c.opp = true := by
  rw [Wee.C10.inCheck_iff] at hc ⊢
  obtain ⟨s, hs, hat, ha⟩ := hc
  exact ⟨flip s, flip_lt hs, h.at_some hs hat, h.attackedBy_imp c.opp ha⟩

/-- **`inCheck` is equivariant** -/
theorem MirrorAt.inCheck {P Q : Pos} (h : MirrorAt P Q) (c : Color) : Q.inCheck c.opp = P.inCheck c := by
  rw [Bool.eq_iff_iff]
  constructor
  · intro hc
    have := h.symm.inCheck_imp c.opp hc
    rwa [opp_opp] at this
  · exact h.inCheck_imp c

/-- the full relation: cells, side to move, castling rights, en-passant square (and both boards have 64 cells) -/
structure Mirror (P Q : Pos) : Prop where
  cell : MirrorAt P Q
  szP : P.cells.size = 64
  szQ : Q.cells.size = 64
  turn : Q.turn = P.turn.opp
  wk : Q.wk = P.bk
  wq : Q.wq = P.bq
  bk : Q.bk = P.wk
  bq : Q.bq = P.wq
  ep : Q.ep = P.ep.map flip
  epLt : ∀ e, P.ep = some e → e < 64

theorem Mirror.symm {P Q : Pos} (h : Mirror P Q) : Mirror Q P where
  cell := h.cell.symm
  szP := h.szQ
  szQ := h.szP
  turn := by rw [h.turn, opp_opp]
  wk := h.bk.symm
  wq := h.bq.symm
  bk := h.wk.symm
  bq := h.wq.symm
  ep := by
    rw [h.ep]
    cases he : P.ep with
    | none => rfl
    | some e => simp [flip_flip (h.epLt e he)]
  epLt := by
    intro e he
    rw [h.ep] at he
    cases he' : P.ep with
    | none => rw [he'] at he; cases he
    | some e' =>
      rw [he'] at he
      simp only [Option.map_some, Option.some.injEq] at he
      rw [← he]; exact flip_lt (h.epLt e' he')

theorem mirrorPos_at (p : Pos) {sq : Nat} (h : sq < 64) : (mirrorPos p).at sq = mirrorCell (p.at (flip sq)) := by
  show (if sq < 64 then (mirrorPos p).cells.getD sq none else none) = _
  rw [if_pos h]
  simp [mirrorPos, h]

theorem mirrorAt_mirrorPos (p : Pos) : MirrorAt p (mirrorPos p) := by
  intro sq hsq
  rw [mirrorPos_at p (flip_lt hsq), flip_flip hsq]

/-- a position and its mirror are related -/
theorem mirror_mirrorPos (p : Pos) (hsz : p.cells.size = 64) (hep : ∀ e, p.ep = some e → e < 64) :
    Mirror p (mirrorPos p) where
  cell := mirrorAt_mirrorPos p
  szP := hsz
  szQ := by simp [mirrorPos]
  turn := rfl
  wk := rfl
  wq := rfl
  bk := rfl
  bq := rfl
  ep := rfl
  epLt := hep

/-! ## pseudo-legal moves -/

theorem mirrorMove_mirrorMove (m : SMove) (hs : m.src < 64) (hd : m.dst < 64) : mirrorMove (mirrorMove m) = m := by
  cases m
  simp only [mirrorMove, opp_opp] at hs hd ⊢
  rw [flip_flip hs, flip_flip hd]

theorem lastRank_flip (c : Color) {t : Nat} (ht : t < 64) : flip t / 8 = lastRank c.opp ↔ t / 8 = lastRank c := by
  rw [flip_div ht]; cases c <;> simp only [lastRank, Color.opp] <;> omega

theorem homeRank_flip (c : Color) {t : Nat} (ht : t < 64) : flip t / 8 = homeRank c.opp ↔ t / 8 = homeRank c := by
  rw [flip_div ht]; cases c <;> simp only [homeRank, Color.opp] <;> omega

theorem promoOK_mirror {c : Color} {t : Nat} {pr : Option Kind} (ht : t < 64) (h : PromoOK c t pr) :
    PromoOK c.opp (flip t) pr := by
  unfold PromoOK at h ⊢
  rw [ne_eq, lastRank_flip c ht]; exact h

/-- the squares of the king's home rank that castling looks at, on the mirror -/
theorem kingHome_flip (c : Color) :
    kingHome c.opp = flip (kingHome c) ∧
    (∀ i, i ≤ 3 → kingHome c.opp + i = flip (kingHome c + i)) ∧ (∀ i, i ≤ 4 → kingHome c.opp - i = flip (kingHome c - i)) := by
  cases c <;> decide

theorem right_mirror {P Q : Pos} (h : Mirror P Q) (c : Color) (kingSide : Bool) : Q.right c.opp kingSide = P.right c kingSide := by
  cases c <;> cases kingSide <;> simp only [Pos.right, Color.opp, h.wk, h.wq, h.bk, h.bq]

/-- **the pseudo-legal moves are equivariant**: each rule of `Pseudo` maps to itself -/
theorem pseudo_mirror {P Q : Pos} (h : Mirror P Q) {sm : SMove} (hm : Pseudo P sm) : Pseudo Q (mirrorMove sm) := by
  have e : P.turn.opp = Q.turn := h.turn.symm
  have right : ∀ kingSide, Q.right Q.turn kingSide = P.right P.turn kingSide := fun kingSide =>
    e ▸ right_mirror h P.turn kingSide
  have hk := kingHome_flip P.turn
  rw [e] at hk
  have klt : kingHome P.turn + 2 < 64 ∧ 3 ≤ kingHome P.turn := by cases P.turn <;> simp [kingHome]
  cases hm with
  | push hat hst hn hpr =>
    have ho := at_lt hat; have ht := step_lt hst
    simp only [mirrorMove, e]
    exact .push (e ▸ h.cell.at_some ho hat) (by rw [← e, fwd_opp]; exact step_flip_some ho hst) (h.cell.at_none ht hn)
      (e ▸ promoOK_mirror ht hpr)
  | double hat hr h1 h2 n1 n2 =>
    have ho := at_lt hat; have ht1 := step_lt h1; have ht2 := step_lt h2
    simp only [mirrorMove, e]
    exact .double (e ▸ h.cell.at_some ho hat) (e ▸ (homeRank_flip _ ho).2 hr)
      (by rw [← e, fwd_opp]; exact step_flip_some ho h1) (by rw [← e, fwd_opp]; exact step_flip_some ht1 h2)
      (h.cell.at_none ht1 n1) (h.cell.at_none ht2 n2)
  | capture east hat hst hatt hpr =>
    have ho := at_lt hat; have ht := step_lt hst
    simp only [mirrorMove, e]
    exact .capture east (e ▸ h.cell.at_some ho hat) (by rw [← e, fwd_opp]; exact step_flip_some ho hst)
      (e ▸ h.cell.at_some ht hatt) (e ▸ promoOK_mirror ht hpr)
  | enPassant east hat hst hn hep =>
    have ho := at_lt hat; have ht := step_lt hst
    simp only [mirrorMove, e]
    exact .enPassant east (e ▸ h.cell.at_some ho hat) (by rw [← e, fwd_opp]; exact step_flip_some ho hst)
      (h.cell.at_none ht hn) (by rw [h.ep, hep]; rfl)
  | @piece o t k hk' hat hatt hown =>
    have ho := at_lt hat; have ht := attacksFrom_lt _ _ _ _ _ hatt
    have hc : (Q.at (flip t)).map (·.2) = (P.at t).map (·.2) := by rw [h.cell t ht]; cases P.at t <;> rfl
    simp only [mirrorMove, e, ← hc]
    exact .piece hk' (e ▸ h.cell.at_some ho hat)
      (e ▸ mem_attacksFrom_flip P.occupied Q.occupied (fun n hn => h.cell.occupied hn) _ k ho hatt)
      (fun k' e' => hown k' (mirrorCell_eq_some.1 (by rw [← h.cell t ht, e]; exact e')))
  | castleK r e1 e2 a0 a1 a2 =>
    simp only [mirrorMove, e]
    rw [← hk.1, ← hk.2.1 2 (by omega)]
    exact .castleK ((right true).trans r)
      (by rw [hk.2.1 1 (by omega)]; exact h.cell.at_none (by omega) e1)
      (by rw [hk.2.1 2 (by omega)]; exact h.cell.at_none (by omega) e2)
      (by rw [hk.1, ← e, h.cell.attackedBy _ (by omega)]; exact a0)
      (by rw [hk.2.1 1 (by omega), ← e, h.cell.attackedBy _ (by omega)]; exact a1)
      (by rw [hk.2.1 2 (by omega), ← e, h.cell.attackedBy _ (by omega)]; exact a2)
  | castleQ r e1 e2 e3 a0 a1 a2 =>
    simp only [mirrorMove, e]
    rw [← hk.1, ← hk.2.2 2 (by omega)]
    exact .castleQ ((right false).trans r)
      (by rw [hk.2.2 1 (by omega)]; exact h.cell.at_none (by omega) e1)
      (by rw [hk.2.2 2 (by omega)]; exact h.cell.at_none (by omega) e2)
      (by rw [hk.2.2 3 (by omega)]; exact h.cell.at_none (by omega) e3)
      (by rw [hk.1, ← e, h.cell.attackedBy _ (by omega)]; exact a0)
      (by rw [hk.2.2 1 (by omega), ← e, h.cell.attackedBy _ (by omega)]; exact a1)
      (by rw [hk.2.2 2 (by omega), ← e, h.cell.attackedBy _ (by omega)]; exact a2)


/-! ## make-move and legality -/

/-- mirror relation between two mailbox functions -/
def RelFn (g g' : Nat → Option (Color × Kind)) : Prop := ∀ sq, sq < 64 → g' (flip sq) = mirrorCell (g sq)

theorem relFn_upd {g g' : Nat → Option (Color × Kind)} (h : RelFn g g') {a : Nat} (ha : a < 64)
    (v : Option (Color × Kind)) : RelFn (Wee.C02.upd g a v) (Wee.C02.upd g' (flip a) (mirrorCell v)) := by
  intro sq hsq
  unfold Wee.C02.upd
  by_cases e : sq = a
  · subst e; simp
  · rw [if_neg e, if_neg (flip_ne hsq ha e)]; exact h sq hsq

/-- **`moved` is equivariant**: the flipped move on the mirrored mailbox gives the mirrored mailbox (the castling
squares lie on the origin's rank, where the flip commutes with moving along the rank) -/
theorem relFn_moved {g g' : Nat → Option (Color × Kind)} (h : RelFn g g') {o d : Nat} (ho : o < 64) (hd : d < 64)
    (ep : Bool) (x rook : Color × Kind) {castle : Option Bool} (hc : castle ≠ none → o % 8 = 4) :
    RelFn (Wee.C02.moved g o d ep x rook castle)
      (Wee.C02.moved g' (flip o) (flip d) ep (x.1.opp, x.2) (rook.1.opp, rook.2) castle) := by
  have e1 : flip o / 8 * 8 + flip d % 8 = flip (o / 8 * 8 + d % 8) := by
    rw [flip_div ho, flip_mod, flip_mk (by omega) (Nat.mod_lt _ (by decide))]
  have g1 := relFn_upd h ho none
  have g3 : RelFn (Wee.C02.placed g o d ep x) (Wee.C02.placed g' (flip o) (flip d) ep (x.1.opp, x.2)) := by
    unfold Wee.C02.placed
    refine relFn_upd ?_ hd (some x)
    split
    · rw [e1]; exact relFn_upd g1 (by omega) none
    · exact g1
  unfold Wee.C02.moved
  cases hcs : castle with
  | none => exact g3
  | some b =>
    have h4 := hc (by rw [hcs]; simp)
    cases b with
    | true =>
      dsimp only
      rw [← flip_add (n := o) (k := 3) (by omega), ← flip_add (n := o) (k := 1) (by omega)]
      exact relFn_upd (relFn_upd g3 (by omega) none) (by omega) (some rook)
    | false =>
      dsimp only
      rw [← flip_sub (n := o) (k := 4) (by omega), ← flip_sub (n := o) (k := 1) (by omega)]
      exact relFn_upd (relFn_upd g3 (by omega) none) (by omega) (some rook)

/-- **make-move is equivariant** (cells): the successors by a move and by the mirrored move are mirrors -/
theorem applyMove_mirrorAt {P Q : Pos} (h : MirrorAt P Q) (hP : P.cells.size = 64) (hQ : Q.cells.size = 64)
    (m : SMove) (hs : m.src < 64) (hd : m.dst < 64) (hc : m.castle ≠ none → m.src % 8 = 4) :
    MirrorAt (applyMove P m) (applyMove Q (mirrorMove m)) := by
  have h0 : RelFn (Wee.C02.cellsFn P.cells) (Wee.C02.cellsFn Q.cells) := by
    intro sq hsq
    rw [← Wee.C02.at_eq_cellsFn Q hQ, ← Wee.C02.at_eq_cellsFn P hP]; exact h sq hsq
  have hQ' : (applyMove Q (mirrorMove m)).cells.size = 64 := by rw [Wee.C02.applyMove_cells_size]; exact hQ
  have hP' : (applyMove P m).cells.size = 64 := by rw [Wee.C02.applyMove_cells_size]; exact hP
  intro sq hsq
  rw [Wee.C02.at_eq_cellsFn _ hQ', Wee.C02.at_eq_cellsFn _ hP',
    Wee.C02.applyMove_cellsFn P hP m hs hd (fun hne => by have := hc hne; omega),
    Wee.C02.applyMove_cellsFn Q hQ (mirrorMove m) (flip_lt hs) (flip_lt hd) (fun hne => by
      have := hc hne
      show flip m.src + 3 < 64
      unfold flip; omega)]
  exact relFn_moved h0 hs hd m.ep (m.color, m.promo.getD m.kind) (m.color, Kind.rook) hc sq hsq

/-- **legality of a move is equivariant** -/
theorem isLegalAfter_mirror {P Q : Pos} (h : Mirror P Q) (m : SMove) (hs : m.src < 64) (hd : m.dst < 64)
    (hc : m.castle ≠ none → m.src % 8 = 4) : isLegalAfter Q (mirrorMove m) = isLegalAfter P m := by
  unfold isLegalAfter
  rw [h.turn, (applyMove_mirrorAt h.cell h.szP h.szQ m hs hd hc).inCheck]

/-- **the legal moves are equivariant** (membership) -/
theorem legalMoves_mirror {P Q : Pos} (h : Mirror P Q) {m : SMove} (hm : m ∈ legalMoves P) :
    mirrorMove m ∈ legalMoves Q := by
  obtain ⟨hp, hl⟩ := (mem_legalMoves_iff P m).1 hm
  obtain ⟨hs, hd, hc⟩ := pseudo_wf hp
  exact (mem_legalMoves_iff Q _).2 ⟨pseudo_mirror h hp, by rw [isLegalAfter_mirror h m hs hd hc]; exact hl⟩

theorem mem_legalMoves_mirror_iff {P Q : Pos} (h : Mirror P Q) (m' : SMove) :
    m' ∈ legalMoves Q ↔ ∃ m ∈ legalMoves P, mirrorMove m = m' := by
  constructor
  · intro hm
    obtain ⟨hs, hd, _⟩ := pseudo_wf ((mem_legalMoves_iff _ _).1 hm).1
    exact ⟨mirrorMove m', legalMoves_mirror h.symm hm, mirrorMove_mirrorMove m' hs hd⟩
  · rintro ⟨m, hm, rfl⟩; exact legalMoves_mirror h hm

/-- **full equivariance of the legal-move list**: the legal moves of the mirror are, up to order, the mirrored
legal moves -/
theorem legalMoves_perm_mirror {P Q : Pos} (h : Mirror P Q) :
    (legalMoves Q).Perm ((legalMoves P).map mirrorMove) := by
  have nQ : (legalMoves Q).Nodup := (Wee.pseudoMoves_nodup Q).sublist List.filter_sublist
  have nP0 : (legalMoves P).Nodup := (Wee.pseudoMoves_nodup P).sublist List.filter_sublist
  have nP : ((legalMoves P).map mirrorMove).Nodup := by
    unfold List.Nodup
    rw [List.pairwise_map]
    apply List.Pairwise.imp_of_mem _ nP0
    intro x y hx hy hne e
    apply hne
    obtain ⟨xs, xd, _⟩ := pseudo_wf ((mem_legalMoves_iff _ _).1 hx).1
    obtain ⟨ys, yd, _⟩ := pseudo_wf ((mem_legalMoves_iff _ _).1 hy).1
    have := congrArg mirrorMove e
    rwa [mirrorMove_mirrorMove x xs xd, mirrorMove_mirrorMove y ys yd] at this
  refine (List.perm_ext_iff_of_nodup nQ nP).2 (fun m' => ?_)
  rw [mem_legalMoves_mirror_iff h, List.mem_map]

theorem legalMoves_length_mirror {P Q : Pos} (h : Mirror P Q) : (legalMoves Q).length = (legalMoves P).length := by
  rw [(legalMoves_perm_mirror h).length_eq, List.length_map]

/-- **mate/stalemate detection is equivariant**: the mirror has a legal move iff the position has one -/
theorem legalMoves_isEmpty_mirror {P Q : Pos} (h : Mirror P Q) :
    (legalMoves Q).isEmpty = (legalMoves P).isEmpty := by
  rw [Bool.eq_iff_iff, List.isEmpty_iff_length_eq_zero, List.isEmpty_iff_length_eq_zero, legalMoves_length_mirror h]

/-! ## legal positions -/

/-- **legality is equivariant** (one direction; the relation is symmetric) -/
theorem legal_mirror {P Q : Pos} (h : Mirror P Q) (hl : Legal P) : Legal Q where
  size := h.szQ
  king := fun c => by
    obtain ⟨q, hq, hat, hu⟩ := hl.king c.opp
    refine ⟨flip q, flip_lt hq, by have := h.cell.at_some hq hat; rwa [opp_opp] at this, fun n hn hn' => ?_⟩
    rw [← hu (flip n) (flip_lt hn) (h.symm.cell.at_some hn hn'), flip_flip hn]
  noCheck := by rw [h.turn, h.cell.inCheck]; exact hl.noCheck
  backrank := fun n hn hr col hat =>
    hl.backrank (flip n) (flip_lt hn) (by rw [flip_div hn]; omega) col.opp (h.symm.cell.at_some hn hat)
  rightK := fun c r => by
    obtain ⟨e0, e3, -⟩ := kingHome_flip c.opp
    replace e3 := e3 3 (Nat.le_refl _)
    have lt : kingHome c.opp + 3 < 64 := by have := kingHome_cases c.opp; omega
    rw [opp_opp] at e0 e3
    obtain ⟨a, b⟩ := hl.rightK c.opp (by rw [← right_mirror h, opp_opp]; exact r)
    have a' := h.cell.at_some (by omega) a
    have b' := h.cell.at_some lt b
    rw [opp_opp] at a' b'
    rw [e3, e0]; exact ⟨a', b'⟩
  rightQ := fun c r => by
    obtain ⟨e0, -, e4⟩ := kingHome_flip c.opp
    replace e4 := e4 4 (Nat.le_refl _)
    have lt := kingHome_cases c.opp
    rw [opp_opp] at e0 e4
    obtain ⟨a, b⟩ := hl.rightQ c.opp (by rw [← right_mirror h, opp_opp]; exact r)
    have a' := h.cell.at_some (by omega) a
    have b' := h.cell.at_some (by omega) b
    rw [opp_opp] at a' b'
    rw [e4, e0]; exact ⟨a', b'⟩
  ep := fun t' he => by
    rw [h.ep] at he
    obtain ⟨t, hep, rfl⟩ := Option.map_eq_some_iff.1 he
    have ht := h.epLt t hep
    obtain ⟨hr, hn, ⟨b, hb, hbat⟩, a, ha, haat⟩ := hl.ep t hep
    rw [h.turn, fwd_opp]
    refine ⟨?_, h.cell.at_none ht hn, ⟨flip b, step_flip_some ht hb, h.cell.at_some (Wee.step_lt hb) hbat⟩,
      flip a, step_flip_some ht ha, h.cell.at_none (Wee.step_lt ha) haat⟩
    have := flip_div ht
    revert hr
    cases P.turn.opp <;> simp only [homeRank, Color.fwd, Color.opp] <;> omega

/-- **`LegalPos` is equivariant** (one direction; the relation is symmetric) -/
theorem legalPos_mirror {P Q : Pos} (h : Mirror P Q) (hl : LegalPos P = true) : LegalPos Q = true :=
  (legalPos_iff Q).2 (legal_mirror h ((legalPos_iff P).1 hl))

/-- a legal position and its mirror are related -/
theorem mirror_of_legal {P : Pos} (hl : LegalPos P = true) : Mirror P (mirrorPos P) :=
  mirror_mirrorPos P (legalPos_size _ hl) (fun _ he => ((legalPos_iff P).1 hl).ep_lt he)

/-- **`LegalPos (mirrorPos p) = LegalPos p`** for every 64-cell board (`mirrorPos` always builds 64 cells, so a
board of another size — never legal — could have a legal mirror; hence the hypothesis) -/
theorem legalPos_mirrorPos (p : Pos) (hsz : p.cells.size = 64) : LegalPos (mirrorPos p) = LegalPos p := by
  rw [Bool.eq_iff_iff]
  constructor
  · intro hl
    have hep : ∀ e, p.ep = some e → e < 64 := by
      intro e he
      have h1 := (((legalPos_iff _).1 hl).ep (flip e) (by show p.ep.map flip = _; rw [he]; rfl)).1
      revert h1
      unfold flip
      cases (mirrorPos p).turn.opp <;> simp only [homeRank, Color.fwd] <;> omega
    exact legalPos_mirror (mirror_mirrorPos p hsz hep).symm hl
  · intro hl
    exact legalPos_mirror (mirror_of_legal hl) hl

theorem inCheck_mirrorPos (p : Pos) (c : Color) : (mirrorPos p).inCheck c.opp = p.inCheck c :=
  (mirrorAt_mirrorPos p).inCheck c

theorem attackedBy_mirrorPos (p : Pos) (c : Color) {t : Nat} (ht : t < 64) :
    (mirrorPos p).attackedBy c.opp (flip t) = p.attackedBy c t :=
  (mirrorAt_mirrorPos p).attackedBy c ht

end Wee.Spec

/-! # The abstraction commutes with the mirrors -/
namespace Wee
open Gen
open Wee.C10 (DisjointBoard)

/-- the model's `flip_rank` is the specification-level flip -/
theorem flipRank_eq_flip (n : Nat) : flipRank n = Spec.flip n := rfl

theorem mirrorPieces_mirrorPieces (m : PieceMap) : mirrorPieces (mirrorPieces m) = m := by
  cases m; simp only [mirrorPieces, bswap_bswap]

theorem disjointBoard_mirror_of {m : PieceMap} (hd : DisjointBoard m) : DisjointBoard (mirrorPieces m) := by
  intro x hx y hy hne
  obtain ⟨c1, p1⟩ := x
  obtain ⟨c2, p2⟩ := y
  have h1 : (c1.opp, p1) ∈ C10.allCP := (C10.mem_allCP _ _).2 ((C10.mem_allCP _ _).1 hx)
  have h2 : (c2.opp, p2) ∈ C10.allCP := (C10.mem_allCP _ _).2 ((C10.mem_allCP _ _).1 hy)
  have hne' : (c1.opp, p1) ≠ (c2.opp, p2) := by
    intro e
    apply hne
    have e1 := congrArg Prod.fst e
    have e2 := congrArg Prod.snd e
    simp only at e1 e2
    have : c1 = c2 := by cases c1 <;> cases c2 <;> first | rfl | cases e1
    rw [this, e2]
  have := hd _ h1 _ h2 hne'
  simp only at this ⊢
  rw [mirrorPieces_get', mirrorPieces_get', ← bswap_and, this, bswap_zero]

/-- **no stacked pieces on the mirror iff none on the board** -/
theorem disjointBoard_mirror (m : PieceMap) : DisjointBoard (mirrorPieces m) ↔ DisjointBoard m :=
  ⟨fun h => by have := disjointBoard_mirror_of h; rwa [mirrorPieces_mirrorPieces] at this, disjointBoard_mirror_of⟩

theorem test_mirrorPieces (m : PieceMap) (c : Color) (p : Piece) {n : Nat} (hn : n < 64) :
    test ((mirrorPieces m).get c.opp p) n = test (m.get c p) (Spec.flip n) := by
  rw [mirrorPieces_get, test_bswap _ _ hn]; rfl

/-- the mailbox cell of the mirrored placement -/
theorem absCell_mirror {m : PieceMap} (hd : DisjointBoard m) {n : Nat} (hn : n < 64) :
    absCell (mirrorPieces m) n = Spec.mirrorCell (absCell m (Spec.flip n)) := by
  have hd' := disjointBoard_mirror_of hd
  cases hc : absCell m (Spec.flip n) with
  | none =>
    rw [C10.absCell_eq_none_iff, C10.pieceAt_none] at hc
    show _ = Option.none
    rw [C10.absCell_eq_none_iff, C10.pieceAt_none]
    intro c p
    have := test_mirrorPieces m c.opp p hn
    rw [opp_opp] at this
    rw [this]; exact hc c.opp p
  | some ck =>
    obtain ⟨c', k⟩ := ck
    have hcol : ∃ c, c' = absColor c := by
      cases c'
      · exact ⟨.white, rfl⟩
      · exact ⟨.black, rfl⟩
    obtain ⟨c, rfl⟩ := hcol
    obtain ⟨p, hk, ht⟩ := (C10.absCell_iff hd _ c k).1 hc
    show _ = some ((absColor c).opp, k)
    rw [← C10.absColor_opp, C10.absCell_iff hd']
    exact ⟨p, hk, by rw [test_mirrorPieces m c p hn]; exact ht⟩

/-- **`abs (mirrorState s) = Spec.mirrorPos (abs s)`**: the mailbox reading of the byte-swapped, colour-swapped
bitboards is the mirrored mailbox (for a placement without stacked pieces: `piece_at` scans White first, so on a
square holding a white and a black piece the two sides would differ) -/
theorem abs_mirrorState (s : State) (hd : DisjointBoard s.pieces) :
    abs (mirrorState s) = Spec.mirrorPos (abs s) := by
  have hcells : (Array.range 64).map (absCell (mirrorState s).pieces) =
      (Array.range 64).map fun i => Spec.mirrorCell ((abs s).at (Spec.flip i)) := by
    apply Array.ext
    · simp
    · intro i h1 h2
      have hi : i < 64 := by simpa using h1
      simp only [Array.getElem_map, Array.getElem_range]
      show absCell (mirrorPieces s.pieces) i = _
      rw [absCell_mirror hd hi, C10.abs_at]
  show Spec.Pos.mk _ _ _ _ _ _ _ _ _ = Spec.Pos.mk _ _ _ _ _ _ _ _ _
  rw [hcells]
  congr 1
  exact C10.absColor_opp s.turn

/-- cell-level relation between `abs s` and `abs (mirrorState s)` (no legality needed) -/
theorem mirrorAt_abs (s : State) (hd : DisjointBoard s.pieces) : Spec.MirrorAt (abs s) (abs (mirrorState s)) := by
  rw [abs_mirrorState s hd]
  exact Spec.mirrorAt_mirrorPos (abs s)

/-- full relation for a legal position -/
theorem mirror_abs (s : State) (hl : LegalPos s = true) (hd : DisjointBoard s.pieces) :
    Spec.Mirror (abs s) (abs (mirrorState s)) := by
  rw [abs_mirrorState s hd]; exact Spec.mirror_of_legal hl

/-- **the mirror of a legal position is legal** -/
theorem legalPos_mirrorState (s : State) (hl : LegalPos s = true) (hd : DisjointBoard s.pieces) :
    LegalPos (mirrorState s) = true := by
  unfold LegalPos
  exact Spec.legalPos_mirror (mirror_abs s hl hd) hl

/-! ## the model's king table and attack map on the mirror -/

/-- the king table is rank-flip symmetric: the king's steps are closed under negating the rank direction -/
theorem kingAttacks_flip {k : Nat} (hk : k < 64) : kingAttacks (flipRank k) = bswap (kingAttacks k) := by
  apply ext; intro n hn
  have hf := Spec.flip_lt hn
  rw [test_bswap _ _ hn, flipRank_eq_flip, flipRank_eq_flip,
    C09_king (fun _ => false) Spec.Color.black.opp _ n (Spec.flip_lt hk) hn,
    C09_king (fun _ => false) Spec.Color.black k _ hk hf, Bool.eq_iff_iff, List.contains_iff_mem, List.contains_iff_mem]
  have := Spec.mem_attacksFrom_flip_iff (fun _ => false) (fun _ => false) (fun _ _ => rfl) Spec.Color.black .king hk hf
  rwa [Spec.flip_flip hn] at this

/-- **`colored_attacks` of the mirror is the byte-swapped `colored_attacks`** (through C10: both are the rule-level
attacked squares minus own pieces, and those are equivariant) -/
theorem coloredAttacks_mirror (s : State) (hd : DisjointBoard s.pieces) (c : Color) :
    coloredAttacks (mirrorState s).pieces c.opp = bswap (coloredAttacks s.pieces c) := by
  have hd' : DisjointBoard (mirrorState s).pieces := (disjointBoard_mirror s.pieces).2 hd
  have M := mirrorAt_abs s hd
  apply ext; intro n hn
  have hf := Spec.flip_lt hn
  rw [test_bswap _ _ hn, Bool.eq_iff_iff, C10.C10_attacks_closed _ hd' c.opp n hn, flipRank_eq_flip,
    C10.C10_attacks_closed s hd c (Spec.flip n) hf, C10.absColor_opp]
  have h1 := M.attackedBy (absColor c) hf
  rw [Spec.flip_flip hn] at h1
  rw [h1]
  apply and_congr_right; intro _
  apply not_congr
  apply exists_congr; intro k
  have := M (Spec.flip n) hf
  rw [Spec.flip_flip hn] at this
  rw [this]
  exact Spec.mirrorCell_eq_some

/-! ## the hypothesis `OneKing` of C13, for legal positions -/

/-- a legal position has at most one king a side on its bitboards: `OneKing`, the form `C13_mirror` and the agreement of
`king_has_move` take.  It is the weakening of `C02.oneKingEach_of_legal` (exactly one, `Wee/Proofs/AbsLemmas.lean`), which is
the one to use everywhere else. -/
theorem oneKing_of_legal (s : State) (hl : LegalPos s = true) (hd : DisjointBoard s.pieces) : OneKing s :=
  (C02.oneKingEach_of_legal s hl hd).oneKing

end Wee
