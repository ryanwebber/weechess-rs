import Wee.Proofs.MoveAttrs
/-!
# Arithmetic reading of the packed move (helper lemmas for C20)

The packed `u32` is read as a natural number.  `compact::store` into a field whose bits are still
clear *adds* `value * 2^offset`; `compact::load` is `/ 2^offset % 2^width`; `compact::bit` is
`/ 2^bit % 2 = 1`.  With these the word of every constructor is a list of ten fields laid side by side
(`Move.pack`, `Move.Reads`, `Move.layout`), and each getter reads one field back.
No `bv_decide`, no `native_decide`.
-/
namespace Wee
namespace Move
open Gen

/-! ## Natural-number bit lemmas -/

/-- OR-ing a `w`-bit value into a field whose bits are clear is addition. -/
theorem or_shl_eq_add (b v off w : Nat) (hb : b / 2 ^ off % 2 ^ w = 0) (hv : v < 2 ^ w) :
    b ||| v <<< off = b + v * 2 ^ off := by
  have hlo : b % 2 ^ off < 2 ^ off := Nat.mod_lt _ (Nat.two_pow_pos _)
  have e1 : b = (b / 2 ^ off) <<< off + b % 2 ^ off := by
    rw [Nat.shiftLeft_eq, Nat.mul_comm]; exact (Nat.div_add_mod b (2 ^ off)).symm
  have e2 : b / 2 ^ off = (b / 2 ^ off / 2 ^ w) <<< w := by
    have := Nat.div_add_mod (b / 2 ^ off) (2 ^ w)
    rw [hb, Nat.add_zero, Nat.mul_comm] at this
    rw [Nat.shiftLeft_eq]; exact this.symm
  generalize b / 2 ^ off = q at e1 e2
  generalize q / 2 ^ w = h at e2
  generalize b % 2 ^ off = lo at e1 hlo
  subst e2 e1
  calc (h <<< w <<< off + lo) ||| v <<< off
      = (h <<< w <<< off ||| lo) ||| v <<< off := by rw [Nat.shiftLeft_add_eq_or_of_lt hlo]
    _ = (h <<< w <<< off ||| v <<< off) ||| lo := by rw [Nat.or_assoc, Nat.or_comm lo, ← Nat.or_assoc]
    _ = ((h <<< w ||| v) <<< off) ||| lo := by rw [Nat.shiftLeft_or_distrib]
    _ = ((h <<< w + v) <<< off) + lo := by
          rw [← Nat.shiftLeft_add_eq_or_of_lt hv, ← Nat.shiftLeft_add_eq_or_of_lt hlo]
    _ = h <<< w <<< off + lo + v * 2 ^ off := by
          rw [Nat.shiftLeft_eq (h <<< w + v), Nat.shiftLeft_eq (h <<< w), Nat.add_mul]; omega

theorem and_shr_eq (n off w : Nat) : (n &&& ((2 ^ w - 1) <<< off)) >>> off = n / 2 ^ off % 2 ^ w := by
  rw [Nat.shiftRight_and_distrib, Nat.shiftLeft_shiftRight, Nat.and_two_pow_sub_one_eq_mod,
    Nat.shiftRight_eq_div_pow]

theorem and_two_pow_eq_zero (n k : Nat) : n &&& 2 ^ k = 0 ↔ n / 2 ^ k % 2 = 0 := by
  rw [← Nat.toNat_testBit]
  constructor
  · intro h
    have h2 : (n &&& 2 ^ k).testBit k = false := by rw [h]; exact Nat.zero_testBit k
    rw [Nat.testBit_and, Nat.testBit_two_pow_self, Bool.and_true] at h2
    rw [h2]; rfl
  · intro h
    have hk : n.testBit k = false := by
      cases hb : n.testBit k
      · rfl
      · rw [hb] at h; exact absurd h (by decide)
    apply Nat.eq_of_testBit_eq
    intro i
    rw [Nat.testBit_and, Nat.testBit_two_pow, Nat.zero_testBit]
    by_cases hki : k = i
    · subst hki; rw [hk]; rfl
    · simp [hki]

theorem and_not_two_pow (n k : Nat) (hn : n < 2 ^ 32) (hk : k < 32) (hb : n / 2 ^ k % 2 = 0) :
    n &&& (2 ^ 32 - 1 - 2 ^ k) = n := by
  have hkb : n.testBit k = false := by
    cases hb' : n.testBit k
    · rfl
    · have := Nat.toNat_testBit n k; rw [hb', hb] at this; exact absurd this (by decide)
  have hp : 2 ^ k < 2 ^ 32 := Nat.pow_lt_pow_right (by decide) hk
  have e : 2 ^ 32 - 1 - 2 ^ k = 2 ^ 32 - (2 ^ k + 1) := by omega
  apply Nat.eq_of_testBit_eq
  intro i
  rw [Nat.testBit_and, e, Nat.testBit_two_pow_sub_succ hp, Nat.testBit_two_pow]
  by_cases hki : k = i
  · subst hki; simp [hkb]
  · by_cases hi : i < 32
    · simp [hki, hi]
    · have : n.testBit i = false :=
        Nat.testBit_lt_two_pow (Nat.lt_of_lt_of_le hn (Nat.pow_le_pow_right (by decide) (by omega)))
      simp [this]

/-! ## `compact::store / load / bit / set_bit` read arithmetically -/

theorem nat_toUInt32_toNat (k : Nat) (h : k < 2 ^ 32) : (k.toUInt32).toNat = k := by
  simp [Nat.toUInt32, UInt32.toNat_ofNat', Nat.mod_eq_of_lt h]

private theorem shl_lt (v off w : Nat) (h32 : off + w ≤ 32) (hv : v < 2 ^ w) : v <<< off < 2 ^ 32 := by
  rw [Nat.shiftLeft_eq]
  calc v * 2 ^ off < 2 ^ w * 2 ^ off := Nat.mul_lt_mul_of_pos_right hv (Nat.two_pow_pos _)
    _ = 2 ^ (w + off) := (Nat.pow_add 2 w off).symm
    _ ≤ 2 ^ 32 := Nat.pow_le_pow_right (by decide) (by omega)

/-- `store` of a `w`-bit value into a clear field adds `value * 2^offset`. -/
theorem store_toNat (b : UInt32) (off w mask v : Nat) (hmask : mask = (2 ^ w - 1) <<< off)
    (h32 : off + w ≤ 32) (hoff : off < 32) (hv : v < 2 ^ w) (hb : b.toNat / 2 ^ off % 2 ^ w = 0) :
    (store b off mask v).toNat = b.toNat + v * 2 ^ off := by
  have hw : 2 ^ w ≤ 2 ^ 32 := Nat.pow_le_pow_right (by decide) (by omega)
  have hv32 : v < 2 ^ 32 := Nat.lt_of_lt_of_le hv hw
  have hm32 : mask < 2 ^ 32 := by
    rw [hmask]; exact shl_lt _ _ w h32 (by have := Nat.two_pow_pos w; omega)
  have hs32 : v <<< off < 2 ^ 32 := shl_lt v off w h32 hv
  have hoff' : off % 32 = off := Nat.mod_eq_of_lt hoff
  unfold store
  rw [UInt32.toNat_or, UInt32.toNat_and, UInt32.toNat_shiftLeft, nat_toUInt32_toNat v hv32,
    nat_toUInt32_toNat off (by omega), nat_toUInt32_toNat mask hm32, hoff', Nat.mod_eq_of_lt hs32, hmask,
    ← Nat.shiftLeft_and_distrib, Nat.and_two_pow_sub_one_eq_mod, Nat.mod_eq_of_lt hv]
  exact or_shl_eq_add _ _ _ w hb hv

theorem store_zero (b : UInt32) (off mask : Nat) : store b off mask 0 = b := by
  simp [store, Nat.toUInt32]

/-- `load` of a field of width `w ≤ 8` is `/ 2^offset % 2^w`. -/
theorem load_eq (b : UInt32) (off w mask : Nat) (hmask : mask = (2 ^ w - 1) <<< off)
    (h32 : off + w ≤ 32) (hoff : off < 32) (hw : w ≤ 8) :
    load b off mask = b.toNat / 2 ^ off % 2 ^ w := by
  have hm32 : mask < 2 ^ 32 := by
    rw [hmask]; exact shl_lt _ _ w h32 (by have := Nat.two_pow_pos w; omega)
  have hoff' : off % 32 = off := Nat.mod_eq_of_lt hoff
  have h8 : 2 ^ w ≤ 2 ^ 8 := Nat.pow_le_pow_right (by decide) hw
  have hlt : b.toNat / 2 ^ off % 2 ^ w < 2 ^ w := Nat.mod_lt _ (Nat.two_pow_pos _)
  unfold load
  rw [UInt32.toNat_shiftRight, UInt32.toNat_and, nat_toUInt32_toNat mask hm32,
    nat_toUInt32_toNat off (by omega), hoff', hmask, and_shr_eq]
  exact Nat.mod_eq_of_lt (by omega)

theorem one_shl_toNat (k : Nat) (hk : k < 32) : ((1 : UInt32) <<< k.toUInt32).toNat = 2 ^ k := by
  have hp : 2 ^ k < 2 ^ 32 := Nat.pow_lt_pow_right (by decide) hk
  rw [UInt32.toNat_shiftLeft, nat_toUInt32_toNat k (by omega), Nat.mod_eq_of_lt hk]
  show (1 <<< k) % 2 ^ 32 = 2 ^ k
  rw [Nat.one_shiftLeft, Nat.mod_eq_of_lt hp]

theorem getBit_eq (b : UInt32) (k : Nat) (hk : k < 32) :
    getBit b k = decide (b.toNat / 2 ^ k % 2 = 1) := by
  unfold getBit
  have h0 : (b &&& ((1 : UInt32) <<< k.toUInt32) = 0) ↔ b.toNat / 2 ^ k % 2 = 0 := by
    rw [← UInt32.toNat_inj, UInt32.toNat_and, one_shl_toNat k hk]
    exact and_two_pow_eq_zero _ _
  have hlt : b.toNat / 2 ^ k % 2 < 2 := Nat.mod_lt _ (by decide)
  by_cases h : b.toNat / 2 ^ k % 2 = 0
  · have := h0.2 h
    rw [this]; simp [h]
  · have hne : ¬ (b &&& ((1 : UInt32) <<< k.toUInt32) = 0) := fun e => h (h0.1 e)
    have h1 : b.toNat / 2 ^ k % 2 = 1 := by omega
    simp [hne, h1]

theorem setBit_true_toNat (b : UInt32) (k : Nat) (hk : k < 32) (hb : b.toNat / 2 ^ k % 2 = 0) :
    (setBit b k true).toNat = b.toNat + 2 ^ k := by
  unfold setBit
  rw [if_pos rfl, UInt32.toNat_or, one_shl_toNat k hk]
  have := or_shl_eq_add b.toNat 1 k 1 (by simpa using hb) (by decide)
  rw [Nat.one_shiftLeft, Nat.one_mul] at this
  exact this

theorem setBit_false (b : UInt32) (k : Nat) (hk : k < 32) (hb : b.toNat / 2 ^ k % 2 = 0) :
    setBit b k false = b := by
  unfold setBit
  have hp : 2 ^ k < 2 ^ 32 := Nat.pow_lt_pow_right (by decide) hk
  rw [if_neg (by decide), ← UInt32.toNat_inj, UInt32.toNat_and, UInt32.toNat_not, one_shl_toNat k hk]
  exact and_not_two_pow _ _ b.toNat_lt hk hb

theorem setBit_toNat (b : UInt32) (k : Nat) (v : Bool) (hk : k < 32) (hb : b.toNat / 2 ^ k % 2 = 0) :
    (setBit b k v).toNat = b.toNat + v.toNat * 2 ^ k := by
  cases v
  · rw [setBit_false b k hk hb]; simp
  · rw [setBit_true_toNat b k hk hb]; simp

/-! ## Fields side by side

A layout is the list of its field widths, the first field lowest.  `store` and `set_bit` fill a field that is
still empty, `load` and `bit` read a field back; the constructors and getters are then instances, with the layout
constants of `Wee/Gen/MoveLayout.lean` checked against the widths by evaluation (`IsField`). -/

/-- values `vs` laid side by side in fields of widths `ws`, the first one lowest -/
def pack : List Nat → List Nat → Nat
  | w :: ws, v :: vs => v + 2 ^ w * pack ws vs
  | _, _ => 0

/-- the position of field `k` -/
def offset (ws : List Nat) (k : Nat) : Nat := (ws.take k).sum

/-- every value fits its width -/
abbrev Fits (ws vs : List Nat) : Prop := ∀ f ∈ ws.zip vs, f.2 < 2 ^ f.1

theorem fits_cons {w v : Nat} {ws vs : List Nat} : Fits (w :: ws) (v :: vs) ↔ v < 2 ^ w ∧ Fits ws vs :=
  List.forall_mem_cons

theorem fits_set : ∀ {ws vs : List Nat} {k w v : Nat}, Fits ws vs → ws[k]? = some w → v < 2 ^ w →
    Fits ws (vs.set k v)
  | [], _, _, _, _, _, hw, _ => nomatch hw
  | _ :: _, [], _, _, _, h, _, _ => h
  | _ :: _, _ :: _, 0, _, _, h, hw, hv => fits_cons.2 ⟨Option.some.inj hw ▸ hv, (fits_cons.1 h).2⟩
  | _ :: _, _ :: _, _ + 1, _, _, h, hw, hv =>
    fits_cons.2 ⟨(fits_cons.1 h).1, fits_set (fits_cons.1 h).2 (List.getElem?_cons_succ ▸ hw) hv⟩

theorem pack_lt : ∀ {ws vs : List Nat}, Fits ws vs → pack ws vs < 2 ^ ws.sum
  | [], _, _ => Nat.one_pos
  | _ :: _, [], _ => Nat.two_pow_pos _
  | w :: ws, v :: vs, h => by
    show v + 2 ^ w * pack ws vs < 2 ^ (w + ws.sum)
    rw [Nat.pow_add]
    calc v + 2 ^ w * pack ws vs < 2 ^ w * (pack ws vs + 1) := by rw [Nat.mul_succ]; have := (fits_cons.1 h).1; omega
      _ ≤ _ := Nat.mul_le_mul_left _ (pack_lt (fits_cons.1 h).2)

/-- reading field `k` back -/
theorem pack_field : ∀ {ws vs : List Nat} {k w v : Nat}, Fits ws vs → ws[k]? = some w → vs[k]? = some v →
    pack ws vs / 2 ^ offset ws k % 2 ^ w = v
  | [], _, _, _, _, _, hw, _ => nomatch hw
  | _ :: _, [], _, _, _, _, _, hv => nomatch hv
  | w' :: ws, v' :: vs, 0, w, v, h, hw, hv => by
    cases Option.some.inj hw
    cases Option.some.inj hv
    show (v' + 2 ^ w' * pack ws vs) / 2 ^ 0 % 2 ^ w' = v'
    rw [Nat.pow_zero, Nat.div_one, Nat.add_mul_mod_self_left, Nat.mod_eq_of_lt (fits_cons.1 h).1]
  | w' :: ws, v' :: vs, k + 1, w, v, h, hw, hv => by
    show (v' + 2 ^ w' * pack ws vs) / 2 ^ (w' + offset ws k) % 2 ^ w = v
    rw [Nat.pow_add, ← Nat.div_div_eq_div_mul, Nat.add_mul_div_left _ _ (Nat.two_pow_pos _),
      Nat.div_eq_of_lt (fits_cons.1 h).1, Nat.zero_add]
    exact pack_field (fits_cons.1 h).2 (List.getElem?_cons_succ ▸ hw) (List.getElem?_cons_succ ▸ hv)

/-- filling an empty field adds the value at the field's position -/
theorem pack_set : ∀ {ws vs : List Nat} {k w : Nat}, ws[k]? = some w → vs[k]? = some 0 → ∀ v,
    pack ws (vs.set k v) = pack ws vs + v * 2 ^ offset ws k
  | [], _, _, _, hw, _, _ => nomatch hw
  | _ :: _, [], _, _, _, hv, _ => nomatch hv
  | w' :: ws, v' :: vs, 0, w, _, hv, v => by
    cases Option.some.inj hv
    show v + 2 ^ w' * pack ws vs = 0 + 2 ^ w' * pack ws vs + v * 2 ^ 0
    omega
  | w' :: ws, v' :: vs, k + 1, w, hw, hv, v => by
    show v' + 2 ^ w' * pack ws (vs.set k v) = v' + 2 ^ w' * pack ws vs + v * 2 ^ (w' + offset ws k)
    rw [pack_set (List.getElem?_cons_succ ▸ hw) (List.getElem?_cons_succ ▸ hv) v, Nat.pow_add, Nat.mul_add,
      Nat.mul_left_comm, Nat.add_assoc]

/-- field `k` of the layout `ws` is the `w` bits from `off`, selected by `mask`, inside the 32-bit word -/
abbrev IsField (ws : List Nat) (k off w mask : Nat) : Prop :=
  ws[k]? = some w ∧ offset ws k = off ∧ mask = (2 ^ w - 1) <<< off ∧ off + w ≤ 32 ∧ off < 32 ∧ w ≤ 8

/-- the word `b`, read as a number, is the values `vs` in fields of widths `ws` -/
def Reads (b : UInt32) (ws vs : List Nat) : Prop := b.toNat = pack ws vs ∧ Fits ws vs

private theorem bit_of_toNat (n : Nat) (v : Bool) (h : n = v.toNat) : decide (n = 1) = v := by
  subst h; cases v <;> rfl

namespace Reads
variable {b : UInt32} {ws vs : List Nat} (h : Reads b ws vs)
include h

theorem field {k w v : Nat} (hw : ws[k]? = some w) (hv : vs[k]? = some v) :
    b.toNat / 2 ^ offset ws k % 2 ^ w = v :=
  h.1 ▸ pack_field h.2 hw hv

/-- `compact::store` fills an empty field -/
theorem store (k off w mask : Nat) (hf : IsField ws k off w mask) (h0 : vs[k]? = some 0) {v : Nat}
    (hv : v < 2 ^ w) : Reads (Move.store b off mask v) ws (vs.set k v) := by
  obtain ⟨hw, hoff, hmask, h32, hlt, _⟩ := hf
  refine ⟨?_, fits_set h.2 hw hv⟩
  rw [store_toNat b off w mask v hmask h32 hlt hv (hoff ▸ h.field hw h0), pack_set hw h0, h.1, hoff]

/-- `compact::set_bit` fills an empty one-bit field -/
theorem setBit (k off : Nat) (hf : IsField ws k off 1 (2 ^ off)) (h0 : vs[k]? = some 0) (v : Bool) :
    Reads (Move.setBit b off v) ws (vs.set k v.toNat) := by
  obtain ⟨hw, hoff, _, _, hlt, _⟩ := hf
  refine ⟨?_, fits_set h.2 hw (Bool.toNat_lt v)⟩
  rw [setBit_toNat b off v hlt (by have := hoff ▸ h.field hw h0; omega), pack_set hw h0, h.1, hoff]

/-- `compact::load` returns the field -/
theorem load (k off w mask : Nat) (hf : IsField ws k off w mask) {v : Nat} (hv : vs[k]? = some v) :
    Move.load b off mask = v := by
  obtain ⟨hw, hoff, hmask, h32, hlt, h8⟩ := hf
  rw [load_eq b off w mask hmask h32 hlt h8, ← hoff, h.field hw hv]

/-- `compact::bit` returns the one-bit field -/
theorem getBit (k off : Nat) (hf : IsField ws k off 1 (2 ^ off)) {v : Bool} (hv : vs[k]? = some v.toNat) :
    Move.getBit b off = v := by
  obtain ⟨hw, hoff, _, _, hlt, _⟩ := hf
  rw [getBit_eq b off hlt, ← hoff]
  exact bit_of_toNat _ v (h.field hw hv)

theorem lt {n : Nat} (hn : ws.sum = n) : b.toNat < 2 ^ n := hn ▸ h.1 ▸ pack_lt h.2

theorem eq {b' : UInt32} (h' : Reads b' ws vs) : b = b' := UInt32.toNat_inj.1 (h.1.trans h'.1.symm)

end Reads

/-! ## The general constructor -/

theorem code_le (p : Piece) : p.code ≤ 6 := by cases p <;> decide
theorem optCode_le (c : Option Piece) : optCode c ≤ 6 := by
  cases c with
  | none => decide
  | some p => exact code_le p
theorem code_lt (p : Piece) : p.code < 2 ^ 4 := Nat.lt_of_le_of_lt (code_le p) (by decide)
theorem optCode_lt (c : Option Piece) : optCode c < 2 ^ 4 := Nat.lt_of_le_of_lt (optCode_le c) (by decide)
theorem ofCode_code (p : Piece) : Piece.ofCode? p.code = some p := by cases p <;> rfl
theorem code_inj {p q : Piece} (h : p.code = q.code) : p = q := by
  cases p <;> cases q <;> first | rfl | exact absurd h (by decide)

/-- the widths of piece, origin, destination, capture, promotion and the flags en-passant, double-step,
castle-queenside, castle-kingside, white -/
def layout : List Nat := [4, 6, 6, 4, 4, 1, 1, 1, 1, 1]

/-- `Move::piece` (unwrapped) on a move whose piece code is valid -/
theorem piece_of_piece? {m : Move} {p : Piece} (h : piece? m = some p) : piece m = p := by
  unfold piece; rw [h]; rfl

/-- origin and destination are six-bit fields -/
theorem origin_lt (m : Move) : origin m < 64 := by
  unfold origin
  rw [load_eq m ORIGIN_OFFSET 6 ORIGIN_MASK (by decide) (by decide) (by decide) (by decide)]
  exact Nat.mod_lt _ (by decide)

theorem dest_lt (m : Move) : dest m < 64 := by
  unfold dest
  rw [load_eq m DEST_OFFSET 6 DEST_MASK (by decide) (by decide) (by decide) (by decide)]
  exact Nat.mod_lt _ (by decide)

section accessors
variable (c : Color) (p : Piece) (o d : Nat) (cap pr : Option Piece) (ep cq ck : Bool)
  (ho : o < 64) (hd : d < 64)
include ho hd

/-- `by_moving` fills piece, origin, destination, colour and, for a pawn moving two ranks, the double-step bit -/
theorem byMoving_reads : Reads (byMoving c p o d) layout
    [p.code, o, d, 0, 0, 0, (dbl p o d).toNat, 0, 0, (c == Color.white).toNat] := by
  have h : Reads 0 layout [0, 0, 0, 0, 0, 0, 0, 0, 0, 0] := ⟨rfl, by decide⟩
  have h := h.store 0 PIECE_OFFSET 4 PIECE_MASK (by decide) rfl (code_lt p)
  have h := h.store 1 ORIGIN_OFFSET 6 ORIGIN_MASK (by decide) rfl ho
  have h := h.store 2 DEST_OFFSET 6 DEST_MASK (by decide) rfl hd
  have h := h.setBit 9 COLOR_OFFSET (by decide) rfl (c == Color.white)
  unfold byMoving
  show Reads (if dbl p o d = true then _ else _) _ _
  cases dbl p o d
  · exact h
  · exact h.setBit 6 DOUBLE_PAWN_OFFSET (by decide) rfl true

/-- all ten fields of the general constructor -/
theorem mk_reads : Reads (mk c p o d cap pr ep cq ck) layout
    [p.code, o, d, optCode cap, optCode pr, ep.toNat, (dbl p o d).toNat, cq.toNat, ck.toNat,
      (c == Color.white).toNat] := by
  have h := byMoving_reads c p o d ho hd
  have h := h.store 3 CAPTURE_OFFSET 4 CAPTURE_MASK (by decide) rfl (optCode_lt cap)
  have h := h.store 4 PROMOTION_OFFSET 4 PROMOTION_MASK (by decide) rfl (optCode_lt pr)
  have h := h.setBit 5 EN_PASSANT_OFFSET (by decide) rfl ep
  have h := h.setBit 7 CASTLE_QUEENSIDE_OFFSET (by decide) rfl cq
  exact h.setBit 8 CASTLE_KINGSIDE_OFFSET (by decide) rfl ck

theorem pieceCode_mk : pieceCode (mk c p o d cap pr ep cq ck) = p.code :=
  (mk_reads c p o d cap pr ep cq ck ho hd).load 0 PIECE_OFFSET 4 PIECE_MASK (by decide) rfl

theorem piece?_mk : piece? (mk c p o d cap pr ep cq ck) = some p := by
  unfold piece?; rw [pieceCode_mk c p o d cap pr ep cq ck ho hd, ofCode_code]

theorem origin_mk : origin (mk c p o d cap pr ep cq ck) = o :=
  (mk_reads c p o d cap pr ep cq ck ho hd).load 1 ORIGIN_OFFSET 6 ORIGIN_MASK (by decide) rfl

theorem dest_mk : dest (mk c p o d cap pr ep cq ck) = d :=
  (mk_reads c p o d cap pr ep cq ck ho hd).load 2 DEST_OFFSET 6 DEST_MASK (by decide) rfl

theorem captureCode_mk : captureCode (mk c p o d cap pr ep cq ck) = optCode cap :=
  (mk_reads c p o d cap pr ep cq ck ho hd).load 3 CAPTURE_OFFSET 4 CAPTURE_MASK (by decide) rfl

theorem promotionCode_mk : promotionCode (mk c p o d cap pr ep cq ck) = optCode pr :=
  (mk_reads c p o d cap pr ep cq ck ho hd).load 4 PROMOTION_OFFSET 4 PROMOTION_MASK (by decide) rfl

/-- the capture and promotion fields of a constructed word hold valid codes -/
theorem codes_mk_le :
    captureCode (mk c p o d cap pr ep cq ck) ≤ 6 ∧ promotionCode (mk c p o d cap pr ep cq ck) ≤ 6 := by
  rw [captureCode_mk c p o d cap pr ep cq ck ho hd, promotionCode_mk c p o d cap pr ep cq ck ho hd]
  exact ⟨optCode_le cap, optCode_le pr⟩

theorem isEnPassant_mk : isEnPassant (mk c p o d cap pr ep cq ck) = ep :=
  (mk_reads c p o d cap pr ep cq ck ho hd).getBit 5 EN_PASSANT_OFFSET (by decide) rfl

theorem isDoublePawn_mk : isDoublePawn (mk c p o d cap pr ep cq ck) = dbl p o d :=
  (mk_reads c p o d cap pr ep cq ck ho hd).getBit 6 DOUBLE_PAWN_OFFSET (by decide) rfl

theorem castleQ_mk : castleQ (mk c p o d cap pr ep cq ck) = cq :=
  (mk_reads c p o d cap pr ep cq ck ho hd).getBit 7 CASTLE_QUEENSIDE_OFFSET (by decide) rfl

theorem castleK_mk : castleK (mk c p o d cap pr ep cq ck) = ck :=
  (mk_reads c p o d cap pr ep cq ck ho hd).getBit 8 CASTLE_KINGSIDE_OFFSET (by decide) rfl

theorem isWhite_mk : isWhite (mk c p o d cap pr ep cq ck) = (c == Color.white) :=
  (mk_reads c p o d cap pr ep cq ck ho hd).getBit 9 COLOR_OFFSET (by decide) rfl

/-- the raw value of every constructed move fits the low 29 bits -/
theorem mk_lt : (mk c p o d cap pr ep cq ck).toNat < 2 ^ 29 :=
  (mk_reads c p o d cap pr ep cq ck ho hd).lt (by decide)

end accessors

/-! ## The public constructors are instances of `mk` -/

section instances
variable (c : Color) (p : Piece) (o d : Nat) (ho : o < 64) (hd : d < 64)
include ho hd

theorem byMoving_eq_mk :
    byMoving c p o d = mk c p o d Option.none Option.none false false false :=
  (byMoving_reads c p o d ho hd).eq (mk_reads c p o d _ _ _ _ _ ho hd)

theorem byCapturing_eq_mk (q : Piece) :
    byCapturing c p o d q = mk c p o d (some q) Option.none false false false :=
  ((byMoving_reads c p o d ho hd).store 3 CAPTURE_OFFSET 4 CAPTURE_MASK (by decide) rfl (code_lt q)).eq
    (mk_reads c p o d _ _ _ _ _ ho hd)

theorem byPromoting_eq_mk (r : Piece) :
    byPromoting c p o d r = mk c p o d Option.none (some r) false false false :=
  ((byMoving_reads c p o d ho hd).store 4 PROMOTION_OFFSET 4 PROMOTION_MASK (by decide) rfl (code_lt r)).eq
    (mk_reads c p o d _ _ _ _ _ ho hd)

theorem byCapturePromoting_eq_mk (q r : Piece) :
    byCapturePromoting c p o d q r = mk c p o d (some q) (some r) false false false :=
  (((byMoving_reads c p o d ho hd).store 3 CAPTURE_OFFSET 4 CAPTURE_MASK (by decide) rfl (code_lt q)).store
    4 PROMOTION_OFFSET 4 PROMOTION_MASK (by decide) rfl (code_lt r)).eq (mk_reads c p o d _ _ _ _ _ ho hd)

theorem byEnPassant_eq_mk :
    byEnPassant c p o d = mk c p o d (some Piece.pawn) Option.none true false false :=
  (((byMoving_reads c p o d ho hd).setBit 5 EN_PASSANT_OFFSET (by decide) rfl true).store
    3 CAPTURE_OFFSET 4 CAPTURE_MASK (by decide) rfl (by decide)).eq (mk_reads c p o d _ _ _ _ _ ho hd)

end instances

/-- `Move::by_castling`: the king move from `KING_ORIGINS[colour]` to `CASTLE_DESTS[colour][side]`
with exactly the flag of its side. -/
theorem byCastling_eq_mk (c : Color) (s : Side) :
    byCastling c s = mk c Piece.king (kingOrigins[c.idx]!) (castleDests[c.idx]![s.idx]!)
      Option.none Option.none false (s == Side.queen) (s == Side.king) := by
  cases c <;> cases s <;> decide +kernel

/-! ## All getters at once -/

theorem optDecode (cap : Option Piece) (h : cap ≠ some Piece.none) :
    (if optCode cap = 0 then Option.none else Piece.ofCode? (optCode cap)) = cap := by
  cases cap with
  | none => rfl
  | some q =>
    have hq : q.code ≠ 0 := by
      cases q <;> first | exact absurd rfl h | decide
    simp only [optCode, if_neg hq, ofCode_code]

/-- every getter of a move built by the general constructor returns the constructed attribute -/
theorem attrs_mk (c : Color) (p : Piece) (o d : Nat) (cap pr : Option Piece) (ep cq ck : Bool)
    (ho : o < 64) (hd : d < 64) (hc : cap ≠ some Piece.none) (hr : pr ≠ some Piece.none) :
    attrs (mk c p o d cap pr ep cq ck) =
      { color := c, piece := some p, origin := o, dest := d, capture := cap, promotion := pr,
        enPassant := ep, doublePawn := dbl p o d, castleQ := cq, castleK := ck } := by
  have hcol : color (mk c p o d cap pr ep cq ck) = c := by
    unfold color; rw [isWhite_mk c p o d cap pr ep cq ck ho hd]; cases c <;> rfl
  have hpc := piece?_mk c p o d cap pr ep cq ck ho hd
  have hcap : capture (mk c p o d cap pr ep cq ck) = cap := by
    unfold capture; rw [captureCode_mk c p o d cap pr ep cq ck ho hd]; exact optDecode cap hc
  have hpr : promotion (mk c p o d cap pr ep cq ck) = pr := by
    unfold promotion; rw [promotionCode_mk c p o d cap pr ep cq ck ho hd]; exact optDecode pr hr
  unfold attrs
  rw [hcol, hpc, hcap, hpr, origin_mk c p o d cap pr ep cq ck ho hd, dest_mk c p o d cap pr ep cq ck ho hd,
    isEnPassant_mk c p o d cap pr ep cq ck ho hd, isDoublePawn_mk c p o d cap pr ep cq ck ho hd,
    castleQ_mk c p o d cap pr ep cq ck ho hd, castleK_mk c p o d cap pr ep cq ck ho hd]

end Move
end Wee
