import Wee.Gen.MoveFns
import Wee.Proofs.MoveBits
import Wee.Proofs.BitLemmas
import Wee.Model.Eval
import Wee.Proofs.Returns
/-!
# Bridge: the functions TRANSLATED from the Rust text equal the hand-written model

`Wee/Gen/MoveFns.lean` (namespace `Wee.GenFns`) is regenerated by `tools/rs2lean.py` from the source text of
`moves.rs` (`mod compact`, `impl BitSetExt for BitSet`, `impl Move`) and of the small helpers these call
(`piece.rs`: `PieceIndex::new/color/piece`, `color.rs`/`piece.rs`: `TryFrom<PieceIndex>`, `board.rs`:
`Square::rank/file/offset/flip_rank/white_at_bottom_index`, `Rank/File::abs_distance_to`, `Rank::opposing_rank`,
`Square::manhattan_distance_to`, `Into<u8>`/`TryFrom<u8>`/`From<(Rank, File)>`/`From<(File, Rank)> for Square`;
`eval/mod.rs`: `Evaluation::mate_in_ply`, `is_terminal`, `Add`, `Mul<i32>`, the constants).
This file proves, for every one of them, that it computes the same value as the hand model
(`Wee/Model/Move.lean`, `Wee/Model/Types.lean`, `Wee/Model/Eval.lean`) **on all inputs** of the stated domain — no
sampling.  Through it `Wee/Props/C20Translated.lean` restates the theorems of `Wee/Props/C20.lean` about what the committed
Rust source says: an edit of one of these functions changes the generated definition, and the proofs below are re-run
against it.

Encoding of arguments: Rust `Square(u8)`, `PieceIndex(u8)` are their `u8` (`UInt8`), the model uses `Nat`
squares and a (colour, piece) pair: the bridge is stated at `o.toNat` and `PieceIndex.new c p`.
Generated functions that can panic return `Panics T = Option T` (`none` = panic); a bridge of the form
`… = some v` hence also says *the Rust function does not panic there* (in either build profile).

Proof style: unfold both sides and rewrite with the four core lemmas (`store_eq`, `load_eq`, `bit_eq`,
`set_bit_eq`); finite facts by `decide`.  No `bv_decide`, no `native_decide`.
-/
namespace Wee
namespace GenFns
open Wee.Gen

/-! ## Conversions -/

theorem u8_toNat_toUInt32 (x : UInt8) : x.toNat.toUInt32 = x.toUInt32 := by
  apply UInt32.toNat_inj.1
  simp [Nat.toUInt32, UInt8.toNat_toUInt32]

theorem u32_toNat_toUInt32 (x : UInt32) : x.toNat.toUInt32 = x := by
  simp [Nat.toUInt32]

theorem nat_toUInt8_toNat (n : Nat) (h : n < 256) : (n.toUInt8).toNat = n := by
  simp [Nat.toUInt8, UInt8.toNat_ofNat', Nat.mod_eq_of_lt h]

/-- a square number read back from its `u8` view -/
theorem u8_nat (t : Nat) (h : t < 64) : (Nat.toUInt8 t).toNat = t := nat_toUInt8_toNat t (by omega)

/-- a square number keeps its bound in the `u8` view -/
theorem sq_toUInt8_lt {n : Nat} (h : n < 64) : (n.toUInt8).toNat < 64 := by
  rw [nat_toUInt8_toNat n (by omega)]
  exact h

theorem u8_toNat_toUInt8 (x : UInt8) : x.toNat.toUInt8 = x := by
  simp [Nat.toUInt8]

/-! ## The layout constants: the typed constants translated by `rs2lean.py` are the `Nat` constants
extracted by `extract.py` (`Wee/Gen/MoveLayout.lean`) -/

theorem PIECE_OFFSET_eq : compact.PIECE_OFFSET.toNat = PIECE_OFFSET := by decide
theorem PIECE_MASK_eq : compact.PIECE_MASK.toNat = PIECE_MASK := by decide
theorem ORIGIN_OFFSET_eq : compact.ORIGIN_OFFSET.toNat = ORIGIN_OFFSET := by decide
theorem ORIGIN_MASK_eq : compact.ORIGIN_MASK.toNat = ORIGIN_MASK := by decide
theorem DEST_OFFSET_eq : compact.DEST_OFFSET.toNat = DEST_OFFSET := by decide
theorem DEST_MASK_eq : compact.DEST_MASK.toNat = DEST_MASK := by decide
theorem CAPTURE_OFFSET_eq : compact.CAPTURE_OFFSET.toNat = CAPTURE_OFFSET := by decide
theorem CAPTURE_MASK_eq : compact.CAPTURE_MASK.toNat = CAPTURE_MASK := by decide
theorem PROMOTION_OFFSET_eq : compact.PROMOTION_OFFSET.toNat = PROMOTION_OFFSET := by decide
theorem PROMOTION_MASK_eq : compact.PROMOTION_MASK.toNat = PROMOTION_MASK := by decide
theorem EN_PASSANT_OFFSET_eq : compact.EN_PASSANT_OFFSET.toNat = EN_PASSANT_OFFSET := by decide
theorem DOUBLE_PAWN_OFFSET_eq : compact.DOUBLE_PAWN_OFFSET.toNat = DOUBLE_PAWN_OFFSET := by decide
theorem CASTLE_QUEENSIDE_OFFSET_eq : compact.CASTLE_QUEENSIDE_OFFSET.toNat = CASTLE_QUEENSIDE_OFFSET := by decide
theorem CASTLE_KINGSIDE_OFFSET_eq : compact.CASTLE_KINGSIDE_OFFSET.toNat = CASTLE_KINGSIDE_OFFSET := by decide
theorem COLOR_OFFSET_eq : compact.COLOR_OFFSET.toNat = COLOR_OFFSET := by decide

/-! ## `mod compact`: `store`, `load`, `bit`, `set_bit` (all `u32` words, all offsets, all masks, all values) -/

theorem store_eq (d : UInt32) (off : UInt8) (mask : UInt32) (v : UInt8) :
    compact.store d off mask v = Wee.Move.store d off.toNat mask.toNat v.toNat := by
  simp only [compact.store, Wee.Move.store, u8_toNat_toUInt32, u32_toNat_toUInt32]

/-- `compact::load` = `Move.load` (the model returns the `u8` as a `Nat`) -/
theorem load_eq (d : UInt32) (off : UInt8) (mask : UInt32) :
    (compact.load d off mask).toNat = Wee.Move.load d off.toNat mask.toNat := by
  simp only [compact.load, Wee.Move.load, u8_toNat_toUInt32, u32_toNat_toUInt32, UInt32.toNat_toUInt8]

theorem bit_eq (d : UInt32) (b : UInt8) : compact.bit d b = Wee.Move.getBit d b.toNat := by
  simp only [compact.bit, Wee.Move.getBit, u8_toNat_toUInt32]

theorem set_bit_eq (d : UInt32) (b : UInt8) (v : Bool) :
    compact.set_bit d b v = Wee.Move.setBit d b.toNat v := by
  simp only [compact.set_bit, Wee.Move.setBit, u8_toNat_toUInt32]

/-! ## `impl BitSetExt for BitSet`: the setters -/

theorem into_u8_toNat (p : Piece) : (Piece.into_u8 p).toNat = p.code := by cases p <;> rfl

theorem optCode_eq (c : Option Piece) :
    (Option.getD (Option.map (fun (p : Piece) => Piece.into_u8 p) c) (0 : UInt8)).toNat = Wee.Move.optCode c := by
  cases c with
  | none => rfl
  | some p => exact into_u8_toNat p

theorem set_piece_eq (m : UInt32) (p : Piece) :
    BitSetExt.set_piece m p = Wee.Move.store m PIECE_OFFSET PIECE_MASK p.code := by
  simp only [BitSetExt.set_piece, store_eq, PIECE_OFFSET_eq, PIECE_MASK_eq, into_u8_toNat]

theorem set_origin_eq (m : UInt32) (o : Square) :
    BitSetExt.set_origin m o = Wee.Move.store m ORIGIN_OFFSET ORIGIN_MASK o.toNat := by
  simp only [BitSetExt.set_origin, Square.into_u8, store_eq, ORIGIN_OFFSET_eq, ORIGIN_MASK_eq]

theorem set_dest_eq (m : UInt32) (d : Square) :
    BitSetExt.set_dest m d = Wee.Move.store m DEST_OFFSET DEST_MASK d.toNat := by
  simp only [BitSetExt.set_dest, Square.into_u8, store_eq, DEST_OFFSET_eq, DEST_MASK_eq]

theorem set_capture_eq (m : UInt32) (c : Option Piece) :
    BitSetExt.set_capture m c = Wee.Move.store m CAPTURE_OFFSET CAPTURE_MASK (Wee.Move.optCode c) := by
  simp only [BitSetExt.set_capture, store_eq, CAPTURE_OFFSET_eq, CAPTURE_MASK_eq, optCode_eq]

theorem set_promotion_eq (m : UInt32) (c : Option Piece) :
    BitSetExt.set_promotion m c = Wee.Move.store m PROMOTION_OFFSET PROMOTION_MASK (Wee.Move.optCode c) := by
  simp only [BitSetExt.set_promotion, store_eq, PROMOTION_OFFSET_eq, PROMOTION_MASK_eq, optCode_eq]

theorem set_en_passant_eq (m : UInt32) (b : Bool) :
    BitSetExt.set_en_passant m b = Wee.Move.setBit m EN_PASSANT_OFFSET b := by
  simp only [BitSetExt.set_en_passant, set_bit_eq, EN_PASSANT_OFFSET_eq]

theorem set_double_pawn_eq (m : UInt32) (b : Bool) :
    BitSetExt.set_double_pawn m b = Wee.Move.setBit m DOUBLE_PAWN_OFFSET b := by
  simp only [BitSetExt.set_double_pawn, set_bit_eq, DOUBLE_PAWN_OFFSET_eq]

theorem set_castle_queenside_eq (m : UInt32) (b : Bool) :
    BitSetExt.set_castle_queenside m b = Wee.Move.setBit m CASTLE_QUEENSIDE_OFFSET b := by
  simp only [BitSetExt.set_castle_queenside, set_bit_eq, CASTLE_QUEENSIDE_OFFSET_eq]

theorem set_castle_kingside_eq (m : UInt32) (b : Bool) :
    BitSetExt.set_castle_kingside m b = Wee.Move.setBit m CASTLE_KINGSIDE_OFFSET b := by
  simp only [BitSetExt.set_castle_kingside, set_bit_eq, CASTLE_KINGSIDE_OFFSET_eq]

theorem set_color_eq (m : UInt32) (b : Bool) :
    BitSetExt.set_color m b = Wee.Move.setBit m COLOR_OFFSET b := by
  simp only [BitSetExt.set_color, set_bit_eq, COLOR_OFFSET_eq]

/-! ## `impl BitSetExt for BitSet`: the getters -/

/-- `BitSetExt::piece` = `Move.piece?` (`none` = the `unwrap` panics: piece code 7‥15) -/
theorem BitSetExt.piece_eq (m : UInt32) : BitSetExt.piece m = Wee.Move.piece? m := by
  simp only [BitSetExt.piece, Piece.try_from_primitive, unwrap, load_eq, PIECE_OFFSET_eq, PIECE_MASK_eq,
    Wee.Move.piece?, Wee.Move.pieceCode]

theorem try_from_u8_of_lt (x : UInt8) (h : x.toNat < 64) : Square.try_from_u8 x = some x := by
  have : ¬ x > 63 := by
    intro hx
    have := UInt8.lt_iff_toNat_lt.1 hx
    simp at this
    omega
  simp [Square.try_from_u8, this]

/-- `BitSetExt::origin` never panics (the field is six bits wide) and returns `Move.origin` -/
theorem BitSetExt.origin_eq (m : UInt32) : BitSetExt.origin m = some (Wee.Move.origin m).toUInt8 := by
  have h := load_eq m compact.ORIGIN_OFFSET compact.ORIGIN_MASK
  rw [ORIGIN_OFFSET_eq, ORIGIN_MASK_eq] at h
  have hlt := Wee.Move.origin_lt m
  unfold Wee.Move.origin at hlt
  rw [← h] at hlt
  simp only [BitSetExt.origin, unwrap, Wee.Move.origin, ← h, u8_toNat_toUInt8]
  exact try_from_u8_of_lt _ hlt

theorem BitSetExt.dest_eq (m : UInt32) : BitSetExt.dest m = some (Wee.Move.dest m).toUInt8 := by
  have h := load_eq m compact.DEST_OFFSET compact.DEST_MASK
  rw [DEST_OFFSET_eq, DEST_MASK_eq] at h
  have hlt := Wee.Move.dest_lt m
  unfold Wee.Move.dest at hlt
  rw [← h] at hlt
  simp only [BitSetExt.dest, unwrap, Wee.Move.dest, ← h, u8_toNat_toUInt8]
  exact try_from_u8_of_lt _ hlt

theorem ofCode_isSome_iff (n : Nat) : (Piece.ofCode? n).isSome = decide (n ≤ 6) := by
  match n with
  | 0 | 1 | 2 | 3 | 4 | 5 | 6 => rfl
  | n + 7 => simp [Piece.ofCode?]

/-- what `capture()` and `promotion()` answer for the value `n` of their field: `None` for 0, the kind for 1‥6; for
7‥15 the `unwrap` of `try_from_primitive` panics -/
def optPiece (n : Nat) : Panics (Option Piece) :=
  if n = 0 then some Option.none else (Piece.ofCode? n).map some

theorem optPiece_raw (x : UInt8) :
    (if x == (0 : UInt8) then (pure Option.none : Panics (Option Piece))
      else unwrap (Piece.try_from_primitive x) >>= fun tmp1 => pure (some tmp1)) = optPiece x.toNat := by
  unfold optPiece
  by_cases hz : x = 0
  · subst hz; rfl
  · have hn : x.toNat ≠ 0 := fun e => hz (UInt8.toNat_inj.1 e)
    rw [if_neg (by simpa using hz), if_neg hn]
    cases h : Piece.ofCode? x.toNat <;> simp [Piece.try_from_primitive, unwrap, h]

/-- the model's getter merges "no piece" and "panic" into `none` -/
theorem optPiece_join (n : Nat) : (optPiece n).join = if n = 0 then Option.none else Piece.ofCode? n := by
  unfold optPiece
  by_cases h : n = 0
  · rw [if_pos h, if_pos h]; rfl
  · rw [if_neg h, if_neg h]; cases Piece.ofCode? n <;> rfl

theorem optPiece_isSome (n : Nat) : (optPiece n).isSome = decide (n ≤ 6) := by
  unfold optPiece
  by_cases h : n = 0
  · subst h; rfl
  · rw [if_neg h, Option.isSome_map, ofCode_isSome_iff]

/-- the valid codes by their seven instances; `optPiece_model` and `optPiece_ne_none` are the two readings used later -/
theorem optPiece_le6 (n : Nat) (h : n ≤ 6) :
    ∃ q, optPiece n = some (if n = 0 then Option.none else some q) ∧ Piece.ofCode? n = some q ∧ (n ≠ 0 → q ≠ Piece.none) := by
  have : n = 0 ∨ n = 1 ∨ n = 2 ∨ n = 3 ∨ n = 4 ∨ n = 5 ∨ n = 6 := by omega
  rcases this with h | h | h | h | h | h | h <;> subst h <;> exact ⟨_, rfl, rfl, by decide⟩

/-- for a valid code the translated getters return the model's value … -/
theorem optPiece_model (n : Nat) (h : n ≤ 6) : optPiece n = some (if n = 0 then Option.none else Piece.ofCode? n) := by
  obtain ⟨q, hq, ho, _⟩ := optPiece_le6 n h
  rw [hq, ho]

/-- … which is never `Some(Piece::None)` -/
theorem optPiece_ne_none (n : Nat) (hn : n ≤ 6) (q : Piece)
    (h : (if n = 0 then Option.none else Piece.ofCode? n) = some q) : q ≠ Piece.none := by
  obtain ⟨q', _, ho, hq⟩ := optPiece_le6 n hn
  by_cases h0 : n = 0
  · rw [if_pos h0] at h; cases h
  · rw [if_neg h0, ho] at h; cases h; exact hq h0

/-- `is_capture()` / `is_promotion()`: `.is_some()` of the above -/
theorem optPiece_isSome_bind (n : Nat) :
    (optPiece n >>= fun o => pure o.isSome) = if n ≤ 6 then some (n != 0) else Option.none := by
  by_cases h : n ≤ 6
  · obtain ⟨q, hq, _, _⟩ := optPiece_le6 n h
    rw [hq, if_pos h]
    by_cases h0 : n = 0
    · subst h0; rfl
    · rw [if_neg h0]; simp [h0]
  · have := optPiece_isSome n
    rw [decide_eq_false h] at this
    rw [if_neg h]
    cases ho : optPiece n with
    | none => rfl
    | some _ => rw [ho] at this; cases this
/-- `BitSetExt::capture`: code 0 ↦ `None`, codes 1‥6 ↦ `Some(kind)`, codes 7‥15 ↦ panic -/
theorem BitSetExt.capture_eq (m : UInt32) :
    BitSetExt.capture m =
      if Wee.Move.captureCode m = 0 then some Option.none
      else (Piece.ofCode? (Wee.Move.captureCode m)).map some := by
  have h := load_eq m compact.CAPTURE_OFFSET compact.CAPTURE_MASK
  rw [CAPTURE_OFFSET_eq, CAPTURE_MASK_eq] at h
  unfold Wee.Move.captureCode
  rw [← h]
  exact optPiece_raw _

/-- `BitSetExt::promotion`: code 0 ↦ `None`, codes 1‥6 ↦ `Some(kind)`, codes 7‥15 ↦ panic -/
theorem BitSetExt.promotion_eq (m : UInt32) :
    BitSetExt.promotion m =
      if Wee.Move.promotionCode m = 0 then some Option.none
      else (Piece.ofCode? (Wee.Move.promotionCode m)).map some := by
  have h := load_eq m compact.PROMOTION_OFFSET compact.PROMOTION_MASK
  rw [PROMOTION_OFFSET_eq, PROMOTION_MASK_eq] at h
  unfold Wee.Move.promotionCode
  rw [← h]
  exact optPiece_raw _

theorem BitSetExt.en_passant_eq (m : UInt32) : BitSetExt.en_passant m = Wee.Move.isEnPassant m := by
  simp only [BitSetExt.en_passant, bit_eq, EN_PASSANT_OFFSET_eq, Wee.Move.isEnPassant]

theorem BitSetExt.double_pawn_eq (m : UInt32) : BitSetExt.double_pawn m = Wee.Move.isDoublePawn m := by
  simp only [BitSetExt.double_pawn, bit_eq, DOUBLE_PAWN_OFFSET_eq, Wee.Move.isDoublePawn]

theorem BitSetExt.castle_queenside_eq (m : UInt32) : BitSetExt.castle_queenside m = Wee.Move.castleQ m := by
  simp only [BitSetExt.castle_queenside, bit_eq, CASTLE_QUEENSIDE_OFFSET_eq, Wee.Move.castleQ]

theorem BitSetExt.castle_kingside_eq (m : UInt32) : BitSetExt.castle_kingside m = Wee.Move.castleK m := by
  simp only [BitSetExt.castle_kingside, bit_eq, CASTLE_KINGSIDE_OFFSET_eq, Wee.Move.castleK]

theorem BitSetExt.color_eq (m : UInt32) : BitSetExt.color m = Wee.Move.isWhite m := by
  simp only [BitSetExt.color, bit_eq, COLOR_OFFSET_eq, Wee.Move.isWhite]

/-! ## `impl Move`: the accessors -/

theorem Move.origin_eq (m : UInt32) : Move.origin m = some (Wee.Move.origin m).toUInt8 := by
  simp only [Move.origin]; exact BitSetExt.origin_eq m

theorem Move.destination_eq (m : UInt32) : Move.destination m = some (Wee.Move.dest m).toUInt8 := by
  simp only [Move.destination]; exact BitSetExt.dest_eq m

/-- the `Nat` form used by the model: `Move::origin` as a number -/
theorem Move.origin_toNat (m : UInt32) : (Move.origin m).map UInt8.toNat = some (Wee.Move.origin m) := by
  rw [Move.origin_eq, Option.map_some, nat_toUInt8_toNat _ (by have := Wee.Move.origin_lt m; omega)]

theorem Move.destination_toNat (m : UInt32) : (Move.destination m).map UInt8.toNat = some (Wee.Move.dest m) := by
  rw [Move.destination_eq, Option.map_some, nat_toUInt8_toNat _ (by have := Wee.Move.dest_lt m; omega)]

theorem Move.piece_eq (m : UInt32) : Move.piece m = Wee.Move.piece? m := by
  simp only [Move.piece]; exact BitSetExt.piece_eq m

theorem Move.capture_eq (m : UInt32) :
    Move.capture m =
      if Wee.Move.captureCode m = 0 then some Option.none
      else (Piece.ofCode? (Wee.Move.captureCode m)).map some := by
  simp only [Move.capture]; exact BitSetExt.capture_eq m

theorem Move.promotion_eq (m : UInt32) :
    Move.promotion m =
      if Wee.Move.promotionCode m = 0 then some Option.none
      else (Piece.ofCode? (Wee.Move.promotionCode m)).map some := by
  simp only [Move.promotion]; exact BitSetExt.promotion_eq m

/-- the model's `Move.capture` merges "no capture" and "panic" into `none`: it is the join of the translated one -/
theorem Move.capture_join (m : UInt32) : (Move.capture m).join = Wee.Move.capture m := by
  rw [Move.capture_eq]; exact optPiece_join _

theorem Move.promotion_join (m : UInt32) : (Move.promotion m).join = Wee.Move.promotion m := by
  rw [Move.promotion_eq]; exact optPiece_join _

/-- when the translated `Move::capture` does not panic it returns exactly the model's value -/
theorem Move.capture_some (m : UInt32) (r : Option Piece) (h : Move.capture m = some r) : Wee.Move.capture m = r := by
  rw [← Move.capture_join, h]; rfl

theorem Move.promotion_some (m : UInt32) (r : Option Piece) (h : Move.promotion m = some r) :
    Wee.Move.promotion m = r := by
  rw [← Move.promotion_join, h]; rfl

/-- … and on a word whose capture code is valid it does return -/
theorem Move.capture_of_le6 (mv : UInt32) (hc : Wee.Move.captureCode mv ≤ 6) :
    Move.capture mv = some (Wee.Move.capture mv) := by
  rw [Move.capture_eq]
  exact optPiece_model _ hc

theorem Move.promotion_of_le6 (mv : UInt32) (hc : Wee.Move.promotionCode mv ≤ 6) :
    Move.promotion mv = some (Wee.Move.promotion mv) := by
  rw [Move.promotion_eq]
  exact optPiece_model _ hc

/-- `Move::capture` panics exactly on the capture codes 7‥15 -/
theorem Move.capture_isSome (m : UInt32) : (Move.capture m).isSome = decide (Wee.Move.captureCode m ≤ 6) := by
  rw [Move.capture_eq]; exact optPiece_isSome _

theorem Move.promotion_isSome (m : UInt32) :
    (Move.promotion m).isSome = decide (Wee.Move.promotionCode m ≤ 6) := by
  rw [Move.promotion_eq]; exact optPiece_isSome _

/-- `Move::is_capture` = `Move.isCapture` wherever the Rust function returns; it PANICS on capture codes 7‥15
(the hand model is total there and answers `true`) -/
theorem Move.is_capture_eq (m : UInt32) :
    Move.is_capture m = if Wee.Move.captureCode m ≤ 6 then some (Wee.Move.isCapture m) else Option.none := by
  unfold Move.is_capture
  rw [Move.capture_eq]; exact optPiece_isSome_bind _

theorem Move.is_capture_of_le6 (mv : UInt32) (hc : Wee.Move.captureCode mv ≤ 6) :
    Move.is_capture mv = some (Wee.Move.isCapture mv) := by
  rw [Move.is_capture_eq, if_pos hc]

theorem Move.is_capture_some {m : UInt32} {b : Bool} (h : Move.is_capture m = some b) : b = Wee.Move.isCapture m := by
  rw [Move.is_capture_eq] at h
  split at h
  · cases h; rfl
  · cases h

theorem Move.is_promotion_eq (m : UInt32) :
    Move.is_promotion m =
      if Wee.Move.promotionCode m ≤ 6 then some (Wee.Move.isPromotion m) else Option.none := by
  unfold Move.is_promotion
  rw [Move.promotion_eq]; exact optPiece_isSome_bind _

theorem Move.is_en_passant_eq (m : UInt32) : Move.is_en_passant m = Wee.Move.isEnPassant m := by
  simp only [Move.is_en_passant]; exact BitSetExt.en_passant_eq m

theorem Move.is_double_pawn_eq (m : UInt32) : Move.is_double_pawn m = Wee.Move.isDoublePawn m := by
  simp only [Move.is_double_pawn]; exact BitSetExt.double_pawn_eq m

theorem Move.castle_side_eq (m : UInt32) : Move.castle_side m = Wee.Move.castleSide m := by
  simp only [Move.castle_side, Wee.Move.castleSide, BitSetExt.castle_queenside_eq, BitSetExt.castle_kingside_eq]

theorem Move.is_castle_eq (m : UInt32) (s : Side) : Move.is_castle m s = Wee.Move.isCastle m s := by
  simp only [Move.is_castle, Wee.Move.isCastle, Move.castle_side_eq]

theorem Move.is_any_castle_eq (m : UInt32) : Move.is_any_castle m = Wee.Move.isAnyCastle m := by
  simp only [Move.is_any_castle, Wee.Move.isAnyCastle, Move.is_castle_eq]

theorem Move.color_eq (m : UInt32) : Move.color m = Wee.Move.color m := by
  simp only [Move.color, Wee.Move.color, BitSetExt.color_eq]

theorem Move.as_raw_eq (m : UInt32) : Move.as_raw m = m := rfl

theorem Move.NULL_eq : Move.NULL = (0 : UInt32) := rfl

/-- `Move::resulting_piece` (no separate model function): `promotion().unwrap_or(piece())` over the model getters;
panics iff `promotion()` or `piece()` does -/
theorem Move.resulting_piece_eq (m : UInt32) :
    Move.resulting_piece m =
      (Move.promotion m).bind fun pr => (Wee.Move.piece? m).map fun p => pr.getD p := by
  simp only [Move.resulting_piece, Move.piece_eq]
  cases Move.promotion m <;> cases Wee.Move.piece? m <;> rfl

/-- `Move::is_simple_non_capture` (no separate model function) over the model getters, for words whose capture and
promotion codes are valid (≤ 6; every constructed move, see `C20_get_mk`); otherwise the Rust function panics -/
theorem Move.is_simple_non_capture_eq (m : UInt32) (hc : Wee.Move.captureCode m ≤ 6)
    (hp : Wee.Move.promotionCode m ≤ 6) :
    Move.is_simple_non_capture m =
      some (!Wee.Move.isCapture m && !Wee.Move.isPromotion m && !Wee.Move.isEnPassant m &&
        !Wee.Move.isAnyCastle m && !Wee.Move.isDoublePawn m) := by
  simp only [Move.is_simple_non_capture, Move.is_capture_eq, Move.is_promotion_eq, hc, hp, if_true,
    Move.is_en_passant_eq, Move.is_any_castle_eq, Move.is_double_pawn_eq]
  cases Wee.Move.isCapture m <;> rfl

/-- … and it panics exactly when `is_capture` panics, or `is_capture` is false and `is_promotion` panics -/
theorem Move.is_simple_non_capture_panics (m : UInt32) :
    Move.is_simple_non_capture m = Option.none ↔
      (6 < Wee.Move.captureCode m ∨ (Wee.Move.captureCode m = 0 ∧ 6 < Wee.Move.promotionCode m)) := by
  simp only [Move.is_simple_non_capture, Move.is_capture_eq, Move.is_promotion_eq, Wee.Move.isCapture]
  by_cases hc : Wee.Move.captureCode m ≤ 6
  · by_cases h0 : Wee.Move.captureCode m = 0
    · by_cases hp : Wee.Move.promotionCode m ≤ 6
      · simp [h0, hp]
      · simp [h0, hp]; omega
    · simp [hc, h0]
  · simp [hc]; omega

/-! ## `piece.rs` / `color.rs`: `PieceIndex` -/

/-- `PieceIndex::new(c, p).piece() = p` and `.color() = c` without panic, for both colours and all seven kinds -/
theorem PieceIndex.piece_new (c : Color) (p : Piece) : PieceIndex.piece (PieceIndex.new c p) = some p := by
  cases c <;> cases p <;> decide

theorem PieceIndex.color_new (c : Color) (p : Piece) : PieceIndex.color (PieceIndex.new c p) = some c := by
  cases c <;> cases p <;> decide

/-- the packing is `colour << pieceIndexColorShift | code` over the constants extracted by `extract.py` -/
theorem PieceIndex.new_toNat (c : Color) (p : Piece) :
    (PieceIndex.new c p).toNat = c.idx * 2 ^ pieceIndexColorShift + p.code := by
  cases c <;> cases p <;> decide

/-! ## `board.rs`: ranks, files, distances -/

theorem Square.rank_toNat (s : Square) : (Square.rank s).toNat = rankOf s.toNat := by
  simp only [Square.rank, rankOf, UInt8.toNat_div]; rfl

theorem Square.file_toNat (s : Square) : (Square.file s).toNat = fileOf s.toNat := by
  simp only [Square.file, fileOf, UInt8.toNat_mod]; rfl

/-- a fact about every `u8` below 8 (ranks, files) from its eight instances, which the kernel evaluates -/
theorem forall_lt8 {P : UInt8 → Prop} (h : ∀ i : Fin 8, P i.val.toUInt8) (a : UInt8) (ha : a.toNat < 8) : P a :=
  u8_toNat_toUInt8 a ▸ h ⟨a.toNat, ha⟩

theorem forall_lt8₂ {P : UInt8 → UInt8 → Prop} (h : ∀ i j : Fin 8, P i.val.toUInt8 j.val.toUInt8) (a b : UInt8)
    (ha : a.toNat < 8) (hb : b.toNat < 8) : P a b :=
  forall_lt8 (P := fun a => P a b) (fun i => forall_lt8 (h i) b hb) a ha

/-- `Rank::abs_distance_to` on ranks `< 8` (what `debug_assert!` demands): no overflow, no panic, and the value
is the model's `absDist` -/
theorem Rank.abs_distance_to_eq (a b : Rank) (ha : a.toNat < 8) (hb : b.toNat < 8) :
    Rank.abs_distance_to a b = some (absDist a.toNat b.toNat).toUInt8 :=
  forall_lt8₂ (P := fun a b => Rank.abs_distance_to a b = some (absDist a.toNat b.toNat).toUInt8) (by decide +kernel)
    a b ha hb

/-- outside `< 8` the debug profile stops at the `debug_assert!` -/
theorem Rank.abs_distance_to_panics (a b : Rank) (h : ¬ (a.toNat < 8 ∧ b.toNat < 8)) :
    Rank.abs_distance_to a b = Option.none := by
  have ha : (decide (a < 8)) = decide (a.toNat < 8) := by simp [UInt8.lt_iff_toNat_lt]
  have hb : (decide (b < 8)) = decide (b.toNat < 8) := by simp [UInt8.lt_iff_toNat_lt]
  simp only [Rank.abs_distance_to, ha, hb]
  by_cases h1 : a.toNat < 8
  · have h2 : ¬ b.toNat < 8 := fun h2 => h ⟨h1, h2⟩
    simp [h1, h2, debug_assert]
  · simp [h1, debug_assert]

theorem File.abs_distance_to_eq (a b : File) (ha : a.toNat < 8) (hb : b.toNat < 8) :
    File.abs_distance_to a b = some (absDist a.toNat b.toNat).toUInt8 :=
  Rank.abs_distance_to_eq a b ha hb

theorem absDist_lt8 (a b : Nat) (ha : a < 8) (hb : b < 8) : absDist a b < 8 :=
  Nat.lt_succ_of_le (absDist_le (Nat.le_of_lt_succ ha) (Nat.le_of_lt_succ hb))

theorem rank_lt8 (s : Square) (h : s.toNat < 64) : (Square.rank s).toNat < 8 := by
  rw [Square.rank_toNat]; exact rankOf_lt h

theorem file_lt8 (s : Square) : (Square.file s).toNat < 8 := by
  rw [Square.file_toNat]; exact fileOf_lt _

theorem Square.manhattan_distance_to_eq (a b : Square) (ha : a.toNat < 64) (hb : b.toNat < 64) :
    Square.manhattan_distance_to a b = some (manhattan a.toNat b.toNat).toUInt8 := by
  have hra := rank_lt8 a ha
  have hrb := rank_lt8 b hb
  have hfa := file_lt8 a
  have hfb := file_lt8 b
  have h1 := absDist_lt8 _ _ hra hrb
  have h2 := absDist_lt8 _ _ hfa hfb
  simp only [Square.manhattan_distance_to, Rank.abs_distance_to_eq _ _ hra hrb, File.abs_distance_to_eq _ _ hfa hfb,
    manhattan, ← Square.rank_toNat, ← Square.file_toNat]
  generalize absDist (Square.rank a).toNat (Square.rank b).toNat = x at h1 ⊢
  generalize absDist (Square.file a).toNat (Square.file b).toNat = y at h2 ⊢
  have hx := nat_toUInt8_toNat x (by omega)
  have hy := nat_toUInt8_toNat y (by omega)
  simp only [some_bind']
  exact (UInt8.checked_add_eq_some (r := (x + y).toUInt8)).2 (by rw [hx, hy, nat_toUInt8_toNat _ (by omega)])

/-! ## `board.rs`: `Square::offset`, `flip_rank`, `white_at_bottom_index` (and `From<(Rank, File)>`, `opposing_rank`) -/

theorem toInt8_toInt_of_lt8 (a : UInt8) (h : a.toNat < 8) : a.toInt8.toInt = a.toNat :=
  forall_lt8 (P := fun a => a.toInt8.toInt = a.toNat) (by decide +kernel) a h

theorem int8_cases (x : Int8) (h0 : 0 ≤ x.toInt) (h7 : x.toInt ≤ 7) :
    x = 0 ∨ x = 1 ∨ x = 2 ∨ x = 3 ∨ x = 4 ∨ x = 5 ∨ x = 6 ∨ x = 7 := by
  have : x.toInt = 0 ∨ x.toInt = 1 ∨ x.toInt = 2 ∨ x.toInt = 3 ∨ x.toInt = 4 ∨ x.toInt = 5 ∨ x.toInt = 6 ∨
      x.toInt = 7 := by omega
  rcases this with h | h | h | h | h | h | h | h
  · left; exact Int8.toInt_inj.1 (by rw [h]; decide)
  · right; left; exact Int8.toInt_inj.1 (by rw [h]; decide)
  · right; right; left; exact Int8.toInt_inj.1 (by rw [h]; decide)
  · right; right; right; left; exact Int8.toInt_inj.1 (by rw [h]; decide)
  · right; right; right; right; left; exact Int8.toInt_inj.1 (by rw [h]; decide)
  · right; right; right; right; right; left; exact Int8.toInt_inj.1 (by rw [h]; decide)
  · right; right; right; right; right; right; left; exact Int8.toInt_inj.1 (by rw [h]; decide)
  · right; right; right; right; right; right; right; exact Int8.toInt_inj.1 (by rw [h]; decide)

/-- `impl Into<u8> for Square` is the identity: a `Square` is its `u8` -/
theorem Square.into_u8_eq (s : Square) : Square.into_u8 s = s := rfl

/-- `impl TryFrom<u8> for Square`: `Ok` exactly for values `< 64` -/
theorem Square.try_from_u8_eq (x : UInt8) : Square.try_from_u8 x = if x.toNat < 64 then some x else Option.none := by
  by_cases h : x.toNat < 64
  · rw [if_pos h]; exact try_from_u8_of_lt x h
  · have : x > 63 := by rw [gt_iff_lt, UInt8.lt_iff_toNat_lt]; simp; omega
    simp [Square.try_from_u8, this, h]

/-- `impl TryFrom<PieceIndex> for Piece / Color` on a packed index -/
theorem Piece.try_from_PieceIndex_new (c : Color) (p : Piece) :
    Piece.try_from_PieceIndex (PieceIndex.new c p) = some p := by cases c <;> cases p <;> decide

theorem Color.try_from_PieceIndex_new (c : Color) (p : Piece) :
    Color.try_from_PieceIndex (PieceIndex.new c p) = some c := by cases c <;> cases p <;> decide

/-- `impl From<(Rank, File)> for Square` on ranks and files `< 8`: `rank * 8 + file`, no overflow -/
theorem Square.from_Rank_File_eq (r f : UInt8) (hr : r.toNat < 8) (hf : f.toNat < 8) :
    Square.from_Rank_File (r, f) = some (mkSq r.toNat f.toNat).toUInt8 :=
  forall_lt8₂ (P := fun r f => Square.from_Rank_File (r, f) = some (mkSq r.toNat f.toNat).toUInt8) (by decide +kernel)
    r f hr hf

/-- `Square::from((Rank(r), File(f)))` for `r, f` in `0‥7` given as `i8` (as in `Square::offset`) -/
theorem from_Rank_File_int8 (r f : Int8) (hr0 : 0 ≤ r.toInt) (hr7 : r.toInt ≤ 7) (hf0 : 0 ≤ f.toInt)
    (hf7 : f.toInt ≤ 7) :
    Square.from_Rank_File (Int8.toUInt8 r, Int8.toUInt8 f) = some (r.toInt.toNat * 8 + f.toInt.toNat).toUInt8 := by
  rcases int8_cases r hr0 hr7 with rfl | rfl | rfl | rfl | rfl | rfl | rfl | rfl <;>
  rcases int8_cases f hf0 hf7 with rfl | rfl | rfl | rfl | rfl | rfl | rfl | rfl <;> decide

theorem Rank.opposing_rank_eq (r : Rank) (h : r.toNat < 8) : Rank.opposing_rank r = some (7 - r) :=
  forall_lt8 (P := fun r => Rank.opposing_rank r = some (7 - r)) (by decide +kernel) r h

theorem from_File_Rank_lt8 (f r : UInt8) (hf : f.toNat < 8) (hr : r.toNat < 8) :
    Square.from_File_Rank (f, r) = some (mkSq r.toNat f.toNat).toUInt8 :=
  Square.from_Rank_File_eq r f hr hf

theorem Square.flip_rank_eq (s : Square) (hs : s.toNat < 64) :
    Square.flip_rank s = some (flipRank s.toNat).toUInt8 := by
  have hr := rank_lt8 s hs
  have hf := file_lt8 s
  have h7 : (7 - Square.rank s).toNat = 7 - (Square.rank s).toNat :=
    forall_lt8 (P := fun r => (7 - r).toNat = 7 - r.toNat) (by decide +kernel) _ hr
  simp only [Square.flip_rank, Rank.opposing_rank_eq _ hr, some_bind',
    from_File_Rank_lt8 _ _ hf (by rw [h7]; omega), h7, flipRank, Square.rank_toNat, Square.file_toNat]

theorem Square.white_at_bottom_index_eq (s : Square) (hs : s.toNat < 64) :
    Square.white_at_bottom_index s = some (flipRank s.toNat).toUInt8 := by
  simp only [Square.white_at_bottom_index, Square.flip_rank_eq s hs]

/-- `Square::offset` on squares `< 64`, for every `i8` offset that does not overflow the `i8` addition
(`file + df ≤ 127`: all offsets `≤ 120`; the engine uses `|df|, |dr| ≤ 2`): no panic, equals the model's `offset` -/
theorem Square.offset_eq (s : Square) (off : Offset) (hs : s.toNat < 64)
    (hf : off.file.toInt ≤ 120) (hr : off.rank.toInt ≤ 120) :
    Square.offset s off = some ((Wee.offset s.toNat off.file.toInt off.rank.toInt).map Nat.toUInt8) := by
  have hfl := file_lt8 s
  have hrl := rank_lt8 s hs
  have e1 := toInt8_toInt_of_lt8 _ hfl
  have e2 := toInt8_toInt_of_lt8 _ hrl
  have l1 := Int8.le_toInt off.file
  have l2 := Int8.le_toInt off.rank
  have a1 := int8_add_toInt (UInt8.toInt8 (Square.file s)) off.file (by omega) (by omega)
  have a2 := int8_add_toInt (UInt8.toInt8 (Square.rank s)) off.rank (by omega) (by omega)
  have c1 := Int8.checked_add_eq_some.2 a1
  have c2 := Int8.checked_add_eq_some.2 a2
  rw [e1, Square.file_toNat] at a1
  rw [e2, Square.rank_toNat] at a2
  clear e1 e2 l1 l2 hfl hrl
  simp only [Square.offset, c1, c2, some_bind', Wee.offset]
  generalize UInt8.toInt8 (Square.file s) + off.file = x at a1 ⊢
  generalize UInt8.toInt8 (Square.rank s) + off.rank = y at a2 ⊢
  have z0 : (0 : Int8).toInt = 0 := by decide
  have z7 : (7 : Int8).toInt = 7 := by decide
  simp only [gt_iff_lt, Int8.lt_iff_toInt_lt, z0, z7, a1, a2]
  by_cases hc : (↑(fileOf s.toNat) + off.file.toInt < 0 ∨ 7 < (↑(fileOf s.toNat) : Int) + off.file.toInt ∨
      ↑(rankOf s.toNat) + off.rank.toInt < 0 ∨ 7 < (↑(rankOf s.toNat) : Int) + off.rank.toInt)
  · rw [if_pos (by simp only [Bool.or_eq_true, decide_eq_true_eq]; omega), if_pos hc]; rfl
  · rw [if_neg (by simp only [Bool.or_eq_true, decide_eq_true_eq]; omega), if_neg hc,
      from_Rank_File_int8 y x (by omega) (by omega) (by omega) (by omega), a1, a2]
    rfl

/-! ## `impl Move`: the constructors -/

/-- `Move::by_moving` on a `PieceIndex` built by `PieceIndex::new` and squares `< 64`: no panic (the two `unwrap`s in
`PieceIndex::piece/color`, the `debug_assert!`s and the `i8` subtraction in `abs_distance_to` are all fine) and the
packed word is the model's `byMoving` -/
theorem Move.by_moving_eq (c : Color) (p : Piece) (o d : Square) (ho : o.toNat < 64) (hd : d.toNat < 64) :
    Move.by_moving (PieceIndex.new c p) o d = some (Wee.Move.byMoving c p o.toNat d.toNat) := by
  have hro := rank_lt8 o ho
  have hrd := rank_lt8 d hd
  have hlt := absDist_lt8 _ _ hro hrd
  rw [Square.rank_toNat, Square.rank_toNat] at hlt
  have hgt : (1 < UInt8.ofNat (absDist (rankOf o.toNat) (rankOf d.toNat))) ↔
      1 < absDist (rankOf o.toNat) (rankOf d.toNat) := by
    rw [UInt8.lt_iff_toNat_lt, UInt8.toNat_ofNat', Nat.mod_eq_of_lt (by omega)]
    rfl
  simp only [Move.by_moving, PieceIndex.piece_new, PieceIndex.color_new, Rank.abs_distance_to_eq _ _ hro hrd,
    set_piece_eq, set_origin_eq, set_dest_eq, set_color_eq, set_double_pawn_eq, Square.rank_toNat,
    Wee.Move.byMoving, some_bind', Option.pure_def]
  cases p <;> simp [hgt]

/-- a `PieceIndex` whose colour bits or kind bits are not a valid discriminant makes `by_moving` panic -/
example : Move.by_moving 7 12 28 = Option.none ∧ Move.by_moving 16 12 28 = Option.none := by decide

theorem Move.by_capturing_eq (c : Color) (p : Piece) (o d : Square) (q : Piece)
    (ho : o.toNat < 64) (hd : d.toNat < 64) :
    Move.by_capturing (PieceIndex.new c p) o d q = some (Wee.Move.byCapturing c p o.toNat d.toNat q) := by
  simp only [Move.by_capturing, Move.by_moving_eq c p o d ho hd, set_capture_eq, Wee.Move.byCapturing,
    Wee.Move.optCode, some_bind', Option.pure_def]

theorem Move.by_promoting_eq (c : Color) (p : Piece) (o d : Square) (r : Piece)
    (ho : o.toNat < 64) (hd : d.toNat < 64) :
    Move.by_promoting (PieceIndex.new c p) o d r = some (Wee.Move.byPromoting c p o.toNat d.toNat r) := by
  simp only [Move.by_promoting, Move.by_moving_eq c p o d ho hd, set_promotion_eq, Wee.Move.byPromoting,
    Wee.Move.optCode, some_bind', Option.pure_def]

theorem Move.by_capture_promoting_eq (c : Color) (p : Piece) (o d : Square) (q r : Piece)
    (ho : o.toNat < 64) (hd : d.toNat < 64) :
    Move.by_capture_promoting (PieceIndex.new c p) o d q r =
      some (Wee.Move.byCapturePromoting c p o.toNat d.toNat q r) := by
  simp only [Move.by_capture_promoting, Move.by_moving_eq c p o d ho hd, set_capture_eq, set_promotion_eq,
    Wee.Move.byCapturePromoting, Wee.Move.optCode, some_bind', Option.pure_def]

theorem Move.by_en_passant_eq (c : Color) (p : Piece) (o d : Square) (ho : o.toNat < 64) (hd : d.toNat < 64) :
    Move.by_en_passant (PieceIndex.new c p) o d = some (Wee.Move.byEnPassant c p o.toNat d.toNat) := by
  simp only [Move.by_en_passant, Move.by_moving_eq c p o d ho hd, set_capture_eq, set_en_passant_eq,
    Wee.Move.byEnPassant, Wee.Move.optCode, some_bind', Option.pure_def]

/-- `Move::by_castling`, all four (colour, side) pairs -/
theorem Move.by_castling_eq (c : Color) (s : Side) : Move.by_castling c s = some (Wee.Move.byCastling c s) := by
  cases c <;> cases s <;> decide

/-- the general constructor of `Wee/Proofs/MoveAttrs.lean` (`Move.mk`) written with the TRANSLATED functions:
`by_moving` followed by `set_capture`, `set_promotion`, `set_en_passant`, `set_castle_queenside`,
`set_castle_kingside` -/
def mkT (c : Color) (p : Piece) (o d : Square) (cap pr : Option Piece) (ep cq ck : Bool) : Panics Move :=
  (Move.by_moving (PieceIndex.new c p) o d).map fun b =>
    BitSetExt.set_castle_kingside (BitSetExt.set_castle_queenside (BitSetExt.set_en_passant
      (BitSetExt.set_promotion (BitSetExt.set_capture b cap) pr) ep) cq) ck

theorem mkT_eq (c : Color) (p : Piece) (o d : Square) (cap pr : Option Piece) (ep cq ck : Bool)
    (ho : o.toNat < 64) (hd : d.toNat < 64) :
    mkT c p o d cap pr ep cq ck = some (Wee.Move.mk c p o.toNat d.toNat cap pr ep cq ck) := by
  simp only [mkT, Move.by_moving_eq c p o d ho hd, Option.map_some, set_capture_eq, set_promotion_eq,
    set_en_passant_eq, set_castle_queenside_eq, set_castle_kingside_eq, Wee.Move.mk]

/-! ## `eval/mod.rs`: `Evaluation::mate_in_ply`, `is_terminal` (and the constants, `Add`, `Mul<i32>`) -/

theorem u32_toInt32_toInt (x : UInt32) : x.toInt32.toInt = (x.toNat : Int).bmod (2 ^ 32) := by
  rw [← Int32.toInt_toBitVec, UInt32.toBitVec_toInt32, BitVec.toInt_eq_toNat_bmod]
  rfl

/-- the translated constants are the model's (over the constants extracted by `extract.py`) -/
theorem Evaluation.consts_eq :
    Evaluation.ONE_PAWN.toInt = Ev.onePawn ∧ Evaluation.POS_INF.toInt = Ev.posInf ∧
    Evaluation.NEG_INF.toInt = Ev.negInf ∧ Evaluation.EVEN.toInt = 0 := by decide

theorem Evaluation.is_terminal_eq (e : Int32) : Evaluation.is_terminal e = Ev.isTerminal e.toInt := by
  obtain ⟨_, h2, h3, _⟩ := Evaluation.consts_eq
  simp only [Evaluation.is_terminal, Ev.isTerminal, ge_iff_le, Int32.le_iff_toInt_le, h2, h3]

/-- `Evaluation::mate_in_ply` for plies `< 2^31` (`ply as i32` is then the ply itself): no overflow in
`10 - ply`, `ONE_PAWN * max(.., 0)`, `POS_INF + ..`, and the value is the model's `Ev.mateInPly` -/
theorem Evaluation.mate_in_ply_eq (ply : UInt64) (h : ply.toNat < 2 ^ 31) :
    (Evaluation.mate_in_ply ply).map Int32.toInt = some (Ev.mateInPly ply.toNat) := by
  have hp : (UInt32.toInt32 (UInt64.toUInt32 ply)).toInt = ply.toNat := by
    rw [u32_toInt32_toInt, UInt64.toNat_toUInt32, Nat.mod_eq_of_lt (by omega)]
    exact Int.bmod_eq_of_le (by omega) (by omega)
  have t10 : (10 : Int32).toInt = 10 := by decide
  have t0 : (0 : Int32).toInt = 0 := by decide
  obtain ⟨c1, c2, _, _⟩ := Evaluation.consts_eq
  have v1 : Ev.onePawn = 100 := by decide
  have v2 : Ev.posInf = 10000 := by decide
  have hmodel : Ev.mateInPly ply.toNat = Ev.posInf + Ev.onePawn * max (10 - (ply.toNat : Int)) 0 := by
    unfold Ev.mateInPly
    have : (((ply.toNat % 2 ^ 32 + 2 ^ 31) % 2 ^ 32 : Nat) : Int) - 2 ^ 31 = ply.toNat := by omega
    simp only [this]
    rfl
  rw [hmodel, v1, v2]
  have hn : (0 : Int) ≤ ply.toNat ∧ (ply.toNat : Int) < 2 ^ 31 := by omega
  generalize (ply.toNat : Int) = n at hp hn ⊢
  -- each checked operation returns the `i32` of the exact integer, which is in range
  have w : ∀ {z : Int}, -2 ^ 31 ≤ z → z < 2 ^ 31 → (Int32.ofInt z).toInt = z := Int32.toInt_ofInt_of_le
  have r1 : Int32.checked_sub 10 (UInt32.toInt32 (UInt64.toUInt32 ply)) = some (Int32.ofInt (10 - n)) :=
    Int32.checked_sub_eq_some.2 (by rw [w (by omega) (by omega), hp, t10])
  have r2 : Int32.checked_mul Evaluation.ONE_PAWN (i32_max (Int32.ofInt (10 - n)) 0) = some (Int32.ofInt (100 * max (10 - n) 0)) :=
    Int32.checked_mul_eq_some.2 (by rw [w (by omega) (by omega), c1, v1, i32_max_toInt, w (by omega) (by omega), t0])
  have r3 : Int32.checked_add Evaluation.POS_INF (Int32.ofInt (100 * max (10 - n) 0))
      = some (Int32.ofInt (10000 + 100 * max (10 - n) 0)) :=
    Int32.checked_add_eq_some.2 (by rw [w (by omega) (by omega), w (by omega) (by omega), c2, v2])
  simp only [Evaluation.mate_in_ply, Evaluation.mul_i32, Evaluation.add_Evaluation, r1, r2, r3, some_bind', Option.map_some,
    w (show -2 ^ 31 ≤ 10000 + 100 * max (10 - n) 0 by omega) (by omega)]

/-- `impl Add<Evaluation> for Evaluation`: the `i32` sum when it fits, otherwise the debug profile panics -/
theorem Evaluation.add_eq (a b : Int32) :
    Evaluation.add_Evaluation a b =
      if -2 ^ 31 ≤ a.toInt + b.toInt ∧ a.toInt + b.toInt < 2 ^ 31 then some (a + b) else Option.none := by
  unfold Evaluation.add_Evaluation Int32.checked_add
  split <;> rfl

/-- `impl Mul<i32> for Evaluation`: the `i32` product when it fits, otherwise the debug profile panics -/
theorem Evaluation.mul_eq (a b : Int32) :
    Evaluation.mul_i32 a b =
      if -2 ^ 31 ≤ a.toInt * b.toInt ∧ a.toInt * b.toInt < 2 ^ 31 then some (a * b) else Option.none := by
  unfold Evaluation.mul_i32 Int32.checked_mul
  split <;> rfl

/-- for plies `≥ 2^31` (outside `mate_in_ply_eq`) the debug profile overflows (`ONE_PAWN * (10 - (ply as i32))` with
`ply as i32` negative), the release profile wraps, and the model — computing in `Int` — does neither: such plies are
outside what the model mirrors (its doc comment says so; the search passes depths `< 100`). -/
example : Evaluation.mate_in_ply 2147483748 = Option.none := by decide

/-! ## Non-vacuity: the hypotheses of the bridges are met by ordinary arguments (kernel-evaluated) -/

example : Square.offset 12 ⟨1, 2⟩ = some (some 29) ∧ Square.offset 7 ⟨1, 0⟩ = some Option.none ∧
    Square.offset 60 ⟨0, -1⟩ = some (some 52) := by decide
example : Square.flip_rank 12 = some 52 ∧ Square.white_at_bottom_index 63 = some 7 := by decide
example : Square.manhattan_distance_to 0 63 = some 14 := by decide
example : Evaluation.mate_in_ply 3 = some 10700 ∧ Evaluation.mate_in_ply 40 = some 10000 := by decide
example : Evaluation.is_terminal 10000 = true ∧ Evaluation.is_terminal 9999 = false ∧
    Evaluation.is_terminal (-10000) = true := by decide
example : Move.by_moving (PieceIndex.new .white .pawn) 12 28 = some 302018753 := by decide
example : compact.store 0 4 1008 63 = 1008 ∧ compact.load 1008 4 1008 = 63 ∧ compact.bit 16777216 24 = true ∧
    compact.set_bit 0 28 true = 268435456 := by decide

end GenFns
end Wee
