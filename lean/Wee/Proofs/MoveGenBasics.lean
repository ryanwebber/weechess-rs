import Wee.Props.C20
import Wee.Proofs.AbsLemmas
/-!
# The move generator read through `toSpecMove`: the common ground

What every part of the generator's specification rests on: `toSpecMove` of each packed-move constructor, through the accessor
theorems of C20 (`toSpecMove_byMoving … toSpecMove_byCastling`), `capturedAt` read off `pieceAt`, and the fields of
`Helper.of`.
-/
namespace Wee
open Gen
open Wee.C10 (DisjointBoard)

/-! ## `toSpecMove` through the C20 accessor theorems -/

/-- what `toSpecMove` yields for a move whose ten getters are known -/
theorem toSpecMove_of_attrs (m : Move) (c : Color) (p : Piece) (o d : Nat) (cap pr : Option Piece)
    (ep db cq ck : Bool) (k : Spec.Kind) (hk : absKind p = some k)
    (h : Move.attrs m =
      { color := c, piece := some p, origin := o, dest := d, capture := cap,
        promotion := pr, enPassant := ep, doublePawn := db, castleQ := cq, castleK := ck }) :
    toSpecMove m = some
      { color := absColor c, kind := k, src := o, dst := d,
        capture := cap.bind absKind, promo := pr.bind absKind, ep := ep,
        castle := (if cq then some false else if ck then some true else Option.none), dbl := db } := by
  have h1 : Move.color m = c := congrArg Move.Attrs.color h
  have h2 : Move.piece? m = some p := congrArg Move.Attrs.piece h
  have h3 : Move.origin m = o := congrArg Move.Attrs.origin h
  have h4 : Move.dest m = d := congrArg Move.Attrs.dest h
  have h5 : Move.capture m = cap := congrArg Move.Attrs.capture h
  have h6 : Move.promotion m = pr := congrArg Move.Attrs.promotion h
  have h7 : Move.isEnPassant m = ep := congrArg Move.Attrs.enPassant h
  have h8 : Move.isDoublePawn m = db := congrArg Move.Attrs.doublePawn h
  have h9 : Move.castleQ m = cq := congrArg Move.Attrs.castleQ h
  have h10 : Move.castleK m = ck := congrArg Move.Attrs.castleK h
  have hp : Move.piece m = p := Move.piece_of_piece? h2
  have hcs : (Move.castleSide m).map (fun s => s == Side.king) =
      (if cq then some false else if ck then some true else Option.none) := by
    unfold Move.castleSide
    rw [h9, h10]
    cases cq <;> cases ck <;> rfl
  unfold toSpecMove
  rw [hp, hk, h1, h3, h4, h5, h6, h7, h8, hcs]
  rfl

theorem dbl_of_ne_pawn (p : Piece) (o d : Nat) (hp : p ≠ Piece.pawn) : Move.dbl p o d = false := by
  cases p <;> first | exact absurd rfl hp | rfl

theorem toSpecMove_byMoving (c : Color) (p : Piece) (k : Spec.Kind) (hk : absKind p = some k) (o d : Nat)
    (ho : o < 64) (hd : d < 64) :
    toSpecMove (Move.byMoving c p o d) =
      some { color := absColor c, kind := k, src := o, dst := d, dbl := Move.dbl p o d } := by
  rw [toSpecMove_of_attrs _ c p o d _ _ _ _ _ _ k hk (C20_get_byMoving c p o d ho hd)]
  rfl

theorem toSpecMove_byCapturing (c : Color) (p : Piece) (k : Spec.Kind) (hk : absKind p = some k) (o d : Nat)
    (q : Piece) (k' : Spec.Kind) (hq : absKind q = some k') (ho : o < 64) (hd : d < 64) :
    toSpecMove (Move.byCapturing c p o d q) =
      some { color := absColor c, kind := k, src := o, dst := d, capture := some k', dbl := Move.dbl p o d } := by
  rw [toSpecMove_of_attrs _ c p o d _ _ _ _ _ _ k hk
    (C20_get_byCapturing c p o d q ho hd (C10.absKind_ne_none hq))]
  simp only [Option.bind_some, hq, Option.bind_none]
  rfl

theorem toSpecMove_byPromoting (c : Color) (p : Piece) (k : Spec.Kind) (hk : absKind p = some k) (o d : Nat)
    (r : Piece) (kr : Spec.Kind) (hr : absKind r = some kr) (ho : o < 64) (hd : d < 64) :
    toSpecMove (Move.byPromoting c p o d r) =
      some { color := absColor c, kind := k, src := o, dst := d, promo := some kr, dbl := Move.dbl p o d } := by
  rw [toSpecMove_of_attrs _ c p o d _ _ _ _ _ _ k hk
    (C20_get_byPromoting c p o d r ho hd (C10.absKind_ne_none hr))]
  simp only [Option.bind_some, hr, Option.bind_none]
  rfl

theorem toSpecMove_byCapturePromoting (c : Color) (p : Piece) (k : Spec.Kind) (hk : absKind p = some k)
    (o d : Nat) (q : Piece) (k' : Spec.Kind) (hq : absKind q = some k')
    (r : Piece) (kr : Spec.Kind) (hr : absKind r = some kr) (ho : o < 64) (hd : d < 64) :
    toSpecMove (Move.byCapturePromoting c p o d q r) =
      some { color := absColor c, kind := k, src := o, dst := d, capture := some k', promo := some kr,
              dbl := Move.dbl p o d } := by
  rw [toSpecMove_of_attrs _ c p o d _ _ _ _ _ _ k hk
    (C20_get_byCapturePromoting c p o d q r ho hd (C10.absKind_ne_none hq) (C10.absKind_ne_none hr))]
  simp only [Option.bind_some, hr, hq]
  rfl

theorem toSpecMove_byEnPassant (c : Color) (p : Piece) (k : Spec.Kind) (hk : absKind p = some k) (o d : Nat)
    (ho : o < 64) (hd : d < 64) :
    toSpecMove (Move.byEnPassant c p o d) =
      some { color := absColor c, kind := k, src := o, dst := d, capture := some Spec.Kind.pawn, ep := true,
              dbl := Move.dbl p o d } := by
  rw [toSpecMove_of_attrs _ c p o d _ _ _ _ _ _ k hk (C20_get_byEnPassant c p o d ho hd)]
  rfl

theorem toSpecMove_byCastling (c : Color) (sd : Side) :
    toSpecMove (Move.byCastling c sd) =
      some { color := absColor c, kind := Spec.Kind.king, src := Spec.kingHome (absColor c),
              dst := if sd == Side.king then Spec.kingHome (absColor c) + 2 else Spec.kingHome (absColor c) - 2,
              castle := some (sd == Side.king) } := by
  rw [toSpecMove_of_attrs _ c .king _ _ _ _ _ _ _ _ .king rfl (C20_get_byCastling c sd).1]
  cases c <;> cases sd <;> rfl

/-! ## `capturedAt`, the fields of `Helper.of` -/

theorem capturedAt_none (s : State) (t : Nat) (h : s.pieces.pieceAt t = Option.none) : capturedAt s t = Option.none := by
  unfold capturedAt; rw [h]; rfl

theorem capturedAt_some (s : State) (t : Nat) (c : Color) (q : Piece) (h : s.pieces.pieceAt t = some (c, q)) :
    capturedAt s t = some q := by
  unfold capturedAt; rw [h]; rfl

theorem helper_us (s : State) : (Helper.of s).us = s.turn := rfl
theorem helper_s (s : State) : (Helper.of s).s = s := rfl
theorem helper_own (s : State) : (Helper.of s).own = s.pieces.colorOcc s.turn := rfl
theorem helper_opp (s : State) : (Helper.of s).opp = s.pieces.colorOcc s.turn.opp := rfl
theorem helper_occ (s : State) : (Helper.of s).occ = s.pieces.occ := rfl
theorem helper_vac (s : State) : (Helper.of s).vac = ~~~s.pieces.occ := rfl
theorem helper_oppAtt (s : State) : (Helper.of s).oppAtt = coloredAttacks s.pieces s.turn.opp := rfl

/-- `compute_psuedo_legal_moves_into`: the pawn generator may panic; the six lists in the order of the source -/
theorem pseudoLegalMoves_eq (s : State) : pseudoLegalMoves s = (pawnMoves (Helper.of s)).map fun pm =>
    pm ++ knightMoves (Helper.of s) ++ kingMoves (Helper.of s) ++ sliderMoves (Helper.of s) .bishop bishopAttacks ++
      sliderMoves (Helper.of s) .rook rookAttacks ++ sliderMoves (Helper.of s) .queen queenAttacks := by
  unfold pseudoLegalMoves
  dsimp only
  cases pawnMoves (Helper.of s) with
  | none => rfl
  | some pm => rfl

end Wee
