import Wee.Proofs.BitsFast
import Wee.Model.MoveGen
import Wee.Model.Hash
/-!
# The move generator over its primitives: a second evaluator for `Wee/Model/MoveGen.lean`

`bitsOf b` tests all 64 squares of a board, and the generator calls it for every piece kind of the position and again, for
every candidate move, for the attack map of the successor (`coloredAttacks`); in the kernel this is nearly all that `legalMoves?` on a concrete
position costs.  `GenP.Prim` holds the two things the generator asks of a board that scan it, the list of its set bits
and the attack map of a side, and the functions of namespace `GenP` are those of `Wee/Model/MoveGen.lean` word for word over a
`Prim` (`firstOne b` written `(X.bits b).head?`, which it is by definition).  On `Prim.model` they are the model's own:
each lemma `f_fast` is proved by `rw [← Prim.model_eq_fast]; rfl`, and that `rfl` is the statement
`f s = GenP.f Prim.model s`, checked by Lean, not by reading.  `Prim.fast` lists the set bits by halving (`bitsFast`); a fact
about `legalMoves? s`, `s.isCheck`, `hash K s` … on a concrete `s` is rewritten with `legalMoves?_fast`, `isCheck_fast`,
`hash_fast` … before `decide +kernel`.
-/
namespace Wee
open Gen

namespace GenP

structure Prim where
  bits : UInt64 → List Nat
  att : PieceMap → Color → UInt64

/-- the model's `Helper.of` (the one twin whose name differs), the opponent's attack map taken from `X` -/
def helper (X : Prim) (s : State) : Helper :=
  let occ := s.pieces.occ
  { s, us := s.turn, own := s.pieces.colorOcc s.turn, opp := s.pieces.colorOcc s.turn.opp,
    occ, vac := ~~~occ, oppAtt := X.att s.pieces s.turn.opp }

def pawnMoves (X : Prim) (h : Helper) : Gen? := do
  let us := h.us
  let pawns := h.s.pieces.get us .pawn
  let back := backrankMask us
  let bwd := us.backward
  -- simple pushes
  let positions := shiftFwd us pawns &&& h.vac
  let promo := positions &&& back
  let nonPromo := positions &&& ~~~back
  let a ← (X.bits nonPromo).mapM fun t => do
    let o ← offset t 0 bwd
    pure (Move.byMoving us .pawn o t)
  let b ← (X.bits promo).mapM fun t => do
    let o ← offset t 0 bwd
    pure (promotionPieces.map fun pr => Move.byPromoting us .pawn o t pr)
  -- double pushes
  let home := pawns &&& homeRankMask us
  let dbl := shiftFwd us (shiftFwd us home &&& h.vac) &&& h.vac
  let c ← (X.bits dbl).mapM fun t => do
    let o1 ← offset t 0 bwd
    let o ← offset o1 0 bwd
    pure (Move.byMoving us .pawn o t)
  -- captures: (EAST, WEST) then (WEST, EAST)
  let side (east : Bool) : Gen? := do
    let invDf : Int := if east then -1 else 1
    let att := if east then shiftE (shiftFwd us pawns) else shiftW (shiftFwd us pawns)
    let withPromo := att &&& back &&& h.opp
    let noPromo := att &&& ~~~back &&& h.opp
    let epBB := att &&& (match h.s.ep with | some t => bit t | Option.none => 0)
    let x ← (X.bits noPromo).mapM fun t => do
      let o ← offset t invDf bwd
      let cap ← capturedAt h.s t
      pure (Move.byCapturing us .pawn o t cap)
    let y ← (X.bits withPromo).mapM fun t => do
      let o ← offset t invDf bwd
      let cap ← capturedAt h.s t
      pure (promotionPieces.map fun pr => Move.byCapturePromoting us .pawn o t cap pr)
    let z ← match (X.bits epBB).head? with
      | some t => do
        let o ← offset t invDf bwd
        pure [Move.byEnPassant us .pawn o t]
      | Option.none => pure []
    pure (x ++ y.flatten ++ z)
  let e ← side true
  let w ← side false
  pure (a ++ b.flatten ++ c ++ e ++ w)

def expandMoves (X : Prim) (h : Helper) (o : Nat) (dests : UInt64) (p : Piece) : List Move :=
  (X.bits dests).map fun t =>
    match capturedAt h.s t with
    | some cap => Move.byCapturing h.us p o t cap
    | Option.none => Move.byMoving h.us p o t

def knightMoves (X : Prim) (h : Helper) : List Move :=
  (X.bits (h.s.pieces.get h.us .knight)).flatMap fun sq =>
    expandMoves X h sq (knightAttacks sq &&& (h.opp ||| h.vac)) .knight

def kingMoves (X : Prim) (h : Helper) : List Move :=
  let steps := (X.bits (h.s.pieces.get h.us .king)).flatMap fun sq =>
    expandMoves X h sq (kingAttacks sq &&& (h.opp ||| h.vac) &&& ~~~h.oppAtt) .king
  let castles := Side.all.filterMap fun side =>
    if (h.s.castle h.us).forSide side then
      let blocks := h.occ &&& (castlePathMasks[side.idx]!)[h.us.idx]!
      let checks := h.oppAtt &&& (castleCheckMasks[side.idx]!)[h.us.idx]!
      if bbNone blocks && bbNone checks then some (Move.byCastling h.us side) else Option.none
    else Option.none
  steps ++ castles

def sliderMoves (X : Prim) (h : Helper) (p : Piece) (att : Nat → UInt64 → UInt64) : List Move :=
  (X.bits (h.s.pieces.get h.us p)).flatMap fun sq =>
    expandMoves X h sq (att sq h.occ &&& ~~~h.own) p

def pseudoLegalMoves (X : Prim) (s : State) : Gen? := do
  let h := helper X s
  let pm ← pawnMoves X h
  pure (pm ++ knightMoves X h ++ kingMoves X h ++ sliderMoves X h .bishop bishopAttacks
        ++ sliderMoves X h .rook rookAttacks ++ sliderMoves X h .queen queenAttacks)

def tryAsLegal (X : Prim) (s : State) (mv : Move) : Option (Option (Move × State)) :=
  match performMove s mv with
  | some (.ok next) =>
    let king := next.pieces.get s.turn .king
    if bbNone (king &&& X.att next.pieces next.turn) then some (some (mv, next)) else some Option.none
  | _ => Option.none

def legalMoves? (X : Prim) (s : State) : Option (List (Move × State)) := do
  let ps ← pseudoLegalMoves X s
  let rs ← ps.mapM (tryAsLegal X s)
  pure (rs.filterMap id)

/-- not of the generator's file: `Wee.hash` of `Model/Hash.lean`, the set bits taken from `X` -/
def hash (X : Prim) (K : Keys) (s : State) : UInt64 :=
  let h : UInt64 := Color.all.foldl (fun h c =>
    Piece.allIncludingNone.foldl (fun h p =>
      (X.bits (s.pieces.get c p)).foldl (fun h sq => h ^^^ K.piece sq c p) h) h) 0
  let h := h ^^^ K.turn s.turn
  let h := Color.all.foldl (fun h c =>
    Side.all.foldl (fun h side => if (s.castle c).forSide side then h ^^^ K.castle c side else h) h) h
  match epCapturable s with
  | some t => h ^^^ K.epFile (fileOf t)
  | Option.none => h

/-- not of the generator's file: `State.isCheck` (`isCheckB s.pieces s.turn`), the attack map taken from `X` -/
def isCheck (X : Prim) (s : State) : Bool := bbAny (s.pieces.get s.turn .king &&& X.att s.pieces s.turn.opp)

def Prim.model : Prim := ⟨bitsOf, coloredAttacks⟩

/-- `Fast.attackMapFast`'s first component over a bit enumerator -/
def attOver (bits : UInt64 → List Nat) (m : PieceMap) (c : Color) : UInt64 :=
  let occ := m.occ
  Piece.all.foldl (fun (acc : UInt64) p =>
    (bits (m.get c p)).foldl (fun (acc : UInt64) sq => acc ||| attacksOf c p sq occ) acc) 0 &&& ~~~m.colorOcc c

def Prim.fast : Prim := ⟨bitsFast, attOver bitsFast⟩

theorem Prim.model_eq_fast : Prim.model = Prim.fast := by
  unfold Prim.model Prim.fast
  rw [← bitsOf_eq_bitsFast]
  congr 1
  funext m c
  unfold coloredAttacks; rw [Fast.attackMap_eq]; rfl

end GenP
open GenP

theorem pseudoLegalMoves_fast (s : State) : pseudoLegalMoves s = GenP.pseudoLegalMoves Prim.fast s := by
  rw [← Prim.model_eq_fast]; rfl

theorem tryAsLegal_fast (s : State) (mv : Move) : tryAsLegal s mv = GenP.tryAsLegal Prim.fast s mv := by
  rw [← Prim.model_eq_fast]; rfl

theorem legalMoves?_fast (s : State) : legalMoves? s = GenP.legalMoves? Prim.fast s := by
  rw [← Prim.model_eq_fast]; rfl

theorem legalMoves_fast (s : State) : legalMoves s = (GenP.legalMoves? Prim.fast s).getD [] := by
  unfold legalMoves; rw [legalMoves?_fast]

theorem hash_fast (K : Keys) (s : State) : hash K s = GenP.hash Prim.fast K s := by
  rw [← Prim.model_eq_fast]; rfl

theorem isCheck_fast (s : State) : s.isCheck = GenP.isCheck Prim.fast s := by
  rw [← Prim.model_eq_fast]; rfl

end Wee
