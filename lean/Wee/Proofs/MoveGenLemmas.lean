import Wee.Proofs.MoveGenPieces
import Wee.Proofs.MoveGenPawns
import Wee.Proofs.ApplyGen
import Wee.Proofs.RulesNodup
/-!
# Helper lemmas for C01 (move generation): all pseudo-legal moves, the legality filter, no duplicates

The generators piece by piece are in `Wee/Proofs/MoveGenPieces.lean` and `Wee/Proofs/MoveGenPawns.lean` (over
`Wee/Proofs/MoveGenBasics.lean`); the reading of `abs s` off the bitboards and what `LegalPos` provides in
`Wee/Proofs/AbsLemmas.lean`; the facts about the rules alone in `Wee/Proofs/Rules.lean`.  The legality
filter is relative to `ApplyCorrect`, the interface to C02; `MoveFits` here is the one of C01, not `C02.MoveFits`.
-/
namespace Wee
open Gen
open Wee.C10 (DisjointBoard)

/-! ## all pseudo-legal moves -/

/-- the three slider generators, with the C09 reading of their lookups put in -/
theorem mem_bishopMoves (s : State) (hd : DisjointBoard s.pieces) (sm : Option Spec.SMove) :
    sm ∈ (sliderMoves (Helper.of s) .bishop bishopAttacks).map toSpecMove ↔
      ∃ sq, (abs s).at sq = some (absColor s.turn, Spec.Kind.bishop) ∧
        ∃ m ∈ Spec.pieceMovesFrom (abs s) (absColor s.turn) .bishop sq, sm = some m :=
  mem_sliderMoves s hd .bishop .bishop rfl (by decide) bishopAttacks (fun sq hsq occ t => C09_bishop sq hsq occ t) sm

theorem mem_rookMoves (s : State) (hd : DisjointBoard s.pieces) (sm : Option Spec.SMove) :
    sm ∈ (sliderMoves (Helper.of s) .rook rookAttacks).map toSpecMove ↔
      ∃ sq, (abs s).at sq = some (absColor s.turn, Spec.Kind.rook) ∧
        ∃ m ∈ Spec.pieceMovesFrom (abs s) (absColor s.turn) .rook sq, sm = some m :=
  mem_sliderMoves s hd .rook .rook rfl (by decide) rookAttacks (fun sq hsq occ t => C09_rook sq hsq occ t) sm

theorem mem_queenMoves (s : State) (hd : DisjointBoard s.pieces) (sm : Option Spec.SMove) :
    sm ∈ (sliderMoves (Helper.of s) .queen queenAttacks).map toSpecMove ↔
      ∃ sq, (abs s).at sq = some (absColor s.turn, Spec.Kind.queen) ∧
        ∃ m ∈ Spec.pieceMovesFrom (abs s) (absColor s.turn) .queen sq, sm = some m :=
  mem_sliderMoves s hd .queen .queen rfl (by decide) queenAttacks (fun sq hsq occ t => C09_queen sq hsq occ t) sm

/-- the king steps that `compute_king_moves` drops: non-castling king moves to a square in `opposing_attacks()` (in the
vocabulary of the rules: `DroppedKingStep` of `Wee/Props/C01.lean`, by `removedKingStep_iff` there) -/
def RemovedKingStep (s : State) (m : Spec.SMove) : Prop :=
  m.kind = Spec.Kind.king ∧ m.castle = Option.none ∧ test (coloredAttacks s.pieces s.turn.opp) m.dst = true

/-- **all pseudo-legal moves.**  On a placement without stacked pieces the generator returns, and its list read through
`toSpecMove` holds exactly the pseudo-legal moves of the rules on `abs s`, less the king steps into attack that
`compute_king_moves` drops at once (`RemovedKingStep`).  `hep` and `hking` are two clauses of `LegalPos` (`legalPos_ep`,
`legalPos_king`): the en-passant target is on the board and empty; a held castling right implies the king at home. -/
theorem pseudoLegal_spec (s : State) (hd : DisjointBoard s.pieces)
    (hep : ∀ e, s.ep = some e → e < 64 ∧ (abs s).at e = Option.none)
    (hking : ∀ side, (s.castle s.turn).forSide side = true →
      (abs s).at (Spec.kingHome (absColor s.turn)) = some (absColor s.turn, Spec.Kind.king)) :
    ∃ L, pseudoLegalMoves s = some L ∧ ∀ sm, sm ∈ L.map toSpecMove ↔
      ∃ m ∈ Spec.pseudoMoves (abs s), ¬ RemovedKingStep s m ∧ sm = some m := by
  obtain ⟨Lp, hp, hpm⟩ := pawnMoves_spec s hd hep
  refine ⟨_, by rw [pseudoLegalMoves_eq, hp]; rfl, fun sm => ?_⟩
  simp only [List.map_append, List.mem_append, hpm, mem_knightMoves s hd, kingMoves_eq, mem_kingStepList s hd,
    castleList_spec s hd hking, mem_bishopMoves s hd,
    mem_rookMoves s hd,
    mem_queenMoves s hd, mem_map_some, mem_pseudoMoves, abs_turn]
  constructor
  · rintro (((((⟨o, hat, m, hm, rfl⟩ | ⟨o, hat, m, hm, rfl⟩) | (⟨o, hat, m, hm, hna, rfl⟩ | ⟨m, hm, rfl⟩)) |
      ⟨o, hat, m, hm, rfl⟩) | ⟨o, hat, m, hm, rfl⟩) | ⟨o, hat, m, hm, rfl⟩)
    · exact ⟨m, .inl ⟨o, .pawn, hat, by rw [if_pos rfl]; exact hm⟩,
        fun h => (by have := h.1; rw [(attrs_pawnMovesFrom hm).1] at this; cases this), rfl⟩
    · exact ⟨m, .inl ⟨o, .knight, hat, by rw [if_neg (by decide)]; exact hm⟩,
        fun h => (by have := h.1; rw [(attrs_pieceMovesFrom hm).1] at this; cases this), rfl⟩
    · exact ⟨m, .inl ⟨o, .king, hat, by rw [if_neg (by decide)]; exact hm⟩,
        fun h => (by have := h.2.2; rw [hna] at this; cases this), rfl⟩
    · exact ⟨m, .inr hm, fun h => (attrs_castleMoves hm).2.1 h.2.1, rfl⟩
    · exact ⟨m, .inl ⟨o, .bishop, hat, by rw [if_neg (by decide)]; exact hm⟩,
        fun h => (by have := h.1; rw [(attrs_pieceMovesFrom hm).1] at this; cases this), rfl⟩
    · exact ⟨m, .inl ⟨o, .rook, hat, by rw [if_neg (by decide)]; exact hm⟩,
        fun h => (by have := h.1; rw [(attrs_pieceMovesFrom hm).1] at this; cases this), rfl⟩
    · exact ⟨m, .inl ⟨o, .queen, hat, by rw [if_neg (by decide)]; exact hm⟩,
        fun h => (by have := h.1; rw [(attrs_pieceMovesFrom hm).1] at this; cases this), rfl⟩
  · rintro ⟨m, ⟨o, k, hat, hm⟩ | hm, hnr, rfl⟩
    · cases k with
      | pawn => rw [if_pos rfl] at hm; exact .inl (.inl (.inl (.inl (.inl ⟨o, hat, m, hm, rfl⟩))))
      | knight => rw [if_neg (by decide)] at hm; exact .inl (.inl (.inl (.inl (.inr ⟨o, hat, m, hm, rfl⟩))))
      | bishop => rw [if_neg (by decide)] at hm; exact .inl (.inl (.inr ⟨o, hat, m, hm, rfl⟩))
      | rook => rw [if_neg (by decide)] at hm; exact .inl (.inr ⟨o, hat, m, hm, rfl⟩)
      | queen => rw [if_neg (by decide)] at hm; exact .inr ⟨o, hat, m, hm, rfl⟩
      | king =>
        rw [if_neg (by decide)] at hm
        refine .inl (.inl (.inl (.inr (.inl ⟨o, hat, m, hm, ?_, rfl⟩))))
        cases ht : test (coloredAttacks s.pieces s.turn.opp) m.dst with
        | false => rfl
        | true => exact absurd ⟨(attrs_pieceMovesFrom hm).1, (attrs_pieceMovesFrom hm).2.1, ht⟩ hnr
    · exact .inl (.inl (.inl (.inr (.inr ⟨m, hm, rfl⟩))))

/-! ## the legality filter -/

/-- What is known about a move handed to `State::by_performing_move` by the legality filter: it is one of
the generated pseudo-legal moves of `s`, it reads (through the accessors) as `sm`, and `sm` is a pseudo-legal
move of the specification in `abs s`. -/
structure MoveFits (s : State) (mv : Move) (sm : Spec.SMove) : Prop where
  generated : ∃ L, pseudoLegalMoves s = some L ∧ mv ∈ L
  reads : toSpecMove mv = some sm
  pseudo : sm ∈ Spec.pseudoMoves (abs s)

/-- **Interface to C02** (make-move correctness), taken as a hypothesis by the C01 theorems: on a legal,
disjoint position every generated pseudo-legal move is performed without error or panic, the successor
abstracts to the specification's successor, and it is again a disjoint placement. -/
def ApplyCorrect : Prop :=
  ∀ (s : State), LegalPos s = true → DisjointBoard s.pieces → ∀ (mv : Move) (sm : Spec.SMove), MoveFits s mv sm →
    ∃ next, performMove s mv = some (.ok next) ∧ abs next = Spec.applyMove (abs s) sm ∧
      DisjointBoard next.pieces

/-- `try_as_legal_move` on a move whose make-move is correct: kept iff legal by the rules -/
theorem tryAsLegal_spec (s : State) (mv : Move) (sm : Spec.SMove) (next : State)
    (hperf : performMove s mv = some (.ok next)) (habs : abs next = Spec.applyMove (abs s) sm)
    (hd' : DisjointBoard next.pieces) (hcol : sm.color = absColor s.turn) :
    tryAsLegal s mv = some (if Spec.isLegalAfter (abs s) sm = true then some (mv, next) else Option.none) := by
  have hturn : next.turn = s.turn.opp := by
    apply C10.absColor_inj
    have : (abs next).turn = (Spec.applyMove (abs s) sm).turn := by rw [habs]
    rw [abs_turn, applyMove_turn, hcol, ← C10.absColor_opp] at this
    exact this
  have hchk : bbNone (next.pieces.get s.turn .king &&& coloredAttacks next.pieces next.turn) =
      Spec.isLegalAfter (abs s) sm := by
    rw [bbNone_eq_not_bbAny, hturn]
    show (!isCheckB next.pieces s.turn) = _
    rw [C10.C10_check_closed next hd' s.turn, habs]
    rfl
  rw [tryAsLegal_of_ok hperf, hchk]

theorem tryAsLegal_fst (s : State) (mv : Move) (r : Move × State) (h : tryAsLegal s mv = some (some r)) :
    r.1 = mv := by
  obtain ⟨next, _, _, rfl⟩ := tryAsLegal_eq_some_some.1 h
  rfl

/-- a removed king step is illegal anyway -/
theorem removed_illegal (s : State) (hd : DisjointBoard s.pieces) (m : Spec.SMove)
    (hm : m ∈ Spec.pseudoMoves (abs s)) (hr : RemovedKingStep s m) : Spec.isLegalAfter (abs s) m = false := by
  obtain ⟨hkind, hcastle, htest⟩ := hr
  cases (Spec.pseudo_iff _ m).1 hm with
  | @piece o t k _ hat hatt hown =>
    dsimp only at hkind htest
    subst hkind
    have ht : t < 64 := attacksFrom_lt _ _ _ _ _ hatt
    obtain ⟨h1, h2⟩ := (test_oppAtt_iff s hd t).1 htest
    have hempty : (abs s).at t = Option.none := by
      cases hc : (abs s).at t with
      | none => rfl
      | some x =>
        obtain ⟨c', k'⟩ := x
        rcases specColor_cases s.turn c' with e | e
        · subst e; exact absurd hc (hown k')
        · rw [C10.absColor_opp] at e; subst e; exact absurd ⟨k', hc⟩ h2
    rw [hempty]
    exact kingStep_into_attack_illegal (abs s) (abs_size s) o t hat hempty ht h1
  | castleK => exact absurd hcastle (by simp)
  | castleQ => exact absurd hcastle (by simp)
  | _ => exact absurd hkind (by simp)

/-- **the whole generator**, membership form -/
theorem legalMoves_spec (AC : ApplyCorrect) (s : State) (hl : LegalPos s = true) (hd : DisjointBoard s.pieces) :
    ∃ ps L, pseudoLegalMoves s = some ps ∧ legalMoves? s = some L ∧ (L.map Prod.fst).Sublist ps ∧
      (∀ r ∈ L, ∃ sm, toSpecMove r.1 = some sm ∧ sm ∈ Spec.legalMoves (abs s) ∧
        abs r.2 = Spec.applyMove (abs s) sm ∧ DisjointBoard r.2.pieces) ∧
      (∀ sm, sm ∈ L.map (fun r => toSpecMove r.1) ↔ sm ∈ (Spec.legalMoves (abs s)).map some) := by
  obtain ⟨ps, hps, hmem⟩ := pseudoLegal_spec s hd (legalPos_ep s hl) (legalPos_king s hl)
  have hfit : ∀ mv ∈ ps, ∃ sm next, toSpecMove mv = some sm ∧ sm ∈ Spec.pseudoMoves (abs s) ∧
      ¬ RemovedKingStep s sm ∧
      tryAsLegal s mv = some (if Spec.isLegalAfter (abs s) sm = true then some (mv, next) else Option.none) ∧
      abs next = Spec.applyMove (abs s) sm ∧ DisjointBoard next.pieces := by
    intro mv hmv
    obtain ⟨sm, hsm, hnr, e⟩ := (hmem (toSpecMove mv)).1 (List.mem_map_of_mem hmv)
    obtain ⟨next, hperf, habs, hd'⟩ := AC s hl hd mv sm ⟨⟨ps, hps, hmv⟩, e, hsm⟩
    exact ⟨sm, next, e, hsm, hnr, tryAsLegal_spec s mv sm next hperf habs hd' ((Spec.pseudo_iff _ _).1 hsm).color, habs, hd'⟩
  obtain ⟨rs, hrs⟩ : ∃ rs, ps.mapM (tryAsLegal s) = some rs := ⟨_, mapM_eq_filterMap (tryAsLegal s) ps fun mv hmv =>
    let ⟨_, _, _, _, _, h, _⟩ := hfit mv hmv
    ⟨_, h⟩⟩
  have hL : legalMoves? s = some (rs.filterMap id) := legalMoves?_eq_some.2 ⟨ps, hps, rs, hrs, rfl⟩
  have hiff := mem_legalMoves?_iff hL hps
  have hr : ∀ r, r ∈ rs.filterMap id → ∃ sm, toSpecMove r.1 = some sm ∧
      sm ∈ Spec.legalMoves (abs s) ∧ abs r.2 = Spec.applyMove (abs s) sm ∧ DisjointBoard r.2.pieces := by
    intro r hrm
    obtain ⟨mv, hmv, ht⟩ := (hiff r).1 hrm
    obtain ⟨sm, next, e, hsm, _, htl, habs, hd'⟩ := hfit mv hmv
    rw [htl] at ht
    by_cases hleg : Spec.isLegalAfter (abs s) sm = true
    · rw [if_pos hleg] at ht
      cases ht
      exact ⟨sm, e, Spec.mem_legalMoves.2 ⟨hsm, hleg⟩, habs, hd'⟩
    · rw [if_neg hleg] at ht; cases ht
  refine ⟨ps, _, hps, hL, mapM_kept_sublist _ (tryAsLegal_fst s) ps rs hrs, hr, fun sm' => ?_⟩
  rw [mem_map_some]
  constructor
  · intro h
    obtain ⟨r, hrm, rfl⟩ := List.mem_map.1 h
    obtain ⟨sm, e, hleg, _, _⟩ := hr r hrm
    exact ⟨sm, hleg, e⟩
  · rintro ⟨m, hm, rfl⟩
    obtain ⟨hpm, hleg⟩ := Spec.mem_legalMoves.1 hm
    have hnr : ¬ RemovedKingStep s m := by
      intro hrem
      rw [removed_illegal s hd m hpm hrem] at hleg; cases hleg
    obtain ⟨mv, hmv, e⟩ := List.mem_map.1 ((hmem (some m)).2 ⟨m, hpm, hnr, rfl⟩)
    obtain ⟨sm'', next, e', _, _, htl, _, _⟩ := hfit mv hmv
    rw [e] at e'; cases e'
    exact List.mem_map.2 ⟨(mv, next), (hiff _).2 ⟨mv, hmv, by rw [htl, if_pos hleg]⟩, e⟩

/-! ## no duplicates — the model side -/

/-- a move that `expand_moves` builds for a non-pawn piece on `sq` with destinations `D` reads as the rules' step of that
kind from `sq` to a square of `D` (a capture of what stands there) -/
theorem mem_expand_spec (s : State) (p : Piece) (k : Spec.Kind) (hk : absKind p = some k) (hp : p ≠ Piece.pawn)
    (sq : Nat) (hsq : sq < 64) (D : UInt64) (x : Option Spec.SMove)
    (hx : x ∈ (expandMoves (Helper.of s) sq D p).map toSpecMove) :
    ∃ t, t < 64 ∧ test D t = true ∧ x = some (specStep (abs s) (absColor s.turn) k sq t) := by
  obtain ⟨m, hm, rfl⟩ := List.mem_map.1 hx
  obtain ⟨t, ht, hD, rfl⟩ := (mem_expandMoves _ _ _ _ _).1 hm
  exact ⟨t, ht, hD, toSpecMove_expandOne s s.turn p k hk hp sq t hsq ht⟩

theorem pieceGen_nodup (s : State) (p : Piece) (k : Spec.Kind) (hk : absKind p = some k) (hp : p ≠ Piece.pawn)
    (dests : Nat → UInt64) :
    (((bitsOf (s.pieces.get s.turn p)).flatMap fun sq =>
        expandMoves (Helper.of s) sq (dests sq) p).map toSpecMove).Nodup := by
  rw [List.map_flatMap]
  refine nodup_flatMap_of (bitsOf_nodup _) (fun sq hsq => ?_) fun sq hsq sq' hsq' x hx hy => ?_
  · have hsq64 := ((mem_bitsOf _ _).1 hsq).1
    unfold expandMoves
    rw [List.map_map, List.nodup_iff_pairwise_ne, List.pairwise_map]
    apply (bitsOf_nodup (dests sq)).imp_of_mem
    intro t t' ht ht' hne e
    have ht64 := ((mem_bitsOf _ _).1 ht).1
    have ht64' := ((mem_bitsOf _ _).1 ht').1
    simp only [Function.comp, helper_us, helper_s] at e
    have e1 := toSpecMove_expandOne s s.turn p k hk hp sq t hsq64 ht64
    have e2 := toSpecMove_expandOne s s.turn p k hk hp sq t' hsq64 ht64'
    have e3 : some (specStep (abs s) (absColor s.turn) k sq t) = some (specStep (abs s) (absColor s.turn) k sq t') :=
      (e1.symm.trans e).trans e2
    have := congrArg Spec.SMove.dst (Option.some.inj e3)
    rw [specStep_dst, specStep_dst] at this
    exact hne this
  · obtain ⟨t, _, _, e1⟩ := mem_expand_spec s p k hk hp sq ((mem_bitsOf _ _).1 hsq).1 _ x hx
    obtain ⟨t', _, _, e2⟩ := mem_expand_spec s p k hk hp sq' ((mem_bitsOf _ _).1 hsq').1 _ x hy
    rw [e1] at e2
    have := congrArg Spec.SMove.src (Option.some.inj e2)
    rw [specStep_src, specStep_src] at this
    exact this

theorem tag_piece (m : Spec.SMove) (hc : m.castle = Option.none) :
    tag (some m) = match m.kind with
      | .pawn => tag (some m) | .knight => 30 | .king => 40 | .bishop => 50 | .rook => 60 | .queen => 70 := by
  unfold tag
  cases hk : m.kind <;> simp [hk, hc]

/-- **no move twice.**  Under the hypotheses of `pseudoLegal_spec`, the generated list read through `toSpecMove` has no
duplicates: each generator's segment has none, and the `tag` of a move tells the segments apart. -/
theorem pseudoLegal_nodup (s : State) (hd : DisjointBoard s.pieces)
    (hep : ∀ e, s.ep = some e → e < 64 ∧ (abs s).at e = Option.none)
    (hking : ∀ side, (s.castle s.turn).forSide side = true →
      (abs s).at (Spec.kingHome (absColor s.turn)) = some (absColor s.turn, Spec.Kind.king))
    (L : List Move) (hL : pseudoLegalMoves s = some L) : (L.map toSpecMove).Nodup := by
  obtain ⟨Lp, hp, hpm, hpn, hpt⟩ := pawnMoves_spec s hd hep
  have e : L = Lp ++ knightMoves (Helper.of s) ++ kingMoves (Helper.of s) ++
      sliderMoves (Helper.of s) .bishop bishopAttacks ++ sliderMoves (Helper.of s) .rook rookAttacks ++
      sliderMoves (Helper.of s) .queen queenAttacks := by
    rw [pseudoLegalMoves_eq, hp] at hL
    exact (Option.some.inj hL).symm
  subst e
  have tkn : TagIn ((knightMoves (Helper.of s)).map toSpecMove) 30 31 := by
    apply tagIn_of_const; intro a ha
    obtain ⟨_, _, m, hm, rfl⟩ := (mem_knightMoves s hd a).1 ha
    rw [tag_piece m (attrs_pieceMovesFrom hm).2.1, (attrs_pieceMovesFrom hm).1]
  have tks : TagIn ((kingStepList (Helper.of s)).map toSpecMove) 40 41 := by
    apply tagIn_of_const; intro a ha
    obtain ⟨_, _, m, hm, _, rfl⟩ := (mem_kingStepList s hd a).1 ha
    rw [tag_piece m (attrs_pieceMovesFrom hm).2.1, (attrs_pieceMovesFrom hm).1]
  have tca : TagIn ((castleList (Helper.of s)).map toSpecMove) 41 42 := by
    apply tagIn_of_const; intro a ha
    rw [castleList_spec s hd hking] at ha
    obtain ⟨m, hm, rfl⟩ := List.mem_map.1 ha
    obtain ⟨h1, h2, _⟩ := attrs_castleMoves hm
    unfold tag
    cases hc : m.castle with
    | none => exact absurd hc h2
    | some b => simp [h1, hc]
  have tbi : TagIn ((sliderMoves (Helper.of s) .bishop bishopAttacks).map toSpecMove) 50 51 := by
    apply tagIn_of_const; intro a ha
    obtain ⟨_, _, m, hm, rfl⟩ := (mem_bishopMoves s hd a).1 ha
    rw [tag_piece m (attrs_pieceMovesFrom hm).2.1, (attrs_pieceMovesFrom hm).1]
  have tro : TagIn ((sliderMoves (Helper.of s) .rook rookAttacks).map toSpecMove) 60 61 := by
    apply tagIn_of_const; intro a ha
    obtain ⟨_, _, m, hm, rfl⟩ := (mem_rookMoves s hd a).1 ha
    rw [tag_piece m (attrs_pieceMovesFrom hm).2.1, (attrs_pieceMovesFrom hm).1]
  have tqu : TagIn ((sliderMoves (Helper.of s) .queen queenAttacks).map toSpecMove) 70 71 := by
    apply tagIn_of_const; intro a ha
    obtain ⟨_, _, m, hm, rfl⟩ := (mem_queenMoves s hd a).1 ha
    rw [tag_piece m (attrs_pieceMovesFrom hm).2.1, (attrs_pieceMovesFrom hm).1]
  have nkn : ((knightMoves (Helper.of s)).map toSpecMove).Nodup := pieceGen_nodup s .knight .knight rfl (by decide) _
  have nks : ((kingStepList (Helper.of s)).map toSpecMove).Nodup := pieceGen_nodup s .king .king rfl (by decide) _
  have nca : ((castleList (Helper.of s)).map toSpecMove).Nodup := by
    rw [castleList_spec s hd hking]; exact map_some_nodup (castleMoves_nodup _ _)
  have nbi : ((sliderMoves (Helper.of s) .bishop bishopAttacks).map toSpecMove).Nodup :=
    pieceGen_nodup s .bishop .bishop rfl (by decide) _
  have nro : ((sliderMoves (Helper.of s) .rook rookAttacks).map toSpecMove).Nodup :=
    pieceGen_nodup s .rook .rook rfl (by decide) _
  have nqu : ((sliderMoves (Helper.of s) .queen queenAttacks).map toSpecMove).Nodup :=
    pieceGen_nodup s .queen .queen rfl (by decide) _
  simp only [List.map_append, kingMoves_eq]
  have h1 := nodup_append_tag ⟨hpn, hpt⟩ ⟨nkn, tagIn_mono tkn (by decide : 24 ≤ 30) (Nat.le_refl _)⟩
    (by decide) (by decide)
  have h2 := nodup_append_tag ⟨nks, tks⟩ ⟨nca, tca⟩ (by decide) (by decide)
  have h3 := nodup_append_tag h1 ⟨h2.1, tagIn_mono h2.2 (by decide : 31 ≤ 40) (Nat.le_refl _)⟩ (by decide) (by decide)
  have h4 := nodup_append_tag h3 ⟨nbi, tagIn_mono tbi (by decide : 42 ≤ 50) (Nat.le_refl _)⟩ (by decide) (by decide)
  have h5 := nodup_append_tag h4 ⟨nro, tagIn_mono tro (by decide : 51 ≤ 60) (Nat.le_refl _)⟩ (by decide) (by decide)
  have h6 := nodup_append_tag h5 ⟨nqu, tagIn_mono tqu (by decide : 61 ≤ 70) (Nat.le_refl _)⟩ (by decide) (by decide)
  exact h6.1

/-! ## the legal move list -/

/-- `compute_legal_moves` does not panic; each entry carries a successor that is the rules' successor -/
theorem legalMoves_results_of (AC : ApplyCorrect) (s : State) (hl : LegalPos s = true) (hd : DisjointBoard s.pieces) :
    (∃ L, legalMoves? s = some L) ∧
    ∀ r ∈ legalMoves s, ∃ sm, toSpecMove r.1 = some sm ∧ sm ∈ Spec.legalMoves (abs s) ∧
      abs r.2 = Spec.applyMove (abs s) sm ∧ DisjointBoard r.2.pieces := by
  obtain ⟨ps, L, _, hL, _, hr, _⟩ := legalMoves_spec AC s hl hd
  refine ⟨⟨L, hL⟩, ?_⟩
  have : legalMoves s = L := legalMoves_of_some hL
  rw [this]; exact hr

/-- the list, each move read through all its accessors, is a permutation of the rules' legal moves without duplicates -/
theorem legalMoves_perm_of (AC : ApplyCorrect) (s : State) (hl : LegalPos s = true) (hd : DisjointBoard s.pieces) :
    ((legalMoves s).map (toSpecMove ∘ (·.1))).Perm ((Spec.legalMoves (abs s)).map some) ∧
    ((legalMoves s).map (toSpecMove ∘ (·.1))).Nodup := by
  obtain ⟨ps, L, hps, hL, hsub, _, hmem⟩ := legalMoves_spec AC s hl hd
  have hLe : legalMoves s = L := legalMoves_of_some hL
  have hnd : (L.map (toSpecMove ∘ (·.1))).Nodup := by
    have h1 : L.map (toSpecMove ∘ (·.1)) = (L.map Prod.fst).map toSpecMove := by rw [List.map_map]
    rw [h1]
    exact List.Nodup.sublist (hsub.map toSpecMove)
      (pseudoLegal_nodup s hd (legalPos_ep s hl) (legalPos_king s hl) ps hps)
  rw [hLe]
  exact ⟨(List.perm_ext_iff_of_nodup hnd (legalMoves_nodup (abs s))).2 hmem, hnd⟩

end Wee
