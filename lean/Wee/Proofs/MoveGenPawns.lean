import Wee.Proofs.MoveGenBasics
import Wee.Props.C09
/-!
# The move generator: pawns

`compute_pawn_moves` cut into its segments (`pawnPushSeg … pawnSideSeg`, `pawnMoves_eq`), the geometry of one pawn step, the
`tag` that tells the segments apart (for `Nodup`), each segment read through `toSpecMove` (`seg_spec`,
`pawnPushSeg_spec … pawnSideSeg_spec`), and `pawnMoves_spec`.
-/
namespace Wee
open Gen
open Wee.C10 (DisjointBoard)

/-- simple pushes that do not promote -/
def pawnPushSeg (h : Helper) : Gen? :=
  (bitsOf (shiftFwd h.us (h.s.pieces.get h.us .pawn) &&& h.vac &&& ~~~backrankMask h.us)).mapM fun t => do
    let o ← offset t 0 h.us.backward
    pure (Move.byMoving h.us .pawn o t)

/-- simple pushes that promote (one list of four moves per target) -/
def pawnPromoSeg (h : Helper) : Option (List (List Move)) :=
  (bitsOf (shiftFwd h.us (h.s.pieces.get h.us .pawn) &&& h.vac &&& backrankMask h.us)).mapM fun t => do
    let o ← offset t 0 h.us.backward
    pure (promotionPieces.map fun pr => Move.byPromoting h.us .pawn o t pr)

/-- double pushes -/
def pawnDoubleSeg (h : Helper) : Gen? :=
  (bitsOf (shiftFwd h.us (shiftFwd h.us (h.s.pieces.get h.us .pawn &&& homeRankMask h.us) &&& h.vac) &&& h.vac)).mapM
    fun t => do
      let o1 ← offset t 0 h.us.backward
      let o ← offset o1 0 h.us.backward
      pure (Move.byMoving h.us .pawn o t)

def pawnAtt (h : Helper) (east : Bool) : UInt64 :=
  if east then shiftE (shiftFwd h.us (h.s.pieces.get h.us .pawn)) else shiftW (shiftFwd h.us (h.s.pieces.get h.us .pawn))

def invDf (east : Bool) : Int := if east then -1 else 1

def pawnCapSeg (h : Helper) (east : Bool) : Gen? :=
  (bitsOf (pawnAtt h east &&& ~~~backrankMask h.us &&& h.opp)).mapM fun t => do
    let o ← offset t (invDf east) h.us.backward
    let cap ← capturedAt h.s t
    pure (Move.byCapturing h.us .pawn o t cap)

def pawnCapPromoSeg (h : Helper) (east : Bool) : Option (List (List Move)) :=
  (bitsOf (pawnAtt h east &&& backrankMask h.us &&& h.opp)).mapM fun t => do
    let o ← offset t (invDf east) h.us.backward
    let cap ← capturedAt h.s t
    pure (promotionPieces.map fun pr => Move.byCapturePromoting h.us .pawn o t cap pr)

def epBB (h : Helper) (east : Bool) : UInt64 :=
  pawnAtt h east &&& (match h.s.ep with | some t => bit t | Option.none => 0)

def pawnEpSeg (h : Helper) (east : Bool) : Gen? :=
  match firstOne (epBB h east) with
  | some t => do
    let o ← offset t (invDf east) h.us.backward
    pure [Move.byEnPassant h.us .pawn o t]
  | Option.none => pure []

def pawnSideSeg (h : Helper) (east : Bool) : Gen? := do
  let x ← pawnCapSeg h east
  let y ← pawnCapPromoSeg h east
  let z ← match firstOne (epBB h east) with
    | some t => do
      let o ← offset t (invDf east) h.us.backward
      pure [Move.byEnPassant h.us .pawn o t]
    | Option.none => pure []
  pure (x ++ y.flatten ++ z)

theorem pawnSideSeg_eq (h : Helper) (east : Bool) : pawnSideSeg h east = (do
    let x ← pawnCapSeg h east
    let y ← pawnCapPromoSeg h east
    let z ← pawnEpSeg h east
    pure (x ++ y.flatten ++ z)) := by
  unfold pawnSideSeg pawnEpSeg
  cases pawnCapSeg h east with
  | none => rfl
  | some x =>
    cases pawnCapPromoSeg h east with
    | none => rfl
    | some y =>
      cases firstOne (epBB h east) with
      | none => rfl
      | some t =>
        dsimp only
        cases offset t (invDf east) h.us.backward <;> rfl

theorem pawnMoves_eq (h : Helper) : pawnMoves h = (do
    let a ← pawnPushSeg h
    let b ← pawnPromoSeg h
    let c ← pawnDoubleSeg h
    let e ← pawnSideSeg h true
    let w ← pawnSideSeg h false
    pure (a ++ b.flatten ++ c ++ e ++ w)) := by
  unfold pawnMoves pawnPushSeg pawnPromoSeg pawnDoubleSeg pawnSideSeg pawnCapSeg pawnCapPromoSeg epBB pawnAtt invDf
  rfl

/-! ### geometry of one pawn step -/

theorem bwd_eq (c : Color) : c.backward = -(absColor c).fwd := by cases c <;> rfl


theorem offset_back_iff (c : Color) (df : Int) {o t : Nat} (ho : o < 64) (ht : t < 64) :
    offset t (-df) c.backward = some o ↔ Spec.step o df (absColor c).fwd = some t := by
  rw [offset_eq_step, bwd_eq, step_rev_iff ho ht]

theorem test_shiftFwd (c : Color) (b : UInt64) (t : Nat) (ht : t < 64) :
    test (shiftFwd c b) t = true ↔ ∃ o, test b o = true ∧ Spec.step o 0 (absColor c).fwd = some t := by
  cases c
  · exact (C09_shift_step b t ht).2.2.1
  · exact (C09_shift_step b t ht).2.2.2

theorem test_backrank (c : Color) (t : Nat) (ht : t < 64) :
    test (backrankMask c) t = decide (t / 8 = Spec.lastRank (absColor c)) := by
  have hw : ∀ j : Fin 64, test (backrankMask .white) j.val = decide (j.val / 8 = 7) := by decide +kernel
  have hb : ∀ j : Fin 64, test (backrankMask .black) j.val = decide (j.val / 8 = 0) := by decide +kernel
  cases c
  · exact hw ⟨t, ht⟩
  · exact hb ⟨t, ht⟩

theorem test_homeRank (c : Color) (t : Nat) (ht : t < 64) :
    test (homeRankMask c) t = decide (t / 8 = Spec.homeRank (absColor c)) := by
  have hw : ∀ j : Fin 64, test (homeRankMask .white) j.val = decide (j.val / 8 = 1) := by decide +kernel
  have hb : ∀ j : Fin 64, test (homeRankMask .black) j.val = decide (j.val / 8 = 6) := by decide +kernel
  cases c
  · exact hw ⟨t, ht⟩
  · exact hb ⟨t, ht⟩

theorem invDf_eq (east : Bool) : invDf east = -capDf east := by cases east <;> rfl

theorem test_pawnAtt (h : Helper) (east : Bool) (t : Nat) (ht : t < 64) :
    test (pawnAtt h east) t = true ↔
      ∃ o, test (h.s.pieces.get h.us .pawn) o = true ∧ Spec.step o (capDf east) (absColor h.us).fwd = some t := by
  have key : ∀ df : Int, (∃ m, (∃ o, test (h.s.pieces.get h.us .pawn) o = true ∧
      Spec.step o 0 (absColor h.us).fwd = some m) ∧ Spec.step m df 0 = some t) ↔
      ∃ o, test (h.s.pieces.get h.us .pawn) o = true ∧ Spec.step o df (absColor h.us).fwd = some t := by
    intro df
    constructor
    · rintro ⟨m, ⟨o, ho, h1⟩, h2⟩; exact ⟨o, ho, (step_comp o t df _).1 ⟨m, h1, h2⟩⟩
    · rintro ⟨o, ho, h1⟩
      obtain ⟨m, h2, h3⟩ := (step_comp o t df _).2 h1
      exact ⟨m, ⟨o, ho, h2⟩, h3⟩
  unfold pawnAtt capDf
  cases east
  · simp only [Bool.false_eq_true, if_false]
    rw [(C09_shift_step _ t ht).2.1, ← key]
    apply exists_congr; intro m
    apply and_congr_left; intro hm
    exact test_shiftFwd _ _ m (step_src_lt0 hm)
  · simp only [if_true]
    rw [(C09_shift_step _ t ht).1, ← key]
    apply exists_congr; intro m
    apply and_congr_left; intro hm
    exact test_shiftFwd _ _ m (step_src_lt0 hm)

/-! ### tags: a number that tells the generator segments apart -/

/-- which segment of `compute_psuedo_legal_moves_into` produces a move like this one (increasing in generation order) -/
def tag : Option Spec.SMove → Nat
  | Option.none => 0
  | some m =>
    match m.kind with
    | .pawn =>
      if m.dbl then 3
      else (if m.dst % 8 = m.src % 8 then 0 else if m.src % 8 < m.dst % 8 then 10 else 20) +
           (if m.ep then 3 else if m.promo.isSome then 2 else 1)
    | .knight => 30
    | .king => if m.castle.isSome then 41 else 40
    | .bishop => 50
    | .rook => 60
    | .queen => 70

def TagIn (l : List (Option Spec.SMove)) (lo hi : Nat) : Prop := ∀ a ∈ l, lo ≤ tag a ∧ tag a < hi

theorem nodup_append_tag {l1 l2 : List (Option Spec.SMove)} {lo mid hi : Nat}
    (h1 : l1.Nodup ∧ TagIn l1 lo mid) (h2 : l2.Nodup ∧ TagIn l2 mid hi) (hlm : lo ≤ mid) (hmh : mid ≤ hi) :
    (l1 ++ l2).Nodup ∧ TagIn (l1 ++ l2) lo hi := by
  refine ⟨List.nodup_append.2 ⟨h1.1, h2.1, ?_⟩, ?_⟩
  · intro a ha b hb e
    subst e
    have := (h1.2 a ha).2
    have := (h2.2 a hb).1
    omega
  · intro a ha
    rcases List.mem_append.1 ha with ha | ha
    · have := h1.2 a ha; omega
    · have := h2.2 a ha; omega

theorem tagIn_of_const {l : List (Option Spec.SMove)} (i : Nat) (h : ∀ a ∈ l, tag a = i) : TagIn l i (i + 1) := by
  intro a ha; rw [h a ha]; omega

theorem tagIn_mono {l : List (Option Spec.SMove)} {lo hi lo' hi' : Nat} (h : TagIn l lo hi) (h1 : lo' ≤ lo)
    (h2 : hi ≤ hi') : TagIn l lo' hi' := by
  intro a ha; have := h a ha; omega

/-- no duplicates in a loop over the ones of a mask whose `t`-th body only yields moves with destination `t` -/
theorem seg_nodup {β : Type} (M : UInt64) (f : Nat → Option β) (g : β → List (Option Spec.SMove))
    (h1 : ∀ t y, t < 64 → test M t = true → f t = some y → (g y).Nodup)
    (h2 : ∀ t y, t < 64 → test M t = true → f t = some y → ∀ sm ∈ g y, ∃ m, sm = some m ∧ m.dst = t) :
    (((bitsOf M).filterMap f).flatMap g).Nodup := by
  rw [List.nodup_iff_pairwise_ne, List.pairwise_flatMap]
  constructor
  · intro y hy
    obtain ⟨t, ht, hft⟩ := List.mem_filterMap.1 hy
    obtain ⟨ht64, htM⟩ := (mem_bitsOf M t).1 ht
    exact List.nodup_iff_pairwise_ne.1 (h1 t y ht64 htM hft)
  · rw [List.pairwise_filterMap]
    apply (bitsOf_nodup M).imp_of_mem
    intro t t' ht ht' hne y hy y' hy' x hx x' hx' e
    subst e
    obtain ⟨ht64, htM⟩ := (mem_bitsOf M t).1 ht
    obtain ⟨ht64', htM'⟩ := (mem_bitsOf M t').1 ht'
    obtain ⟨m, e1, d1⟩ := h2 t y ht64 htM hy x hx
    obtain ⟨m', e2, d2⟩ := h2 t' y' ht64' htM' hy' x hx'
    rw [e1] at e2; cases e2
    exact hne (d1.symm.trans d2)

theorem promoMap_nodup (m : Spec.SMove) :
    (Spec.promoKinds.map fun k => some { m with promo := some k }).Nodup := by
  rw [List.nodup_iff_pairwise_ne, List.pairwise_map]
  have : Spec.promoKinds.Nodup := by decide
  apply this.imp
  intro k k' hne e
  apply hne
  have := congrArg Spec.SMove.promo (Option.some.inj e)
  exact Option.some.inj this

/-! ### the segments of `compute_pawn_moves` -/

/-- a loop over the ones of a mask whose body cannot fail -/
theorem mapM_seg {β : Type} (M : UInt64) (f : Nat → Option β)
    (hf : ∀ t, t < 64 → test M t = true → ∃ y, f t = some y) :
    (bitsOf M).mapM f = some ((bitsOf M).filterMap f) ∧
    ∀ y, y ∈ (bitsOf M).filterMap f ↔ ∃ t, t < 64 ∧ test M t = true ∧ f t = some y := by
  refine ⟨mapM_eq_filterMap f _ (fun t ht => ?_), fun y => ?_⟩
  · obtain ⟨h1, h2⟩ := (mem_bitsOf M t).1 ht; exact hf t h1 h2
  · simp only [List.mem_filterMap, mem_bitsOf, and_assoc]

/-- **one segment of `compute_pawn_moves`**: a loop over the ones of a mask `M`.  If bit `t` is set exactly when
some witness `w` (the origin, with whatever else the rule mentions) satisfies `R w t`, and the body at such a `t`
yields something that reads, through `g`, as the rule's moves `G w t`, all with destination `t`, then the loop never
fails and reads as the union of the `G w t`, without duplicates. -/
theorem seg_spec {β ω : Type} (M : UInt64) (f : Nat → Option β) (g : β → List (Option Spec.SMove))
    (R : ω → Nat → Prop) (G : ω → Nat → List (Option Spec.SMove)) {Q : Option Spec.SMove → Prop}
    (hM : ∀ t, t < 64 → (test M t = true ↔ ∃ w, R w t))
    (hlt : ∀ w t, R w t → t < 64)
    (hf : ∀ w t, R w t → ∃ y, f t = some y ∧ g y = G w t)
    (hnd : ∀ w t, R w t → (G w t).Nodup)
    (hdst : ∀ w t, R w t → ∀ sm ∈ G w t, ∃ m, sm = some m ∧ m.dst = t)
    (hQ : ∀ sm, Q sm ↔ ∃ w t, R w t ∧ sm ∈ G w t) :
    ∃ L, (bitsOf M).mapM f = some L ∧ (∀ sm, sm ∈ L.flatMap g ↔ Q sm) ∧ (L.flatMap g).Nodup := by
  have key : ∀ t y, t < 64 → test M t = true → f t = some y → ∃ w, R w t ∧ g y = G w t := by
    intro t y ht hT hy
    obtain ⟨w, hw⟩ := (hM t ht).1 hT
    obtain ⟨y', hy', e⟩ := hf w t hw
    rw [hy] at hy'; cases hy'
    exact ⟨w, hw, e⟩
  obtain ⟨h1, h2⟩ := mapM_seg M f (fun t ht hT => by
    obtain ⟨w, hw⟩ := (hM t ht).1 hT
    obtain ⟨y, hy, _⟩ := hf w t hw
    exact ⟨y, hy⟩)
  refine ⟨_, h1, fun sm => ?_, seg_nodup M f g ?_ ?_⟩
  · rw [hQ]
    simp only [List.mem_flatMap, h2]
    constructor
    · rintro ⟨y, ⟨t, ht, hT, hy⟩, hsm⟩
      obtain ⟨w, hw, e⟩ := key t y ht hT hy
      exact ⟨w, t, hw, e ▸ hsm⟩
    · rintro ⟨w, t, hw, hsm⟩
      obtain ⟨y, hy, e⟩ := hf w t hw
      exact ⟨y, ⟨t, hlt w t hw, (hM t (hlt w t hw)).2 ⟨w, hw⟩, hy⟩, e ▸ hsm⟩
  · intro t y ht hT hy
    obtain ⟨w, hw, e⟩ := key t y ht hT hy
    exact e ▸ hnd w t hw
  · intro t y ht hT hy
    obtain ⟨w, hw, e⟩ := key t y ht hT hy
    exact e ▸ hdst w t hw

theorem dbl_single {o t : Nat} {df dr : Int} (hdr : dr = 1 ∨ dr = -1) (h : Spec.step o df dr = some t) :
    Move.dbl .pawn o t = false := by
  have := (step_coords h).1
  unfold Move.dbl absDist rankOf
  simp only [beq_self_eq_true, Bool.true_and, decide_eq_false_iff_not]
  split <;> omega

theorem dbl_double {o t1 t2 : Nat} {dr : Int} (hdr : dr = 1 ∨ dr = -1) (h1 : Spec.step o 0 dr = some t1)
    (h2 : Spec.step t1 0 dr = some t2) : Move.dbl .pawn o t2 = true := by
  have := (step_coords h1).1
  have := (step_coords h2).1
  unfold Move.dbl absDist rankOf
  simp only [beq_self_eq_true, Bool.true_and, decide_eq_true_eq]
  split <;> omega

theorem offset_back0 (c : Color) {o t : Nat} (ho : o < 64) (ht : t < 64) :
    offset t 0 c.backward = some o ↔ Spec.step o 0 (absColor c).fwd = some t := by
  have := offset_back_iff c 0 ho ht
  simpa using this

theorem test_vac_iff (s : State) (t : Nat) (ht : t < 64) :
    test (Helper.of s).vac t = true ↔ (abs s).occupied t = false := by
  rw [helper_vac, test_not _ _ ht, test_occ_abs]; simp

/-- an own pawn, on the bitboard and on the mailbox -/
theorem test_pawn_iff {s : State} (hd : DisjointBoard s.pieces) (o : Nat) :
    test (s.pieces.get s.turn .pawn) o = true ↔ (abs s).at o = some (absColor s.turn, Spec.Kind.pawn) :=
  ⟨at_of_test hd o s.turn .pawn .pawn rfl, test_of_at hd o s.turn .pawn .pawn rfl⟩

theorem pawnPushSeg_spec (s : State) (hd : DisjointBoard s.pieces) :
    ∃ L, pawnPushSeg (Helper.of s) = some L ∧ (∀ sm, sm ∈ L.map toSpecMove ↔
      ∃ o t, (abs s).at o = some (absColor s.turn, Spec.Kind.pawn) ∧
        Spec.step o 0 (absColor s.turn).fwd = some t ∧ (abs s).occupied t = false ∧
        t / 8 ≠ Spec.lastRank (absColor s.turn) ∧ sm = some (pawnBase (absColor s.turn) o t Option.none)) ∧
      (L.map toSpecMove).Nodup := by
  unfold pawnPushSeg
  simp only [← flatMap_single, helper_us, helper_s]
  refine seg_spec _ _ _
    (fun o t => (abs s).at o = some (absColor s.turn, Spec.Kind.pawn) ∧
      Spec.step o 0 (absColor s.turn).fwd = some t ∧ (abs s).occupied t = false ∧
      t / 8 ≠ Spec.lastRank (absColor s.turn))
    (fun o t => [some (pawnBase (absColor s.turn) o t Option.none)])
    (fun t ht => ?_) (fun o t h => step_lt h.2.1) (fun o t h => ?_) (fun _ _ _ => List.pairwise_singleton _ _)
    (fun _ _ _ sm h => ⟨_, List.mem_singleton.1 h, rfl⟩) (fun sm => by simp only [List.mem_singleton, and_assoc])
  · rw [test_and, test_and, Bool.and_eq_true, Bool.and_eq_true, test_shiftFwd _ _ t ht, test_vac_iff s t ht,
      test_not _ _ ht, test_backrank _ t ht]
    simp only [test_pawn_iff hd, decide_eq_false_iff_not, Bool.not_eq_true']
    exact ⟨fun ⟨⟨⟨o, a, b⟩, c⟩, d⟩ => ⟨o, a, b, c, d⟩, fun ⟨o, a, b, c, d⟩ => ⟨⟨⟨o, a, b⟩, c⟩, d⟩⟩
  · obtain ⟨hat, hst, _, _⟩ := h
    have ht := step_lt hst
    refine ⟨_, by rw [(offset_back0 s.turn (at_lt hat) ht).2 hst]; rfl, ?_⟩
    rw [toSpecMove_byMoving s.turn .pawn .pawn rfl o t (at_lt hat) ht, dbl_single (fwd_cases _) hst]
    rfl

theorem promotionPieces_eq : promotionPieces = [.queen, .rook, .bishop, .knight] := by decide

/-- the four promotion moves of one pawn move, read through `toSpecMove` -/
theorem promoMoves_spec (mv : Piece → Move) (m : Spec.SMove)
    (h : ∀ r kr, absKind r = some kr → toSpecMove (mv r) = some { m with promo := some kr }) :
    (promotionPieces.map mv).map toSpecMove = Spec.promoKinds.map fun k => some { m with promo := some k } := by
  rw [promotionPieces_eq]
  simp only [List.map_cons, List.map_nil, Spec.promoKinds]
  rw [h .queen .queen rfl, h .rook .rook rfl, h .bishop .bishop rfl, h .knight .knight rfl]

theorem pawnPromoSeg_spec (s : State) (hd : DisjointBoard s.pieces) :
    ∃ L, pawnPromoSeg (Helper.of s) = some L ∧ (∀ sm, sm ∈ L.flatten.map toSpecMove ↔
      ∃ o t, (abs s).at o = some (absColor s.turn, Spec.Kind.pawn) ∧
        Spec.step o 0 (absColor s.turn).fwd = some t ∧ (abs s).occupied t = false ∧
        t / 8 = Spec.lastRank (absColor s.turn) ∧
        ∃ k ∈ Spec.promoKinds, sm = some { pawnBase (absColor s.turn) o t Option.none with promo := some k }) ∧
      (L.flatten.map toSpecMove).Nodup := by
  unfold pawnPromoSeg
  simp only [flatten_map_eq_flatMap, helper_us, helper_s]
  refine seg_spec _ _ _
    (fun o t => (abs s).at o = some (absColor s.turn, Spec.Kind.pawn) ∧
      Spec.step o 0 (absColor s.turn).fwd = some t ∧ (abs s).occupied t = false ∧
      t / 8 = Spec.lastRank (absColor s.turn))
    (fun o t => Spec.promoKinds.map fun k =>
      some { pawnBase (absColor s.turn) o t Option.none with promo := some k })
    (fun t ht => ?_) (fun o t h => step_lt h.2.1) (fun o t h => ?_) (fun _ _ _ => promoMap_nodup _)
    (fun _ _ _ sm h => ?_) (fun sm => by simp only [mem_map_eq, and_assoc])
  · rw [test_and, test_and, Bool.and_eq_true, Bool.and_eq_true, test_shiftFwd _ _ t ht, test_vac_iff s t ht,
      test_backrank _ t ht]
    simp only [test_pawn_iff hd, decide_eq_true_eq]
    exact ⟨fun ⟨⟨⟨o, a, b⟩, c⟩, d⟩ => ⟨o, a, b, c, d⟩, fun ⟨o, a, b, c, d⟩ => ⟨⟨⟨o, a, b⟩, c⟩, d⟩⟩
  · obtain ⟨hat, hst, _, _⟩ := h
    have ht := step_lt hst
    exact ⟨_, by rw [(offset_back0 s.turn (at_lt hat) ht).2 hst]; rfl,
      promoMoves_spec _ _ fun r kr hr => by
        rw [toSpecMove_byPromoting s.turn .pawn .pawn rfl o t r kr hr (at_lt hat) ht,
          dbl_single (fwd_cases _) hst]
        rfl⟩
  · obtain ⟨k, _, e⟩ := List.mem_map.1 h
    exact ⟨_, e.symm, rfl⟩

theorem pawnDoubleSeg_spec (s : State) (hd : DisjointBoard s.pieces) :
    ∃ L, pawnDoubleSeg (Helper.of s) = some L ∧ (∀ sm, sm ∈ L.map toSpecMove ↔
      ∃ o t1 t2, (abs s).at o = some (absColor s.turn, Spec.Kind.pawn) ∧
        o / 8 = Spec.homeRank (absColor s.turn) ∧
        Spec.step o 0 (absColor s.turn).fwd = some t1 ∧ Spec.step t1 0 (absColor s.turn).fwd = some t2 ∧
        (abs s).occupied t1 = false ∧ (abs s).occupied t2 = false ∧
        sm = some { pawnBase (absColor s.turn) o t2 Option.none with dbl := true }) ∧
      (L.map toSpecMove).Nodup := by
  unfold pawnDoubleSeg
  simp only [← flatMap_single, helper_us, helper_s]
  refine seg_spec _ _ _
    (fun (w : Nat × Nat) t => (abs s).at w.1 = some (absColor s.turn, Spec.Kind.pawn) ∧
      w.1 / 8 = Spec.homeRank (absColor s.turn) ∧
      Spec.step w.1 0 (absColor s.turn).fwd = some w.2 ∧ Spec.step w.2 0 (absColor s.turn).fwd = some t ∧
      (abs s).occupied w.2 = false ∧ (abs s).occupied t = false)
    (fun w t => [some { pawnBase (absColor s.turn) w.1 t Option.none with dbl := true }])
    (fun t ht => ?_) (fun w t h => step_lt h.2.2.2.1) (fun w t h => ?_) (fun _ _ _ => List.pairwise_singleton _ _)
    (fun _ _ _ sm h => ⟨_, List.mem_singleton.1 h, rfl⟩)
    (fun sm => by simp only [List.mem_singleton, and_assoc, Prod.exists])
  · rw [test_and, Bool.and_eq_true, test_shiftFwd _ _ t ht, test_vac_iff s t ht]
    constructor
    · rintro ⟨⟨t1, h1, h2⟩, hv2⟩
      have ht1 := test_lt _ _ h1
      rw [test_and, Bool.and_eq_true, test_shiftFwd _ _ t1 ht1, test_vac_iff s t1 ht1] at h1
      obtain ⟨⟨o, ho, hst⟩, hv⟩ := h1
      rw [test_and, Bool.and_eq_true] at ho
      rw [test_homeRank _ o (test_lt _ _ ho.1), decide_eq_true_eq, test_pawn_iff hd] at ho
      exact ⟨(o, t1), ho.1, ho.2, hst, h2, hv, hv2⟩
    · rintro ⟨⟨o, t1⟩, hat, hr, hst, h2, hv, hv2⟩
      have ht1 := step_lt hst
      refine ⟨⟨t1, ?_, h2⟩, hv2⟩
      rw [test_and, Bool.and_eq_true, test_shiftFwd _ _ t1 ht1, test_vac_iff s t1 ht1]
      refine ⟨⟨o, ?_, hst⟩, hv⟩
      rw [test_and, Bool.and_eq_true, test_homeRank _ o (at_lt hat), decide_eq_true_eq, test_pawn_iff hd]
      exact ⟨hat, hr⟩
  · obtain ⟨hat, _, hst1, hst2, _, _⟩ := h
    have ht := step_lt hst2
    refine ⟨_, by rw [(offset_back0 s.turn (step_lt hst1) ht).2 hst2, Option.bind_eq_bind, Option.bind_some,
      (offset_back0 s.turn (at_lt hat) (step_lt hst1)).2 hst1]; rfl, ?_⟩
    rw [toSpecMove_byMoving s.turn .pawn .pawn rfl w.1 t (at_lt hat) ht, dbl_double (fwd_cases _) hst1 hst2]
    rfl

theorem offset_cap (c : Color) (east : Bool) {o t : Nat} (ho : o < 64) (ht : t < 64) :
    offset t (invDf east) c.backward = some o ↔ Spec.step o (capDf east) (absColor c).fwd = some t := by
  rw [invDf_eq]; exact offset_back_iff c (capDf east) ho ht

/-- bit `t` of `opposing_pieces()`: an opposing piece stands on `t` -/
theorem test_opp_iff {s : State} (hd : DisjointBoard s.pieces) (t : Nat) :
    test (Helper.of s).opp t = true ↔ ∃ k, (abs s).at t = some ((absColor s.turn).opp, k) := by
  rw [helper_opp, test_own_iff hd, C10.absColor_opp]

/-- what `piece_at(t).unwrap().piece()` returns on an opposing piece -/
theorem capturedAt_of_at {s : State} (hd : DisjointBoard s.pieces) (t : Nat) (c : Color) (k : Spec.Kind)
    (h : (abs s).at t = some (absColor c, k)) : ∃ q, absKind q = some k ∧ capturedAt s t = some q := by
  obtain ⟨q, hq, htq⟩ := (at_iff hd t c k).1 h
  exact ⟨q, hq, capturedAt_some s t c q ((C10.pieceAt_iff hd t c q).2 htq)⟩

/-- the body of the two capture loops up to the constructor: origin and captured piece -/
theorem capBody {s : State} (hd : DisjointBoard s.pieces) (east : Bool) {β : Type} (mk : Nat → Piece → β)
    {o t : Nat} {k : Spec.Kind} (hat : (abs s).at o = some (absColor s.turn, Spec.Kind.pawn))
    (hst : Spec.step o (capDf east) (absColor s.turn).fwd = some t)
    (hatt : (abs s).at t = some ((absColor s.turn).opp, k)) :
    ∃ q, absKind q = some k ∧ (do
      let o ← offset t (invDf east) s.turn.backward
      let cap ← capturedAt s t
      pure (mk o cap) : Option β) = some (mk o q) := by
  rw [← C10.absColor_opp] at hatt
  obtain ⟨q, hq, hcap⟩ := capturedAt_of_at hd t s.turn.opp k hatt
  exact ⟨q, hq, by rw [(offset_cap s.turn east (at_lt hat) (step_lt hst)).2 hst, hcap]; rfl⟩

/-- bit `t` of the mask of a capture loop -/
theorem test_capMask {s : State} (hd : DisjointBoard s.pieces) (east : Bool) (rank : UInt64) (P : Prop) (t : Nat)
    (ht : t < 64) (hrank : test rank t = true ↔ P) :
    test (pawnAtt (Helper.of s) east &&& rank &&& (Helper.of s).opp) t = true ↔
      ∃ w : Nat × Spec.Kind, (abs s).at w.1 = some (absColor s.turn, Spec.Kind.pawn) ∧
        Spec.step w.1 (capDf east) (absColor s.turn).fwd = some t ∧
        (abs s).at t = some ((absColor s.turn).opp, w.2) ∧ P := by
  rw [test_and, test_and, Bool.and_eq_true, Bool.and_eq_true, test_pawnAtt _ _ t ht, test_opp_iff hd, hrank]
  simp only [helper_us, helper_s, test_pawn_iff hd]
  exact ⟨fun ⟨⟨⟨o, a, b⟩, c⟩, k, d⟩ => ⟨(o, k), a, b, d, c⟩, fun ⟨⟨o, k⟩, a, b, d, c⟩ => ⟨⟨⟨o, a, b⟩, c⟩, k, d⟩⟩

theorem pawnCapSeg_spec (s : State) (hd : DisjointBoard s.pieces) (east : Bool) :
    ∃ L, pawnCapSeg (Helper.of s) east = some L ∧ (∀ sm, sm ∈ L.map toSpecMove ↔
      ∃ o t k, (abs s).at o = some (absColor s.turn, Spec.Kind.pawn) ∧
        Spec.step o (capDf east) (absColor s.turn).fwd = some t ∧
        (abs s).at t = some ((absColor s.turn).opp, k) ∧
        t / 8 ≠ Spec.lastRank (absColor s.turn) ∧ sm = some (pawnBase (absColor s.turn) o t (some k))) ∧
      (L.map toSpecMove).Nodup := by
  unfold pawnCapSeg
  simp only [← flatMap_single, helper_us, helper_s]
  refine seg_spec _ _ _
    (fun (w : Nat × Spec.Kind) t => (abs s).at w.1 = some (absColor s.turn, Spec.Kind.pawn) ∧
      Spec.step w.1 (capDf east) (absColor s.turn).fwd = some t ∧
      (abs s).at t = some ((absColor s.turn).opp, w.2) ∧ t / 8 ≠ Spec.lastRank (absColor s.turn))
    (fun w t => [some (pawnBase (absColor s.turn) w.1 t (some w.2))])
    (fun t ht => test_capMask hd east _ _ t ht (by rw [test_not _ _ ht, test_backrank _ t ht]; simp))
    (fun w t h => step_lt h.2.1) (fun w t h => ?_) (fun _ _ _ => List.pairwise_singleton _ _)
    (fun _ _ _ sm h => ⟨_, List.mem_singleton.1 h, rfl⟩) (fun sm => ?_)
  · obtain ⟨hat, hst, hatt, _⟩ := h
    obtain ⟨q, hq, e⟩ := capBody hd east (Move.byCapturing s.turn .pawn · t ·) hat hst hatt
    refine ⟨_, e, ?_⟩
    rw [toSpecMove_byCapturing s.turn .pawn .pawn rfl w.1 t q w.2 hq (at_lt hat) (step_lt hst),
      dbl_single (fwd_cases _) hst]
    rfl
  · simp only [List.mem_singleton, and_assoc, Prod.exists]
    exact ⟨fun ⟨o, t, k, h⟩ => ⟨o, k, t, h⟩, fun ⟨o, k, t, h⟩ => ⟨o, t, k, h⟩⟩

theorem pawnCapPromoSeg_spec (s : State) (hd : DisjointBoard s.pieces) (east : Bool) :
    ∃ L, pawnCapPromoSeg (Helper.of s) east = some L ∧ (∀ sm, sm ∈ L.flatten.map toSpecMove ↔
      ∃ o t k, (abs s).at o = some (absColor s.turn, Spec.Kind.pawn) ∧
        Spec.step o (capDf east) (absColor s.turn).fwd = some t ∧
        (abs s).at t = some ((absColor s.turn).opp, k) ∧
        t / 8 = Spec.lastRank (absColor s.turn) ∧
        ∃ kp ∈ Spec.promoKinds, sm = some { pawnBase (absColor s.turn) o t (some k) with promo := some kp }) ∧
      (L.flatten.map toSpecMove).Nodup := by
  unfold pawnCapPromoSeg
  simp only [flatten_map_eq_flatMap, helper_us, helper_s]
  refine seg_spec _ _ _
    (fun (w : Nat × Spec.Kind) t => (abs s).at w.1 = some (absColor s.turn, Spec.Kind.pawn) ∧
      Spec.step w.1 (capDf east) (absColor s.turn).fwd = some t ∧
      (abs s).at t = some ((absColor s.turn).opp, w.2) ∧ t / 8 = Spec.lastRank (absColor s.turn))
    (fun w t => Spec.promoKinds.map fun kp =>
      some { pawnBase (absColor s.turn) w.1 t (some w.2) with promo := some kp })
    (fun t ht => test_capMask hd east _ _ t ht (by rw [test_backrank _ t ht, decide_eq_true_eq]))
    (fun w t h => step_lt h.2.1) (fun w t h => ?_) (fun _ _ _ => promoMap_nodup _)
    (fun _ _ _ sm h => ?_) (fun sm => ?_)
  · obtain ⟨hat, hst, hatt, _⟩ := h
    obtain ⟨q, hq, e⟩ := capBody hd east
      (fun o cap => promotionPieces.map fun pr => Move.byCapturePromoting s.turn .pawn o t cap pr) hat hst hatt
    exact ⟨_, e, promoMoves_spec _ _ fun r kr hr => by
      rw [toSpecMove_byCapturePromoting s.turn .pawn .pawn rfl w.1 t q w.2 hq r kr hr (at_lt hat) (step_lt hst),
        dbl_single (fwd_cases _) hst]
      rfl⟩
  · obtain ⟨k, _, e⟩ := List.mem_map.1 h
    exact ⟨_, e.symm, rfl⟩
  · simp only [mem_map_eq, and_assoc, Prod.exists]
    exact ⟨fun ⟨o, t, k, h⟩ => ⟨o, k, t, h⟩, fun ⟨o, k, t, h⟩ => ⟨o, t, k, h⟩⟩

/-- `first_one` of the en-passant mask: the target itself, if a pawn attacks it from this side -/
theorem firstOne_epBB (h : Helper) (east : Bool) (e : Nat) (he : e < 64) (hep : h.s.ep = some e) :
    firstOne (epBB h east) = if test (pawnAtt h east) e then some e else Option.none := by
  have hbit : ∀ t, test (epBB h east) t = (test (pawnAtt h east) t && decide (e = t)) := by
    intro t; unfold epBB; rw [hep, test_and, test_bit e t he]
  by_cases ha : test (pawnAtt h east) e = true
  · rw [if_pos ha, firstOne_eq_some]
    refine ⟨by rw [hbit, ha]; simp, fun m hm => ?_⟩
    rw [hbit, Bool.and_eq_true, decide_eq_true_eq] at hm
    omega
  · rw [if_neg ha, firstOne_eq_none]
    apply eq_zero_of_test
    intro n _
    rw [hbit]
    by_cases hen : e = n
    · subst hen; simp only [Bool.not_eq_true] at ha; rw [ha]; rfl
    · simp [hen]

theorem firstOne_epBB_none (h : Helper) (east : Bool) (hep : h.s.ep = Option.none) :
    firstOne (epBB h east) = Option.none := by
  rw [firstOne_eq_none]
  unfold epBB; rw [hep]
  apply eq_zero_of_test
  intro n _; rw [test_and, test_zero, Bool.and_false]

theorem pawnEpSeg_spec (s : State) (hd : DisjointBoard s.pieces) (hep : ∀ e, s.ep = some e → e < 64) (east : Bool) :
    ∃ L, pawnEpSeg (Helper.of s) east = some L ∧ (∀ sm, sm ∈ L.map toSpecMove ↔
      ∃ o t, (abs s).at o = some (absColor s.turn, Spec.Kind.pawn) ∧
        Spec.step o (capDf east) (absColor s.turn).fwd = some t ∧ s.ep = some t ∧
        sm = some { pawnBase (absColor s.turn) o t (some Spec.Kind.pawn) with ep := true }) ∧
      (L.map toSpecMove).Nodup := by
  unfold pawnEpSeg
  cases hepc : s.ep with
  | none =>
    rw [firstOne_epBB_none _ _ hepc]
    refine ⟨[], rfl, fun sm => ?_, by simp⟩
    constructor
    · intro h; simp at h
    · rintro ⟨o, t, _, _, h, _⟩; cases h
  | some e =>
    have he := hep e hepc
    rw [firstOne_epBB _ _ e he hepc]
    by_cases ha : test (pawnAtt (Helper.of s) east) e = true
    · rw [if_pos ha]
      obtain ⟨o, hpo, hst⟩ := (test_pawnAtt _ _ e he).1 ha
      simp only [helper_us, helper_s] at hpo hst ⊢
      rw [(offset_cap s.turn east (test_lt _ _ hpo) he).2 hst]
      refine ⟨[Move.byEnPassant s.turn .pawn o e], rfl, fun sm => ?_, by simp⟩
      simp only [List.map_cons, List.map_nil, List.mem_singleton]
      rw [toSpecMove_byEnPassant s.turn .pawn .pawn rfl o e (test_lt _ _ hpo) he, dbl_single (fwd_cases _) hst]
      constructor
      · rintro rfl
        exact ⟨o, e, at_of_test hd o s.turn .pawn .pawn rfl hpo, hst, rfl, rfl⟩
      · rintro ⟨o', t, hat, hst', ht, rfl⟩
        cases ht
        have := step_src_inj hst' hst
        subst this; rfl
    · rw [if_neg ha]
      refine ⟨[], rfl, fun sm => ?_, by simp⟩
      constructor
      · intro h; simp at h
      · rintro ⟨o, t, hat, hst, ht, _⟩
        cases ht
        exfalso; apply ha
        exact (test_pawnAtt _ _ e he).2 ⟨o, test_of_at hd o s.turn .pawn .pawn rfl hat, hst⟩

/-- the tag of a pawn move that is not a double step, from its file direction -/
theorem tag_pawn_move (m : Spec.SMove) (hk : m.kind = .pawn) (hd : m.dbl = false) {df dr : Int}
    (hst : Spec.step m.src df dr = some m.dst) (hdf : df = 0 ∨ df = 1 ∨ df = -1) :
    tag (some m) = (if df = 0 then 0 else if df = 1 then 10 else 20) +
      (if m.ep then 3 else if m.promo.isSome then 2 else 1) := by
  rw [step_iff] at hst
  unfold tag
  simp only [hk, hd, Bool.false_eq_true, if_false]
  rcases hdf with rfl | rfl | rfl
  · have h1 : m.dst % 8 = m.src % 8 := by omega
    simp only [h1, if_true]
  · have h1 : ¬ m.dst % 8 = m.src % 8 := by omega
    have h2 : m.src % 8 < m.dst % 8 := by omega
    simp only [h1, h2, if_false, if_true]
    rfl
  · have h1 : ¬ m.dst % 8 = m.src % 8 := by omega
    have h2 : ¬ m.src % 8 < m.dst % 8 := by omega
    simp only [h1, h2, if_false]
    rfl

def sideLo (east : Bool) : Nat := if east then 11 else 21

theorem tag_side (east : Bool) (m : Spec.SMove) (hk : m.kind = .pawn) (hd : m.dbl = false) {dr : Int}
    (hst : Spec.step m.src (capDf east) dr = some m.dst) :
    tag (some m) = sideLo east - 1 + (if m.ep then 3 else if m.promo.isSome then 2 else 1) := by
  rw [tag_pawn_move m hk hd hst (Or.inr (capDf_cases east))]
  cases east <;> simp [capDf, sideLo]

/-- what one side (`east`) of the capture loop generates: `sm` is in its list iff an own pawn stands on some `o`, the capture
step towards that side leads to some `t`, and `sm` is one of the rules' captures from `o` to `t` (`sCapAt`: plain, with
promotion, en passant); the list has no duplicates and its tags lie in the side's range -/
theorem pawnSideSeg_spec (s : State) (hd : DisjointBoard s.pieces)
    (hep : ∀ e, s.ep = some e → e < 64 ∧ (abs s).at e = Option.none) (east : Bool) :
    ∃ L, pawnSideSeg (Helper.of s) east = some L ∧ (∀ sm, sm ∈ L.map toSpecMove ↔
      ∃ o t, (abs s).at o = some (absColor s.turn, Spec.Kind.pawn) ∧
        Spec.step o (capDf east) (absColor s.turn).fwd = some t ∧
        ∃ m ∈ sCapAt (abs s) (absColor s.turn) o t, sm = some m) ∧
      (L.map toSpecMove).Nodup ∧ TagIn (L.map toSpecMove) (sideLo east) (sideLo east + 3) := by
  obtain ⟨Lx, hx, hxm, hxn⟩ := pawnCapSeg_spec s hd east
  obtain ⟨Ly, hy, hym, hyn⟩ := pawnCapPromoSeg_spec s hd east
  obtain ⟨Lz, hz, hzm, hzn⟩ := pawnEpSeg_spec s hd (fun e he => (hep e he).1) east
  refine ⟨Lx ++ Ly.flatten ++ Lz, by rw [pawnSideSeg_eq, hx, hy, hz]; rfl, fun sm => ?_, ?nd⟩
  case nd =>
    have hlo : 1 ≤ sideLo east := by cases east <;> simp [sideLo]
    have tx : TagIn (Lx.map toSpecMove) (sideLo east) (sideLo east + 1) := by
      apply tagIn_of_const
      intro a ha
      obtain ⟨o, t, k, _, hst, _, _, rfl⟩ := (hxm a).1 ha
      rw [tag_side east (pawnBase (absColor s.turn) o t (some k)) rfl rfl hst]
      simp only [pawnBase, Bool.false_eq_true, if_false, Option.isSome_none]; omega
    have ty : TagIn (Ly.flatten.map toSpecMove) (sideLo east + 1) (sideLo east + 1 + 1) := by
      apply tagIn_of_const
      intro a ha
      obtain ⟨o, t, k, _, hst, _, _, kp, _, rfl⟩ := (hym a).1 ha
      rw [tag_side east { pawnBase (absColor s.turn) o t (some k) with promo := some kp } rfl rfl hst]
      simp only [pawnBase, Bool.false_eq_true, if_false, Option.isSome_some, if_true]; omega
    have tz : TagIn (Lz.map toSpecMove) (sideLo east + 2) (sideLo east + 2 + 1) := by
      apply tagIn_of_const
      intro a ha
      obtain ⟨o, t, _, hst, _, rfl⟩ := (hzm a).1 ha
      rw [tag_side east { pawnBase (absColor s.turn) o t (some Spec.Kind.pawn) with ep := true } rfl rfl hst]
      simp only [if_true]; omega
    rw [List.map_append, List.map_append]
    exact nodup_append_tag (nodup_append_tag ⟨hxn, tx⟩ ⟨hyn, ty⟩ (by omega) (by omega)) ⟨hzn, tz⟩
      (by omega) (by omega)
  rw [List.map_append, List.map_append, List.mem_append, List.mem_append, hxm, hym, hzm]
  constructor
  · rintro ((⟨o, t, k, hat, hst, hatt, hrank, rfl⟩ | ⟨o, t, k, hat, hst, hatt, hrank, kp, hkp, rfl⟩) |
      ⟨o, t, hat, hst, he, rfl⟩)
    · exact ⟨o, t, hat, hst, _, (mem_sCapAt _ _ _ _ _).2 (.inl ⟨k, hatt, (mem_withPromo _ _ _).2 (.inr ⟨hrank, rfl⟩)⟩), rfl⟩
    · exact ⟨o, t, hat, hst, _, (mem_sCapAt _ _ _ _ _).2 (.inl ⟨k, hatt, (mem_withPromo _ _ _).2
        (.inl ⟨hrank, kp, hkp, rfl⟩)⟩), rfl⟩
    · exact ⟨o, t, hat, hst, _, (mem_sCapAt _ _ _ _ _).2 (.inr ⟨(hep t he).2, he, rfl⟩), rfl⟩
  · rintro ⟨o, t, hat, hst, m, hm, rfl⟩
    rcases (mem_sCapAt _ _ _ _ _).1 hm with ⟨k, hatt, hw⟩ | ⟨_, he, rfl⟩
    · rcases (mem_withPromo _ _ _).1 hw with ⟨hrank, kp, hkp, rfl⟩ | ⟨hrank, rfl⟩
      · exact .inl (.inr ⟨o, t, k, hat, hst, hatt, hrank, kp, hkp, rfl⟩)
      · exact .inl (.inl ⟨o, t, k, hat, hst, hatt, hrank, rfl⟩)
    · exact .inr ⟨o, t, hat, hst, he, rfl⟩

/-- **pawns**: `compute_pawn_moves` cannot panic and generates, read through `toSpecMove`, exactly the
specification's pawn moves of the side to move, without duplicates -/
theorem pawnMoves_spec (s : State) (hd : DisjointBoard s.pieces)
    (hep : ∀ e, s.ep = some e → e < 64 ∧ (abs s).at e = Option.none) :
    ∃ L, pawnMoves (Helper.of s) = some L ∧ (∀ sm, sm ∈ L.map toSpecMove ↔
      ∃ o, (abs s).at o = some (absColor s.turn, Spec.Kind.pawn) ∧
        ∃ m ∈ Spec.pawnMovesFrom (abs s) (absColor s.turn) o, sm = some m) ∧
      (L.map toSpecMove).Nodup ∧ TagIn (L.map toSpecMove) 1 24 := by
  obtain ⟨La, ha, ham, han⟩ := pawnPushSeg_spec s hd
  obtain ⟨Lb, hb, hbm, hbn⟩ := pawnPromoSeg_spec s hd
  obtain ⟨Lc, hc, hcm, hcn⟩ := pawnDoubleSeg_spec s hd
  obtain ⟨Le, he, hem, hen, het⟩ := pawnSideSeg_spec s hd hep true
  obtain ⟨Lw, hw, hwm, hwn, hwt⟩ := pawnSideSeg_spec s hd hep false
  refine ⟨La ++ Lb.flatten ++ Lc ++ Le ++ Lw, by rw [pawnMoves_eq, ha, hb, hc, he, hw]; rfl, fun sm => ?_, ?nd⟩
  case nd =>
    have ta : TagIn (La.map toSpecMove) 1 2 := by
      apply tagIn_of_const
      intro a h
      obtain ⟨o, t, _, hst, _, _, rfl⟩ := (ham a).1 h
      rw [tag_pawn_move (pawnBase (absColor s.turn) o t Option.none) rfl rfl hst (.inl rfl)]
      rfl
    have tb : TagIn (Lb.flatten.map toSpecMove) 2 3 := by
      apply tagIn_of_const
      intro a h
      obtain ⟨o, t, _, hst, _, _, k, _, rfl⟩ := (hbm a).1 h
      rw [tag_pawn_move { pawnBase (absColor s.turn) o t Option.none with promo := some k } rfl rfl hst (.inl rfl)]
      rfl
    have tc : TagIn (Lc.map toSpecMove) 3 4 := by
      apply tagIn_of_const
      intro a h
      obtain ⟨o, t1, t2, _, _, _, _, _, _, rfl⟩ := (hcm a).1 h
      rfl
    simp only [List.map_append]
    exact nodup_append_tag (nodup_append_tag (nodup_append_tag (nodup_append_tag ⟨han, ta⟩ ⟨hbn, tb⟩ (by omega)
      (by omega)) ⟨hcn, tc⟩ (by omega) (by omega)) ⟨hen, tagIn_mono het (by decide) (by decide : _ ≤ 21)⟩ (by omega)
      (by omega)) ⟨hwn, tagIn_mono hwt (by decide : 21 ≤ _) (by decide : _ ≤ 24)⟩ (by omega) (by omega)
  simp only [List.map_append, List.mem_append, ham, hbm, hcm, hem, hwm, pawnMovesFrom_eq]
  constructor
  · rintro ((((⟨o, t, hat, hst, hocc, hrank, rfl⟩ | ⟨o, t, hat, hst, hocc, hrank, k, hk, rfl⟩) |
      ⟨o, t1, t2, hat, hr, hst1, hst2, ho1, ho2, rfl⟩) | ⟨o, t, hat, hst, m, hm, rfl⟩) | ⟨o, t, hat, hst, m, hm, rfl⟩)
    · exact ⟨o, hat, _, .inl (.inl ((mem_sPush1 _ _ _ _).2 ⟨t, hst, hocc, (mem_withPromo _ _ _).2 (.inr ⟨hrank, rfl⟩)⟩)), rfl⟩
    · exact ⟨o, hat, _, .inl (.inl ((mem_sPush1 _ _ _ _).2 ⟨t, hst, hocc, (mem_withPromo _ _ _).2
        (.inl ⟨hrank, k, hk, rfl⟩)⟩)), rfl⟩
    · exact ⟨o, hat, _, .inl (.inr ((mem_sPush2 _ _ _ _).2 ⟨hr, t1, t2, hst1, hst2, ho1, ho2, rfl⟩)), rfl⟩
    · exact ⟨o, hat, m, .inr ((mem_sCaps _ _ _ _).2 ⟨true, t, hst, hm⟩), rfl⟩
    · exact ⟨o, hat, m, .inr ((mem_sCaps _ _ _ _).2 ⟨false, t, hst, hm⟩), rfl⟩
  · rintro ⟨o, hat, m, (hm | hm) | hm, rfl⟩
    · obtain ⟨t, hst, hocc, hw⟩ := (mem_sPush1 _ _ _ _).1 hm
      rcases (mem_withPromo _ _ _).1 hw with ⟨hrank, k, hk, rfl⟩ | ⟨hrank, rfl⟩
      · exact .inl (.inl (.inl (.inr ⟨o, t, hat, hst, hocc, hrank, k, hk, rfl⟩)))
      · exact .inl (.inl (.inl (.inl ⟨o, t, hat, hst, hocc, hrank, rfl⟩)))
    · obtain ⟨hr, t1, t2, hst1, hst2, ho1, ho2, rfl⟩ := (mem_sPush2 _ _ _ _).1 hm
      exact .inl (.inl (.inr ⟨o, t1, t2, hat, hr, hst1, hst2, ho1, ho2, rfl⟩))
    · obtain ⟨east, t, hst, hm'⟩ := (mem_sCaps _ _ _ _).1 hm
      cases east
      · exact .inr ⟨o, t, hat, hst, m, hm', rfl⟩
      · exact .inl (.inr ⟨o, t, hat, hst, m, hm', rfl⟩)

end Wee
