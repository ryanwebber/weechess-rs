import Wee.Proofs.MoveGenBasics
import Wee.Props.C10Closed
/-!
# The move generator: knights, sliders, the king, castling

`expandMoves` and the generic non-pawn loop (`mem_pieceGen`), the knight, slider and king-step generators
(`mem_knightMoves`, `mem_sliderMoves`, `kingMoves_eq`, `mem_kingStepList`), and castling: the path and check masks bit by
bit, `castleList_spec`.
-/
namespace Wee
open Gen
open Wee.C10 (DisjointBoard)

/-! ## `expand_moves`; knights, sliders, king steps -/

theorem mem_expandMoves (h : Helper) (o : Nat) (dests : UInt64) (p : Piece) (m : Move) :
    m ∈ expandMoves h o dests p ↔ ∃ t, t < 64 ∧ test dests t = true ∧
      m = (match capturedAt h.s t with
           | some cap => Move.byCapturing h.us p o t cap
           | Option.none => Move.byMoving h.us p o t) := by
  unfold expandMoves
  simp only [List.mem_map, mem_bitsOf, and_assoc]
  constructor
  · rintro ⟨t, h1, h2, h3⟩; exact ⟨t, h1, h2, h3.symm⟩
  · rintro ⟨t, h1, h2, h3⟩; exact ⟨t, h1, h2, h3.symm⟩

/-- one expanded move, read through `toSpecMove` -/
theorem toSpecMove_expandOne (s : State) (us : Color) (p : Piece) (k : Spec.Kind)
    (hk : absKind p = some k) (hp : p ≠ Piece.pawn) (o t : Nat) (ho : o < 64) (ht : t < 64) :
    toSpecMove (match capturedAt s t with
           | some cap => Move.byCapturing us p o t cap
           | Option.none => Move.byMoving us p o t) = some (specStep (abs s) (absColor us) k o t) := by
  cases hpa : s.pieces.pieceAt t with
  | none =>
    rw [capturedAt_none s t hpa]
    simp only []
    rw [toSpecMove_byMoving us p k hk o t ho ht, dbl_of_ne_pawn p o t hp]
    unfold specStep; rw [(at_none_iff s t).2 hpa]
  | some cq =>
    obtain ⟨c', q⟩ := cq
    rw [capturedAt_some s t c' q hpa]
    simp only []
    obtain ⟨k', hk', hat⟩ := at_of_pieceAt s t c' q hpa
    rw [toSpecMove_byCapturing us p k hk o t q k' hk' ho ht, dbl_of_ne_pawn p o t hp]
    unfold specStep; rw [hat]

/-- **generic non-pawn generator**: the loop `for sq in own_piece(p) { expand_moves(sq, dests sq, p) }` produces,
read through `toSpecMove`, exactly the specification's moves of the pieces of kind `k` of the side to move,
restricted to the destinations `keep`, as soon as `dests sq` is the attack set minus own squares, restricted to `keep` -/
theorem mem_pieceGen (s : State) (hd : DisjointBoard s.pieces) (p : Piece) (k : Spec.Kind)
    (hk : absKind p = some k) (hp : p ≠ Piece.pawn) (dests : Nat → UInt64) (keep : Nat → Prop)
    (hdests : ∀ sq, sq < 64 → ∀ t, test (dests sq) t = true ↔
      (t ∈ Spec.attacksFrom (abs s).occupied (absColor s.turn) k sq ∧
       (∀ k', (abs s).at t ≠ some (absColor s.turn, k')) ∧ keep t))
    (sm : Option Spec.SMove) :
    sm ∈ ((bitsOf (s.pieces.get s.turn p)).flatMap fun sq =>
            expandMoves (Helper.of s) sq (dests sq) p).map toSpecMove ↔
      ∃ sq, (abs s).at sq = some (absColor s.turn, k) ∧
        ∃ m ∈ Spec.pieceMovesFrom (abs s) (absColor s.turn) k sq, keep m.dst ∧ sm = some m := by
  simp only [List.mem_map, List.mem_flatMap, mem_bitsOf, mem_expandMoves]
  constructor
  · rintro ⟨m, ⟨sq, ⟨hsq, hpc⟩, t, ht, hdt, rfl⟩, rfl⟩
    obtain ⟨hatt, hown, hkeep⟩ := (hdests sq hsq t).1 hdt
    refine ⟨sq, at_of_test hd sq s.turn p k hk hpc, specStep (abs s) (absColor s.turn) k sq t, ?_, ?_, ?_⟩
    · exact (mem_pieceMovesFrom _ _ _ _ _).2 ⟨t, hatt, hown, rfl⟩
    · rw [specStep_dst]; exact hkeep
    · exact toSpecMove_expandOne s s.turn p k hk hp sq t hsq ht
  · rintro ⟨sq, hat, m, hm, hkeep, rfl⟩
    obtain ⟨t, hatt, hown, rfl⟩ := (mem_pieceMovesFrom _ _ _ _ _).1 hm
    rw [specStep_dst] at hkeep
    have hsq : sq < 64 := by
      apply Classical.byContradiction; intro hn
      rw [C10.abs_at, C10.absCell_ge _ _ (by omega)] at hat; cases hat
    have ht : t < 64 := attacksFrom_lt _ _ _ _ _ hatt
    refine ⟨_, ⟨sq, ⟨hsq, test_of_at hd sq s.turn p k hk hat⟩, t, ht, (hdests sq hsq t).2 ⟨hatt, hown, hkeep⟩, rfl⟩, ?_⟩
    exact toSpecMove_expandOne s s.turn p k hk hp sq t hsq ht

/-- a destination mask `A & X`, bit by bit -/
theorem test_dests_iff (A X : UInt64) (L : List Nat) (Q : Nat → Prop) (hL : ∀ t ∈ L, t < 64)
    (hA : ∀ t, t < 64 → test A t = L.contains t) (hX : ∀ t, t < 64 → (test X t = true ↔ Q t)) (t : Nat) :
    test (A &&& X) t = true ↔ t ∈ L ∧ Q t := by
  by_cases ht : t < 64
  · rw [test_and, Bool.and_eq_true, hA t ht, hX t ht]; simp
  · rw [test_ge _ t (by omega)]
    constructor
    · intro h; cases h
    · rintro ⟨h, _⟩; exact absurd (hL t h) ht

theorem mem_knightMoves (s : State) (hd : DisjointBoard s.pieces) (sm : Option Spec.SMove) :
    sm ∈ (knightMoves (Helper.of s)).map toSpecMove ↔
      ∃ sq, (abs s).at sq = some (absColor s.turn, Spec.Kind.knight) ∧
        ∃ m ∈ Spec.pieceMovesFrom (abs s) (absColor s.turn) .knight sq, sm = some m := by
  unfold knightMoves
  refine (mem_pieceGen s hd .knight .knight rfl (by decide)
    (fun sq => knightAttacks sq &&& ((Helper.of s).opp ||| (Helper.of s).vac)) (fun _ => True) ?_ sm).trans
    (by simp only [true_and])
  intro sq hsq t
  simp only [helper_opp, helper_vac]
  rw [test_dests_iff _ _ (Spec.attacksFrom (abs s).occupied (absColor s.turn) .knight sq)
    (fun t => ∀ k', (abs s).at t ≠ some (absColor s.turn, k'))
    (fun t h => attacksFrom_lt _ _ _ _ _ h)
    (fun t ht => C09_knight _ _ sq t hsq ht)
    (fun t ht => test_opp_or_vac hd s.turn t ht)]
  simp

theorem mem_sliderMoves (s : State) (hd : DisjointBoard s.pieces) (p : Piece) (k : Spec.Kind)
    (hk : absKind p = some k) (hp : p ≠ Piece.pawn) (att : Nat → UInt64 → UInt64)
    (hatt : ∀ sq, sq < 64 → ∀ (occ : UInt64) (t : Nat), test (att sq occ) t =
      (Spec.attacksFrom (fun n => test occ n) (absColor s.turn) k sq).contains t)
    (sm : Option Spec.SMove) :
    sm ∈ (sliderMoves (Helper.of s) p att).map toSpecMove ↔
      ∃ sq, (abs s).at sq = some (absColor s.turn, k) ∧
        ∃ m ∈ Spec.pieceMovesFrom (abs s) (absColor s.turn) k sq, sm = some m := by
  unfold sliderMoves
  refine (mem_pieceGen s hd p k hk hp
    (fun sq => att sq (Helper.of s).occ &&& ~~~(Helper.of s).own) (fun _ => True) ?_ sm).trans
    (by simp only [true_and])
  intro sq hsq t
  simp only [helper_own, helper_occ]
  rw [test_dests_iff _ _ (Spec.attacksFrom (abs s).occupied (absColor s.turn) k sq)
    (fun t => ∀ k', (abs s).at t ≠ some (absColor s.turn, k'))
    (fun t h => attacksFrom_lt _ _ _ _ _ h)
    (fun t _ => by rw [hatt sq hsq, ← funext (test_occ_abs s)])
    (fun t ht => test_not_own hd s.turn t ht)]
  simp

/-- the `steps` half of `compute_king_moves` -/
def kingStepList (h : Helper) : List Move :=
  (bitsOf (h.s.pieces.get h.us .king)).flatMap fun sq =>
    expandMoves h sq (kingAttacks sq &&& (h.opp ||| h.vac) &&& ~~~h.oppAtt) .king

/-- the castling half of `compute_king_moves` -/
def castleList (h : Helper) : List Move :=
  Side.all.filterMap fun side =>
    if (h.s.castle h.us).forSide side then
      let blocks := h.occ &&& (castlePathMasks[side.idx]!)[h.us.idx]!
      let checks := h.oppAtt &&& (castleCheckMasks[side.idx]!)[h.us.idx]!
      if bbNone blocks && bbNone checks then some (Move.byCastling h.us side) else Option.none
    else Option.none

theorem kingMoves_eq (h : Helper) : kingMoves h = kingStepList h ++ castleList h := rfl

/-- king steps: the specification's king moves whose destination is not in `opposing_attacks()` -/
theorem mem_kingStepList (s : State) (hd : DisjointBoard s.pieces) (sm : Option Spec.SMove) :
    sm ∈ (kingStepList (Helper.of s)).map toSpecMove ↔
      ∃ sq, (abs s).at sq = some (absColor s.turn, Spec.Kind.king) ∧
        ∃ m ∈ Spec.pieceMovesFrom (abs s) (absColor s.turn) .king sq,
          test (coloredAttacks s.pieces s.turn.opp) m.dst = false ∧ sm = some m := by
  unfold kingStepList
  apply mem_pieceGen s hd .king .king rfl (by decide)
    (fun sq => kingAttacks sq &&& ((Helper.of s).opp ||| (Helper.of s).vac) &&& ~~~(Helper.of s).oppAtt)
    (fun t => test (coloredAttacks s.pieces s.turn.opp) t = false)
  intro sq hsq t
  simp only [helper_opp, helper_vac, helper_oppAtt]
  by_cases ht : t < 64
  · rw [test_and, Bool.and_eq_true, test_dests_iff _ _ (Spec.attacksFrom (abs s).occupied (absColor s.turn) .king sq)
      (fun t => ∀ k', (abs s).at t ≠ some (absColor s.turn, k'))
      (fun t h => attacksFrom_lt _ _ _ _ _ h)
      (fun t ht => C09_king _ _ sq t hsq ht)
      (fun t ht => test_opp_or_vac hd s.turn t ht), test_not _ _ ht]
    simp [and_assoc]
  · rw [test_ge _ t (by omega)]
    constructor
    · intro h; cases h
    · rintro ⟨h, _⟩; exact absurd (attacksFrom_lt _ _ _ _ _ h) ht

/-! ## castling -/

/-- `(X & mask).none()` for a mask given as a list of squares -/
theorem bbNone_and_mask (X mask : UInt64) (l : List Nat)
    (hm : ∀ j : Fin 64, test mask j.val = l.contains j.val) :
    bbNone (X &&& mask) = l.all (fun t => !test X t) := by
  rw [Bool.eq_iff_iff, bbNone_iff, List.all_eq_true]
  constructor
  · intro h t ht
    by_cases h64 : t < 64
    · have := h t h64
      rw [test_and, hm ⟨t, h64⟩] at this
      simp only [List.contains_eq_mem, ht, decide_true, Bool.and_true] at this
      simp [this]
    · simp [test_ge X t (by omega)]
  · intro h n hn
    rw [test_and, hm ⟨n, hn⟩]
    by_cases hl : n ∈ l
    · have := h n hl
      simp only [Bool.not_eq_true'] at this
      simp [this]
    · simp [hl]

/-- bit `t` of `opposing_attacks()`, any `t`: the opponent attacks `t` and has no piece there (C10; off the board
neither side holds) -/
theorem test_oppAtt_iff (s : State) (hd : DisjointBoard s.pieces) (t : Nat) :
    test (coloredAttacks s.pieces s.turn.opp) t = true ↔
      (abs s).attackedBy (absColor s.turn).opp t = true ∧ ¬ ∃ k, (abs s).at t = some ((absColor s.turn).opp, k) := by
  by_cases ht : t < 64
  · rw [C10.C10_attacks_closed s hd s.turn.opp t ht, C10.absColor_opp]
  · rw [test_ge _ _ (by omega)]
    constructor
    · intro h; cases h
    · rintro ⟨h, _⟩
      obtain ⟨_, _, _, _, hm⟩ := (C10.attackedBy_iff _ _ _).1 h
      exact absurd (attacksFrom_lt _ _ _ _ _ hm) ht

/-- bit `t` of `opposing_attacks()` is "attacked by the opponent" when `t` holds no opposing piece -/
theorem test_oppAtt_eq (s : State) (hd : DisjointBoard s.pieces) (t : Nat)
    (hno : ∀ k, (abs s).at t ≠ some ((absColor s.turn).opp, k)) :
    test (coloredAttacks s.pieces s.turn.opp) t = (abs s).attackedBy (absColor s.turn).opp t := by
  rw [Bool.eq_iff_iff, test_oppAtt_iff s hd]
  exact ⟨fun h => h.1, fun h => ⟨h, fun ⟨k, e⟩ => hno k e⟩⟩

/-- the two conditions of one castling side, bitboard form = mailbox form.  `path` are the squares strictly
between king and rook, `check` the king's square, the crossed square and the landing square. -/
theorem castleCond_eq (s : State) (hd : DisjointBoard s.pieces) (pathMask checkMask : UInt64)
    (path check : List Nat)
    (hp : ∀ j : Fin 64, test pathMask j.val = path.contains j.val)
    (hc : ∀ j : Fin 64, test checkMask j.val = check.contains j.val)
    (hno : ∀ t ∈ check, t ∉ path → ∀ k, (abs s).at t ≠ some ((absColor s.turn).opp, k)) :
    (bbNone ((Helper.of s).occ &&& pathMask) && bbNone ((Helper.of s).oppAtt &&& checkMask)) =
      (path.all (fun t => !(abs s).occupied t) &&
       check.all (fun t => !(abs s).attackedBy (absColor s.turn).opp t)) := by
  rw [bbNone_and_mask _ _ path hp, bbNone_and_mask _ _ check hc, helper_occ, helper_oppAtt]
  have e1 : path.all (fun t => !test s.pieces.occ t) = path.all (fun t => !(abs s).occupied t) := by
    congr 1; funext t; rw [test_occ_abs]
  rw [e1]
  cases hpath : path.all (fun t => !(abs s).occupied t) with
  | false => rfl
  | true =>
    simp only [Bool.true_and]
    rw [List.all_eq_true] at hpath
    have key : ∀ t ∈ check, test (coloredAttacks s.pieces s.turn.opp) t =
        (abs s).attackedBy (absColor s.turn).opp t := by
      intro t ht
      apply test_oppAtt_eq s hd t
      by_cases htp : t ∈ path
      · have := hpath t htp
        simp only [Bool.not_eq_true', occupied_false_iff] at this
        intro k e; rw [this] at e; cases e
      · exact hno t ht htp
    rw [Bool.eq_iff_iff, List.all_eq_true, List.all_eq_true]
    constructor
    · intro h t ht; rw [← key t ht]; exact h t ht
    · intro h t ht; rw [key t ht]; exact h t ht

theorem castleMask_facts :
    (∀ j : Fin 64, test ((castlePathMasks[Side.king.idx]!)[Color.white.idx]!) j.val = [5, 6].contains j.val) ∧
    (∀ j : Fin 64, test ((castlePathMasks[Side.queen.idx]!)[Color.white.idx]!) j.val = [3, 2, 1].contains j.val) ∧
    (∀ j : Fin 64, test ((castlePathMasks[Side.king.idx]!)[Color.black.idx]!) j.val = [61, 62].contains j.val) ∧
    (∀ j : Fin 64, test ((castlePathMasks[Side.queen.idx]!)[Color.black.idx]!) j.val = [59, 58, 57].contains j.val) ∧
    (∀ j : Fin 64, test ((castleCheckMasks[Side.king.idx]!)[Color.white.idx]!) j.val = [4, 5, 6].contains j.val) ∧
    (∀ j : Fin 64, test ((castleCheckMasks[Side.queen.idx]!)[Color.white.idx]!) j.val = [4, 3, 2].contains j.val) ∧
    (∀ j : Fin 64, test ((castleCheckMasks[Side.king.idx]!)[Color.black.idx]!) j.val = [60, 61, 62].contains j.val) ∧
    (∀ j : Fin 64, test ((castleCheckMasks[Side.queen.idx]!)[Color.black.idx]!) j.val = [60, 59, 58].contains j.val) := by
  refine ⟨?_, ?_, ?_, ?_, ?_, ?_, ?_, ?_⟩ <;> decide +kernel

def castleCond (h : Helper) (side : Side) : Bool :=
  (h.s.castle h.us).forSide side &&
    (bbNone (h.occ &&& (castlePathMasks[side.idx]!)[h.us.idx]!) &&
     bbNone (h.oppAtt &&& (castleCheckMasks[side.idx]!)[h.us.idx]!))

theorem castleList_eq (h : Helper) : castleList h =
    (if castleCond h .king then [Move.byCastling h.us .king] else []) ++
    (if castleCond h .queen then [Move.byCastling h.us .queen] else []) := by
  have e : ∀ (r c : Bool) (m : Move),
      (if r = true then (if c = true then some m else Option.none) else Option.none).toList =
        if (r && c) = true then [m] else [] := by
    intro r c m; cases r <;> cases c <;> rfl
  have p : ∀ f : Side → Option Move, Side.all.filterMap f = (f .king).toList ++ (f .queen).toList := by
    intro f
    rw [Side.all, List.filterMap_cons, List.filterMap_cons, List.filterMap_nil]
    cases f .king <;> cases f .queen <;> rfl
  unfold castleList castleCond
  rw [p, e, e]

theorem castle_side_eq (s : State) (hd : DisjointBoard s.pieces) (right : Bool) (pathMask checkMask : UInt64)
    (path check : List Nat) (khome : Nat)
    (hp : ∀ j : Fin 64, test pathMask j.val = path.contains j.val)
    (hc : ∀ j : Fin 64, test checkMask j.val = check.contains j.val)
    (hsub : ∀ t ∈ check, t ∉ path → t = khome)
    (hking : right = true → (abs s).at khome = some (absColor s.turn, Spec.Kind.king)) :
    (right && (bbNone ((Helper.of s).occ &&& pathMask) && bbNone ((Helper.of s).oppAtt &&& checkMask))) =
      (right && (path.all (fun t => !(abs s).occupied t) &&
       check.all (fun t => !(abs s).attackedBy (absColor s.turn).opp t))) := by
  cases right with
  | false => rfl
  | true =>
    simp only [Bool.true_and]
    apply castleCond_eq s hd pathMask checkMask path check hp hc
    intro t ht htp k e
    rw [hsub t ht htp, hking rfl] at e
    have := congrArg Prod.fst (Option.some.inj e)
    revert this
    cases s.turn <;> simp [absColor, Spec.Color.opp]

/-- the castling masks of colour `c`, as squares counted from the king's home -/
theorem castleMasks (c : Color) :
    (∀ j : Fin 64, test ((castlePathMasks[Side.king.idx]!)[c.idx]!) j.val =
      [Spec.kingHome (absColor c) + 1, Spec.kingHome (absColor c) + 2].contains j.val) ∧
    (∀ j : Fin 64, test ((castlePathMasks[Side.queen.idx]!)[c.idx]!) j.val =
      [Spec.kingHome (absColor c) - 1, Spec.kingHome (absColor c) - 2, Spec.kingHome (absColor c) - 3].contains j.val) ∧
    (∀ j : Fin 64, test ((castleCheckMasks[Side.king.idx]!)[c.idx]!) j.val =
      [Spec.kingHome (absColor c), Spec.kingHome (absColor c) + 1, Spec.kingHome (absColor c) + 2].contains j.val) ∧
    (∀ j : Fin 64, test ((castleCheckMasks[Side.queen.idx]!)[c.idx]!) j.val =
      [Spec.kingHome (absColor c), Spec.kingHome (absColor c) - 1, Spec.kingHome (absColor c) - 2].contains j.val) := by
  obtain ⟨f1, f2, f3, f4, f5, f6, f7, f8⟩ := castleMask_facts
  cases c
  · exact ⟨f1, f2, f5, f6⟩
  · exact ⟨f3, f4, f7, f8⟩

theorem castleList_spec (s : State) (hd : DisjointBoard s.pieces)
    (hking : ∀ side, (s.castle s.turn).forSide side = true →
      (abs s).at (Spec.kingHome (absColor s.turn)) = some (absColor s.turn, Spec.Kind.king)) :
    (castleList (Helper.of s)).map toSpecMove = (Spec.castleMoves (abs s) (absColor s.turn)).map some := by
  obtain ⟨pk, pq, ck, cq⟩ := castleMasks s.turn
  have hk := castle_side_eq s hd ((s.castle s.turn).forSide .king) _ _ _ _ (Spec.kingHome (absColor s.turn)) pk ck
    (by
      intro t ht hn
      simp only [List.mem_cons, List.not_mem_nil, or_false, not_or] at ht hn
      rcases ht with h | h | h
      · exact h
      · exact absurd h hn.1
      · exact absurd h hn.2) (hking .king)
  have hq := castle_side_eq s hd ((s.castle s.turn).forSide .queen) _ _ _ _ (Spec.kingHome (absColor s.turn)) pq cq
    (by
      intro t ht hn
      simp only [List.mem_cons, List.not_mem_nil, or_false, not_or] at ht hn
      rcases ht with h | h | h
      · exact h
      · exact absurd h hn.1
      · exact absurd h hn.2.1) (hking .queen)
  have rk : (abs s).right (absColor s.turn) true = (s.castle s.turn).forSide .king := (abs_right s s.turn .king).symm
  have rq : (abs s).right (absColor s.turn) false = (s.castle s.turn).forSide .queen := (abs_right s s.turn .queen).symm
  rw [castleList_eq, Spec.castleMoves_eq, List.map_append, List.map_append]
  unfold castleCond
  simp only [helper_us, helper_s, hk, hq, rk, rq]
  congr 1
  · exact map_ite_single _ _ _ _ _ (toSpecMove_byCastling s.turn .king)
  · exact map_ite_single _ _ _ _ _ (toSpecMove_byCastling s.turn .queen)

end Wee
