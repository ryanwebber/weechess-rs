import Wee.Proofs.MoveGenPieces
import Wee.Proofs.MoveGenPawns
import Wee.Proofs.ListLemmas
/-!
# What the generator guarantees of every move word it lists

`Generated h mv`: the word is the general constructor `Move.mk` of a real piece at squares `< 64`, and it carries the
en-passant flag only when its destination is the square of the en-passant mask `epBB` of one capture direction.  One
traversal of the model's generator, segment by segment, proves it of every listed word (`pseudoLegalMoves_generated`).
What the consumers of a move word ask of it is read off `Move.mk`: valid piece, capture and promotion codes (`WFMove`,
the hypothesis of the translated `by_performing_move`; hence `C02.CodesOk`), and that `performMove` does not panic on it
(`Appliable`, `Wee/Proofs/GenTotal.lean`).
-/
namespace Wee

def Generated (h : Helper) (mv : Move) : Prop :=
  ∃ c p o d cap pr ep cq ck, o < 64 ∧ d < 64 ∧ p ≠ Piece.none ∧ (ep = true → ∃ east, firstOne (epBB h east) = some d) ∧
    mv = Move.mk c p o d cap pr ep cq ck

namespace Generated
variable {h : Helper} {c : Color} {p : Piece} {o d : Nat}

/-- a word without the en-passant flag -/
theorem plain {cap pr : Option Piece} {cq ck : Bool} {mv : Move} (ho : o < 64) (hd : d < 64) (hp : p ≠ Piece.none)
    (e : mv = Move.mk c p o d cap pr false cq ck) : Generated h mv :=
  ⟨c, p, o, d, cap, pr, false, cq, ck, ho, hd, hp, (nomatch ·), e⟩

theorem byMoving (ho : o < 64) (hd : d < 64) (hp : p ≠ Piece.none) : Generated h (Move.byMoving c p o d) :=
  plain ho hd hp (Move.byMoving_eq_mk c p o d ho hd)

theorem byCapturing (q : Piece) (ho : o < 64) (hd : d < 64) (hp : p ≠ Piece.none) :
    Generated h (Move.byCapturing c p o d q) :=
  plain ho hd hp (Move.byCapturing_eq_mk c p o d ho hd q)

theorem byPromoting (r : Piece) (ho : o < 64) (hd : d < 64) (hp : p ≠ Piece.none) :
    Generated h (Move.byPromoting c p o d r) :=
  plain ho hd hp (Move.byPromoting_eq_mk c p o d ho hd r)

theorem byCapturePromoting (q r : Piece) (ho : o < 64) (hd : d < 64) (hp : p ≠ Piece.none) :
    Generated h (Move.byCapturePromoting c p o d q r) :=
  plain ho hd hp (Move.byCapturePromoting_eq_mk c p o d ho hd q r)

theorem byEnPassant (east : Bool) (ho : o < 64) (hf : firstOne (epBB h east) = some d) (hp : p ≠ Piece.none) :
    Generated h (Move.byEnPassant c p o d) :=
  have hd := firstOne_lt _ _ hf
  ⟨c, p, o, d, _, _, true, _, _, ho, hd, hp, fun _ => ⟨east, hf⟩, Move.byEnPassant_eq_mk c p o d ho hd⟩

theorem byCastling (c : Color) (sd : Side) : Generated h (Move.byCastling c sd) :=
  plain (by cases c <;> decide) (by cases c <;> cases sd <;> decide) (by decide) (Move.byCastling_eq_mk c sd)

end Generated

theorem generated_expand (h : Helper) (o : Nat) (dests : UInt64) (p : Piece) (ho : o < 64) (hp : p ≠ Piece.none) :
    ∀ mv ∈ expandMoves h o dests p, Generated h mv := by
  intro mv hm
  obtain ⟨t, ht, _, rfl⟩ := (mem_expandMoves h o dests p mv).1 hm
  cases capturedAt h.s t with
  | none => exact .byMoving ho ht hp
  | some cap => exact .byCapturing cap ho ht hp

theorem generated_flatExpand (h : Helper) (bb : UInt64) (f : Nat → UInt64) (p : Piece) (hp : p ≠ Piece.none) :
    ∀ mv ∈ (bitsOf bb).flatMap (fun sq => expandMoves h sq (f sq) p), Generated h mv := by
  intro mv hm
  obtain ⟨sq, hsq, hmv⟩ := List.mem_flatMap.1 hm
  exact generated_expand h sq _ p ((mem_bitsOf _ _).1 hsq).1 hp mv hmv

theorem generated_king (h : Helper) : ∀ mv ∈ kingMoves h, Generated h mv := by
  intro mv hm
  unfold kingMoves at hm
  rcases List.mem_append.1 hm with h1 | h2
  · exact generated_flatExpand h _ _ .king (by decide) mv h1
  · obtain ⟨sd, _, hsd⟩ := List.mem_filterMap.1 h2
    split at hsd
    · simp only at hsd
      split at hsd
      · cases hsd; exact .byCastling _ _
      · cases hsd
    · cases hsd

theorem generated_push (h : Helper) (a : List Move) (ha : pawnPushSeg h = some a) : ∀ mv ∈ a, Generated h mv := by
  intro mv hm
  obtain ⟨t, ht, gt⟩ := mapM_some_mem ha mv hm
  simp only [Option.bind_eq_bind, Option.bind_eq_some_iff, Option.pure_def, Option.some.injEq] at gt
  obtain ⟨o, ho, rfl⟩ := gt
  exact .byMoving (offset_lt ho) ((mem_bitsOf _ _).1 ht).1 (by decide)

theorem generated_promo (h : Helper) (b : List (List Move)) (hb : pawnPromoSeg h = some b) :
    ∀ mv ∈ b.flatten, Generated h mv := by
  intro mv hm
  obtain ⟨ys, hys, hmv⟩ := List.mem_flatten.1 hm
  obtain ⟨t, ht, gt⟩ := mapM_some_mem hb ys hys
  simp only [Option.bind_eq_bind, Option.bind_eq_some_iff, Option.pure_def, Option.some.injEq] at gt
  obtain ⟨o, ho, rfl⟩ := gt
  obtain ⟨pr, _, rfl⟩ := List.mem_map.1 hmv
  exact .byPromoting pr (offset_lt ho) ((mem_bitsOf _ _).1 ht).1 (by decide)

theorem generated_double (h : Helper) (c : List Move) (hc : pawnDoubleSeg h = some c) : ∀ mv ∈ c, Generated h mv := by
  intro mv hm
  obtain ⟨t, ht, gt⟩ := mapM_some_mem hc mv hm
  simp only [Option.bind_eq_bind, Option.bind_eq_some_iff, Option.pure_def, Option.some.injEq] at gt
  obtain ⟨o1, _, o, ho, rfl⟩ := gt
  exact .byMoving (offset_lt ho) ((mem_bitsOf _ _).1 ht).1 (by decide)

theorem generated_cap (h : Helper) (east : Bool) (x : List Move) (hx : pawnCapSeg h east = some x) :
    ∀ mv ∈ x, Generated h mv := by
  intro mv hm
  obtain ⟨t, ht, gt⟩ := mapM_some_mem hx mv hm
  simp only [Option.bind_eq_bind, Option.bind_eq_some_iff, Option.pure_def, Option.some.injEq] at gt
  obtain ⟨o, ho, cap, _, rfl⟩ := gt
  exact .byCapturing cap (offset_lt ho) ((mem_bitsOf _ _).1 ht).1 (by decide)

theorem generated_capPromo (h : Helper) (east : Bool) (y : List (List Move)) (hy : pawnCapPromoSeg h east = some y) :
    ∀ mv ∈ y.flatten, Generated h mv := by
  intro mv hm
  obtain ⟨ys, hys, hmv⟩ := List.mem_flatten.1 hm
  obtain ⟨t, ht, gt⟩ := mapM_some_mem hy ys hys
  simp only [Option.bind_eq_bind, Option.bind_eq_some_iff, Option.pure_def, Option.some.injEq] at gt
  obtain ⟨o, ho, cap, _, rfl⟩ := gt
  obtain ⟨pr, _, rfl⟩ := List.mem_map.1 hmv
  exact .byCapturePromoting cap pr (offset_lt ho) ((mem_bitsOf _ _).1 ht).1 (by decide)

theorem generated_ep (h : Helper) (east : Bool) (z : List Move) (hz : pawnEpSeg h east = some z) :
    ∀ mv ∈ z, Generated h mv := by
  intro mv hm
  unfold pawnEpSeg at hz
  cases hf : firstOne (epBB h east) with
  | none => rw [hf] at hz; cases hz; cases hm
  | some t =>
    rw [hf] at hz
    simp only [Option.bind_eq_bind, Option.bind_eq_some_iff, Option.pure_def, Option.some.injEq] at hz
    obtain ⟨o, ho, rfl⟩ := hz
    cases List.mem_singleton.1 hm
    exact .byEnPassant east (offset_lt ho) hf (by decide)

theorem generated_pawn (h : Helper) (pm : List Move) (hpm : pawnMoves h = some pm) : ∀ mv ∈ pm, Generated h mv := by
  rw [pawnMoves_eq, pawnSideSeg_eq, pawnSideSeg_eq] at hpm
  simp only [Option.bind_eq_bind, Option.bind_eq_some_iff, Option.pure_def, Option.some.injEq] at hpm
  obtain ⟨a, ha, b, hb, c, hc, _, ⟨x1, hx1, y1, hy1, z1, hz1, rfl⟩, _, ⟨x2, hx2, y2, hy2, z2, hz2, rfl⟩, rfl⟩ := hpm
  intro mv hm
  simp only [List.mem_append] at hm
  rcases hm with (((hm | hm) | hm) | ((hm | hm) | hm)) | ((hm | hm) | hm)
  · exact generated_push h a ha mv hm
  · exact generated_promo h b hb mv hm
  · exact generated_double h c hc mv hm
  · exact generated_cap h true x1 hx1 mv hm
  · exact generated_capPromo h true y1 hy1 mv hm
  · exact generated_ep h true z1 hz1 mv hm
  · exact generated_cap h false x2 hx2 mv hm
  · exact generated_capPromo h false y2 hy2 mv hm
  · exact generated_ep h false z2 hz2 mv hm

/-- **every word the model's `pseudoLegalMoves` lists is `Generated`** -/
theorem pseudoLegalMoves_generated (s : State) (l : List Move) (hl : pseudoLegalMoves s = some l) :
    ∀ mv ∈ l, Generated (Helper.of s) mv := by
  rw [pseudoLegalMoves_eq, Option.map_eq_some_iff] at hl
  obtain ⟨pm, hpm, rfl⟩ := hl
  intro mv hm
  simp only [List.mem_append] at hm
  rcases hm with ((((hm | hm) | hm) | hm) | hm) | hm
  · exact generated_pawn _ pm hpm mv hm
  · exact generated_flatExpand _ _ _ .knight (by decide) mv hm
  · exact generated_king _ mv hm
  · exact generated_flatExpand _ _ _ .bishop (by decide) mv hm
  · exact generated_flatExpand _ _ _ .rook (by decide) mv hm
  · exact generated_flatExpand _ _ _ .queen (by decide) mv hm

namespace GenFns

/-- a packed move whose piece / capture / promotion fields hold valid codes (every constructor produces such words) -/
def WFMove (mv : UInt32) : Prop :=
  ∃ p, Wee.Move.piece? mv = some p ∧ p ≠ Piece.none ∧ Wee.Move.captureCode mv ≤ 6 ∧ Wee.Move.promotionCode mv ≤ 6

/-! ## valid codes: of `Move.mk`, hence of every generated word -/

theorem wf_mk (c : Color) (p : Piece) (o d : Nat) (cap pr : Option Piece) (ep cq ck : Bool)
    (ho : o < 64) (hd : d < 64) (hp : p ≠ Piece.none) : WFMove (Wee.Move.mk c p o d cap pr ep cq ck) := by
  exact ⟨p, Wee.Move.piece?_mk c p o d cap pr ep cq ck ho hd, hp, Wee.Move.codes_mk_le c p o d cap pr ep cq ck ho hd⟩

theorem _root_.Wee.Generated.wf {h : Helper} {mv : Wee.Move} (g : Generated h mv) : WFMove mv := by
  obtain ⟨c, p, o, d, cap, pr, ep, cq, ck, ho, hd, hp, _, rfl⟩ := g
  exact wf_mk c p o d cap pr ep cq ck ho hd hp

/-- every word generated by the model's `pseudoLegalMoves` has valid piece / capture / promotion codes -/
theorem pseudoLegalMoves_wf (s : Wee.State) (l : List Wee.Move) (hl : pseudoLegalMoves s = some l) : ∀ mv ∈ l, WFMove mv :=
  fun mv hm => (pseudoLegalMoves_generated s l hl mv hm).wf

end GenFns
end Wee
