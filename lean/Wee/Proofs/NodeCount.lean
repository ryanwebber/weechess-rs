import Wee.Proofs.EnvFlat
import Wee.Proofs.WalkE
/-!
# Counting nodes: the root call of the first iteration is not interrupted

The flag is read when the node counter reaches a multiple of the poll interval, so an interrupted call has counted at least
that many nodes (`searchNodeE_interrupt_nodes`).  A call with remaining depth 0 counts exactly one node; the root call with
remaining depth 1 therefore counts one node for itself and at most one per move of its buffer that `try_as_legal_move`
accepts — as many as the position has legal moves (`root1E_nodes`) —, whatever the other workers write.
-/
namespace Wee.Search
open Wee Wee.SearchCtl

/-- instance of the generic induction: at an interrupt the node counter has reached the poll interval -/
theorem interrupt_walk (ctx : Ctx) :
    Walk ctx (fun _ => True) (fun st => Gen.pollInterval ≤ st.nodes) (fun _ _ => True) (fun _ => True) where
  tick := by
    intro st _
    rw [tick_eq]
    split
    · rename_i h
      split
      · refine ⟨trivial, ?_⟩
        show Gen.pollInterval ≤ st.nodes + 1
        unfold Gen.pollInterval at *
        omega
      · trivial
    · trivial
  rng := fun _ _ h => h
  underflow := fun _ _ _ _ _ _ _ _ => trivial
  leaf := fun _ _ _ _ _ _ => trivial
  pseudo := fun _ _ _ _ => trivial
  legal := fun _ _ _ _ _ _ _ _ => trivial
  eval := fun _ _ _ _ => trivial
  window := fun _ _ _ _ _ => trivial
  child := fun _ _ _ _ _ _ _ _ _ _ _ => trivial
  insert := fun _ _ _ _ _ _ _ _ _ _ _ _ _ _ _ => trivial

end Wee.Search

/-! ## counting nodes: the node entry counts one; the buffer moves `try_as_legal_move` accepts -/
namespace Wee.Env
open Wee Wee.Search
open Wee.SearchCtl (Walk InBuffer childArgs entryOf tick tick_eq bufferOf)

theorem tick_nodes (ctx : Ctx) (st : St) : (tick ctx st).2.nodes = st.nodes + 1 := by
  rw [tick_eq]
  split
  · split <;> rfl
  · rfl

/-- `try_as_legal_move` accepts the buffer move -/
def accepted (s : State) (mv : Move) : Bool :=
  match tryAsLegal s mv with
  | some (some _) => true
  | _ => false

theorem count_accepted (s : State) : ∀ (ps : List Move) (rs : List (Option (Move × State))),
    ps.mapM (tryAsLegal s) = some rs → ps.countP (accepted s) = (rs.filterMap id).length := by
  intro ps
  induction ps with
  | nil => intro rs h; simp at h; subst h; rfl
  | cons x xs ih =>
    intro rs h
    rw [List.mapM_cons] at h
    cases hx : tryAsLegal s x with
    | none => rw [hx] at h; cases h
    | some b =>
      rw [hx] at h
      cases hxs : xs.mapM (tryAsLegal s) with
      | none => rw [hxs] at h; cases h
      | some bs =>
        rw [hxs] at h
        cases h
        rw [List.countP_cons, ih bs hxs]
        unfold accepted
        rw [hx]
        cases b <;> simp

/-! ## node counts of a worker in an environment -/

/-- how a node moves the node counter, for any reflexive relation `r` between the counter before and after that the
part after the probe respects: the node counts itself, then the counter stays or the part after the probe runs -/
theorem nodeBodyE_nodes {r : Nat → Nat → Prop} (hr : ∀ m, r m m) (env : Env) (ctx : Ctx) (a : NodeArgs)
    (rec : Option (NodeArgs → ME Eval))
    (hT : ∀ al be n st, r st.nodes (tailE env ctx a (Wee.hash ctx.keys a.s) al be rec n st).2.1.nodes)
    (n : Nat) (st : St) : r (st.nodes + 1) (nodeBodyE env ctx rec a n st).2.1.nodes := by
  rw [nodeBodyE_run]
  have ht := tick_nodes ctx st
  generalize tick ctx st = out at ht
  obtain ⟨res, st1⟩ := out
  rw [← show st1.nodes = st.nodes + 1 from ht]
  cases res with
  | error e => exact hr _
  | ok u =>
    dsimp only
    by_cases hc : (decide (a.curDepth > 0) && ctx.history.contains (Wee.hash ctx.keys a.s)) = true
    · rw [if_pos hc]; exact hr _
    · rw [if_neg hc, probeE_run, probeK_eq]
      cases SearchCtl.probe a ((applyInserts st1.tt (env.script n)).find (Wee.hash ctx.keys a.s).toNat) with
      | underflow => exact hr _
      | cut v => exact hr _
      | window al be => exact hT al be (n + 1) { st1 with tt := applyInserts st1.tt (env.script n) }

theorem searchNodeE0_nodes (env : Env) (ctx : Ctx) (a : NodeArgs) (n : Nat) (st : St) :
    (searchNodeE env ctx 0 a n st).2.1.nodes = st.nodes + 1 := by
  rw [searchNodeE_zero]
  exact nodeBodyE_nodes (r := fun m k => k = m) (fun _ => rfl) env ctx a Option.none
    (fun al be n' st' => by rw [tailE_none_run]) n st

/-- the move loop over leaves (children of remaining depth 0) counts at most one node per accepted move of its buffer -/
theorem childLoopE_leaf (env : Env) (ctx : Ctx) (a : NodeArgs) (hash : UInt64) :
    ∀ (buf : List Move) (alpha : Eval) (best : Option Move) (kind : Nat) (n : Nat) (st : St),
      (childLoopE env ctx (searchNodeE env ctx 0) a hash buf alpha best kind n st).2.1.nodes ≤
        st.nodes + buf.countP (accepted a.s) := by
  intro buf
  induction buf with
  | nil =>
    intro alpha best kind n st
    rw [childLoopE_nil_run]
    exact Nat.le_refl _
  | cons mv rest ih =>
    intro alpha best kind n st
    rw [childLoopE_cons_run, List.countP_cons]
    cases ht : tryAsLegal a.s mv with
    | none => exact Nat.le_add_right _ _
    | some o =>
      cases o with
      | none =>
        have hacc : accepted a.s mv = false := by unfold accepted; rw [ht]
        rw [hacc]
        exact ih alpha best kind n st
      | some r =>
        obtain ⟨m, next⟩ := r
        have hacc : accepted a.s mv = true := by unfold accepted; rw [ht]
        rw [hacc, if_pos rfl]
        dsimp only
        have h1 := searchNodeE0_nodes env ctx (childArgs a next alpha) n st
        generalize searchNodeE env ctx 0 (childArgs a next alpha) n st = out at h1 ⊢
        obtain ⟨res, st', l1⟩ := out
        replace h1 : st'.nodes = st.nodes + 1 := h1
        -- the rest of the loop, run after this child
        have hrest : ∀ al b k, (match childLoopE env ctx (searchNodeE env ctx 0) a hash rest al b k (n + l1.length) st' with
             | (r, st2, l2) => (r, st2, l1 ++ l2)).2.1.nodes ≤ st.nodes + (rest.countP (accepted a.s) + 1) := by
          intro al b k
          have := ih al b k (n + l1.length) st'
          generalize childLoopE env ctx (searchNodeE env ctx 0) a hash rest al b k (n + l1.length) st' = out2 at this ⊢
          obtain ⟨r2, st2, l2⟩ := out2
          show st2.nodes ≤ _
          have : st2.nodes ≤ st'.nodes + rest.countP (accepted a.s) := this
          omega
        cases res with
        | error e => show st'.nodes ≤ _; omega
        | ok v =>
          dsimp only
          by_cases g1 : -v ≥ a.beta
          · rw [if_pos g1]; show st'.nodes ≤ _; omega
          · rw [if_neg g1]
            by_cases g2 : -v > alpha
            · rw [if_pos g2]; exact hrest _ _ _
            · rw [if_neg g2]; exact hrest _ _ _

theorem accepted_count {s : State} {L : List (Move × State)} (hL : legalMoves? s = some L) :
    ∃ ps, pseudoLegalMoves s = some ps ∧ ps.countP (accepted s) = L.length := by
  obtain ⟨ps, hps, rs, hrs, rfl⟩ := legalMoves?_eq_some.1 hL
  exact ⟨ps, hps, count_accepted s ps rs hrs⟩

/-- **the root call of the first iteration in ANY environment** counts at most one node for itself and one per legal
move (the count does not depend on what the other workers write) -/
theorem root1E_nodes (env : Env) (ctx : Ctx) (a : NodeArgs) (ha : a.prioritized = Option.none)
    (L : List (Move × State)) (hL : legalMoves? a.s = some L) (n : Nat) (st : St) :
    (searchNodeE env ctx 1 a n st).2.1.nodes ≤ st.nodes + 1 + L.length := by
  obtain ⟨ps, hps, hcount⟩ := accepted_count hL
  rw [searchNodeE_succ]
  refine nodeBodyE_nodes (r := fun m k => k ≤ m + L.length) (fun _ => Nat.le_add_right _ _) env ctx a _
    (fun al be n' st' => ?_) n st
  obtain ⟨sorted, rg, hs, hperm⟩ := SearchCtl.sort_rngOnly a.s ps st'
  rw [tailE_some_run env ctx _ a _ al be n' st' ps sorted _ hps hs]
  have hbuf : bufferOf a.prioritized sorted = sorted := by rw [ha]; rfl
  rw [hbuf]
  have h1 := childLoopE_leaf env ctx { a with alpha := al, beta := be } (Wee.hash ctx.keys a.s) sorted.reverse al
    Option.none kindUpper n' { st' with rng := rg }
  have hc : sorted.reverse.countP (accepted a.s) = L.length := by
    rw [List.countP_reverse, hperm.countP_eq, hcount]
  rw [show ({ a with alpha := al, beta := be } : NodeArgs).s = a.s from rfl, hc] at h1
  generalize childLoopE env ctx (searchNodeE env ctx 0) { a with alpha := al, beta := be } (Wee.hash ctx.keys a.s)
    sorted.reverse al Option.none kindUpper n' { st' with rng := rg } = out2 at h1
  obtain ⟨r2, st2, l2⟩ := out2
  have h1' : st2.nodes ≤ st'.nodes + L.length := h1
  cases r2 with
  | error e => exact h1'
  | ok x =>
    cases x with
    | error b => exact h1'
    | ok y =>
      obtain ⟨alpha', best, kind⟩ := y
      dsimp only
      by_cases hn : (st2.nodes == ({ st' with rng := rg } : St).nodes) = true
      · rw [if_pos hn]; cases evaluate a.s a.s.turn a.curDepth <;> exact h1'
      · rw [if_neg hn]; cases best <;> exact h1'

theorem searchNodeE_interrupt_nodes (env : Env) (ctx : Ctx) (rem : Nat) (a : NodeArgs) (n : Nat) (st : St)
    (h : (searchNodeE env ctx rem a n st).1 = .error .interrupt) :
    Gen.pollInterval ≤ (searchNodeE env ctx rem a n st).2.1.nodes := by
  have hw := searchNodeE_walk (env := env)
    (V := { I := fun _ => True, J := fun st => Gen.pollInterval ≤ st.nodes, A := fun _ => True, G := fun _ _ => True })
    (N := fun _ _ => True) (interrupt_walk ctx) (fun _ _ h => h) (fun _ _ _ _ _ _ _ _ _ _ _ _ _ => trivial)
    rem a trivial n st trivial
  generalize searchNodeE env ctx rem a n st = out at h hw
  obtain ⟨r, st', l⟩ := out
  cases h
  exact hw.2.1

end Wee.Env
