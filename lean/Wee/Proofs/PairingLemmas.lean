import Wee.Proofs.SeqHistory
import Wee.Proofs.AnySchedule
import Wee.Proofs.EnvFlat
/-!
# Lemmas for the pairing clause of C06 ("the reported first move keeps the mate") with several workers

Rust: `weechess-engine/src/searcher.rs`, `analyze_iterative`: the reported evaluation is the maximum over the workers'
root values, the reported line is read back from the shared table (`iter_moves`), whose root entry every worker that is
not answered by its first probe overwrites when it finishes its root call.

1. `finishStep_keeps` / `stepData_keeps`: one iteration under any schedule — if the root entry of the table the line is read
   from carries a winning value whenever the reported evaluation is winning, every report of the iteration keeps the mate.
2. the root call of a worker, in any environment (`runWorkerE_rootShape`): the first operation is the probe of the root
   key; a worker that is answered by it performs no other operation; a store under the root key is the worker's LAST
   operation and carries the value the worker returns; a winning value is the value of the probed entry or of that
   final store.
3. rely/guarantee: every store under the root key answers the shallowest workers (`interleaving_rootAdm`);
4. the frame of the root entry: while the root's bucket is not full, only stores under the root key change what is found
   under it (`RootRoomy`, `root_frame`); the shallow workers are answered by their probe and never write
   (`shallow_workers_answered`);
5. with one deep worker every store under the root key is that worker's and carries the value it returns, and what is
   found under the root key is the initial entry or a store (`Env.table_find_some`), hence — when the initial root entry
   and the previous best evaluation are not winning — the pairing condition (`one_deep_writer_paired`);
6. one started worker is paired (`one_worker_paired`), hence `stepS_keeps_one`, `searchS_keeps_one`: with one worker in
   every iteration every report keeps the mate (the sequential instances are `C06_report_pairing_partial`,
   `C06_iterate_sound` of `Wee/Props/C06.lean`).
-/
namespace Wee.Pairing
open Wee.Search Wee.Env Wee.C06 Wee.Outcome

/-! ## 1. the report step -/

/-- a reported evaluation above the standing one is the value of one of the workers -/
theorem reportedEval_mem {w : WorkersOut} {st : IterSt} (h : st.bestEval < reportedEval w st) :
    reportedEval w st ∈ w.evals := by
  unfold reportedEval at h ⊢
  generalize w.evals = l at h ⊢
  cases l with
  | nil => exact absurd h (Int.lt_irrefl _)
  | cons e es => exact foldl_max_mem e es

/-- **the pairing condition on joined results**: if the iteration completed (no interrupt) and the evaluation that will
be reported is winning, the entry found under the root key in the joined table carries a winning value -/
def PairedAt (rk : Nat) (w : WorkersOut) (st : IterSt) : Prop :=
  w.interrupted = false → Ev.posInf ≤ reportedEval w st → ∀ x, w.tt.find rk = some x → Ev.posInf ≤ x.eval

/-- the report step: with a sound joined table, every event the step emits keeps the mate, provided the pairing
condition holds (on the interrupt path it holds by construction: evaluation and line come from the same entry) -/
theorem finishStep_keeps {K : Keys} {D : State → Prop} {L nT nB : Nat} (ctx : Ctx) (hK : ctx.keys = K) (root : State)
    (hD : D root) (rootHash : UInt64) (hrh : rootHash = hash ctx.keys root) (depth : Nat) (rng : Rng.ChaCha8)
    (w : WorkersOut) (st : IterSt) (hwtt : TTInv K D L nT nB w.tt)
    (hpair : w.panic = Option.none → PairedAt rootHash.toNat w st) :
    ∃ new, (finishStep ctx root rootHash depth rng w st).events = st.events ++ new ∧ ∀ ev ∈ new, MoveKeeps root ev := by
  subst hrh
  subst hK
  -- a line that is not empty starts with the move of the root entry, which keeps the mate if the entry's value is winning
  have hline : (walkLine ctx.keys w.tt (depth + 1) root).isEmpty = false →
      ∃ x, w.tt.find (hash ctx.keys root).toNat = some x ∧ (10000 ≤ x.eval →
        ∃ r ∈ legalMoves root, (walkLine ctx.keys w.tt (depth + 1) root).head? = some r.1 ∧ Lost r.2) := by
    intro hl
    obtain ⟨x, hx1, hx2⟩ := C06.walkLine_head hl
    refine ⟨x, hx1, fun hx => ?_⟩
    obtain ⟨r, hr, hr1, hr2⟩ := (root_entry_move hwtt.2 hD hx1).2 hx
    exact ⟨r, hr, by rw [hx2, hr1], hr2⟩
  rcases finishStep_cases ctx root _ depth rng w st rfl rfl rfl with
    ⟨_, _, _, _, h⟩ | ⟨hp, _, _, ⟨_, _, _, h | ⟨x, hf, _, hl, h⟩⟩ | ⟨hi, _, ⟨_, _, h⟩ | ⟨hl, _, h⟩⟩⟩
  · exact ⟨[], by rw [h, List.append_nil], fun _ hm => nomatch hm⟩
  · exact ⟨[], by rw [h, List.append_nil], fun _ hm => nomatch hm⟩
  · -- interrupted: evaluation and line come from the same entry
    obtain ⟨x', hx1, hkeep⟩ := hline hl
    rw [hf] at hx1
    cases hx1
    refine ⟨[_], h, fun ev hev => ?_⟩
    rw [List.mem_singleton.1 hev]
    intro hpos
    rw [posInf_eq] at hpos
    exact hkeep hpos
  · exact ⟨[_], h, fun ev hev => by rw [List.mem_singleton.1 hev]; trivial⟩
  · obtain ⟨x, hx1, hkeep⟩ := hline hl
    refine ⟨[_, _], by rw [h, List.append_assoc]; rfl, fun ev hev => ?_⟩
    rcases List.mem_cons.1 hev with h1 | h1
    · rw [h1]; trivial
    · rw [List.mem_singleton.1 h1]
      intro hpos
      have hx := hpair hp hi hpos x hx1
      rw [posInf_eq] at hx
      exact hkeep hx

/-- what one iteration under a schedule consists of, with the schedule kept visible (`StepS` hides it under an
existential): the started workers, the global history, the joined results -/
structure StepData (ctx : Ctx) (root : State) (rootHash : UInt64) (workers depth : Nat) (st st' : IterSt) where
  pollsOf : Nat → Nat
  started : List Worker
  H : History
  polls' : Nat
  sub : started.Sublist (workersOfIteration depth st.bestMv (drawSeeds workers st.rng).1 pollsOf)
  all : (joinOf ctx root st.tt started H polls').interrupted = false →
    (joinOf ctx root st.tt started H polls').panic = Option.none →
    started = workersOfIteration depth st.bestMv (drawSeeds workers st.rng).1 pollsOf
  il : Interleaving ctx root st.tt started H
  eq : st' = finishStep ctx root rootHash depth (drawSeeds workers st.rng).2 (joinOf ctx root st.tt started H polls') st

theorem StepData.stepS {ctx : Ctx} {root : State} {rootHash : UInt64} {workers depth : Nat} {st st' : IterSt}
    (d : StepData ctx root rootHash workers depth st st') : StepS ctx root rootHash workers depth st st' :=
  ⟨d.pollsOf, d.started, d.H, d.polls', d.sub, d.all, d.il, d.eq⟩

theorem StepData.of_stepS {ctx : Ctx} {root : State} {rootHash : UInt64} {workers depth : Nat} {st st' : IterSt}
    (h : StepS ctx root rootHash workers depth st st') : Nonempty (StepData ctx root rootHash workers depth st st') := by
  obtain ⟨pollsOf, started, H, polls', h1, h2, h3, h4⟩ := h
  exact ⟨⟨pollsOf, started, H, polls', h1, h2, h3, h4⟩⟩

/-- the joined results of the step -/
def StepData.join {ctx : Ctx} {root : State} {rootHash : UInt64} {workers depth : Nat} {st st' : IterSt}
    (d : StepData ctx root rootHash workers depth st st') : WorkersOut :=
  joinOf ctx root st.tt d.started d.H d.polls'

/-- **one iteration under any schedule**: if the pairing condition holds for the joined results, every event the
iteration emits keeps the mate, and the loop invariant holds again -/
theorem stepData_keeps {K : Keys} {D : State → Prop} {L nT nB : Nat} (g : Geo L nT nB) (dom : Domain K D)
    (ctx : Ctx) (hK : ctx.keys = K) (root : State) (hD : D root) (rootHash : UInt64) (hrh : rootHash = hash ctx.keys root)
    (workers depth : Nat) (st st' : IterSt) (h : IterOK K D L nT nB root st)
    (d : StepData ctx root rootHash workers depth st st')
    (hpair : d.join.panic = Option.none → PairedAt rootHash.toNat d.join st) :
    IterOK K D L nT nB root st' ∧ ∃ new, st'.events = st.events ++ new ∧ ∀ ev ∈ new, MoveKeeps root ev := by
  have hs := interleaving_sound g dom ctx hK root hD st.tt h.1 _
    (fun w hw => bestOK_of_mem h.2.1 (d.sub.subset hw)) d.H d.il
  have hwtt : TTInv K D L nT nB d.join.tt := by
    show TTInv K D L nT nB (joinOf ctx root st.tt d.started d.H d.polls').tt
    rw [joinOf_tt, ← take_all_table]; exact hs.2.1 _
  refine ⟨(stepS_sound g dom ctx hK root hD rootHash hrh workers depth st st' h d.stepS).1, ?_⟩
  rw [d.eq]
  exact finishStep_keeps ctx hK root hD rootHash hrh depth _ _ st hwtt hpair


/-! ## 2. the shape of a worker's root call (any environment) -/

open Wee.SearchCtl (childArgs entryOf bufferOf)

/-- no store under key `k` in a log -/
def NoKey (k : Nat) (l : List TOp) : Prop := ∀ e, TOp.insert k e ∉ l

theorem NoKey.nil (k : Nat) : NoKey k [] := fun _ h => nomatch h
theorem NoKey.append {k : Nat} {l1 l2 : List TOp} (h1 : NoKey k l1) (h2 : NoKey k l2) : NoKey k (l1 ++ l2) :=
  fun e h => (List.mem_append.1 h).elim (h1 e) (h2 e)

/-- outcome of the move loop of a node with key `hk` whose children never store under `hk` -/
def LoopShape (hk : Nat) (a : NodeArgs) (alpha : Eval) (best : Option Move) (kind : Nat) :
    Except Stop (Except Eval (Eval × Option Move × Nat)) → List TOp → Prop
  | .ok (.error b), log =>
      b = a.beta ∧ ∃ l1 m, log = l1 ++ [TOp.insert hk (entryOf a kindLower m a.beta)] ∧ NoKey hk l1
  | .ok (.ok (al, b, k)), log =>
      NoKey hk log ∧ ((b = best ∧ al = alpha ∧ k = kind) ∨ (∃ m, b = some m ∧ k = kindExact))
  | .error _, log => NoKey hk log

theorem childLoopE_shape (env : Env) (ctx : Ctx) (child : NodeArgs → ME Eval) (a : NodeArgs) (hash : UInt64)
    (hchild : ∀ a', 1 ≤ a'.curDepth → ∀ n st, NoKey hash.toNat (child a' n st).2.2) :
    ∀ (l : List Move) (alpha : Eval) (best : Option Move) (kind : Nat) (n : Nat) (st : St),
      LoopShape hash.toNat a alpha best kind (childLoopE env ctx child a hash l alpha best kind n st).1
        (childLoopE env ctx child a hash l alpha best kind n st).2.2 := by
  intro l
  induction l with
  | nil =>
    intro alpha best kind n st
    rw [childLoopE_nil_run]
    exact ⟨NoKey.nil _, Or.inl ⟨rfl, rfl, rfl⟩⟩
  | cons mv rest ih =>
    intro alpha best kind n st
    rw [childLoopE_cons_run]
    cases ht : tryAsLegal a.s mv with
    | none => exact NoKey.nil _
    | some o =>
      cases o with
      | none => exact ih alpha best kind n st
      | some r =>
        obtain ⟨m, next⟩ := r
        simp only
        have hc := hchild (childArgs a next alpha) (by unfold childArgs; simp only; omega) n st
        generalize child (childArgs a next alpha) n st = out at hc
        obtain ⟨rv, st', l1⟩ := out
        cases rv with
        | error e => exact hc
        | ok v =>
          simp only
          -- the rest of the loop, entered with `alpha'`, `best'`, `kind'`, after the log `l1` of this child
          have pre : ∀ alpha' best' kind' r l2,
              ((best' = best ∧ alpha' = alpha ∧ kind' = kind) ∨ ∃ m, best' = some m ∧ kind' = kindExact) →
              LoopShape hash.toNat a alpha' best' kind' r l2 → LoopShape hash.toNat a alpha best kind r (l1 ++ l2) := by
            intro alpha' best' kind' r l2 hent h
            cases r with
            | error e => exact hc.append h
            | ok x =>
              cases x with
              | error b =>
                obtain ⟨hb, l1', m', rfl, hn⟩ := h
                exact ⟨hb, l1 ++ l1', m', (List.append_assoc _ _ _).symm, hc.append hn⟩
              | ok y =>
                obtain ⟨al, b, k⟩ := y
                obtain ⟨hn, hor⟩ := h
                refine ⟨hc.append hn, ?_⟩
                rcases hor with hor | hor
                · rcases hent with ⟨rfl, rfl, rfl⟩ | ⟨m, rfl, rfl⟩
                  · exact Or.inl hor
                  · exact Or.inr ⟨m, hor.1, hor.2.2⟩
                · exact Or.inr hor
          by_cases c1 : -v ≥ a.beta
          · rw [if_pos c1]
            exact ⟨rfl, l1, m, rfl, hc⟩
          · rw [if_neg c1]
            by_cases c2 : -v > alpha
            · rw [if_pos c2]
              exact pre _ _ _ _ _ (Or.inr ⟨m, rfl, rfl⟩) (ih (-v) (some m) kindExact (n + l1.length) st')
            · rw [if_neg c2]
              exact pre _ _ _ _ _ (Or.inl ⟨rfl, rfl, rfl⟩) (ih alpha best kind (n + l1.length) st')


/-- outcome of the part of a node after its probe (key `hk`, children never store under `hk`): either no store under
`hk` and the value is the incoming `alpha` or not winning, or the LAST operation is the store under `hk` of the returned
value -/
def TailShape (hk : Nat) (a : NodeArgs) (alpha beta : Eval) (o : Except Stop Eval × St × List TOp) : Prop :=
  (NoKey hk o.2.2 ∧ ∀ v, o.1 = .ok v → v = alpha ∨ v < 10000) ∨
  (∃ l1 e, o.2.2 = l1 ++ [TOp.insert hk e] ∧ NoKey hk l1 ∧ o.1 = .ok e.eval ∧ e.depth = a.curDepth ∧
     e.maxDepth = a.maxDepth ∧ (e.kind = kindExact ∨ (e.kind = kindLower ∧ e.eval = beta)))

theorem tailE_shape (env : Env) (ctx : Ctx) (child : NodeArgs → ME Eval) (a : NodeArgs) (hash : UInt64)
    (hchild : ∀ a', 1 ≤ a'.curDepth → ∀ n st, NoKey hash.toNat (child a' n st).2.2) (alpha beta : Eval) (n : Nat) (st : St) :
    TailShape hash.toNat a alpha beta (tailE env ctx a hash alpha beta (some child) n st) := by
  cases hp : pseudoLegalMoves a.s with
  | none =>
    unfold tailE
    rw [hp]
    exact Or.inl ⟨NoKey.nil _, fun v hv => nomatch hv⟩
  | some pseudo =>
    obtain ⟨sorted, r, hs, _⟩ := SearchCtl.sort_rngOnly a.s pseudo st
    rw [tailE_some_run env ctx child a hash alpha beta n st pseudo sorted _ hp hs]
    have hsh := childLoopE_shape env ctx child { a with alpha := alpha, beta := beta } hash hchild
      (bufferOf a.prioritized sorted).reverse alpha Option.none kindUpper n { st with rng := r }
    generalize childLoopE env ctx child { a with alpha := alpha, beta := beta } hash
      (bufferOf a.prioritized sorted).reverse alpha Option.none kindUpper n { st with rng := r } = out at hsh
    obtain ⟨r2, st2, l⟩ := out
    cases r2 with
    | error e => exact Or.inl ⟨hsh, fun v hv => nomatch hv⟩
    | ok x =>
      cases x with
      | error b =>
        obtain ⟨hb, l1, m, hl, hn⟩ := hsh
        exact Or.inr ⟨l1, _, hl, hn, congrArg Except.ok hb, rfl, rfl, Or.inr ⟨rfl, rfl⟩⟩
      | ok y =>
        obtain ⟨alpha', best, kind⟩ := y
        obtain ⟨hn, hor⟩ := hsh
        simp only
        by_cases hnodes : (st2.nodes == ({ st with rng := r } : St).nodes) = true
        · rw [if_pos hnodes]
          cases he : evaluate a.s a.s.turn a.curDepth with
          | none => exact Or.inl ⟨hn, fun v hv => nomatch hv⟩
          | some e =>
            refine Or.inl ⟨hn, fun v hv => Or.inr ?_⟩
            cases hv
            exact static_lt he
        · rw [if_neg hnodes]
          cases best with
          | none =>
            refine Or.inl ⟨hn, fun v hv => Or.inl ?_⟩
            cases hv
            rcases hor with ⟨_, h2, _⟩ | ⟨m, hm, _⟩
            · exact h2
            · cases hm
          | some m =>
            simp only
            refine Or.inr ⟨l, _, rfl, hn, rfl, rfl, rfl, Or.inl ?_⟩
            rcases hor with ⟨h1, _, _⟩ | ⟨m', _, hk⟩
            · cases h1
            · exact hk


/-- nodes below the root -/
def DeepN (_ : Nat) (a : NodeArgs) : Prop := 1 ≤ a.curDepth

/-- the instance of the generic induction that only tracks "below the root": the children of a node are below the root -/
theorem deep_walk (ctx : Ctx) : SearchCtl.Walk ctx (fun _ => True) (fun _ => True) DeepN (fun _ => True) where
  tick := by
    intro st _
    rw [SearchCtl.tick_eq]
    split
    · split
      · exact ⟨trivial, trivial⟩
      · trivial
    · trivial
  rng := fun _ _ h => h
  underflow := fun _ _ _ _ _ _ _ _ => trivial
  leaf := fun _ _ _ _ _ _ => trivial
  pseudo := fun _ _ _ _ => trivial
  legal := fun _ _ _ _ _ _ _ _ => trivial
  eval := fun _ _ _ _ => trivial
  window := fun _ _ _ _ h => h
  child := by
    intro rem a _ _ _ next alpha h _ _ _
    show 1 ≤ (childArgs a next alpha).curDepth
    unfold childArgs
    simp only
    omega
  insert := fun _ _ _ _ _ _ _ _ _ _ _ _ _ _ _ => trivial

/-- **nothing below the root stores under a key of the history** (any environment): the repetition test returns before
the probe -/
theorem searchNodeE_deep_noKey (env : Env) (ctx : Ctx) (k : UInt64) (hk : ctx.history.contains k = true)
    (rem : Nat) (a : NodeArgs) (ha : 1 ≤ a.curDepth) (n : Nat) (st : St) :
    NoKey k.toNat (searchNodeE env ctx rem a n st).2.2 := by
  have h := searchNodeE_walk (env := env) (ctx := ctx)
    (V := Spec.inv (fun _ => True) (fun k' _ => k' ≠ k.toNat)) (N := DeepN)
    (deep_walk ctx) (fun _ _ h => h)
    (by
      intro rem a _ _ _ _ _ _ hN hcut _ _ _
      show (Wee.hash ctx.keys a.s).toNat ≠ k.toNat
      intro heq
      have : Wee.hash ctx.keys a.s = k := UInt64.toNat_inj.1 heq
      rw [this] at hcut
      exact hcut ⟨hN, hk⟩)
    rem a ha n st trivial
  intro e he
  exact h.log k.toNat e he rfl

/-- the entry `x` found by the root probe of a worker of search depth `sd` ends its root call at once -/
def Answers (sd : Nat) (x : TT.Entry) : Prop :=
  x.depth ≤ x.maxDepth ∧ sd ≤ x.maxDepth - x.depth ∧
  (x.kind = kindExact ∨ (x.kind ≠ kindExact ∧ x.kind ≠ kindUpper ∧ 11000 ≤ x.eval))

/-- the shape of a worker's run: the first operation is the probe of the root key `rk` with result `r0`; then either
nothing is stored under `rk` and a winning value is the value of the probed entry, or the LAST operation is the store
under `rk` of the value the worker returns; an entry that `Answers` ends the run with the probe -/
structure RootShape (rk sd : Nat) (r0 : Option TT.Entry) (o : Except Stop Eval × St × List TOp) : Prop where
  shape : ∃ l, o.2.2 = TOp.find rk r0 :: l ∧
    ((NoKey rk l ∧ ∀ v, o.1 = .ok v → 10000 ≤ v → ∃ x, r0 = some x ∧ x.eval = v) ∨
     (∃ l1 e, l = l1 ++ [TOp.insert rk e] ∧ NoKey rk l1 ∧ o.1 = .ok e.eval ∧ e.depth = 0 ∧ e.maxDepth = sd ∧
        (e.kind = kindExact ∨ (e.kind = kindLower ∧ (e.eval = 11000 ∨ ∃ x, r0 = some x ∧ x.kind = kindUpper)))))
  answered : ∀ x, r0 = some x → Answers sd x → o.1 = .ok x.eval ∧ o.2.2 = [TOp.find rk r0]

/-- a store under the root key in the log of a root call is the one of the second alternative -/
theorem RootShape.store {rk sd : Nat} {r0 : Option TT.Entry} {o : Except Stop Eval × St × List TOp}
    (h : RootShape rk sd r0 o) {e : TT.Entry} (hm : TOp.insert rk e ∈ o.2.2) :
    o.1 = .ok e.eval ∧ e.depth = 0 ∧ e.maxDepth = sd ∧
      (e.kind = kindExact ∨ (e.kind = kindLower ∧ (e.eval = 11000 ∨ ∃ x, r0 = some x ∧ x.kind = kindUpper))) := by
  obtain ⟨l, hl, hcase⟩ := h.shape
  rw [hl] at hm
  rcases List.mem_cons.1 hm with h | hm
  · cases h
  · rcases hcase with ⟨hn, _⟩ | ⟨l1, e', hl1, hn, hrest⟩
    · exact absurd hm (hn e)
    · rw [hl1] at hm
      rcases List.mem_append.1 hm with h | h
      · exact absurd h (hn e)
      · rw [List.mem_singleton] at h
        cases h
        exact hrest

theorem runWorkerE_rootShape (env : Env) (ctx : Ctx) (root : State) (w : Worker) (tt : TT.Access)
    (hhist : ctx.history.contains (Wee.hash ctx.keys root) = true) (hsd : 1 ≤ w.searchDepth) :
    RootShape (Wee.hash ctx.keys root).toNat w.searchDepth
      ((applyInserts tt (env.script 0)).find (Wee.hash ctx.keys root).toNat) (runWorkerE env ctx root w tt) := by
  obtain ⟨n, hn⟩ := Nat.exists_eq_add_one.2 hsd
  rw [runWorkerE_eq]
  have hchild : ∀ a', 1 ≤ a'.curDepth → ∀ n' st, NoKey (Wee.hash ctx.keys root).toNat (searchNodeE env ctx n a' n' st).2.2 :=
    fun a' ha n' st => searchNodeE_deep_noKey env ctx _ hhist n a' ha n' st
  have ha1 : (rootArgsE root w).alpha = -11000 := root_window.1
  have hb1 : (rootArgsE root w).beta = 11000 := root_window.2
  have hcd : (rootArgsE root w).curDepth = 0 := rfl
  have hmd : (rootArgsE root w).maxDepth = w.searchDepth := rfl
  rw [hn, searchNodeE_succ, root_run]
  generalize (applyInserts tt (env.script 0)).find (Wee.hash ctx.keys root).toNat = r0
  generalize hst : ({ tt := applyInserts tt (env.script 0), rng := w.rng, nodes := 1, polls := w.polls } : St) = st1
  show RootShape _ _ r0 (match probeK env ctx (rootArgsE root w) (Wee.hash ctx.keys root) (some (searchNodeE env ctx n))
    r0 1 st1 with | (r, st2, l2) => (r, st2, TOp.find _ r0 :: l2))
  have hs := SearchCtl.probe_spec (rootArgsE root w) r0
  rw [probeK_eq]
  -- the search after the probe, when the probed entry (if any) does not answer
  have srch : ∀ alpha beta, (∀ v, v = alpha → 10000 ≤ v → ∃ x, r0 = some x ∧ x.eval = v) →
      (beta = 11000 ∨ ∃ x, r0 = some x ∧ x.kind = kindUpper) → (∀ x, r0 = some x → ¬ Answers (n + 1) x) →
      RootShape (Wee.hash ctx.keys root).toNat (n + 1) r0
        (match tailE env ctx (rootArgsE root w) (Wee.hash ctx.keys root) alpha beta (some (searchNodeE env ctx n)) 1 st1 with
          | (r, st2, l2) => (r, st2, TOp.find (Wee.hash ctx.keys root).toNat r0 :: l2)) := by
    intro alpha beta halpha hbeta hna
    have h := tailE_shape env ctx _ (rootArgsE root w) _ hchild alpha beta 1 st1
    generalize tailE env ctx (rootArgsE root w) (Wee.hash ctx.keys root) alpha beta (some (searchNodeE env ctx n)) 1 st1 = o at h
    obtain ⟨r, st2, l2⟩ := o
    refine ⟨⟨l2, rfl, ?_⟩, fun x hx hans => absurd hans (hna x hx)⟩
    rcases h with ⟨hno, hv⟩ | ⟨l1, e, hl, hno, ho, h1, h2, hk⟩
    · refine Or.inl ⟨hno, fun v hv1 hv2 => ?_⟩
      rcases hv v hv1 with h | h
      · exact halpha v h hv2
      · exact absurd hv2 (Int.not_le.2 h)
    · refine Or.inr ⟨l1, e, hl, hno, ho, h1, by rw [h2, hmd, hn], ?_⟩
      rcases hk with hk | ⟨hk, he⟩
      · exact Or.inl hk
      · refine Or.inr ⟨hk, ?_⟩
        rcases hbeta with hb | hb
        · exact Or.inl (by rw [he, hb])
        · exact Or.inr hb
  cases hp : SearchCtl.probe (rootArgsE root w) r0 with
  | underflow =>
    rw [hp] at hs
    obtain ⟨e, rfl, hu⟩ := hs
    refine ⟨⟨[], rfl, Or.inl ⟨NoKey.nil _, fun v hv => nomatch hv⟩⟩, fun x hx hans => ?_⟩
    cases hx
    rcases hu with h | h
    · rw [hcd] at h; exact absurd h (Nat.not_lt_zero _)
    · have := hans.1; omega
  | cut v =>
    rw [hp] at hs
    obtain ⟨e, rfl, rfl, _⟩ := hs
    exact ⟨⟨[], rfl, Or.inl ⟨NoKey.nil _, fun v hv _ => ⟨e, rfl, by cases hv; rfl⟩⟩⟩,
      fun x hx _ => by cases hx; exact ⟨rfl, rfl⟩⟩
  | window al be =>
    rw [hp] at hs
    rcases hs with ⟨rfl, rfl, hsh⟩ | ⟨e, rfl, hdeep, hnx, hlt, hk⟩
    · refine srch _ _ (fun v hv hv2 => by rw [hv, ha1] at hv2; exact absurd hv2 (by decide)) (Or.inl hb1)
        (fun x hx hans => ?_)
      have h1 := hsh x hx
      rw [hmd, hn, hcd] at h1
      exact absurd hans.2.1 (Nat.not_le.2 h1)
    · rcases hk with ⟨hku, rfl, rfl⟩ | ⟨hnu, rfl, rfl⟩
      · refine srch _ _ (fun v hv hv2 => by rw [hv, ha1] at hv2; exact absurd hv2 (by decide)) (Or.inr ⟨e, rfl, hku⟩)
          (fun x hx hans => ?_)
        cases hx
        rcases hans.2.2 with h | h
        · exact hnx h
        · exact h.2.1 hku
      · refine srch _ _ (fun v hv hv2 => ⟨e, rfl, ?_⟩) (Or.inl hb1) (fun x hx hans => ?_)
        · rw [hv, ha1] at hv2 ⊢
          eomega
        · cases hx
          rcases hans.2.2 with h | h
          · exact hnx h
          · rw [ha1, hb1] at hlt
            exact absurd h.2.2 (Int.not_le.2 (Int.lt_of_le_of_lt (Int.le_max_right _ _) hlt))

/-! ## 3. every store under the root key answers the shallowest workers -/

/-- table property: well-shaped, and the entry under `rk`, if any, answers a worker of depth `sd` -/
def RootOK (L nT nB rk sd : Nat) (T : TT.Access) : Prop :=
  TT.AInv L nT nB T ∧ ∀ y, T.find rk = some y → Answers sd y

/-- insert property: a store under `rk` answers a worker of depth `sd` -/
def RootAdm (rk sd : Nat) (k : Nat) (e : TT.Entry) : Prop := k = rk → Answers sd e

theorem RootOK.insert {L nT nB rk sd : Nat} (g : Geo L nT nB) (T : TT.Access) (k : Nat) (e : TT.Entry)
    (h : RootOK L nT nB rk sd T) (ha : RootAdm rk sd k e) : RootOK L nT nB rk sd (T.insert k e) := by
  refine ⟨h.1.insert g.hL g.hT g.hB k e, fun y hy => ?_⟩
  rcases h.1.find_insert_some g.hL g.hT g.hB hy with ⟨hk, rfl⟩ | ⟨_, h0⟩
  · exact ha hk.symm
  · exact h.2 y h0

theorem answers_not_upper {sd : Nat} {x : TT.Entry} (h : Answers sd x) : x.kind ≠ kindUpper := by
  rcases h.2.2 with h | h
  · rw [h]; decide
  · exact h.2.1

theorem Answers.mono {sd sd' : Nat} {x : TT.Entry} (h : Answers sd' x) (hle : sd ≤ sd') : Answers sd x :=
  ⟨h.1, Nat.le_trans hle h.2.1, h.2.2⟩

/-- **the guarantee of one worker**: in an environment whose stores under the root key all answer depth `sd`, started on
a table whose root entry (if any) answers depth `sd`, a worker of depth `≥ sd` only performs such stores -/
theorem runWorkerE_rootAdm {L nT nB : Nat} (g : Geo L nT nB) (env : Env) (ctx : Ctx) (root : State) (w : Worker)
    (tt : TT.Access) (hhist : ctx.history.contains (Wee.hash ctx.keys root) = true) (sd : Nat)
    (hsd : 1 ≤ w.searchDepth) (hle : sd ≤ w.searchDepth)
    (htt : RootOK L nT nB (Wee.hash ctx.keys root).toNat sd tt)
    (hadm : ∀ j, ∀ p ∈ env.script j, RootAdm (Wee.hash ctx.keys root).toNat sd p.1 p.2) :
    LogOK (RootAdm (Wee.hash ctx.keys root).toNat sd) (runWorkerE env ctx root w tt).2.2 := by
  have h0 : RootOK L nT nB (Wee.hash ctx.keys root).toNat sd (applyInserts tt (env.script 0)) :=
    applyInserts_inv (P := RootOK L nT nB (Wee.hash ctx.keys root).toNat sd)
      (Adm := RootAdm (Wee.hash ctx.keys root).toNat sd) (fun T k e => RootOK.insert g T k e) _ tt htt (hadm 0)
  intro k e hmem hk
  subst hk
  obtain ⟨_, hd, hm, hkind⟩ := (runWorkerE_rootShape env ctx root w tt hhist hsd).store hmem
  refine ⟨by omega, by omega, ?_⟩
  rcases hkind with hk | ⟨hk, hv⟩
  · exact Or.inl hk
  · refine Or.inr ⟨by rw [hk]; decide, by rw [hk]; decide, ?_⟩
    rcases hv with hv | ⟨x, hx, hxk⟩
    · rw [hv]; exact Int.le_refl _
    · exact absurd hxk (answers_not_upper (h0.2 x hx))

/-- **every schedule**: all stores under the root key answer depth `sd`, and so does the root entry (if present) of the
shared table after every prefix of the history -/
theorem interleaving_rootAdm {L nT nB : Nat} (g : Geo L nT nB) (ctx : Ctx) (root : State) (tt : TT.Access)
    (ws : List Worker) (H : History) (hI : Interleaving ctx root tt ws H)
    (hhist : ctx.history.contains (Wee.hash ctx.keys root) = true) (sd : Nat)
    (hws : ∀ w ∈ ws, 1 ≤ w.searchDepth ∧ sd ≤ w.searchDepth)
    (htt : RootOK L nT nB (Wee.hash ctx.keys root).toNat sd tt) :
    (∀ p ∈ H, ∀ k e, p.2 = TOp.insert k e → RootAdm (Wee.hash ctx.keys root).toNat sd k e) ∧
    ∀ n, RootOK L nT nB (Wee.hash ctx.keys root).toNat sd (History.table tt (H.take n)) := by
  have h := interleaving_rg (Q := fun _ _ => True) (fun T k e => RootOK.insert g T k e) htt
    (fun i h env hadm => ⟨runWorkerE_rootAdm g env ctx root ws[i] tt hhist sd (hws _ (List.getElem_mem h)).1
      (hws _ (List.getElem_mem h)).2 htt hadm, trivial⟩) hI
  exact ⟨h.1, h.2.1⟩


/-! ## 4. the frame of the root entry: while its bucket is not full only stores under the root key change it -/

/-- the bucket the key `rk` routes to still has a free slot -/
def RootRoomy (nT nB rk : Nat) (T : TT.Access) : Prop := ¬ TT.Full (T.bucketAt (rk % nT) (rk % nB))

theorem root_frame {L nT nB rk : Nat} (g : Geo L nT nB) {T : TT.Access} (hinv : TT.AInv L nT nB T)
    (hr : RootRoomy nT nB rk T) (k : Nat) (e : TT.Entry) (hk : k ≠ rk) : (T.insert k e).find rk = T.find rk :=
  hinv.find_insert_frame g.hL g.hT g.hB k e rk (fun h => hk h.symm) (fun _ _ hf => absurd hf hr)

/-- with a roomy root bucket at every moment, a root entry that is present stays present -/
theorem root_present {L nT nB rk sd : Nat} (g : Geo L nT nB) (tt : TT.Access) (H : History)
    (hok : ∀ n, RootOK L nT nB rk sd (History.table tt (H.take n)))
    (hroomy : ∀ n, RootRoomy nT nB rk (History.table tt (H.take n)))
    (h0 : (tt.find rk).isSome = true) : ∀ n, ((History.table tt (H.take n)).find rk).isSome = true := by
  intro n
  induction n with
  | zero => exact h0
  | succ n ih =>
    rw [List.take_add_one, table_append]
    cases H[n]? with
    | none => exact ih
    | some p =>
      obtain ⟨j, op⟩ := p
      cases op with
      | find k r => exact ih
      | insert k e =>
        show (((History.table tt (H.take n)).insert k e).find rk).isSome = true
        by_cases hk : k = rk
        · subst hk
          rw [(hok n).1.find_insert_self g.hL g.hT g.hB]
          rfl
        · rw [root_frame g (hok n).1 (hroomy n) k e hk]
          exact ih

/-- **the shallow workers never write the root** (any number of workers, any schedule).  If the iteration starts with
an entry under the root key that answers depth `sd`, every worker searches at least that deep, and the root's bucket
has a free slot at every moment, then every worker of depth exactly `sd` performs ONE table operation — the probe of the
root key — and returns the value of the entry it found there, which is the shared table's root entry at that moment. -/
theorem shallow_workers_answered {L nT nB : Nat} (g : Geo L nT nB) (ctx : Ctx) (root : State) (tt : TT.Access)
    (ws : List Worker) (H : History) (hI : Interleaving ctx root tt ws H)
    (hhist : ctx.history.contains (Wee.hash ctx.keys root) = true) (sd : Nat)
    (hws : ∀ w ∈ ws, 1 ≤ w.searchDepth ∧ sd ≤ w.searchDepth)
    (htt : RootOK L nT nB (Wee.hash ctx.keys root).toNat sd tt)
    (h0 : (tt.find (Wee.hash ctx.keys root).toNat).isSome = true)
    (hroomy : ∀ n, RootRoomy nT nB (Wee.hash ctx.keys root).toNat (History.table tt (H.take n)))
    (i : Nat) (hi : i < ws.length) (hsd : ws[i].searchDepth = sd) :
    ∃ y n, (History.table tt (H.take n)).find (Wee.hash ctx.keys root).toNat = some y ∧ Answers sd y ∧
      H.proj i = [TOp.find (Wee.hash ctx.keys root).toNat (some y)] ∧
      outcomeOf ctx root tt ws[i] H i = .ok y.eval := by
  obtain ⟨_, hok⟩ := interleaving_rootAdm g ctx root tt ws H hI hhist sd hws htt
  have hpres := root_present g tt H hok hroomy h0
  have hsh := runWorkerE_rootShape (envOf H i) ctx root ws[i] tt hhist (hws _ (List.getElem_mem hi)).1
  obtain ⟨l, hl, _⟩ := hsh.shape
  generalize hr0 : (applyInserts tt ((envOf H i).script 0)).find (Wee.hash ctx.keys root).toNat = r0 at hl hsh
  have hlog := hI.2 i hi
  -- the probe is an element of the history
  have hmem : TOp.find (Wee.hash ctx.keys root).toNat r0 ∈ H.proj i := by rw [← hlog, hl]; exact List.mem_cons_self
  obtain ⟨n, hread⟩ := interleaving_read_at hI hmem
  have hpr := hpres n
  rw [hread] at hpr
  cases r0 with
  | none => cases hpr
  | some y =>
    have hans : Answers sd y := (hok n).2 y hread
    obtain ⟨ho, hlg⟩ := hsh.answered y rfl (by rw [hsd]; exact hans)
    exact ⟨y, n, hread, hans, by rw [← hlog]; exact hlg, ho⟩


/-! ## 5. one deep writer: the root entry is the initial one until worker 0 stores, and worker 0's store afterwards -/

/-- **one deep worker (worker 0), all others at the depth the root entry answers; every schedule; root bucket never
full; the root entry present and not winning (`hnw`); the previous best evaluation not winning (`hbe`): the pairing
condition holds.** -/
theorem one_deep_writer_paired {L nT nB : Nat} (g : Geo L nT nB) (ctx : Ctx) (root : State) (tt : TT.Access)
    (ws : List Worker) (H : History) (hI : Interleaving ctx root tt ws H)
    (hhist : ctx.history.contains (Wee.hash ctx.keys root) = true) (sd : Nat)
    (hws : ∀ w ∈ ws, 1 ≤ w.searchDepth ∧ sd ≤ w.searchDepth)
    (hshallow : ∀ i (hi : i < ws.length), 1 ≤ i → ws[i].searchDepth = sd)
    (htt : RootOK L nT nB (Wee.hash ctx.keys root).toNat sd tt) (x0 : TT.Entry)
    (hx0 : tt.find (Wee.hash ctx.keys root).toNat = some x0) (hnw : x0.eval < 10000)
    (hroomy : ∀ n, RootRoomy nT nB (Wee.hash ctx.keys root).toNat (History.table tt (H.take n)))
    (polls : Nat) (st : IterSt) (hbe : st.bestEval < Ev.posInf) :
    PairedAt (Wee.hash ctx.keys root).toNat (joinOf ctx root tt ws H polls) st := by
  intro _ hwin x hx
  rw [joinOf_tt] at hx
  -- the winner
  obtain ⟨i, hi, hout⟩ := joinOf_evals (reportedEval_mem (Int.lt_of_lt_of_le hbe hwin))
  generalize reportedEval (joinOf ctx root tt ws H polls) st = v at hwin hout
  rw [posInf_eq] at hwin ⊢
  -- the other workers perform one read and return the value of the entry they found
  have hsh := fun i hi (h1 : 1 ≤ i) => shallow_workers_answered g ctx root tt ws H hI hhist sd hws htt
    (by rw [hx0]; rfl) hroomy i hi (hshallow i hi h1)
  have h0l : 0 < ws.length := Nat.zero_lt_of_lt hi
  have hs0 := runWorkerE_rootShape (envOf H 0) ctx root ws[0] tt hhist (hws _ (List.getElem_mem h0l)).1
  have hlog0 := hI.2 0 h0l
  -- so every store under the root key is worker 0's, and it carries the value worker 0 returns
  have o0 : ∀ j e, (j, TOp.insert (Wee.hash ctx.keys root).toNat e) ∈ H →
      outcomeOf ctx root tt ws[0] H 0 = .ok e.eval := by
    intro j e hp
    have hm := mem_proj hp
    by_cases hj : j = 0
    · subst hj
      rw [← hlog0] at hm
      exact (hs0.store hm).1
    · obtain ⟨y, _, _, _, hpr, _⟩ := hsh j (hI.1 _ hp) (Nat.pos_of_ne_zero hj)
      rw [hpr, List.mem_singleton] at hm
      cases hm
  -- a winning entry found under the root key after a prefix of the history was stored
  have found : ∀ n y, (History.table tt (H.take n)).find (Wee.hash ctx.keys root).toNat = some y → 10000 ≤ y.eval →
      ∃ j, (j, TOp.insert (Wee.hash ctx.keys root).toNat y) ∈ H := by
    intro n y hy hyw
    rcases table_find_some g.hL g.hT g.hB _ tt htt.1 hy with ⟨_, h⟩ | ⟨j, h⟩
    · rw [hx0] at h
      cases h
      exact absurd hyw (Int.not_le.2 hnw)
    · exact ⟨j, List.mem_of_mem_take h⟩
  -- worker 0 returns the reported value
  have hv0 : outcomeOf ctx root tt ws[0] H 0 = .ok v := by
    by_cases hi0 : i = 0
    · subst hi0
      exact hout
    · obtain ⟨y, n, hy, _, _, ho⟩ := hsh i hi (Nat.pos_of_ne_zero hi0)
      rw [hout] at ho
      cases ho
      obtain ⟨j, h⟩ := found n y hy hwin
      exact o0 j y h
  rcases table_find_some g.hL g.hT g.hB H tt htt.1 hx with ⟨hnone, _⟩ | ⟨j, h⟩
  · -- nothing was stored under the root key: worker 0 returns the value of the entry it read, which was stored
    obtain ⟨l, hl, hcase⟩ := hs0.shape
    rcases hcase with ⟨_, hv⟩ | ⟨l1, e', hl1, _⟩
    · obtain ⟨y, hy, hyv⟩ := hv v hv0 hwin
      obtain ⟨n, hread⟩ := interleaving_read_at hI (i := 0) (by rw [← hlog0, hl]; exact List.mem_cons_self)
      obtain ⟨j, h⟩ := found n y (hread.trans hy) (by rw [hyv]; exact hwin)
      exact absurd h (hnone j y)
    · exact absurd (mem_of_mem_proj (by rw [← hlog0, hl, hl1]; simp)) (hnone 0 e')
  · have := o0 j x h
    rw [hv0] at this
    cases this
    exact hwin


/-! ## 6. one worker: the pairing condition holds -/

/-- **an iteration with one started worker is paired.**  The worker runs alone, so the shared table is its own; by the
shape of its root call a winning value is the value of its last store, which is under the root key, or of the entry it
probed there, which no store under another key replaces by a different one. -/
theorem one_worker_paired {L nT nB : Nat} (g : Geo L nT nB) (ctx : Ctx) (root : State) (tt : TT.Access)
    (hinv : TT.AInv L nT nB tt) (w : Worker) (H : History) (hI : Interleaving ctx root tt [w] H)
    (hhist : ctx.history.contains (Wee.hash ctx.keys root) = true) (hsd : 1 ≤ w.searchDepth) (polls : Nat) (st : IterSt)
    (hp : (joinOf ctx root tt [w] H polls).panic = Option.none) :
    PairedAt (Wee.hash ctx.keys root).toNat (joinOf ctx root tt [w] H polls) st := by
  have hown : ∀ p ∈ H, p.1 = 0 := fun p hp => Nat.lt_one_iff.1 (hI.1 p hp)
  have henv : envOf H 0 = Env.empty := envOf_eq_empty fun p hp _ _ _ => hown p hp
  have hlog : (runWorkerE Env.empty ctx root w tt).2.2 = H.proj 0 := by
    have := hI.2 0 Nat.zero_lt_one
    rwa [henv] at this
  have hs := runWorkerE_rootShape Env.empty ctx root w tt hhist hsd
  intro hi hwin x hx
  rw [joinOf_tt] at hx
  -- the joined results of the one run
  unfold reportedEval at hwin
  unfold joinOf at hp hi hwin
  simp only [List.length_singleton, List.range_one, List.filterMap_cons, List.filterMap_nil, List.getElem?_cons_zero,
    Option.map_some, henv] at hp hi hwin
  generalize runWorkerE Env.empty ctx root w tt = o at hs hlog hp hi hwin
  obtain ⟨r, st2, lg⟩ := o
  rcases r with (_ | why) | v
  · simp at hi
  · simp at hp
  simp only [List.foldl_nil] at hwin
  rw [posInf_eq] at hwin ⊢
  rcases table_find_some g.hL g.hT g.hB H tt hinv hx with ⟨hnone, hx'⟩ | ⟨j, h⟩
  · -- no store under the root key: the entry found there at the end is the probed one
    obtain ⟨l, hl, hcase⟩ := hs.shape
    rcases hcase with ⟨_, hv⟩ | ⟨l1, e, hl1, _⟩
    · obtain ⟨x0, hx0, hx0v⟩ := hv v rfl hwin
      have : some x = some x0 := hx'.symm.trans hx0
      cases this
      rw [hx0v]
      exact hwin
    · exact absurd (mem_of_mem_proj (by rw [← hlog, hl, hl1]; simp)) (hnone 0 e)
  · -- a store under the root key carries the value returned
    obtain rfl : j = 0 := hown _ h
    have hm := mem_proj h
    rw [← hlog] at hm
    cases (hs.store hm).1
    exact hwin

/-- **one iteration with one worker**: every report keeps the mate -/
theorem stepS_keeps_one {K : Keys} {D : State → Prop} {L nT nB : Nat} (g : Geo L nT nB) (dom : Domain K D)
    (ctx : Ctx) (hK : ctx.keys = K) (root : State) (hD : D root)
    (hhist : ctx.history.contains (Wee.hash ctx.keys root) = true) (depth : Nat) (st st' : IterSt)
    (h : IterOK K D L nT nB root st) (hs : StepS ctx root (Wee.hash ctx.keys root) 1 depth st st') :
    IterOK K D L nT nB root st' ∧ ∃ new, st'.events = st.events ++ new ∧ ∀ ev ∈ new, MoveKeeps root ev := by
  obtain ⟨d⟩ := StepData.of_stepS hs
  refine stepData_keeps g dom ctx hK root hD _ rfl 1 depth st st' h d fun hp => ?_
  have hall : workersOfIteration depth st.bestMv (drawSeeds 1 st.rng).1 d.pollsOf =
      [Worker.ofIteration depth st.bestMv 0 (Rng.nextU64 st.rng).1 (d.pollsOf 0)] := by rw [Search.drawSeeds_one]; rfl
  have hsub := d.sub
  have hfull := d.all
  have hil := d.il
  unfold StepData.join at hp ⊢
  rw [hall] at hsub hfull
  generalize d.started = started at hsub hfull hil hp ⊢
  cases hsub with
  | cons _ h0 =>
    cases h0
    exact absurd (hfull rfl rfl) (List.cons_ne_nil _ _).symm
  | cons_cons _ h0 =>
    cases h0
    exact one_worker_paired g ctx root st.tt h.1.1 _ d.H hil hhist (Nat.le_add_left 1 _) d.polls' st hp

/-- **the whole search with one worker in every iteration, any schedule**: every report keeps the mate -/
theorem searchS_keeps_one {D : State → Prop} {L nT nB : Nat} (g : Geo L nT nB) (art : Artifact)
    (dom : Domain art.keys.keys D) (root : State) (hD : D root) (htt : TTInv art.keys.keys D L nT nB art.tt)
    (rng0 : Rng.ChaCha8) (maxDepth : Option Nat) (workersOf : Nat → Nat) (hw : ∀ d, workersOf d = 1)
    (cancelAt : Option Nat) (fuelDepth : Nat) (out : Outcome)
    (hout : SearchS root rng0 maxDepth art workersOf cancelAt fuelDepth out) : ∀ ev ∈ out.events, MoveKeeps root ev := by
  obtain ⟨st, h, _, _, _, hev⟩ := searchS_rule
    (P := fun st => IterOK art.keys.keys D L nT nB root st ∧ ∀ ev ∈ st.events, MoveKeeps root ev)
    ⟨.init htt rfl rfl, fun _ h => nomatch h⟩
    (fun depth st p h => ⟨(show IterOK art.keys.keys D L nT nB root { st with polls := p } from h.1).boundaryPoll _ depth,
      by rw [boundaryPoll_events]; exact h.2⟩)
    (fun depth st st' _ h hs => by
      rw [hw depth] at hs
      obtain ⟨h1, new, e1, c1⟩ := stepS_keeps_one g dom (iterCtx root art cancelAt) rfl root hD (by simp [iterCtx]) depth
        st st' h.1 hs
      exact ⟨h1, fun ev hev => by rw [e1] at hev; exact (List.mem_append.1 hev).elim (h.2 ev) (c1 ev)⟩)
    hout
  exact fun ev hmem => (hev ev hmem).elim (h.2 ev) (fun e => e ▸ trivial)

end Wee.Pairing
