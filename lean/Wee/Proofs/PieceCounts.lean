import Wee.Proofs.ApplyBridge
/-!
# Weighted piece counts along a move

`prefW ω c f N` counts the men of colour `c` on the squares below `N` of a mailbox `f` with the weight `ω` of their kind (an
instance of `C02.sumTo`); on the mailbox of a state it is `stateW ω s c`, the weighted sum of the bit counts
(`stateW_eq`).  A listed legal move moves one man, removes at most one of the opponent's and replaces a pawn by a
promoted piece, so for a weight that is largest at the pawn no side's count grows (`stateW_succ_le`) — the
promotion potential of C05 / `TreeBounded`.
-/
namespace Wee.C02
open Wee.C10 (DisjointBoard)

/-- weight of a mailbox cell for colour `c` -/
def cellW (ω : Piece → Nat) (c : Color) : Option (Color × Piece) → Nat
  | some (c', p) => if c' = c then ω p else 0
  | Option.none => 0

/-- weighted number of men of colour `c` on the squares below `N` -/
def prefW (ω : Piece → Nat) (c : Color) (f : Nat → Option (Color × Piece)) (N : Nat) : Nat := sumTo (cellW ω c) f N

theorem prefW_succ (ω : Piece → Nat) (c : Color) (f : Nat → Option (Color × Piece)) (N : Nat) :
    prefW ω c f (N + 1) = prefW ω c f N + cellW ω c (f N) := sumTo_succ (cellW ω c) f N

/-- writing one cell changes the weighted count by the difference of the two cell weights -/
theorem prefW_upd (ω : Piece → Nat) (c : Color) (f : Nat → Option (Color × Piece)) (sq : Nat)
    (x : Option (Color × Piece)) (N : Nat) :
    (sq < N → prefW ω c (upd f sq x) N + cellW ω c (f sq) = prefW ω c f N + cellW ω c x) ∧
    (N ≤ sq → prefW ω c (upd f sq x) N = prefW ω c f N) := sumTo_upd (cellW ω c) f sq x N

theorem prefW_upd_le (ω : Piece → Nat) (c : Color) (f : Nat → Option (Color × Piece)) (sq : Nat)
    (x : Option (Color × Piece)) (N : Nat) : prefW ω c (upd f sq x) N ≤ prefW ω c f N + cellW ω c x := by
  by_cases h : sq < N
  · have := (prefW_upd ω c f sq x N).1 h; omega
  · have := (prefW_upd ω c f sq x N).2 (by omega); omega

theorem prefW_upd_none_le (ω : Piece → Nat) (c : Color) (f : Nat → Option (Color × Piece)) (sq : Nat) (N : Nat) :
    prefW ω c (upd f sq Option.none) N ≤ prefW ω c f N := by
  have := prefW_upd_le ω c f sq Option.none N
  simpa [cellW] using this

/-- the number of ones of `b` below square `N`; at 64 it is `popcount b` (`prefC_64`) -/
def prefC (b : UInt64) (N : Nat) : Nat := ((List.range N).filter (test b)).length

theorem prefC_succ (b : UInt64) (N : Nat) : prefC b (N + 1) = prefC b N + (if test b N then 1 else 0) := by
  unfold prefC; rw [List.range_succ, List.filter_append, List.length_append]
  cases h : test b N <;> simp [h]

theorem prefC_64 (b : UInt64) : prefC b 64 = popcount b := rfl

/-- the counts `g` of the six kinds, each weighted by `ω` -/
def wsum (ω : Piece → Nat) (g : Piece → Nat) : Nat :=
  ω .pawn * g .pawn + ω .knight * g .knight + ω .bishop * g .bishop + ω .rook * g .rook + ω .queen * g .queen
    + ω .king * g .king

/-- mailbox weight = weighted bit counts of the six bitboards -/
theorem prefW_eq_wsum (ω : Piece → Nat) (c : Color) {m : PieceMap} {f : Nat → Option (Color × Piece)} (hr : Repr m f)
    (N : Nat) (hN : N ≤ 64) : prefW ω c f N = wsum ω (fun p => prefC (m.get c p) N) := by
  induction N with
  | zero => simp [prefW, sumTo, prefC, wsum]
  | succ N ih =>
    rw [prefW_succ, ih (by omega)]
    unfold wsum
    simp only [prefC_succ]
    have hc := hr N (by omega)
    have key : cellW ω c (f N) =
        ω .pawn * (if test (m.get c .pawn) N then 1 else 0) + ω .knight * (if test (m.get c .knight) N then 1 else 0)
        + ω .bishop * (if test (m.get c .bishop) N then 1 else 0) + ω .rook * (if test (m.get c .rook) N then 1 else 0)
        + ω .queen * (if test (m.get c .queen) N then 1 else 0) + ω .king * (if test (m.get c .king) N then 1 else 0) := by
      have t : ∀ p, test (m.get c p) N = decide (f N = some (c, p)) := by
        intro p
        have := hc c p
        cases h1 : test (m.get c p) N
        · symm; rw [decide_eq_false_iff_not]; intro e; rw [this.2 e] at h1; cases h1
        · symm; rw [decide_eq_true_eq]; exact this.1 h1
      simp only [t]
      cases hf : f N with
      | none => simp [cellW]
      | some cp =>
        obtain ⟨c', q⟩ := cp
        have hq : q ≠ Piece.none := by
          have := hr N (by omega); rw [hf] at this; exact cellIs_piece_ne_none this
        by_cases hcc : c' = c
        · subst hcc
          cases q <;> first | exact absurd rfl hq | simp [cellW]
        · have : ∀ p, ¬ (some (c', q) = some (c, p)) := by
            intro p e; exact hcc (congrArg Prod.fst (Option.some.inj e))
          simp [cellW, hcc, this]
    rw [key]
    simp only [Nat.mul_add]
    omega


theorem cellW_some (ω : Piece → Nat) (c c' : Color) (p : Piece) :
    cellW ω c (some (c', p)) = if c' = c then ω p else 0 := rfl

/-- emptying the origin, removing a victim and putting down something that weighs no more than what stood on the
origin does not increase the weighted count -/
theorem prefW_placed_le (ω : Piece → Nat) (c : Color) (f : Nat → Option (Color × Piece)) (o d : Nat) (ep : Bool)
    (x : Color × Piece) (ho : o < 64) (hx : cellW ω c (some x) ≤ cellW ω c (f o)) :
    prefW ω c (placed f o d ep x) 64 ≤ prefW ω c f 64 := by
  have h1 := (prefW_upd ω c f o Option.none 64).1 ho
  have h2 : prefW ω c (if ep = true then upd (upd f o Option.none) (o / 8 * 8 + d % 8) Option.none
      else upd f o Option.none) 64 ≤ prefW ω c (upd f o Option.none) 64 := by
    split
    · exact prefW_upd_none_le ω c _ _ 64
    · exact Nat.le_refl _
  have h3 := prefW_upd_le ω c (if ep = true then upd (upd f o Option.none) (o / 8 * 8 + d % 8) Option.none
      else upd f o Option.none) d (some x) 64
  have h0 : cellW ω c (Option.none : Option (Color × Piece)) = 0 := rfl
  unfold placed
  omega

/-- relocating a man does not increase the weighted count -/
theorem prefW_relocate_le (ω : Piece → Nat) (c : Color) (g : Nat → Option (Color × Piece)) (a b : Nat)
    (y : Color × Piece) (ha : a < 64) (hy : g a = some y) :
    prefW ω c (upd (upd g a Option.none) b (some y)) 64 ≤ prefW ω c g 64 := by
  have g1 := (prefW_upd ω c g a Option.none 64).1 ha
  rw [hy] at g1
  have g2 := prefW_upd_le ω c (upd g a Option.none) b (some y) 64
  have h0 : cellW ω c (Option.none : Option (Color × Piece)) = 0 := rfl
  omega

/-- **no move increases a weighted count** (captures remove, castling relocates, promotion replaces a pawn by a
piece that weighs no more than a pawn): the mailbox of the successor weighs at most the mailbox of `s` -/
theorem prefW_expected_le (ω : Piece → Nat) (hω : ∀ r, ω r ≤ ω .pawn) (c : Color) {s : State} {mv : Move} {p : Piece}
    (h : MFits s mv p) : prefW ω c (expectedF s mv p) 64 ≤ prefW ω c s.pieces.pieceAt 64 := by
  have hx : cellW ω c (some (s.turn, (Move.promotion mv).getD p)) ≤ cellW ω c (s.pieces.pieceAt (Move.origin mv)) := by
    rw [h.mover, cellW_some, cellW_some]
    cases hpr : Move.promotion mv with
    | none => exact Nat.le_refl _
    | some r =>
      have hp := (h.promo r hpr).1
      subst hp
      have := hω r
      rw [Option.getD_some]
      split <;> omega
  have hpl := prefW_placed_le ω c s.pieces.pieceAt (Move.origin mv) (Move.dest mv) (Move.isEnPassant mv) _ h.o_lt hx
  -- castling: the rook leaves its corner and lands beside the king
  have hrook : ∀ a b : Nat, a < 64 → a ≠ Move.origin mv → a ≠ Move.dest mv → Move.isEnPassant mv = false →
      s.pieces.pieceAt a = some (s.turn, Piece.rook) →
      prefW ω c (upd (upd (placed s.pieces.pieceAt (Move.origin mv) (Move.dest mv) (Move.isEnPassant mv)
        (s.turn, (Move.promotion mv).getD p)) a Option.none) b (some (s.turn, Piece.rook))) 64 ≤
      prefW ω c s.pieces.pieceAt 64 := by
    intro a b ha h1 h2 hep hr
    have hg := placed_untouched s.pieces.pieceAt (s.turn, (Move.promotion mv).getD p) (o := Move.origin mv)
      (d := Move.dest mv) (ep := Move.isEnPassant mv) a h1 h2 (fun e => by rw [hep] at e; cases e)
    exact Nat.le_trans (prefW_relocate_le ω c _ a b _ ha (hg.trans hr)) hpl
  unfold expectedF moved
  cases hcs : Move.castleSide mv with
  | none => exact hpl
  | some sd =>
    obtain ⟨_, hcap, _, ho, hsd⟩ := h.castle sd hcs
    obtain ⟨hep, _⟩ := h.quiet hcap
    have ho' := homeSq_cases s.turn
    rw [← ho] at ho'
    cases sd with
    | king => exact hrook _ _ (by omega) (by omega) (by have := hsd.1; omega) hep hsd.2.1
    | queen => exact hrook _ _ (by omega) (by omega) (by have := hsd.1; omega) hep hsd.2.1

def stateW (ω : Piece → Nat) (s : State) (c : Color) : Nat := wsum ω (fun p => popcount (s.pieces.get c p))

theorem stateW_eq (ω : Piece → Nat) (s : State) (c : Color) (hd : DisjointBoard s.pieces) :
    stateW ω s c = prefW ω c s.pieces.pieceAt 64 := by
  rw [prefW_eq_wsum ω c (repr_pieceAt hd) 64 (Nat.le_refl _)]; rfl

/-- **weighted counts never grow along a listed legal move** (legal position without overlaps) -/
theorem stateW_succ_le (ω : Piece → Nat) (hω : ∀ r, ω r ≤ ω .pawn) (s : State) (hl : LegalPos s = true)
    (hd : DisjointBoard s.pieces) (r : Move × State) (hr : r ∈ legalMoves s) (c : Color) :
    stateW ω r.2 c ≤ stateW ω s c := by
  obtain ⟨sm, hfit⟩ := legal_generated_fit s hl hd r hr
  obtain ⟨p, hm, _⟩ := fits_model hfit
  obtain ⟨map, hpm, hrep⟩ := perform_repr hm
  have hperf := mem_legalMoves hr
  rw [hpm] at hperf
  simp only [Option.some.injEq, Except.ok.injEq] at hperf
  have hmap : r.2.pieces = map := by rw [← hperf]; rfl
  have h1 : stateW ω r.2 c = prefW ω c (expectedF s r.1 p) 64 := by
    rw [prefW_eq_wsum ω c hrep 64 (Nat.le_refl _), ← hmap]; rfl
  rw [h1, stateW_eq ω s c hd]
  exact prefW_expected_le ω hω c hm

end Wee.C02
