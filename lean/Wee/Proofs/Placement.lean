import Wee.Proofs.BitLemmas
import Wee.Proofs.AttackLemmas
import Wee.Spec.Abs
/-!
# Placements built from a mailbox (namespace `Wee.FenL`), and `conc P` (namespace `Wee`)

A `PieceMap` is twelve bitboards; `Disjoint` says they are pairwise disjoint (it gives C10's `DisjointBoard`).
`buildMap f` folds a mailbox `f : Nat → Option (Color × Piece)` into a placement: the result is disjoint, has the mailbox
it was built from (`C02.Repr` of `Proofs/AbsLemmas.lean`), and the fold over the mailbox of `pieceAt` of a disjoint
placement gives that placement back.  The concretisation `concPieces` of a rules position is such a fold
(`concPieces_eq`); the FEN reader's `piecesOfCells` is another (`piecesOfCells_eq` in `Proofs/FenLemmas.lean`).
The last section, in namespace `Wee`, is what C01 uses: the bitboard state `conc P` of a mailbox position has no stacked
pieces and reads back as `P` (`disjointBoard_conc`, `abs_conc`).
-/
namespace Wee.FenL

theorem test_and (a b : UInt64) (n : Nat) : test (a &&& b) n = (test a n && test b n) :=
  Wee.test_and a b n

theorem disjoint_test {a b : UInt64} (h : a &&& b = 0) (n : Nat) :
    test a n = true → test b n = true → False := by
  intro ha hb
  have := test_and a b n
  rw [h, test_zero, ha, hb] at this
  simp at this

theorem getD_of_lt {α} (l : List α) (d : α) {i : Nat} (h : i < l.length) : l.getD i d = l[i] := by
  simp [List.getD_eq_getElem?_getD, h]

/-- the twelve bitboards in `PieceIndex` order -/
def boards (m : PieceMap) : List UInt64 :=
  [m.wp, m.wn, m.wb, m.wr, m.wq, m.wk, m.bp, m.bn, m.bb, m.br, m.bq, m.bk]

def Disjoint (m : PieceMap) : Prop := (boards m).Pairwise (fun a b => a &&& b = 0)

instance (m : PieceMap) : Decidable (Disjoint m) := by unfold Disjoint; infer_instance

/-- position of `(c, p)` in `boards` -/
def pidx (c : Color) (p : Piece) : Nat := c.idx * 6 + (p.code - 1)

theorem boards_length (m : PieceMap) : (boards m).length = 12 := rfl

theorem get_eq_boards (m : PieceMap) (c : Color) (p : Piece) (hp : p ≠ .none) :
    m.get c p = (boards m).getD (pidx c p) 0 := by
  cases c <;> cases p <;> first | rfl | exact absurd rfl hp

theorem pidx_lt (c : Color) (p : Piece) : pidx c p < 12 := by
  cases c <;> cases p <;> decide

theorem pidx_inj {c c' : Color} {p p' : Piece} (hp : p ≠ .none) (hp' : p' ≠ .none)
    (h : pidx c p = pidx c' p') : c = c' ∧ p = p' := by
  -- `pidx` is a two-digit number in base 6: both digits agree, and each determines its argument
  have hc : ∀ q : Piece, q ≠ .none → 1 ≤ q.code ∧ q.code ≤ 6 := by
    intro q hq; cases q <;> first | exact absurd rfl hq | decide
  have hi : ∀ d : Color, d.idx ≤ 1 := by intro d; cases d <;> decide
  have hcode : ∀ q : Piece, Piece.ofCode? q.code = some q := by intro q; cases q <;> rfl
  have := hc p hp; have := hc p' hp'; have := hi c; have := hi c'
  unfold pidx at h
  have h1 : c.idx = c'.idx := by omega
  have h2 : p.code = p'.code := by omega
  constructor
  · cases c <;> cases c' <;> first | rfl | cases h1
  · have := hcode p
    rw [h2, hcode p'] at this
    exact (Option.some.inj this).symm

theorem disjoint_unique {m : PieceMap} (hd : Disjoint m) {c c' : Color} {p p' : Piece}
    (hp : p ≠ .none) (hp' : p' ≠ .none) (sq : Nat)
    (h : test (m.get c p) sq = true) (h' : test (m.get c' p') sq = true) : c = c' ∧ p = p' := by
  apply pidx_inj hp hp'
  have hl : pidx c p < (boards m).length := pidx_lt c p
  have hl' : pidx c' p' < (boards m).length := pidx_lt c' p'
  rw [get_eq_boards m c p hp, getD_of_lt _ _ hl] at h
  rw [get_eq_boards m c' p' hp', getD_of_lt _ _ hl'] at h'
  have hpw := List.pairwise_iff_getElem.1 hd
  rcases Nat.lt_trichotomy (pidx c p) (pidx c' p') with hlt | heq | hgt
  · exact (disjoint_test (hpw _ _ hl hl' hlt) sq h h').elim
  · exact heq
  · exact (disjoint_test (hpw _ _ hl' hl hgt) sq h' h).elim

/-- `Board::from(&ArrayMap<Square, PieceIndex>)` for a mailbox given as a function -/
def buildMap (f : Nat → Option (Color × Piece)) : PieceMap :=
  (List.range 64).foldl (fun (m : PieceMap) sq =>
    match f sq with
    | some (c, p) => m.assign c p sq true
    | Option.none => m) {}

theorem test_foldl_assign (f : Nat → Option (Color × Piece)) (l : List Nat) (hl : ∀ x ∈ l, x < 64)
    (m0 : PieceMap) (c : Color) (p : Piece) (hp : p ≠ .none) (i : Nat) :
    test ((l.foldl (fun (m : PieceMap) sq =>
      match f sq with
      | some (c, p) => m.assign c p sq true
      | Option.none => m) m0).get c p) i =
    (test (m0.get c p) i || decide (i ∈ l ∧ f i = some (c, p))) := by
  induction l generalizing m0 with
  | nil => simp
  | cons x t ih =>
    rw [List.foldl_cons, ih (fun y hy => hl y (List.mem_cons_of_mem _ hy))]
    have hx : x < 64 := hl x List.mem_cons_self
    cases hfx : f x with
    | none =>
      simp only []
      by_cases hix : i = x
      · subst hix; simp [hfx]
      · simp [hix]
    | some cp =>
      obtain ⟨c', p'⟩ := cp
      simp only []
      have key : test ((m0.assign c' p' x true).get c p) i =
          (test (m0.get c p) i || decide (c = c' ∧ p = p' ∧ x = i)) := by
        rw [C02.test_get_assign _ _ _ _ _ _ _ _ hx]
        by_cases h : c = c' ∧ p = p' ∧ x = i
        · obtain ⟨rfl, rfl, rfl⟩ := h; simp [hp]
        · have : ¬ (c = c' ∧ p = p' ∧ p' ≠ Piece.none ∧ x = i) := fun e => h ⟨e.1, e.2.1, e.2.2.2⟩
          simp [this, h]
      rw [key, Bool.or_assoc]
      congr 1
      by_cases hix : i = x
      · subst hix
        by_cases hcp : c = c' ∧ p = p'
        · obtain ⟨rfl, rfl⟩ := hcp; simp [hfx]
        · have : ¬ (c' = c ∧ p' = p) := fun h => hcp ⟨h.1.symm, h.2.symm⟩
          by_cases hit : i ∈ t <;> simp [hfx, hcp, this, hit]
      · have : ¬ x = i := fun h => hix h.symm
        simp [hix, this]

theorem test_buildMap (f : Nat → Option (Color × Piece)) (c : Color) (p : Piece) (hp : p ≠ .none)
    (i : Nat) : test ((buildMap f).get c p) i = decide (i < 64 ∧ f i = some (c, p)) := by
  unfold buildMap
  rw [test_foldl_assign f (List.range 64) (fun x hx => List.mem_range.1 hx) {} c p hp i]
  have : test (({} : PieceMap).get c p) i = false := by
    cases c <;> cases p <;> exact test_zero i
  rw [this, Bool.false_or]
  simp [List.mem_range]

/-! ### the two forms of disjointness; `pieceAt` -/

/-- "the twelve bitboards are pairwise disjoint": C11's list form gives C10's index form (only this direction) -/
theorem _root_.Wee.disjointBoard_of_fenDisjoint {m : PieceMap} (h : Disjoint m) : C10.DisjointBoard m := by
  intro x hx y hy hne
  apply Classical.byContradiction
  intro hnz
  obtain ⟨n, _, hn⟩ := (ne_zero_iff _).1 hnz
  rw [test_and, Bool.and_eq_true] at hn
  have := disjoint_unique h ((C10.mem_allCP x.1 x.2).1 hx) ((C10.mem_allCP y.1 y.2).1 hy) n hn.1 hn.2
  exact hne (Prod.ext this.1 this.2)

theorem repr_buildMap (f : Nat → Option (Color × Piece)) (hf : ∀ i c p, f i = some (c, p) → p ≠ .none) :
    C02.Repr (buildMap f) f := by
  intro n hn c p
  by_cases hp : p = Piece.none
  · subst hp
    rw [C02.get_none, test_zero]
    exact ⟨fun h => (by cases h), fun h => absurd rfl (hf n c _ h)⟩
  · rw [test_buildMap f c p hp n]; simp [hn]

theorem buildMap_pieceAt {m : PieceMap} (hd : Disjoint m)
    (f : Nat → Option (Color × Piece)) (hf : ∀ sq < 64, f sq = m.pieceAt sq) : buildMap f = m := by
  apply C02.ext_get
  intro c p
  by_cases hp : p = Piece.none
  · subst hp; rw [C02.get_none, C02.get_none]
  · apply Wee.ext
    intro i hi
    rw [test_buildMap f c p hp i, hf i hi, Bool.eq_iff_iff, decide_eq_true_eq,
      C10.pieceAt_iff (disjointBoard_of_fenDisjoint hd)]
    exact ⟨fun h => h.2, fun h => ⟨hi, h⟩⟩

abbrev Cell := Option (Color × Piece)

/-! ## Placements built from a mailbox are disjoint; `pieceAt` reads the mailbox back -/

def colorAt (i : Nat) : Color := if i < 6 then .white else .black
def pieceIx (i : Nat) : Piece :=
  match i % 6 with
  | 0 => .pawn | 1 => .knight | 2 => .bishop | 3 => .rook | 4 => .queen | _ => .king

theorem boards_getElem (m : PieceMap) : ∀ (i : Nat) (h : i < (boards m).length),
    (boards m)[i] = m.get (colorAt i) (pieceIx i) ∧ pieceIx i ≠ .none ∧ pidx (colorAt i) (pieceIx i) = i := by
  intro i h
  have h12 : i < 12 := h
  match i, h12 with
  | 0, _ | 1, _ | 2, _ | 3, _ | 4, _ | 5, _ | 6, _ | 7, _ | 8, _ | 9, _ | 10, _ | 11, _ =>
    exact ⟨rfl, by decide, by decide⟩

theorem disjoint_of_unique (m : PieceMap)
    (h : ∀ c p c' p' sq, p ≠ .none → p' ≠ .none → test (m.get c p) sq = true →
      test (m.get c' p') sq = true → c = c' ∧ p = p') : Disjoint m := by
  apply List.pairwise_iff_getElem.2
  intro i j hi hj hij
  obtain ⟨ei, ni, xi⟩ := boards_getElem m i hi
  obtain ⟨ej, nj, xj⟩ := boards_getElem m j hj
  rw [ei, ej]
  apply Wee.ext
  intro sq _
  rw [test_and, test_zero]
  cases h1 : test (m.get (colorAt i) (pieceIx i)) sq with
  | false => rfl
  | true =>
    cases h2 : test (m.get (colorAt j) (pieceIx j)) sq with
    | false => rfl
    | true =>
      exfalso
      obtain ⟨e1, e2⟩ := h _ _ _ _ sq ni nj h1 h2
      rw [e1, e2, xj] at xi
      omega

theorem disjoint_buildMap (f : Nat → Cell) : Disjoint (buildMap f) := by
  apply disjoint_of_unique
  intro c p c' p' sq hp hp' h1 h2
  rw [test_buildMap f c p hp sq, decide_eq_true_eq] at h1
  rw [test_buildMap f c' p' hp' sq, decide_eq_true_eq] at h2
  have := h1.2.symm.trans h2.2
  simp only [Option.some.injEq, Prod.mk.injEq] at this
  exact this

theorem pieceAt_buildMap (f : Nat → Cell) (hf : ∀ sq c p, f sq = some (c, p) → p ≠ .none)
    (sq : Nat) (hsq : sq < 64) : (buildMap f).pieceAt sq = f sq :=
  C02.pieceAt_of_cellIs (repr_buildMap f hf sq hsq)

/-! ## the concretisation of a rules position -/

def convColor : Spec.Color → Color | .white => .white | .black => .black

def convCell (x : Option (Spec.Color × Spec.Kind)) : Cell := x.map fun ck => (convColor ck.1, SanP.kindPiece ck.2)

theorem concPieces_eq (p : Spec.Pos) : concPieces p = buildMap (fun sq => convCell (p.at sq)) := by
  unfold concPieces buildMap
  congr 1
  funext m sq
  cases h : p.at sq with
  | none => simp [convCell, h]
  | some ck =>
    obtain ⟨c, k⟩ := ck
    cases c <;> cases k <;> simp [convCell, convColor, SanP.kindPiece, h]

theorem convCell_ne_none (p : Spec.Pos) : ∀ sq c q, convCell (p.at sq) = some (c, q) → q ≠ .none := by
  intro sq c q h
  cases h' : p.at sq with
  | none => simp [convCell, h'] at h
  | some ck =>
    obtain ⟨c', k⟩ := ck
    simp only [convCell, h', Option.map_some, Option.some.injEq, Prod.mk.injEq] at h
    exact h.2 ▸ C10.absKind_ne_none (absKind_kindPiece k)

theorem disjoint_concPieces (p : Spec.Pos) : Disjoint (concPieces p) := by
  rw [concPieces_eq]; exact disjoint_buildMap _

theorem pieceAt_concPieces (p : Spec.Pos) (sq : Nat) (hsq : sq < 64) :
    (concPieces p).pieceAt sq = convCell (p.at sq) := by
  rw [concPieces_eq]; exact pieceAt_buildMap _ (convCell_ne_none p) sq hsq

end Wee.FenL

/-! ## `conc P`: from a mailbox position to the engine's state and back

The bitboard state of the mailbox position `P` has no stacked pieces and its mailbox reading is `P` again, so the C01
theorems can be stated for "every legal chess position `P`" with no side condition on bitboards. -/
namespace Wee
open Wee.C10 (DisjointBoard)

theorem disjointBoard_conc (P : Spec.Pos) : DisjointBoard (conc P).pieces :=
  disjointBoard_of_fenDisjoint (FenL.disjoint_concPieces P)

theorem absCell_concPieces (P : Spec.Pos) (sq : Nat) (hsq : sq < 64) : absCell (concPieces P) sq = P.at sq := by
  unfold absCell
  rw [FenL.pieceAt_concPieces P sq hsq]
  cases h : P.at sq with
  | none => rfl
  | some ck =>
    obtain ⟨c, k⟩ := ck
    cases c <;> cases k <;> rfl

/-- reading the bitboard form of a 64-cell mailbox position gives the position back -/
theorem abs_conc (P : Spec.Pos) (hsz : P.cells.size = 64) : abs (conc P) = P := by
  have hcells : (Array.range 64).map (absCell (concPieces P)) = P.cells := by
    apply Array.ext
    · simp [hsz]
    · intro i h1 h2
      have hi : i < 64 := by simpa using h1
      simp only [Array.getElem_map, Array.getElem_range]
      rw [absCell_concPieces P i hi]
      unfold Spec.Pos.at
      rw [if_pos hi]
      simp [Array.getD, h2]
  obtain ⟨cells, turn, wk, wq, bk, bq, ep, hm, fm⟩ := P
  simp only [abs, conc] at hcells ⊢
  rw [hcells]
  cases turn <;> rfl

end Wee
