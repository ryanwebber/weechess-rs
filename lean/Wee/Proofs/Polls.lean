import Wee.Proofs.SearchCtl
import Wee.Proofs.Iteration
/-!
# The cancellation polls

`St.polls` / `IterSt.polls` count the reads of the cancellation flag: one at every 10000th node of a worker, one at every
iteration boundary after the first.  With `cancelAt = some k` the flag answers "cancelled" from the `k`-th read on.

1. the counter only grows (`searchNode`, `runWorker`, `runWorkers`, `iterStep`): once `Stop` is visible it stays visible;
2. every iteration boundary is a poll, so the deepening loop does not depend on its fuel once the fuel reaches the boundary
   read number `k + 1` (`iterLoop_fuel`, `iterLoop_fuel_outcome`);
3. a worker started when `Stop` is visible is interrupted with exactly one poll interval of counted nodes, or ends before
   (`runWorker_stop_bound`, from `searchNode_stop_bound` and `stop_post_cases`).
-/
namespace Wee.SearchCtl
open Wee.Search

theorem polls_walk (ctx : Ctx) (p : Nat) :
    Walk ctx (fun st => p ≤ st.polls) (fun st => p ≤ st.polls) (fun _ _ => True) (fun _ => True) where
  tick := by
    intro st h
    rw [tick_eq]
    split
    · split
      · exact ⟨trivial, Nat.le_succ_of_le h⟩
      · exact Nat.le_succ_of_le h
    · exact h
  rng := fun _ _ h => h
  underflow := fun _ _ _ _ _ _ _ _ => trivial
  leaf := fun _ _ _ _ _ _ => trivial
  pseudo := fun _ _ _ _ => trivial
  legal := fun _ _ _ _ _ _ _ _ => trivial
  eval := fun _ _ _ _ => trivial
  window := fun _ _ _ _ _ => trivial
  child := fun _ _ _ _ _ _ _ _ _ _ _ => trivial
  insert := fun _ _ _ _ _ _ _ _ _ _ h _ _ _ _ => h

theorem searchNode_polls_mono (ctx : Ctx) (rem : Nat) (a : NodeArgs) (st : St) :
    st.polls ≤ ((searchNode ctx rem a).run.run st).2.polls :=
  (searchNode_walk (polls_walk ctx st.polls) rem a st trivial (Nat.le_refl _)).same

theorem runWorker_polls_mono (ctx : Ctx) (root : State) (sd : Nat) (best : Option Move) (tt : TT.Access)
    (rng : Rng.ChaCha8) (polls : Nat) : polls ≤ (runWorker ctx root sd best tt rng polls).2.polls := by
  rw [runWorker_eq]
  exact searchNode_polls_mono ctx sd (rootArgs root sd best) { tt, rng, nodes := 0, polls }

theorem runWorkers_polls_mono (ctx : Ctx) (root : State) (depth : Nat) (bestMv : Option Move)
    (l : List (Nat × UInt64)) (acc : WorkersOut) : acc.polls ≤ (runWorkers ctx root depth bestMv l acc).polls :=
  runWorkers_rule (P := fun a => acc.polls ≤ a.polls) ctx root depth bestMv (fun p a out _ ho h => by
    rcases a.join_cases out with ⟨_, e, _⟩ | ⟨_, e, _⟩ <;> rw [e]
    · rw [← ho]; exact Nat.le_trans h (runWorker_polls_mono ..)
    · exact h) l acc (Nat.le_refl _)

theorem iterStep_polls_mono (ctx : Ctx) (root : State) (rootHash : UInt64) (workers depth : Nat) (st : IterSt) :
    st.polls ≤ (iterStep ctx root rootHash workers depth st).polls := by
  rw [iterStep_eq, finishStep_polls]
  by_cases hp : (workersOut ctx root workers depth st).panic.isSome = true
  · rw [if_pos hp]; exact Nat.le_refl _
  · rw [if_neg hp]
    exact runWorkers_polls_mono ctx root depth st.bestMv _ { tt := st.tt, polls := st.polls, evals := [], sumNodes := 0 }

/-- a boundary read at `depth > 0` with `k` earlier polls ends the loop -/
theorem boundaryPoll_stops (ctx : Ctx) (k : Nat) (hk : ctx.cancelAt = some k) (depth : Nat) (hd : 0 < depth)
    (st : IterSt) (hp : k ≤ st.polls) :
    boundaryPoll ctx depth st = { st with polls := st.polls + 1, finished := true } := by
  rw [boundaryPoll_pos ctx hd]
  unfold flagSays
  rw [hk]
  simp [hp]

/-- a boundary read that does not end the loop (with `depth - 1` polls behind it) was at `depth ≤ k`, and the iteration
it starts hands on at least `depth` polls -/
theorem boundaryPoll_continues (ctx : Ctx) (k : Nat) (hk : ctx.cancelAt = some k) (root : State) (rootHash : UInt64)
    (workers depth : Nat) (st : IterSt) (h2 : depth ≤ st.polls + 1)
    (hb : ¬ (boundaryPoll ctx depth st).finished = true) :
    depth ≤ k ∧ depth + 1 ≤ (iterStep ctx root rootHash workers depth (boundaryPoll ctx depth st)).polls + 1 := by
  have hmono := iterStep_polls_mono ctx root rootHash workers depth (boundaryPoll ctx depth st)
  have hbp := boundaryPoll_polls ctx depth st
  rcases Nat.eq_zero_or_pos depth with h0 | hpos
  · omega
  · rw [if_pos hpos] at hbp
    rcases Nat.lt_or_ge st.polls k with hlt | hge
    · omega
    · rw [boundaryPoll_stops ctx k hk depth hpos st hge] at hb
      exact absurd rfl hb

/-- **every iteration boundary is a poll**: if at the top of iteration `depth` at least `depth - 1` polls have happened
(true at the start, `depth = 0`, `polls = 0`), the loop is the same function of its state for every fuel that reaches
iteration `k + 1` — the boundary read there is poll number `≥ k`, so it ends the loop -/
theorem iterLoop_fuel (ctx : Ctx) (k : Nat) (hk : ctx.cancelAt = some k) (root : State) (rootHash : UInt64)
    (workersOf : Nat → Nat) :
    ∀ (n m depth : Nat) (st : IterSt), depth ≤ k + 1 → depth ≤ st.polls + 1 → k + 2 ≤ depth + n → k + 2 ≤ depth + m →
      iterLoop ctx root rootHash workersOf n depth st = iterLoop ctx root rootHash workersOf m depth st := by
  intro n
  induction n with
  | zero => intro m depth st h1 _ h3 _; omega
  | succ n ih =>
    intro m depth st h1 h2 h3 h4
    obtain ⟨m, rfl⟩ : ∃ m', m = m' + 1 := ⟨m - 1, by omega⟩
    rw [iterLoop_succ, iterLoop_succ]
    split
    · rfl
    · split
      · rfl
      · rename_i hf hb
        obtain ⟨hdk, hpolls⟩ := boundaryPoll_continues ctx k hk root rootHash (workersOf depth) depth st h2 hb
        exact ih m (depth + 1) _ (by omega) hpolls (by omega) (by omega)

/-- the parts of the final loop state that `iterate` hands out (events, table, panic) are already reached with one
iteration less: the last boundary read only counts a poll and sets `finished` -/
theorem iterLoop_fuel_outcome (ctx : Ctx) (k : Nat) (hk : ctx.cancelAt = some k) (root : State) (rootHash : UInt64)
    (workersOf : Nat → Nat) :
    ∀ (n depth : Nat) (st : IterSt), depth ≤ k + 1 → depth ≤ st.polls + 1 → k + 1 ≤ depth + n →
      (iterLoop ctx root rootHash workersOf n depth st).events =
        (iterLoop ctx root rootHash workersOf (n + 1) depth st).events ∧
      (iterLoop ctx root rootHash workersOf n depth st).tt = (iterLoop ctx root rootHash workersOf (n + 1) depth st).tt ∧
      (iterLoop ctx root rootHash workersOf n depth st).panic =
        (iterLoop ctx root rootHash workersOf (n + 1) depth st).panic := by
  intro n
  induction n with
  | zero =>
    intro depth st h1 h2 h3
    have hd : depth = k + 1 := by omega
    rw [iterLoop_succ]
    show st.events = _ ∧ st.tt = _ ∧ st.panic = _
    split
    · exact ⟨rfl, rfl, rfl⟩
    · rw [boundaryPoll_stops ctx k hk depth (by omega) st (by omega)]
      exact ⟨rfl, rfl, rfl⟩
  | succ n ih =>
    intro depth st h1 h2 h3
    rw [iterLoop_succ, iterLoop_succ ctx root rootHash workersOf (n + 1)]
    split
    · exact ⟨rfl, rfl, rfl⟩
    · split
      · exact ⟨rfl, rfl, rfl⟩
      · rename_i hf hb
        obtain ⟨hdk, hpolls⟩ := boundaryPoll_continues ctx k hk root rootHash (workersOf depth) depth st h2 hb
        exact ih (depth + 1) _ (by omega) hpolls (by omega)

/-- the worker's node counter starts at 0: it is interrupted at exactly `pollInterval` counted nodes, or returns
(normally or with a panic) with fewer — then it has not read the flag at all -/
theorem runWorker_stop_bound (ctx : Ctx) (k : Nat) (hk : ctx.cancelAt = some k) (root : State) (searchDepth : Nat)
    (best : Option Move) (tt : TT.Access) (rng : Rng.ChaCha8) (polls : Nat) (hp : k ≤ polls) :
    (runWorker ctx root searchDepth best tt rng polls).1 = .error .interrupt ∧
      (runWorker ctx root searchDepth best tt rng polls).2.nodes = Gen.pollInterval
    ∨
    (runWorker ctx root searchDepth best tt rng polls).1 ≠ .error .interrupt ∧
      (runWorker ctx root searchDepth best tt rng polls).2.nodes < Gen.pollInterval := by
  rw [runWorker_eq]
  have h := stop_post_cases (searchNode_stop_bound ctx k hk searchDepth (rootArgs root searchDepth best)
    { tt, rng, nodes := 0, polls } hp)
  simp only [Nat.zero_div, Nat.zero_add, Nat.one_mul] at h
  exact h.imp id fun h => ⟨h.1, h.2.2.1⟩

end Wee.SearchCtl
