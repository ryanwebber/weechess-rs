import Wee.Model.San
/-!
# `MoveQuery::test`, characterised

`MoveQuery.test_iff`: a query accepts a move word iff every field of the query that is set agrees with the word — the
one place in the model-side modules where the conjunction of `MoveQuery.test` is opened (the bridge to the translated
code, `Proofs/TextFnsBridge2.lean`, unfolds it once more, against the generated `MoveQuery.test`).  `coords_test_iff`: the query that sets the four
coordinates and, optionally, the promotion letter.  That query has two names, `C02.coordQuery` (`Proofs/ApplyGen.lean`, for
the resolver) and `SanP.lanQuery` (`Proofs/SanLemmas.lean`, for the coordinate text): the same record, the first with
`rankOf`/`fileOf` for `/ 8`, `% 8`; `C02.coordQuery_test`, `SanP.lanQuery_test_iff` and `C12_lan_test` are `coords_test_iff`
read at those names.
-/
namespace Wee

/-- a field of a query constrains a move only when it is set -/
theorem getD_map_true {α : Type} (o : Option α) (f : α → Bool) :
    (o.map f).getD true = true ↔ ∀ a, o = some a → f a = true := by
  cases o <;> simp

theorem MoveQuery.test_iff (q : MoveQuery) (m : Move) :
    q.test m = true ↔
      (∀ p, q.piece = some p → p = Move.piece m) ∧
      (∀ r, q.originRank = some r → r = rankOf (Move.origin m)) ∧
      (∀ f, q.originFile = some f → f = fileOf (Move.origin m)) ∧
      (∀ r, q.destRank = some r → r = rankOf (Move.dest m)) ∧
      (∀ f, q.destFile = some f → f = fileOf (Move.dest m)) ∧
      (∀ p, q.promotion = some p → p = (Move.promotion m).getD (Move.piece m)) ∧
      (∀ sd, q.castle = some sd → Move.isCastle m sd = true) ∧
      (∀ c, q.isCapture = some c → c = Move.isCapture m) := by
  simp only [MoveQuery.test, Bool.and_eq_true, getD_map_true, beq_iff_eq, and_assoc]

/-- the resolver's leniency: a letter also matches a move that is not a promotion, when it names the moving piece itself -/
theorem coords_test_iff (o d : Nat) (pr : Option Piece) (m : Move) :
    ({ originRank := some (o / 8), originFile := some (o % 8), destRank := some (d / 8), destFile := some (d % 8),
       promotion := pr } : MoveQuery).test m = true ↔
      Move.origin m = o ∧ Move.dest m = d ∧ ∀ p, pr = some p → p = (Move.promotion m).getD (Move.piece m) := by
  have ho : (o / 8 = Move.origin m / 8 ∧ o % 8 = Move.origin m % 8) ↔ Move.origin m = o := by omega
  have hd : (d / 8 = Move.dest m / 8 ∧ d % 8 = Move.dest m % 8) ↔ Move.dest m = d := by omega
  rw [MoveQuery.test_iff, ← ho, ← hd]
  simp only [Option.some.injEq, forall_eq', rankOf, fileOf, reduceCtorEq, false_implies, implies_true,
    true_and, and_true, and_assoc]

end Wee
