import Wee.Proofs.Histories
import Wee.Proofs.EnvWorker
/-!
# Reads-from consistency: the worker's view of the table is the shared table

A worker's log replays on its own view of the table (`Replay`; the property `TableOK`, which holds of the worker by
`searchNodeE_srel` at `tableOK_structRel`: `searchNodeE_tableOK`, `runWorkerE_replay`), and in an execution that view is the shared table of the global history: every `find` of every worker returns what the operations
before it, in the order of the history, left under its key (`replay_history`, `interleaving_reads_from`; by position,
for an operation of a worker's projection: `interleaving_read_at`).
-/
namespace Wee.Env
open Wee.Search

/-- started with `n` earlier operations on the table `tt`, the log `l` is what the table operations of the worker do:
each operation first lets the batch of its index take effect, a `find` returns what the table then holds, an `insert`
stores; `tt'` is the table after the last operation -/
def Replay (env : Env) : Nat → TT.Access → List TOp → TT.Access → Prop
  | _, tt, [], tt' => tt' = tt
  | n, tt, .find k r :: l, tt' =>
    (applyInserts tt (env.script n)).find k = r ∧ Replay env (n + 1) (applyInserts tt (env.script n)) l tt'
  | n, tt, .insert k e :: l, tt' => Replay env (n + 1) ((applyInserts tt (env.script n)).insert k e) l tt'

theorem Replay.append {env : Env} : ∀ (l1 : List TOp) {l2 : List TOp} {n : Nat} {tt tt1 tt2 : TT.Access},
    Replay env n tt l1 tt1 → Replay env (n + l1.length) tt1 l2 tt2 → Replay env n tt (l1 ++ l2) tt2 := by
  intro l1
  induction l1 with
  | nil => intro l2 n tt tt1 tt2 h1 h2; cases h1; exact h2
  | cons op l1 ih =>
    intro l2 n tt tt1 tt2 h1 h2
    rw [List.length_cons, show n + (l1.length + 1) = (n + 1) + l1.length by omega] at h2
    cases op with
    | find k r => exact ⟨h1.1, ih h1.2 h2⟩
    | insert k e => exact ih h1 h2

/-- `x` touches the table only through its logged operations -/
def TableOK {α : Type} (env : Env) (x : ME α) : Prop := ∀ n st, Replay env n st.tt (x n st).2.2 (x n st).2.1.tt

section tableOK
variable {env : Env} {α β : Type}

theorem tableOK_bind {x : ME α} {f : α → ME β} (hx : TableOK env x) (hf : ∀ a, TableOK env (f a)) :
    TableOK env (x >>= f) := by
  intro n st
  rw [bind_run]
  have h1 := hx n st
  generalize x n st = o at h1 ⊢
  obtain ⟨r, st1, l1⟩ := o
  cases r with
  | error e => exact h1
  | ok a =>
    simp only
    have h2 := hf a (n + l1.length) st1
    generalize f a (n + l1.length) st1 = o2 at h2 ⊢
    obtain ⟨r2, st2, l2⟩ := o2
    exact Replay.append l1 h1 h2

end tableOK

section tableOKnode
variable (env : Env) (ctx : Ctx)

/-- `TableOK` is structural: a quiet step replays as the empty log -/
theorem tableOK_structRel : QuietRel (fun {α} (x x' : ME α) => x = x' ∧ TableOK env x) env env where
  quiet := fun x h => ⟨rfl, fun n st => by rw [(h n st).1]; exact (h n st).2⟩
  bind := fun hx hf => ⟨by rw [hx.1, funext fun a => (hf a).1], tableOK_bind hx.2 fun a => (hf a).2⟩
  find := fun k => ⟨rfl, fun _ _ => ⟨rfl, rfl⟩⟩
  insert := fun k e => ⟨rfl, fun _ _ => rfl⟩

/-- the worker's table is the start table changed by the environment's batches and its own logged operations only, and
every logged `find` carries what that table held -/
theorem searchNodeE_tableOK (rem : Nat) (a : NodeArgs) : TableOK env (searchNodeE env ctx rem a) :=
  (searchNodeE_srel (tableOK_structRel env) ctx rem a).2

theorem runWorkerE_replay (root : State) (w : Worker) (tt : TT.Access) :
    Replay env 0 tt (runWorkerE env ctx root w tt).2.2 (runWorkerE env ctx root w tt).2.1.tt :=
  searchNodeE_tableOK env ctx w.searchDepth (rootArgsE root w) 0 { tt, rng := w.rng, nodes := 0, polls := w.polls }

end tableOKnode

theorem table_cons (tt : TT.Access) (p : Nat × TOp) (H : History) :
    History.table tt (p :: H) = History.table (p.2.apply tt) H := rfl

/-- the `find`s of the log `l` return what the table holds, the batches still to come given as a list (its head is
delivered before the next operation): `Replay` without the index into the environment and without the final table -/
def ReadsOK : List (List (Nat × TT.Entry)) → TT.Access → List TOp → Prop
  | _, _, [] => True
  | bs, tt, .find k r :: l =>
    (applyInserts tt (bs.headD [])).find k = r ∧ ReadsOK bs.tail (applyInserts tt (bs.headD [])) l
  | bs, tt, .insert k e :: l => ReadsOK bs.tail ((applyInserts tt (bs.headD [])).insert k e) l

theorem Replay.readsOK {bs : List (List (Nat × TT.Entry))} : ∀ (l : List TOp) {n : Nat} {tt tt' : TT.Access},
    Replay (Env.ofList bs) n tt l tt' → ReadsOK (bs.drop n) tt l := by
  intro l
  induction l with
  | nil => intro n tt tt' _; trivial
  | cons op l ih =>
    intro n tt tt' h
    have hd : (bs.drop n).headD [] = (Env.ofList bs).script n := by
      show _ = bs.getD n []
      rw [List.headD_eq_head?_getD, List.head?_drop, List.getD_eq_getElem?_getD]
    have htl : (bs.drop n).tail = bs.drop (n + 1) := List.tail_drop
    cases op with
    | find k r =>
      unfold ReadsOK
      rw [hd, htl]
      exact ⟨h.1, ih h.2⟩
    | insert k e =>
      unfold ReadsOK
      rw [hd, htl]
      exact ih h

/-- if the `find`s of worker `i` in `H` are right for the batches `H` induces for it, then every `find` of worker `i`
returned what the SHARED table (all workers' inserts before it, in the order of `H`) held at that moment -/
theorem replay_history (i : Nat) : ∀ (H : History) (tt : TT.Access),
    ReadsOK (batchesOf i H) tt (History.proj H i) →
    ∀ H1 k r H2, H = H1 ++ (i, TOp.find k r) :: H2 → (History.table tt H1).find k = r := by
  intro H
  induction H with
  | nil => intro tt _ H1 k r H2 h; simp at h
  | cons p rest ih =>
    obtain ⟨j, op⟩ := p
    intro tt hrep H1 k r H2 hH
    cases H1 with
    | nil =>
      -- the `find` in question is the head: it is an own operation, after an empty batch
      obtain ⟨⟨rfl, rfl⟩, _⟩ := List.cons.inj hH
      rw [batchesOf_cons_own, proj_cons_own] at hrep
      exact hrep.1
    | cons q H1' =>
      obtain ⟨rfl, hrest⟩ := List.cons.inj hH
      rw [table_cons]
      refine ih _ ?_ H1' k r H2 hrest
      rcases own_or_other j i with rfl | hj
      · rw [batchesOf_cons_own, proj_cons_own] at hrep
        cases op with
        | find k0 r0 => exact hrep.2
        | insert k0 e0 => exact hrep
      · rw [proj_cons_other hj] at hrep
        cases op with
        | find k0 r0 => rw [batchesOf_cons_other_find hj] at hrep; exact hrep
        | insert k0 e0 =>
          -- the foreign insert heads the next batch: delivering it now or with that batch is the same
          rw [batchesOf_cons_other_insert hj] at hrep
          cases hl : History.proj rest i with
          | nil => trivial
          | cons op0 l =>
            rw [hl] at hrep
            -- whether or not there is a batch to put it in front of, and whatever the next own operation is
            cases hb : batchesOf i rest <;> rw [hb] at hrep <;> cases op0 <;> exact hrep

/-- **reads-from consistency.**  In an execution `H` every `find` of every worker returned exactly what the shared
table — the initial table changed by all inserts that precede the `find` in `H`, whoever made them — held at that
moment.  So `H` is a linearisation of the table operations in the sense of C15. -/
theorem interleaving_reads_from {ctx : Ctx} {root : State} {tt : TT.Access} {ws : List Worker} {H : History}
    (hI : Interleaving ctx root tt ws H) (H1 : History) (i k : Nat) (r : Option TT.Entry) (H2 : History)
    (hH : H = H1 ++ (i, TOp.find k r) :: H2) : (History.table tt H1).find k = r := by
  have hi : i < ws.length := hI.1 (i, TOp.find k r) (by rw [hH]; simp)
  have hrep := runWorkerE_replay (envOf H i) ctx root ws[i] tt
  rw [hI.2 i hi] at hrep
  exact replay_history i H tt hrep.readsOK H1 k r H2 hH

theorem mem_proj {H : History} {i : Nat} {op : TOp} (h : (i, op) ∈ H) : op ∈ H.proj i := by
  unfold History.proj
  exact List.mem_map.2 ⟨(i, op), List.mem_filter.2 ⟨h, by simp⟩, rfl⟩

theorem mem_of_mem_proj {H : History} {i : Nat} {op : TOp} (h : op ∈ H.proj i) : (i, op) ∈ H := by
  unfold History.proj at h
  obtain ⟨p, hp, hpe⟩ := List.mem_map.1 h
  obtain ⟨hp1, hp2⟩ := List.mem_filter.1 hp
  have : p.1 = i := by simpa using hp2
  obtain ⟨a, b⟩ := p
  simp only at this hpe
  rw [← this, ← hpe]; exact hp1

/-- in an execution, a `find` of worker `i` returned what the shared table held after some prefix of the history -/
theorem interleaving_read_at {ctx : Ctx} {root : State} {tt : TT.Access} {ws : List Worker} {H : History}
    (hI : Interleaving ctx root tt ws H) {i k : Nat} {r : Option TT.Entry} (h : TOp.find k r ∈ H.proj i) :
    ∃ n, (History.table tt (H.take n)).find k = r := by
  obtain ⟨H1, H2, hH⟩ := List.append_of_mem (mem_of_mem_proj h)
  refine ⟨H1.length, ?_⟩
  rw [show H.take H1.length = H1 by rw [hH, List.take_left']; rfl]
  exact interleaving_reads_from hI H1 i k r H2 hH

end Wee.Env
