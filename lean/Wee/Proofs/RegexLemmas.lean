import Wee.Spec.Regex
import Wee.Proofs.FenLemmas
/-!
# Lemmas for `Props/FenRegex.lean`: the regex semantics of `Spec/Regex.lean` against the hand-written recogniser

Inversion lemmas for the matching relation `M` (one per constructor of `Regex`) turn each group of `fenAst` into a
condition on its text: the character classes of the literal are the Boolean gates of `Model/Fen.lean`, and the `\s`
table of the spec is `isRegexSpace` of the model (`isWhiteSpace_eq`).  The whole pattern (`M_fenAst`) then says: six such
fields with five single separators between them, which is also what `splitFields` returning six fields means
(`splitFields_six_inv`; forwards is `FenL.splitFields_six`).  Hence matches are unique and computed by the decision
procedure `fenCaptures` (`M_fenAst_iff_captures`, `captures_fenAst_iff`, `reCaptures_fenAst`).  All this is in namespace
`Wee.Spec` (hence `Spec.fenCaptures`, `Spec.FenGroups`); after it, in `Wee`, the recogniser `parseFenChars` (cut at its
gate in `Proofs/FenLemmas.lean`) against `fenCaptures`.
-/
namespace Wee.Spec
variable {P : PerlClasses} {pre s post : List Char} {c : Caps}

theorem M_eps : M P .eps pre s post c ↔ s = [] ∧ c = [] := by
  constructor
  · intro h; cases h; exact ⟨rfl, rfl⟩
  · rintro ⟨rfl, rfl⟩; exact .eps

theorem M_chr {ch : Char} : M P (.chr ch) pre s post c ↔ s = [ch] ∧ c = [] := by
  constructor
  · intro h; cases h; exact ⟨rfl, rfl⟩
  · rintro ⟨rfl, rfl⟩; exact .chr

theorem M_cls {items : List ClassItem} :
    M P (.cls items) pre s post c ↔ ∃ ch, s = [ch] ∧ items.any (ClassItem.mem ch) = true ∧ c = [] := by
  constructor
  · intro h; cases h with | cls hm => exact ⟨_, rfl, hm, rfl⟩
  · rintro ⟨ch, rfl, hm, rfl⟩; exact .cls hm

theorem M_space : M P .space pre s post c ↔ ∃ ch, s = [ch] ∧ P.space ch = true ∧ c = [] := by
  constructor
  · intro h; cases h with | space hm => exact ⟨_, rfl, hm, rfl⟩
  · rintro ⟨ch, rfl, hm, rfl⟩; exact .space hm

theorem M_digit : M P .digit pre s post c ↔ ∃ ch, s = [ch] ∧ P.digit ch = true ∧ c = [] := by
  constructor
  · intro h; cases h with | digit hm => exact ⟨_, rfl, hm, rfl⟩
  · rintro ⟨ch, rfl, hm, rfl⟩; exact .digit hm

theorem M_cat {a b : Regex} : M P (.cat a b) pre s post c ↔
    ∃ s₁ s₂ c₁ c₂, s = s₁ ++ s₂ ∧ c = c₁ ++ c₂ ∧ M P a pre s₁ (s₂ ++ post) c₁ ∧ M P b (pre ++ s₁) s₂ post c₂ := by
  constructor
  · intro h; cases h with | cat h₁ h₂ => exact ⟨_, _, _, _, rfl, rfl, h₁, h₂⟩
  · rintro ⟨s₁, s₂, c₁, c₂, rfl, rfl, h₁, h₂⟩; exact .cat h₁ h₂

theorem M_alt {a b : Regex} : M P (.alt a b) pre s post c ↔ M P a pre s post c ∨ M P b pre s post c := by
  constructor
  · intro h; cases h with
    | altL h => exact .inl h
    | altR h => exact .inr h
  · rintro (h | h)
    · exact .altL h
    · exact .altR h

theorem M_group {i : Nat} {r : Regex} :
    M P (.group i r) pre s post c ↔ ∃ c', c = (i, s) :: c' ∧ M P r pre s post c' := by
  constructor
  · intro h; cases h with | group h => exact ⟨_, rfl, h⟩
  · rintro ⟨c', rfl, h⟩; exact .group h

theorem M_ncgroup {r : Regex} : M P (.ncgroup r) pre s post c ↔ M P r pre s post c := by
  constructor
  · intro h; cases h with | ncgroup h => exact h
  · exact .ncgroup

theorem M_bol : M P .bol pre s post c ↔ pre = [] ∧ s = [] ∧ c = [] := by
  constructor
  · intro h; cases h; exact ⟨rfl, rfl, rfl⟩
  · rintro ⟨rfl, rfl, rfl⟩; exact .bol

theorem M_eol : M P .eol pre s post c ↔ post = [] ∧ s = [] ∧ c = [] := by
  constructor
  · intro h; cases h; exact ⟨rfl, rfl, rfl⟩
  · rintro ⟨rfl, rfl, rfl⟩; exact .eol

theorem M_rep {r : Regex} {lo : Nat} {hi : Option Nat} : M P (.rep r lo hi) pre s post c ↔
    (lo = 0 ∧ s = [] ∧ c = []) ∨
    (hi ≠ some 0 ∧ ∃ s₁ s₂ c₁ c₂, s = s₁ ++ s₂ ∧ c = c₁ ++ c₂ ∧ M P r pre s₁ (s₂ ++ post) c₁ ∧
      M P (.rep r (lo - 1) (hi.map (· - 1))) (pre ++ s₁) s₂ post c₂) := by
  constructor
  · intro h; cases h with
    | repNil => exact .inl ⟨rfl, rfl, rfl⟩
    | repCons h0 h₁ h₂ => exact .inr ⟨h0, _, _, _, _, rfl, rfl, h₁, h₂⟩
  · rintro (⟨rfl, rfl, rfl⟩ | ⟨h0, s₁, s₂, c₁, c₂, rfl, rfl, h₁, h₂⟩)
    · exact .repNil
    · exact .repCons h0 h₁ h₂

def IsCharRx (P : PerlClasses) (r : Regex) (p : Char → Bool) : Prop :=
  ∀ pre s post c, M P r pre s post c ↔ ∃ ch, s = [ch] ∧ p ch = true ∧ c = []

theorem isCharRx_cls (items : List ClassItem) : IsCharRx P (.cls items) (fun ch => items.any (ClassItem.mem ch)) :=
  fun _ _ _ _ => M_cls
theorem isCharRx_space : IsCharRx P .space P.space := fun _ _ _ _ => M_space
theorem isCharRx_digit : IsCharRx P .digit P.digit := fun _ _ _ _ => M_digit

theorem M_rep_char {r : Regex} {p : Char → Bool} (hr : IsCharRx P r p) {lo : Nat} {hi : Option Nat} :
    M P (.rep r lo hi) pre s post c ↔
      lo ≤ s.length ∧ (∀ n, hi = some n → s.length ≤ n) ∧ s.all p = true ∧ c = [] := by
  constructor
  · intro h
    generalize hR : Regex.rep r lo hi = R at h
    induction h generalizing lo hi with
    | repNil => cases hR; simp
    | repCons h0 h₁ h₂ _ ih₂ =>
      cases hR
      obtain ⟨ch, rfl, hp, rfl⟩ := (hr _ _ _ _).1 h₁
      obtain ⟨i1, i2, i3, rfl⟩ := ih₂ rfl
      refine ⟨by simp; omega, ?_, by simp [hp, i3], rfl⟩
      intro n hn
      subst hn
      have := i2 (n - 1) rfl
      have : n ≠ 0 := fun h => h0 (by rw [h])
      simp; omega
    | _ => cases hR
  · rintro ⟨h1, h2, h3, rfl⟩
    induction s generalizing lo hi pre with
    | nil =>
      have : lo = 0 := by simpa using h1
      subst this; exact .repNil
    | cons x t ih =>
      have hx : p x = true ∧ t.all p = true := by simpa using h3
      have hcons : M P (.rep r lo hi) pre ([x] ++ t) post ([] ++ []) := by
        refine .repCons ?_ ((hr _ _ _ _).2 ⟨x, rfl, hx.1, rfl⟩) (ih ?_ ?_ hx.2)
        · intro h0; have := h2 0 h0; simp at this
        · simp at h1; omega
        · intro n hn
          cases hi with
          | none => simp at hn
          | some m =>
            simp at hn; subst hn
            have := h2 m rfl; simp at this; omega
      simpa using hcons

/-- exactly `n` iterations -/
def Iter (P : PerlClasses) (r : Regex) : Nat → List Char → List Char → List Char → Caps → Prop
  | 0, _, s, _, c => s = [] ∧ c = []
  | n + 1, pre, s, post, c => ∃ s₁ s₂ c₁ c₂, s = s₁ ++ s₂ ∧ c = c₁ ++ c₂ ∧ M P r pre s₁ (s₂ ++ post) c₁ ∧
      Iter P r n (pre ++ s₁) s₂ post c₂

theorem M_rep_exact {r : Regex} (n : Nat) : M P (.rep r n (some n)) pre s post c ↔ Iter P r n pre s post c := by
  induction n generalizing pre s c with
  | zero => rw [M_rep]; simp [Iter]
  | succ n ih =>
    rw [M_rep]
    simp only [Iter, Nat.add_one_ne_zero, false_and, false_or, Nat.add_sub_cancel, Option.map_some, ih]
    simp

/-- every segment followed by the separator -/
def joinSep (sep : Char) (segs : List (List Char)) : List Char := (segs.map (· ++ [sep])).flatten

theorem Iter_seg {r : Regex} {p : Char → Bool} (hr : IsCharRx P r p) (sep : Char) (n : Nat) :
    Iter P (.ncgroup (.cat (.rep r 1 none) (.chr sep))) n pre s post c ↔
      ∃ segs : List (List Char), segs.length = n ∧ (∀ seg ∈ segs, seg ≠ [] ∧ seg.all p = true) ∧
        s = joinSep sep segs ∧ c = [] := by
  induction n generalizing pre s c with
  | zero =>
    simp only [Iter]
    constructor
    · rintro ⟨rfl, rfl⟩; exact ⟨[], rfl, by simp, rfl, rfl⟩
    · rintro ⟨segs, hl, _, rfl, rfl⟩
      have : segs = [] := List.eq_nil_of_length_eq_zero hl
      subst this; exact ⟨rfl, rfl⟩
  | succ n ih =>
    simp only [Iter, M_ncgroup, M_cat, M_rep_char hr, M_chr, ih]
    constructor
    · rintro ⟨s₁, s₂, c₁, c₂, rfl, rfl, ⟨a, b, ca, cb, rfl, rfl, ⟨ha1, -, ha2, rfl⟩, rfl, rfl⟩, segs, hl, hs, rfl, rfl⟩
      refine ⟨a :: segs, by simp [hl], ?_, by simp [joinSep], rfl⟩
      intro seg hseg
      rcases List.mem_cons.1 hseg with rfl | h
      · exact ⟨by intro h; subst h; simp at ha1, ha2⟩
      · exact hs seg h
    · rintro ⟨segs, hl, hs, rfl, rfl⟩
      match segs, hl, hs with
      | a :: segs, hl, hs =>
        have ha := hs a List.mem_cons_self
        refine ⟨a ++ [sep], joinSep sep segs, [], [], by simp [joinSep], rfl,
          ⟨a, [sep], [], [], rfl, rfl, ⟨?_, by simp, ha.2, rfl⟩, rfl, rfl⟩,
          segs, by simpa using hl, fun seg h => hs seg (List.mem_cons_of_mem _ h), rfl, rfl⟩
        cases a with
        | nil => exact absurd rfl ha.1
        | cons _ _ => simp

open Wee
theorem isWhiteSpace_eq (c : Char) : isWhiteSpace c = isRegexSpace c := by
  -- with the two ranges of the model spelt out, both sides are the same disjunction of 25 equations
  have h1 : ∀ n : Nat, (0x09 ≤ n ∧ n ≤ 0x0D) ↔ (n = 0x09 ∨ n = 0x0A ∨ n = 0x0B ∨ n = 0x0C ∨ n = 0x0D) := by omega
  have h2 : ∀ n : Nat, (0x2000 ≤ n ∧ n ≤ 0x200A) ↔ (n = 0x2000 ∨ n = 0x2001 ∨ n = 0x2002 ∨ n = 0x2003 ∨ n = 0x2004 ∨
      n = 0x2005 ∨ n = 0x2006 ∨ n = 0x2007 ∨ n = 0x2008 ∨ n = 0x2009 ∨ n = 0x200A) := by omega
  rw [Bool.eq_iff_iff]
  simp only [isWhiteSpace, isRegexSpace, List.contains_cons, List.contains_nil, Bool.or_eq_true, beq_iff_eq,
    Bool.and_eq_true, decide_eq_true_eq, Bool.or_false, h1, h2, or_assoc]

theorem boardClass_eq (ch : Char) : fenBoardItems.any (ClassItem.mem ch) = isBoardChar ch := by
  have h : ∀ n : Nat, (49 ≤ n ∧ n ≤ 56) ↔ (n = 49 ∨ n = 50 ∨ n = 51 ∨ n = 52 ∨ n = 53 ∨ n = 54 ∨ n = 55 ∨ n = 56) := by omega
  rw [Bool.eq_iff_iff]
  simp only [fenBoardItems, isBoardChar, String.reduceToList, List.any_cons, List.any_nil, ClassItem.mem, List.contains_cons, List.contains_nil,
    Bool.or_eq_true, beq_iff_eq, Bool.and_eq_true, decide_eq_true_eq, Bool.or_false, char_eq_iff_toNat, Char.reduceToNat, h]

theorem sideClass_eq (ch : Char) : fenSideItems.any (ClassItem.mem ch) = (ch == 'b' || ch == '|' || ch == 'w') := by
  simp [fenSideItems, ClassItem.mem, Bool.or_assoc]

theorem castleClass_eq (ch : Char) : fenCastleItems.any (ClassItem.mem ch) = "K|Qkq".toList.contains ch := by
  rw [Bool.eq_iff_iff]
  simp only [fenCastleItems, String.reduceToList, List.any_cons, List.any_nil, ClassItem.mem, List.contains_cons, List.contains_nil,
    Bool.or_eq_true, beq_iff_eq, Bool.or_false]
  grind

theorem range_mem (lo hi ch : Char) : [ClassItem.range lo hi].any (ClassItem.mem ch) = (decide (lo ≤ ch) && decide (ch ≤ hi)) := by
  simp [ClassItem.mem, FenL.char_le_iff]

/-! ## the groups of `fenAst` -/

theorem M_plus_char {r : Regex} {p : Char → Bool} (hr : IsCharRx P r p) :
    M P (.rep r 1 none) pre s post c ↔ s ≠ [] ∧ s.all p = true ∧ c = [] := by
  rw [M_rep_char hr]
  constructor
  · rintro ⟨h1, -, h3, h4⟩; exact ⟨by intro h; subst h; simp at h1, h3, h4⟩
  · rintro ⟨h1, h3, h4⟩
    refine ⟨?_, by simp, h3, h4⟩
    cases s with
    | nil => exact absurd rfl h1
    | cons _ _ => simp

theorem isCharRx_board : IsCharRx P (.cls fenBoardItems) isBoardChar := by
  intro pre s post c; rw [M_cls]; simp only [boardClass_eq]

theorem M_fenRank : M P fenRank pre s post c ↔ s ≠ [] ∧ s.all isBoardChar = true ∧ c = [] :=
  M_plus_char isCharRx_board

theorem M_fenBoardGroup : M P fenBoardGroup pre s post c ↔
    ∃ (segs : List (List Char)) (last : List Char), segs.length = 7 ∧
      (∀ seg ∈ segs, seg ≠ [] ∧ seg.all isBoardChar = true) ∧ last ≠ [] ∧ last.all isBoardChar = true ∧
      s = joinSep '/' segs ++ last ∧ c = [(1, s), (2, joinSep '/' segs)] := by
  have hr : IsCharRx P (.cls fenBoardItems) isBoardChar := isCharRx_board
  simp only [fenBoardGroup, M_group, M_cat, M_rep_exact]
  have hrank : ∀ pre s post c, M P (.rep (.cls fenBoardItems) 1 none) pre s post c ↔
      s ≠ [] ∧ s.all isBoardChar = true ∧ c = [] := fun _ _ _ _ => M_fenRank
  simp only [fenRank, Iter_seg hr, hrank]
  constructor
  · rintro ⟨c', rfl, s₁, s₂, c₁, c₂, rfl, rfl, ⟨c'', rfl, segs, hl, hs, rfl, rfl⟩, h1, h2, rfl⟩
    exact ⟨segs, s₂, hl, hs, h1, h2, rfl, rfl⟩
  · rintro ⟨segs, last, hl, hs, h1, h2, rfl, rfl⟩
    exact ⟨_, rfl, _, last, _, [], rfl, rfl, ⟨[], rfl, segs, hl, hs, rfl, rfl⟩, h1, h2, rfl⟩

theorem M_fenSideGroup : M P fenSideGroup pre s post c ↔ FenL.sideOk s = true ∧ c = [(3, s)] := by
  simp only [fenSideGroup, M_group, M_cls, sideClass_eq, FenL.sideOk]
  constructor
  · rintro ⟨c', rfl, ch, rfl, h, rfl⟩
    exact ⟨by simpa using h, rfl⟩
  · rintro ⟨h, rfl⟩
    match s, h with
    | [ch], h => exact ⟨[], rfl, ch, rfl, by simpa using h, rfl⟩

theorem M_fenEpGroup : M P fenEpGroup pre s post c ↔ FenL.epOk s = true ∧ c = [(6, s)] := by
  simp only [fenEpGroup, M_group, M_alt, M_chr, M_cat, M_cls, range_mem, FenL.epOk]
  constructor
  · rintro ⟨c', rfl, (⟨rfl, rfl⟩ | ⟨s₁, s₂, c₁, c₂, rfl, rfl, ⟨f, rfl, hf, rfl⟩, ⟨r, rfl, hr, rfl⟩⟩)⟩
    · exact ⟨by decide, rfl⟩
    · refine ⟨?_, rfl⟩
      simp only [Bool.and_eq_true, decide_eq_true_eq] at hf hr
      simp [hf, hr]
  · rintro ⟨h, rfl⟩
    refine ⟨_, rfl, ?_⟩
    rw [Bool.or_eq_true] at h
    rcases h with h | h
    · exact .inl ⟨by simpa using h, rfl⟩
    · match s, h with
      | [f, r], h =>
        simp only [Bool.and_eq_true, decide_eq_true_eq] at h
        exact .inr ⟨[f], [r], [], [], rfl, rfl, ⟨f, rfl, by simp [h], rfl⟩, ⟨r, rfl, by simp [h], rfl⟩⟩

theorem M_fenCounterGroup (i : Nat) : M P (fenCounterGroup i) pre s post c ↔
    s ≠ [] ∧ s.all P.digit = true ∧ c = [(i, s)] := by
  simp only [fenCounterGroup, M_group, M_plus_char isCharRx_digit]
  constructor
  · rintro ⟨c', rfl, h1, h3, rfl⟩; exact ⟨h1, h3, rfl⟩
  · rintro ⟨h1, h3, rfl⟩; exact ⟨_, rfl, h1, h3, rfl⟩

/-- `a\s b`, where `a` is insensitive to its context -/
theorem M_field_space {a b : Regex} {L : List Char → Caps → Prop}
    (ha : ∀ pre s post c, M P a pre s post c ↔ L s c) :
    M P (.cat a (.cat .space b)) pre s post c ↔
      ∃ f w rest ca cb, P.space w = true ∧ L f ca ∧ s = f ++ w :: rest ∧ c = ca ++ cb ∧
        M P b ((pre ++ f) ++ [w]) rest post cb := by
  simp only [M_cat, M_space, ha]
  constructor
  · rintro ⟨f, _, ca, _, rfl, rfl, hL, _, rest, _, cb, rfl, rfl, ⟨w, rfl, hw, rfl⟩, hb⟩
    exact ⟨f, w, rest, ca, cb, hw, hL, rfl, rfl, hb⟩
  · rintro ⟨f, w, rest, ca, cb, hw, hL, rfl, rfl, hb⟩
    exact ⟨f, _, ca, _, rfl, rfl, hL, [w], rest, [], cb, rfl, rfl, ⟨w, rfl, hw, rfl⟩, hb⟩

/-- the capture events of a match of `fenAst`, from its fields (group 5 takes part only when the
castling field is not `-`) -/
def fenEvents (board ranks side castle ep half full : List Char) : Caps :=
  [(1, board), (2, ranks)] ++ ([(3, side)] ++
    ((if castle = ['-'] then [(4, castle)] else [(4, castle), (5, castle)]) ++
      ([(6, ep)] ++ ([(7, half)] ++ [(8, full)]))))

/-- the board field of a text matched by `fenAst`: eight non-empty segments of board characters -/
structure BoardText (segs : List (List Char)) (last : List Char) : Prop where
  segs_len : segs.length = 7
  segs_ok : ∀ seg ∈ segs, seg ≠ [] ∧ seg.all isBoardChar = true
  last_ne : last ≠ []
  last_ok : last.all isBoardChar = true

/-- the fields of a text matched by `fenAst` -/
structure FenText (nd : Char → Bool) (segs : List (List Char)) (last side castle ep half full : List Char) : Prop
    extends BoardText segs last where
  side_ok : FenL.sideOk side = true
  castle_ok : FenL.castleOk castle = true
  ep_ok : FenL.epOk ep = true
  half_ne : half ≠ []
  half_ok : half.all nd = true
  full_ne : full ≠ []
  full_ok : full.all nd = true

/-- the castling group, with the events as a function of the text -/
theorem M_fenCastleGroup : M P fenCastleGroup pre s post c ↔
    FenL.castleOk s = true ∧ c = (if s = ['-'] then [(4, s)] else [(4, s), (5, s)]) := by
  -- the group read off the pattern: a dash, or one to four of the letters (with `|`) captured twice
  have raw : M P fenCastleGroup pre s post c ↔
      (s = ['-'] ∧ c = [(4, s)]) ∨
      ((decide (1 ≤ s.length) && decide (s.length ≤ 4) && s.all (fun c => "K|Qkq".toList.contains c)) = true ∧
        c = [(4, s), (5, s)]) := by
    have hr : IsCharRx P (.cls fenCastleItems) (fun c => "K|Qkq".toList.contains c) := by
      intro pre s post c; rw [M_cls]; simp only [castleClass_eq]
    simp only [fenCastleGroup, M_group, M_alt, M_chr, M_rep_char hr]
    constructor
    · rintro ⟨c', rfl, (⟨rfl, rfl⟩ | ⟨c'', rfl, h1, h2, h3, rfl⟩)⟩
      · exact .inl ⟨rfl, rfl⟩
      · refine .inr ⟨?_, rfl⟩
        simp only [Bool.and_eq_true, decide_eq_true_eq]
        exact ⟨⟨h1, h2 4 rfl⟩, h3⟩
    · rintro (⟨rfl, rfl⟩ | ⟨h, rfl⟩)
      · exact ⟨_, rfl, .inl ⟨rfl, rfl⟩⟩
      · simp only [Bool.and_eq_true, decide_eq_true_eq] at h
        exact ⟨_, rfl, .inr ⟨_, rfl, h.1.1, by intro n hn; cases hn; exact h.1.2, h.2, rfl⟩⟩
  rw [raw]
  constructor
  · rintro (⟨rfl, rfl⟩ | ⟨h, rfl⟩)
    · exact ⟨by decide, by simp⟩
    · have hne : s ≠ ['-'] := by
        rintro rfl; exact absurd h (by decide)
      refine ⟨?_, by simp [hne]⟩
      simp only [FenL.castleOk]; rw [h]; simp
  · rintro ⟨h, rfl⟩
    by_cases hc : s = ['-']
    · exact .inl ⟨hc, by simp [hc]⟩
    · refine .inr ⟨?_, by simp [hc]⟩
      simp only [FenL.castleOk, Bool.or_eq_true, beq_iff_eq] at h
      rcases h with h | h
      · exact absurd h hc
      · exact h

theorem M_fenAst {nd : Char → Bool} {caps : Caps} : M (unicode nd) fenAst pre s post caps ↔
    pre = [] ∧ post = [] ∧ ∃ segs last side castle ep half full w1 w2 w3 w4 w5,
      FenText nd segs last side castle ep half full ∧
      isWhiteSpace w1 = true ∧ isWhiteSpace w2 = true ∧ isWhiteSpace w3 = true ∧ isWhiteSpace w4 = true ∧
      isWhiteSpace w5 = true ∧
      s = (joinSep '/' segs ++ last) ++ w1 :: (side ++ w2 :: (castle ++ w3 :: (ep ++ w4 :: (half ++ w5 :: full)))) ∧
      caps = fenEvents (joinSep '/' segs ++ last) (joinSep '/' segs) side castle ep half full := by
  have h1 := @M_field_space (unicode nd) (a := fenBoardGroup) (L := _) (ha := fun _ _ _ _ => M_fenBoardGroup)
  have h2 := @M_field_space (unicode nd) (a := fenSideGroup) (L := _) (ha := fun _ _ _ _ => M_fenSideGroup)
  have h3 := @M_field_space (unicode nd) (a := fenCastleGroup) (L := _) (ha := fun _ _ _ _ => M_fenCastleGroup)
  have h4 := @M_field_space (unicode nd) (a := fenEpGroup) (L := _) (ha := fun _ _ _ _ => M_fenEpGroup)
  have h5 := @M_field_space (unicode nd) (a := fenCounterGroup 7) (L := _) (ha := fun _ _ _ _ => M_fenCounterGroup 7)
  rw [fenAst, M_cat]
  constructor
  · rintro ⟨_, s0, _, caps0, rfl, rfl, hb, g0⟩
    obtain ⟨rfl, rfl, rfl⟩ := M_bol.1 hb
    obtain ⟨_, w1, s1, _, caps1, hw1, ⟨segs, last, hl, hs, hl1, hl2, rfl, rfl⟩, rfl, rfl, g1⟩ := (h1 _ _ _ _ _).1 g0
    obtain ⟨side, w2, s2, _, caps2, hw2, ⟨hside, rfl⟩, rfl, rfl, g2⟩ := (h2 _ _ _ _ _).1 g1
    obtain ⟨castle, w3, s3, _, caps3, hw3, ⟨hcastle, rfl⟩, rfl, rfl, g3⟩ := (h3 _ _ _ _ _).1 g2
    obtain ⟨ep, w4, s4, _, caps4, hw4, ⟨hep, rfl⟩, rfl, rfl, g4⟩ := (h4 _ _ _ _ _).1 g3
    obtain ⟨half, w5, s5, _, caps5, hw5, ⟨hh1, hh2, rfl⟩, rfl, rfl, g5⟩ := (h5 _ _ _ _ _).1 g4
    obtain ⟨full, _, _, _, rfl, rfl, hfull, he⟩ := M_cat.1 g5
    obtain ⟨hf1, hf2, rfl⟩ := (M_fenCounterGroup 8).1 hfull
    obtain ⟨rfl, rfl, rfl⟩ := M_eol.1 he
    refine ⟨rfl, rfl, segs, last, side, castle, ep, half, full, w1, w2, w3, w4, w5,
      ⟨⟨hl, hs, hl1, hl2⟩, hside, hcastle, hep, hh1, hh2, hf1, hf2⟩, hw1, hw2, hw3, hw4, hw5, ?_, ?_⟩
    · simp only [List.nil_append, List.append_nil]
    · simp only [List.nil_append, List.append_nil, fenEvents]
  · rintro ⟨rfl, rfl, segs, last, side, castle, ep, half, full, w1, w2, w3, w4, w5, ht, hw1, hw2, hw3, hw4, hw5, rfl, rfl⟩
    refine ⟨[], _, [], _, (List.nil_append _).symm, (List.nil_append _).symm, M_bol.2 ⟨rfl, rfl, rfl⟩, ?_⟩
    refine (h1 _ _ _ _ _).2 ⟨_, w1, _, _, _, hw1, ⟨segs, last, ht.segs_len, ht.segs_ok, ht.last_ne, ht.last_ok, rfl, rfl⟩, rfl, rfl, ?_⟩
    refine (h2 _ _ _ _ _).2 ⟨side, w2, _, _, _, hw2, ⟨ht.side_ok, rfl⟩, rfl, rfl, ?_⟩
    refine (h3 _ _ _ _ _).2 ⟨castle, w3, _, _, _, hw3, ⟨ht.castle_ok, rfl⟩, rfl, rfl, ?_⟩
    refine (h4 _ _ _ _ _).2 ⟨ep, w4, _, _, _, hw4, ⟨ht.ep_ok, rfl⟩, rfl, rfl, ?_⟩
    refine (h5 _ _ _ _ _).2 ⟨half, w5, _, _, _, hw5, ⟨ht.half_ne, ht.half_ok, rfl⟩, rfl, rfl, ?_⟩
    refine M_cat.2 ⟨full, [], [(8, full)], [], (List.append_nil _).symm, (List.append_nil _).symm,
      (M_fenCounterGroup 8).2 ⟨ht.full_ne, ht.full_ok, rfl⟩, M_eol.2 ⟨rfl, rfl, rfl⟩⟩

/-! ## `splitFields`: six fields ⇔ five single separators between six separator-free fields -/

theorem go_ne_nil (cs cur : List Char) : splitFields.go cs cur ≠ [] := by
  induction cs generalizing cur with
  | nil => simp [splitFields.go]
  | cons x t ih =>
    rw [splitFields.go]
    split
    · simp
    · exact ih _

theorem go_cons_inv (cs : List Char) : ∀ (cur f : List Char) (rest : List (List Char)),
    splitFields.go cs cur = f :: rest →
    (rest = [] ∧ f = cur.reverse ++ cs ∧ NoSpace cs) ∨
    (∃ a w cs', cs = a ++ w :: cs' ∧ isRegexSpace w = true ∧ NoSpace a ∧ f = cur.reverse ++ a ∧
      splitFields.go cs' [] = rest) := by
  induction cs with
  | nil =>
    intro cur f rest h
    simp only [splitFields.go, List.cons.injEq] at h
    exact .inl ⟨h.2.symm, by simp [h.1], by intro c hc; simp at hc⟩
  | cons x t ih =>
    intro cur f rest h
    rw [splitFields.go] at h
    by_cases hx : isRegexSpace x = true
    · rw [if_pos hx] at h
      simp only [List.cons.injEq] at h
      exact .inr ⟨[], x, t, rfl, hx, by intro c hc; simp at hc, by simp [h.1], h.2⟩
    · rw [if_neg hx] at h
      have hx' : isRegexSpace x = false := by simpa using hx
      rcases ih _ _ _ h with ⟨h1, h2, h3⟩ | ⟨a, w, cs', h1, h2, h3, h4, h5⟩
      · refine .inl ⟨h1, by simp [h2], ?_⟩
        intro c hc
        rcases List.mem_cons.1 hc with rfl | hc
        · exact hx'
        · exact h3 c hc
      · refine .inr ⟨x :: a, w, cs', by simp [h1], h2, ?_, by simp [h4], h5⟩
        intro c hc
        rcases List.mem_cons.1 hc with rfl | hc
        · exact hx'
        · exact h3 c hc

theorem splitFields_six_inv (cs f1 f2 f3 f4 f5 f6 : List Char) (h : splitFields cs = [f1, f2, f3, f4, f5, f6]) :
    ∃ w1 w2 w3 w4 w5, isRegexSpace w1 = true ∧ isRegexSpace w2 = true ∧ isRegexSpace w3 = true ∧
      isRegexSpace w4 = true ∧ isRegexSpace w5 = true ∧
      NoSpace f1 ∧ NoSpace f2 ∧ NoSpace f3 ∧ NoSpace f4 ∧ NoSpace f5 ∧ NoSpace f6 ∧
      cs = f1 ++ w1 :: (f2 ++ w2 :: (f3 ++ w3 :: (f4 ++ w4 :: (f5 ++ w5 :: f6)))) := by
  unfold splitFields at h
  have step : ∀ (cs f : List Char) (g : List Char) (rest : List (List Char)), splitFields.go cs [] = f :: g :: rest →
      ∃ w cs', cs = f ++ w :: cs' ∧ isRegexSpace w = true ∧ NoSpace f ∧ splitFields.go cs' [] = g :: rest := by
    intro cs f g rest h
    rcases go_cons_inv cs _ _ _ h with ⟨h1, -, -⟩ | ⟨a, w, cs', h1, h2, h3, h4, h5⟩
    · cases h1
    · simp only [List.reverse_nil, List.nil_append] at h4
      subst h4
      exact ⟨w, cs', h1, h2, h3, h5⟩
  obtain ⟨w1, c1, rfl, hw1, n1, h⟩ := step _ _ _ _ h
  obtain ⟨w2, c2, rfl, hw2, n2, h⟩ := step _ _ _ _ h
  obtain ⟨w3, c3, rfl, hw3, n3, h⟩ := step _ _ _ _ h
  obtain ⟨w4, c4, rfl, hw4, n4, h⟩ := step _ _ _ _ h
  obtain ⟨w5, c5, rfl, hw5, n5, h⟩ := step _ _ _ _ h
  rcases go_cons_inv c5 _ _ _ h with ⟨-, h2, h3⟩ | ⟨a, w, cs', -, -, -, -, h5⟩
  · simp only [List.reverse_nil, List.nil_append] at h2
    subst h2
    exact ⟨w1, w2, w3, w4, w5, hw1, hw2, hw3, hw4, hw5, n1, n2, n3, n4, n5, h3, rfl⟩
  · exact absurd h5 (go_ne_nil _ _)

/-! ## the board field: eight non-empty `/`-separated segments -/

theorem joinSep_cons (sep : Char) (a : List Char) (segs : List (List Char)) :
    joinSep sep (a :: segs) = a ++ sep :: joinSep sep segs := by simp [joinSep]

theorem intercalate_concat (sep : Char) (segs : List (List Char)) (last : List Char) :
    [sep].intercalate (segs ++ [last]) = joinSep sep segs ++ last := by
  induction segs with
  | nil => simp [joinSep]
  | cons a segs ih =>
    cases segs with
    | nil => simp [joinSep]
    | cons b segs =>
      rw [List.cons_append, List.cons_append, List.intercalate_cons_cons, ← List.cons_append, ih, joinSep_cons]
      simp [joinSep_cons]

theorem splitOn_joinSep (segs : List (List Char)) (last : List Char) (hs : ∀ seg ∈ segs, '/' ∉ seg)
    (hl : '/' ∉ last) : (joinSep '/' segs ++ last).splitOn '/' = segs ++ [last] := by
  rw [← intercalate_concat]
  exact List.splitOn_intercalate _
    (fun l h => (List.mem_append.1 h).elim (hs l) fun h => List.mem_singleton.1 h ▸ hl) (by simp)

theorem not_mem_slash_of_board {seg : List Char} (h : seg.all isBoardChar = true) : '/' ∉ seg := by
  intro hm
  have := List.all_eq_true.1 h _ hm
  exact absurd this (by decide)

theorem BoardText.splitOn {segs : List (List Char)} {last : List Char} (h : BoardText segs last) :
    (joinSep '/' segs ++ last).splitOn '/' = segs ++ [last] :=
  splitOn_joinSep segs last (fun seg hs => not_mem_slash_of_board (h.segs_ok seg hs).2) (not_mem_slash_of_board h.last_ok)

theorem boardFieldOk_iff (b : List Char) :
    boardFieldOk b = true ↔ ∃ segs last, BoardText segs last ∧ b = joinSep '/' segs ++ last := by
  constructor
  · intro h
    simp only [boardFieldOk, Bool.and_eq_true, beq_iff_eq, List.all_eq_true, Bool.not_eq_true',
      List.isEmpty_eq_false_iff] at h
    obtain ⟨hlen, hall⟩ := h
    have hne : b.splitOn '/' ≠ [] := List.splitOn_ne_nil _ _
    have hL := List.dropLast_concat_getLast hne
    refine ⟨(b.splitOn '/').dropLast, (b.splitOn '/').getLast hne, ⟨?_, ?_, ?_, ?_⟩, ?_⟩
    · rw [List.length_dropLast, hlen]
    · intro seg hs
      have := hall seg (List.dropLast_subset _ hs)
      exact ⟨this.1, List.all_eq_true.2 this.2⟩
    · exact (hall _ (List.getLast_mem hne)).1
    · exact List.all_eq_true.2 (hall _ (List.getLast_mem hne)).2
    · rw [← intercalate_concat, hL, List.intercalate_splitOn]
  · rintro ⟨segs, last, ht, rfl⟩
    simp only [boardFieldOk, ht.splitOn, Bool.and_eq_true, beq_iff_eq, List.all_eq_true, Bool.not_eq_true',
      List.isEmpty_eq_false_iff]
    refine ⟨by simp [ht.segs_len], ?_⟩
    intro seg hs
    rcases List.mem_append.1 hs with hs | hs
    · have := ht.segs_ok seg hs
      exact ⟨this.1, List.all_eq_true.1 this.2⟩
    · have : seg = last := by simpa using hs
      subst this
      exact ⟨ht.last_ne, List.all_eq_true.1 ht.last_ok⟩

/-- the text of group 2 as a function of the board field: everything up to and including the last `/` -/
def ranksOf (b : List Char) : List Char := joinSep '/' (b.splitOn '/').dropLast

theorem BoardText.ranksOf {segs : List (List Char)} {last : List Char} (h : BoardText segs last) :
    Spec.ranksOf (joinSep '/' segs ++ last) = joinSep '/' segs := by
  rw [Spec.ranksOf, h.splitOn, List.dropLast_concat]

/-! ## the capture groups as a function of the text -/

/-- the texts of groups 1, 3, 4, 6, 7, 8 -/
structure FenGroups where
  board : List Char
  side : List Char
  castle : List Char
  ep : List Char
  half : List Char
  full : List Char
deriving DecidableEq, Repr

/-- a decision procedure for `fenAst`: split at every white-space character into exactly six fields and check each
field against its group -/
def fenCaptures (nd : Char → Bool) (cs : List Char) : Option FenGroups :=
  match splitFields cs with
  | [board, side, castle, ep, half, full] =>
    if boardFieldOk board && FenL.sideOk side && FenL.castleOk castle && FenL.epOk ep &&
        (!half.isEmpty && half.all nd) && (!full.isEmpty && full.all nd)
    then some ⟨board, side, castle, ep, half, full⟩ else none
  | _ => none

def FenGroups.events (G : FenGroups) : Caps :=
  fenEvents G.board (ranksOf G.board) G.side G.castle G.ep G.half G.full

def FenGroups.groups (cs : List Char) (G : FenGroups) : Nat → Option (List Char)
  | 0 => some cs
  | 1 => some G.board
  | 2 => some (ranksOf G.board)
  | 3 => some G.side
  | 4 => some G.castle
  | 5 => if G.castle = ['-'] then none else some G.castle
  | 6 => some G.ep
  | 7 => some G.half
  | 8 => some G.full
  | _ => none

theorem groupOf_events (cs : List Char) (G : FenGroups) : groupOf ((0, cs) :: G.events) = G.groups cs := by
  funext i
  by_cases hc : G.castle = ['-']
  · simp only [FenGroups.events, fenEvents, FenGroups.groups, if_pos hc]
    match i with
    | 0 | 1 | 2 | 3 | 4 | 5 | 6 | 7 | 8 => rfl
    | n + 9 => rfl
  · simp only [FenGroups.events, fenEvents, FenGroups.groups, if_neg hc]
    match i with
    | 0 | 1 | 2 | 3 | 4 | 5 | 6 | 7 | 8 => rfl
    | n + 9 => rfl

/-! ### no field contains a separator -/

theorem noSpace_board {segs : List (List Char)} {last : List Char} (h : BoardText segs last) :
    NoSpace (joinSep '/' segs ++ last) := by
  intro c hc
  have hb : ∀ seg : List Char, seg.all isBoardChar = true → ∀ c ∈ seg, isRegexSpace c = false :=
    fun seg hs c hc => (FenL.isBoardChar_not_sep c (List.all_eq_true.1 hs c hc)).2
  rcases List.mem_append.1 hc with hc | hc
  · simp only [joinSep, List.mem_flatten, List.mem_map] at hc
    obtain ⟨l, ⟨seg, hseg, rfl⟩, hc⟩ := hc
    rcases List.mem_append.1 hc with hc | hc
    · exact hb seg (h.segs_ok seg hseg).2 c hc
    · have : c = '/' := by simpa using hc
      subst this; decide
  · exact hb last h.last_ok c hc

theorem noSpace_digits {nd : Char → Bool} (hnd : ∀ c, nd c = true → isWhiteSpace c = false) {f : List Char}
    (h : f.all nd = true) : NoSpace f := by
  intro c hc
  rw [← isWhiteSpace_eq]
  exact hnd c (List.all_eq_true.1 h c hc)

/-! ### `fenCaptures` decides `fenAst` -/

/-- the check of `fenCaptures` is the gate of `parseFenChars`, plus: both counters consist of `\d` characters -/
theorem fenCaptures_eq_some {nd : Char → Bool} {cs : List Char} {G : FenGroups} :
    fenCaptures nd cs = some G ↔
      splitFields cs = [G.board, G.side, G.castle, G.ep, G.half, G.full] ∧
      gateOk G.board G.side G.castle G.ep G.half G.full = true ∧ G.half.all nd = true ∧ G.full.all nd = true := by
  obtain ⟨gb, gs, gc, ge, gh, gf⟩ := G
  unfold fenCaptures
  split
  · rename_i board side castle ep half full hsplit
    have hgate : (boardFieldOk board && FenL.sideOk side && FenL.castleOk castle && FenL.epOk ep &&
        (!half.isEmpty && half.all nd) && (!full.isEmpty && full.all nd)) = true ↔
        gateOk board side castle ep half full = true ∧ half.all nd = true ∧ full.all nd = true := by
      simp only [gateOk, Bool.and_eq_true]
      exact ⟨fun ⟨⟨h, hh1, hh2⟩, hf1, hf2⟩ => ⟨⟨⟨h, hh1⟩, hf1⟩, hh2, hf2⟩,
        fun ⟨⟨⟨h, hh1⟩, hf1⟩, hh2, hf2⟩ => ⟨⟨h, hh1, hh2⟩, hf1, hf2⟩⟩
    rw [hsplit]
    simp only [List.cons.injEq, and_true]
    split
    · rename_i hg
      constructor
      · intro h
        obtain ⟨rfl, rfl, rfl, rfl, rfl, rfl⟩ := Option.some.inj h
        exact ⟨⟨rfl, rfl, rfl, rfl, rfl, rfl⟩, hgate.1 hg⟩
      · rintro ⟨⟨rfl, rfl, rfl, rfl, rfl, rfl⟩, _⟩
        rfl
    · rename_i hg
      constructor
      · intro h; cases h
      · rintro ⟨⟨rfl, rfl, rfl, rfl, rfl, rfl⟩, h⟩
        exact absurd (hgate.2 h) hg
  · rename_i hn
    exact ⟨fun h => (nomatch h), fun h => absurd h.1 (hn _ _ _ _ _ _)⟩

/-- the same read on the text: the six fields of a `FenText`, joined by single white-space characters -/
theorem fenCaptures_eq_some_text {nd : Char → Bool} (hnd : ∀ c, nd c = true → isWhiteSpace c = false)
    (cs : List Char) (G : FenGroups) :
    fenCaptures nd cs = some G ↔
      ∃ segs last w1 w2 w3 w4 w5, FenText nd segs last G.side G.castle G.ep G.half G.full ∧
        isWhiteSpace w1 = true ∧ isWhiteSpace w2 = true ∧ isWhiteSpace w3 = true ∧ isWhiteSpace w4 = true ∧
        isWhiteSpace w5 = true ∧ G.board = joinSep '/' segs ++ last ∧
        cs = G.board ++ w1 :: (G.side ++ w2 :: (G.castle ++ w3 :: (G.ep ++ w4 :: (G.half ++ w5 :: G.full)))) := by
  constructor
  · intro h
    obtain ⟨hsplit, hg, hh2, hf2⟩ := fenCaptures_eq_some.1 h
    simp only [gateOk, Bool.and_eq_true, Bool.not_eq_true', List.isEmpty_eq_false_iff] at hg
    obtain ⟨⟨⟨⟨⟨hb, hs⟩, hc⟩, he⟩, hh1⟩, hf1⟩ := hg
    obtain ⟨w1, w2, w3, w4, w5, hw1, hw2, hw3, hw4, hw5, -, -, -, -, -, -, hcs⟩ :=
      splitFields_six_inv cs _ _ _ _ _ _ hsplit
    obtain ⟨segs, last, hbt, hbe⟩ := (boardFieldOk_iff G.board).1 hb
    simp only [← isWhiteSpace_eq] at hw1 hw2 hw3 hw4 hw5
    exact ⟨segs, last, w1, w2, w3, w4, w5,
      ⟨hbt, hs, hc, he, hh1, hh2, hf1, hf2⟩,
      hw1, hw2, hw3, hw4, hw5, hbe, hcs⟩
  · rintro ⟨segs, last, w1, w2, w3, w4, w5, ht, hw1, hw2, hw3, hw4, hw5, hb, hcs⟩
    obtain ⟨board, side, castle, ep, half, full⟩ := G
    simp only at ht hb hcs
    simp only [isWhiteSpace_eq] at hw1 hw2 hw3 hw4 hw5
    have hsplit : splitFields cs = [board, side, castle, ep, half, full] := by
      rw [hcs]
      exact FenL.splitFields_six _ _ _ _ _ _ _ _ _ _ _ hw1 hw2 hw3 hw4 hw5 (hb ▸ noSpace_board ht.toBoardText)
        (FenL.noSpace_side ht.side_ok) (FenL.noSpace_castle ht.castle_ok) (FenL.noSpace_ep ht.ep_ok)
        (noSpace_digits hnd ht.half_ok) (noSpace_digits hnd ht.full_ok)
    have hbo : boardFieldOk board = true := (boardFieldOk_iff board).2 ⟨segs, last, ht.toBoardText, hb⟩
    refine fenCaptures_eq_some.2 ⟨hsplit, ?_, ht.half_ok, ht.full_ok⟩
    simp only [gateOk, Bool.and_eq_true, Bool.not_eq_true', List.isEmpty_eq_false_iff]
    exact ⟨⟨⟨⟨⟨hbo, ht.side_ok⟩, ht.castle_ok⟩, ht.ep_ok⟩, ht.half_ne⟩, ht.full_ne⟩

/-- a text is matched in at most one way: exactly when `fenCaptures` accepts it, and then the capture events are those
computed from the six fields -/
theorem M_fenAst_iff_captures {nd : Char → Bool} (hnd : ∀ c, nd c = true → isWhiteSpace c = false)
    {caps : Caps} : M (unicode nd) fenAst pre s post caps ↔
      pre = [] ∧ post = [] ∧ ∃ G, fenCaptures nd s = some G ∧ caps = G.events := by
  rw [M_fenAst]
  constructor
  · rintro ⟨rfl, rfl, segs, last, side, castle, ep, half, full, w1, w2, w3, w4, w5, ht, hw1, hw2, hw3, hw4, hw5, rfl, rfl⟩
    refine ⟨rfl, rfl, ⟨joinSep '/' segs ++ last, side, castle, ep, half, full⟩, ?_, ?_⟩
    · exact (fenCaptures_eq_some_text hnd _ _).2 ⟨segs, last, w1, w2, w3, w4, w5, ht, hw1, hw2, hw3, hw4, hw5, rfl, rfl⟩
    · simp only [FenGroups.events, ht.toBoardText.ranksOf]
  · rintro ⟨rfl, rfl, G, hG, rfl⟩
    obtain ⟨segs, last, w1, w2, w3, w4, w5, ht, hw1, hw2, hw3, hw4, hw5, hb, hcs⟩ :=
      (fenCaptures_eq_some_text hnd _ _).1 hG
    refine ⟨rfl, rfl, segs, last, G.side, G.castle, G.ep, G.half, G.full, w1, w2, w3, w4, w5, ht,
      hw1, hw2, hw3, hw4, hw5, ?_, ?_⟩
    · rw [← hb]; exact hcs
    · rw [FenGroups.events, hb, ht.toBoardText.ranksOf]

/-- what `Regex::captures` can return for `FEN_REGEX`: nothing else than the groups computed by `fenCaptures` -/
theorem captures_fenAst_iff {nd : Char → Bool} (hnd : ∀ c, nd c = true → isWhiteSpace c = false)
    (cs : List Char) (g : Nat → Option (List Char)) :
    Captures (unicode nd) fenAst cs g ↔ ∃ G, fenCaptures nd cs = some G ∧ g = G.groups cs := by
  constructor
  · rintro ⟨pre, s, post, caps, rfl, hm, rfl⟩
    obtain ⟨rfl, rfl, G, hG, rfl⟩ := (M_fenAst_iff_captures hnd).1 hm
    simp only [List.nil_append, List.append_nil]
    exact ⟨G, hG, groupOf_events s G⟩
  · rintro ⟨G, hG, rfl⟩
    exact ⟨[], cs, [], G.events, by simp, (M_fenAst_iff_captures hnd).2 ⟨rfl, rfl, G, hG, rfl⟩,
      (groupOf_events cs G).symm⟩

/-- for a pattern with unique matches the choice in `reCaptures` is no choice -/
theorem reCaptures_fenAst {nd : Char → Bool} (hnd : ∀ c, nd c = true → isWhiteSpace c = false) (cs : List Char) :
    reCaptures (unicode nd) fenAst cs = (fenCaptures nd cs).map (·.groups cs) := by
  cases hG : fenCaptures nd cs with
  | none =>
    rw [Option.map_none, reCaptures_none]
    rintro ⟨g, hg⟩
    obtain ⟨G, hG', -⟩ := (captures_fenAst_iff hnd cs g).1 hg
    rw [hG] at hG'; cases hG'
  | some G =>
    cases hr : reCaptures (unicode nd) fenAst cs with
    | none =>
      exact absurd ⟨_, (captures_fenAst_iff hnd cs _).2 ⟨G, hG, rfl⟩⟩ (reCaptures_none.1 hr)
    | some g =>
      obtain ⟨G', hG', rfl⟩ := (captures_fenAst_iff hnd cs g).1 (reCaptures_some hr)
      rw [hG] at hG'; cases hG'; rfl

end Wee.Spec

/-! ## the hand-written recogniser (cut at its gate in `Proofs/FenLemmas.lean`) against `fenCaptures` -/
namespace Wee
open Wee.Spec

theorem afterGate_err_of_counter (checked : Bool) (board side castle ep half full : List Char)
    (h : parseUsize half = Option.none ∨ parseUsize full = Option.none) :
    afterGate checked board side castle ep half full = .err := by
  cases hr : afterGate checked board side castle ep half full with
  | err => rfl
  | panic => exact absurd hr (afterGate_ne_panic checked board side castle ep half full)
  | ok st =>
    obtain ⟨_, _, _, _, _, _, _, _, _, hh, hf, _⟩ := afterGate_eq_ok.1 hr
    rcases h with h | h
    · rw [h] at hh; cases hh
    · rw [h] at hf; cases hf

/-- on the texts of group 6, `(-|[a-h][1-8])`, other than `-`, `Square::try_from(&str)` is `Ok` and gives the square
the recogniser computes -/
theorem parseSquare_of_epOk (ep : List Char) (h : FenL.epOk ep = true) (hd : ep ≠ ['-']) :
    parseSquare ep = FenL.epOf ep ∧ (FenL.epOf ep).isSome = true := by
  simp only [FenL.epOk, Bool.or_eq_true, beq_iff_eq] at h
  rcases h with h | h
  · exact absurd h hd
  · match ep, h with
    | [f, r], h =>
      simp only [Bool.and_eq_true, decide_eq_true_eq] at h
      rw [parseSquare_of_ranges f r h.1.1.1 h.1.1.2 h.1.2 h.2]
      exact ⟨rfl, rfl⟩

theorem counter_none_of_not_nd {nd : Char → Bool} (hascii : ∀ c, c.isDigit = true → nd c = true)
    (f : List Char) (h : f.all nd = false) : parseUsize f = Option.none := by
  cases hp : parseUsize f with
  | none => rfl
  | some v =>
    have : f.all nd = true :=
      List.all_eq_true.2 fun c hc => hascii c (((FenL.parseUsize_iff f v).1 hp).2.1 c hc)
    rw [this] at h; cases h

theorem parseFenChars_of_fenCaptures_none {nd : Char → Bool} (hascii : ∀ c, c.isDigit = true → nd c = true)
    (checked : Bool) (cs : List Char) (hG : fenCaptures nd cs = Option.none) : parseFenChars checked cs = .err := by
  by_cases hsix : ∃ board side castle ep half full, splitFields cs = [board, side, castle, ep, half, full]
  · obtain ⟨board, side, castle, ep, half, full, hsplit⟩ := hsix
    rw [parseFenChars_six checked cs _ _ _ _ _ _ hsplit]
    by_cases gate : gateOk board side castle ep half full = true
    · rw [gate]
      refine (if_neg Bool.false_ne_true).trans (afterGate_err_of_counter _ _ _ _ _ _ _ ?_)
      by_cases h1 : half.all nd = true
      · by_cases h2 : full.all nd = true
        · have := (fenCaptures_eq_some (nd := nd) (cs := cs) (G := ⟨board, side, castle, ep, half, full⟩)).2
            ⟨hsplit, gate, h1, h2⟩
          rw [hG] at this; cases this
        · exact .inr (counter_none_of_not_nd hascii full (by simpa using h2))
      · exact .inl (counter_none_of_not_nd hascii half (by simpa using h1))
    · have : gateOk board side castle ep half full = false := by simpa using gate
      rw [this]; rfl
  · exact parseFenChars_not_six checked cs (fun b s c e h f hs => hsix ⟨b, s, c, e, h, f, hs⟩)

theorem parseFenChars_of_fenCaptures_some {nd : Char → Bool} (checked : Bool) (cs : List Char) (G : FenGroups)
    (hG : fenCaptures nd cs = some G) :
    parseFenChars checked cs = afterGate checked G.board G.side G.castle G.ep G.half G.full ∧
      FenL.sideOk G.side = true ∧ FenL.castleOk G.castle = true ∧ FenL.epOk G.ep = true := by
  obtain ⟨hsplit, hg, -, -⟩ := fenCaptures_eq_some.1 hG
  rw [parseFenChars_six checked cs _ _ _ _ _ _ hsplit, hg]
  simp only [gateOk, Bool.and_eq_true] at hg
  exact ⟨rfl, hg.1.1.1.1.2, hg.1.1.1.2, hg.1.1.2⟩
end Wee
