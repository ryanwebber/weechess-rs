import Wee.Proofs.SearchReport
import Wee.Proofs.SeqSchedule
import Wee.Proofs.NodeCount
import Wee.Proofs.RulesLength
/-!
# The first iteration reports (part D of C03, for any incoming search memory and any number of workers)

Every worker of the first iteration searches the root with `search_depth = 1`: it counts one node for itself and one per
legal move (`Wee/Proofs/NodeCount.lean`) — fewer than the poll interval (`legalMoves_few`), so it is not interrupted, whatever
the other workers do —,
writes only under the root's key, and, if it misses that key and returns, has stored an entry there: the value of the first
legal child lies strictly inside the full root window (`Wee/Proofs/SearchReport.lean`) and raises alpha.  Under any schedule
the root's key is therefore in the joined table (`interleaving_first`: were it not, nobody wrote anything, worker 0 ran as
if alone and would have stored), and the report step reports (`finishStep_first_reports`, `searchS_first_reports`).  The
sequential run is one of the schedules (`first_root_entry_kept_always`).
-/
namespace Wee
open Wee.C10 (DisjointBoard)

/-- **every legal position has fewer than 9999 legal moves** (at most `64·64 + 2`; the true maximum is 218): the list of
`compute_legal_moves` has the length of the rules' list (`C02.legalMoves_length`), which is a sub-list of at most 64 moves per square plus
two castlings.  So the single root call of the first iteration, which counts one node per legal move, stays below the poll
interval of 10000 nodes. -/
theorem legalMoves_few (s : State) (hl : LegalPos s = true) (hd : DisjointBoard s.pieces) :
    (legalMoves s).length + 1 < Gen.pollInterval := by
  rw [C02.legalMoves_length s hl hd]
  have := Spec.legalMoves_length (abs s)
  unfold Gen.pollInterval
  omega

end Wee

namespace Wee.Search
open Wee Wee.SearchCtl


/-- the table invariants the workers of the first iteration rely on and re-establish: the C04 invariants (`depth ≤
max_depth`, shape of a reachable table, a legal move under the root's key) and the evaluation range -/
def FirstI (ctx : Ctx) (root : State) (nT nB : Nat) (tt : TT.Access) : Prop :=
  SafeT ctx root nT nB tt ∧ EvalIn tt

/-- the table after a list of inserts under ONE key -/
def insertsAt (tt : TT.Access) (k : Nat) (es : List TT.Entry) : TT.Access := es.foldl (fun t e => t.insert k e) tt

theorem insertsAt_append (tt : TT.Access) (k : Nat) (es es' : List TT.Entry) :
    insertsAt tt k (es ++ es') = insertsAt (insertsAt tt k es) k es' := by
  unfold insertsAt; rw [List.foldl_append]

/-- `search_depth = depth.saturating_sub(i % 2) + 1` of worker `i` in the first iteration (`depth = 0`) -/
theorem first_searchDepth (i : Nat) : (0 - i % 2) + 1 = 1 := by omega

theorem insertsAt_find (k : Nat) : ∀ (es : List TT.Entry) (tt : TT.Access), TTWf tt → TTWf (insertsAt tt k es) ∧
      (((insertsAt tt k es).find k).isSome = true ↔ ((tt.find k).isSome = true ∨ es ≠ [])) := by
  intro es
  induction es with
  | nil => intro tt hwf; exact ⟨hwf, by show (tt.find k).isSome = true ↔ _ ∨ ([] : List TT.Entry) ≠ []; simp⟩
  | cons e es ih =>
    intro tt hwf
    obtain ⟨i1, i2⟩ := ih (tt.insert k e) (hwf.insert _ _)
    refine ⟨i1, ?_⟩
    show ((insertsAt (tt.insert k e) k es).find k).isSome = true ↔ _
    rw [i2, find_insert_isSome hwf]
    simp


end Wee.Search

/-! ## the first iteration under an arbitrary schedule of the workers (`Wee/Model/SearchEnv.lean`) -/
namespace Wee.Env
open Wee Wee.Search
open Wee.SearchCtl (Walk InBuffer childArgs entryOf tick tick_eq bufferOf)

/-! ### the guarantee: a worker of the first iteration only inserts under the root's key -/

/-- node predicate of the first iteration: remaining depth 0, or the root call with remaining depth 1 -/
def FirstN (root : State) (rem : Nat) (a : NodeArgs) : Prop := rem = 0 ∨ (rem = 1 ∧ a.s = root)

theorem first_walk (ctx : Ctx) (root : State) :
    Walk ctx (fun _ => True) (fun _ => True) (FirstN root) (fun _ => True) where
  tick := by
    intro st _
    rw [SearchCtl.tick_eq]
    split
    · split
      · exact ⟨trivial, trivial⟩
      · trivial
    · trivial
  rng := fun _ _ h => h
  underflow := fun _ _ _ _ _ _ _ _ => trivial
  leaf := fun _ _ _ _ _ _ => trivial
  pseudo := fun _ _ _ _ => trivial
  legal := fun _ _ _ _ _ _ _ _ => trivial
  eval := fun _ _ _ _ => trivial
  window := fun _ _ _ _ h => h
  child := by
    intro rem a _ _ _ _ _ h _ _ _
    rcases h with h | ⟨h, _⟩
    · cases h
    · exact Or.inl (by omega)
  insert := fun _ _ _ _ _ _ _ _ _ _ _ _ _ _ _ => trivial

/-- **`C03_first_iteration_only_root_inserts`, any environment**: whatever the other workers write and whatever the reads
return, a worker with `search_depth = 1` only inserts under the root's key -/
theorem runWorkerE_rootkey (env : Env) (ctx : Ctx) (root : State) (w : Worker) (tt : TT.Access)
    (hsd : w.searchDepth = 1) :
    LogOK (fun k _ => k = (Wee.hash ctx.keys root).toNat) (runWorkerE env ctx root w tt).2.2 := by
  rw [runWorkerE_eq, hsd]
  have h := searchNodeE_walk (env := env)
    (V := Spec.inv (fun _ => True) (fun k _ => k = (Wee.hash ctx.keys root).toNat)) (N := FirstN root)
    (first_walk ctx root) (fun _ _ h => h)
    (by
      intro rem a _ _ _ _ _ _ hN _ _ _ _
      rcases hN with h | ⟨_, h⟩
      · cases h
      · show (Wee.hash ctx.keys a.s).toNat = _
        rw [h])
    1 (rootArgsE root w) (Or.inr ⟨rfl, rfl⟩) 0 { tt, rng := w.rng, nodes := 0, polls := w.polls } trivial
  exact h.log


/-- the root call of the first iteration, alone, after a missed probe: if it returns, its key is in the table it leaves.  A
run is a `TailOut` (`tailE_outP`) whose children return values strictly inside the window (`searchNodeE_insideP`): each
would raise alpha above `-M0`, so with a legal move the node ends with a store, and the stored entry is found again in a
table of the shape of a reachable table. -/
theorem tailE_root1_found {R : State → Prop} (hR : Region R) (ctx : Ctx) (a : NodeArgs) (ha : R a.s)
    (hd0 : a.curDepth = 0) (hpr : a.prioritized = Option.none) (hmoves : legalMoves a.s ≠ []) (n : Nat) (st : St)
    (hin : EvalWf st.tt) (v : Eval)
    (hok : (tailE Env.empty ctx a (Wee.hash ctx.keys a.s) (-M0) M0 (some (searchNodeE Env.empty ctx 0)) n st).1 = .ok v) :
    ((tailE Env.empty ctx a (Wee.hash ctx.keys a.s) (-M0) M0 (some (searchNodeE Env.empty ctx 0)) n st).2.1.tt.find
      (Wee.hash ctx.keys a.s).toNat).isSome = true := by
  obtain ⟨hl, hdj⟩ := hR.good _ ha
  have hL := C02.legalMoves?_eq a.s hl hdj
  obtain ⟨ps, hps, _⟩ := legalMoves?_eq_some.1 hL
  have hpos := M0_pos
  have hprio : C06.PrioOK a := fun m h => by rw [hpr] at h; cases h
  have h := tailE_outP (V := Spec.inv (fun st => EvalWf st.tt) fun _ _ => True) (env := Env.empty)
    (P := fun st => EvalWf st.tt) (Q := fun _ _ st => (st.tt.find (Wee.hash ctx.keys a.s).toNat).isSome = true)
    (C := fun _ _ _ v => Inside v) (Wn := fun al => -M0 ≤ al ∧ al < M0) (fun _ _ h => h) (fun _ h => h) ctx a
    (Wee.hash ctx.keys a.s) (-M0) M0 ⟨Int.le_refl _, by eomega⟩ (searchNodeE Env.empty ctx 0) hps st.nodes
    (fun al v h h1 h2 => ⟨by have := h.1; show -M0 ≤ -v; eomega, h2⟩) (fun _ => trivial) (fun _ _ _ => trivial)
    (fun _ _ h => h)
    (fun mv hmv m next htry al k hal => by
      obtain ⟨hwin, hdep, hpos'⟩ := childArgs_ok (a := { a with alpha := -M0, beta := M0 }) (rem := 0) next
        (by show -M0 < M0; omega) (Int.le_refl _) hal.1 hal.2 (by show a.curDepth + 2 * (0 + 1) + 70 < 2^31; omega)
      exact holdsP_guar (fun _ _ _ => trivial) (holdsP_conseq (searchNodeE_insideP hR Env.empty (fun _ _ hp => nomatch hp)
        ctx 0 _ (hR.closed _ ha _ (C06.buffer_legal hL hps hprio hmv htry)) hwin
        (by have := hal.2; show -M0 < -al; eomega) hdep (fun _ h' => nomatch h') k) (fun _ h => h)
        fun v st' h => ⟨h.1, h.2 hpos'⟩))
    (fun _ _ _ _ _ _ _ => trivial)
    (fun _ _ e st _ _ hp _ => ⟨find_insert_isSome hp.2 _ e, trivial⟩) n st ⟨hin, Nat.le_refl _⟩
  generalize tailE Env.empty ctx a (Wee.hash ctx.keys a.s) (-M0) M0 (some (searchNodeE Env.empty ctx 0)) n st = out
    at h hok ⊢
  obtain ⟨r, st', l⟩ := out
  cases hok
  obtain ⟨⟨buf, hbuf, ⟨hout, _⟩ | ⟨e, _, hq⟩⟩, _⟩ := h
  · -- nothing stored: no move of the buffer was legal
    exfalso
    refine hmoves ((C06.buffer_illegal_iff hL hps hprio hbuf).1 ?_)
    cases hout with
    | static hall _ => exact hall
    | kept _ hloop => exact hloop.none_illegal rfl fun _ _ v (hv : Inside v) => by show -M0 < -v; have := hv.2; omega
  · exact hq

theorem root1E_found {R : State → Prop} (hR : Region R) (ctx : Ctx) (root : State) (hroot : R root)
    (hmoves : legalMoves root ≠ []) (w : Worker) (hsd : w.searchDepth = 1) (hb : w.best = Option.none) (tt : TT.Access)
    (hin : EvalWf tt) (hf : tt.find (Wee.hash ctx.keys root).toNat = Option.none)
    (v : Eval) (hok : (runWorkerE Env.empty ctx root w tt).1 = .ok v) :
    ((runWorkerE Env.empty ctx root w tt).2.1.tt.find (Wee.hash ctx.keys root).toNat).isSome = true := by
  have hf' : (applyInserts tt (Env.empty.script 0)).find (Wee.hash ctx.keys root).toNat = Option.none := hf
  rw [runWorkerE_eq, hsd, searchNodeE_succ, root_run, hf'] at hok ⊢
  exact tailE_root1_found hR ctx (rootArgsE root w) hroot rfl hb hmoves 1
    { tt := applyInserts tt (Env.empty.script 0), rng := w.rng, nodes := 1, polls := w.polls } hin v hok

/-- the table after a history whose inserts all go under the key `rk`: the list of inserted entries is empty only if the
history holds no insert -/
theorem table_insertsAt (rk : Nat) : ∀ (H : History) (tt : TT.Access),
    (∀ p ∈ H, ∀ k e, p.2 = TOp.insert k e → k = rk) →
    ∃ es, History.table tt H = insertsAt tt rk es ∧ (es = [] → ∀ p ∈ H, ∀ k e, p.2 ≠ TOp.insert k e) := by
  intro H
  induction H with
  | nil => exact fun tt _ => ⟨[], rfl, fun _ _ hp => nomatch hp⟩
  | cons q rest ih =>
    intro tt hkeys
    obtain ⟨j, op⟩ := q
    have hrest : ∀ p ∈ rest, ∀ k e, p.2 = TOp.insert k e → k = rk := fun p hp => hkeys p (List.mem_cons_of_mem _ hp)
    rw [table_cons]
    cases op with
    | find k r =>
      obtain ⟨es, he, hn⟩ := ih tt hrest
      refine ⟨es, he, fun h p hp k' e' hpe => ?_⟩
      rcases List.mem_cons.1 hp with rfl | hp
      · cases hpe
      · exact hn h p hp k' e' hpe
    | insert k e =>
      obtain rfl := hkeys _ List.mem_cons_self k e rfl
      obtain ⟨es, he, _⟩ := ih (tt.insert k e) hrest
      exact ⟨e :: es, he, fun h => nomatch h⟩

theorem table_rootkey (rk : Nat) (H : History) (tt : TT.Access) (hwf : TTWf tt)
    (hkeys : ∀ p ∈ H, ∀ k e, p.2 = TOp.insert k e → k = rk)
    (h : (tt.find rk).isSome = true ∨ ∃ p ∈ H, ∃ k e, p.2 = TOp.insert k e) :
    ((History.table tt H).find rk).isSome = true := by
  obtain ⟨es, he, hn⟩ := table_insertsAt rk H tt hkeys
  rw [he]
  exact (insertsAt_find rk es tt hwf).2.2 (h.imp_right fun ⟨p, hp, k, e, hpe⟩ hes => hn hes p hp k e hpe)

theorem runWorkerE_first_keys (env : Env) (ctx : Ctx) (root : State) (w : Worker) (hsd : w.searchDepth = 1)
    (tt : TT.Access) (i : Nat) :
    ∀ p ∈ block i (runWorkerE env ctx root w tt).2.2, ∀ k e, p.2 = TOp.insert k e → k = (Wee.hash ctx.keys root).toNat := by
  intro p hp k e hpe
  obtain ⟨op, hop, rfl⟩ := List.mem_map.1 hp
  subst hpe
  exact runWorkerE_rootkey env ctx root w tt hsd k e hop

theorem runWorkerE_first_table (ctx : Ctx) (root : State) (w : Worker) (hsd : w.searchDepth = 1) (tt : TT.Access) :
    ∃ es, (runWorkerE Env.empty ctx root w tt).2.1.tt = insertsAt tt (Wee.hash ctx.keys root).toNat es := by
  rw [replay_empty_table _ _ _ _ 0 (runWorkerE_replay Env.empty ctx root w tt)]
  exact let ⟨es, h, _⟩ := table_insertsAt _ _ tt (runWorkerE_first_keys Env.empty ctx root w hsd tt 0); ⟨es, h⟩

theorem runWorker_first_table (ctx : Ctx) (root : State) (best : Option Move) (tt : TT.Access) (rng : Rng.ChaCha8)
    (polls : Nat) :
    ∃ es, (runWorker ctx root 1 best tt rng polls).2.tt = insertsAt tt (Wee.hash ctx.keys root).toNat es := by
  rw [← runWorkerE_empty ctx root { searchDepth := 1, best, rng, polls } tt]
  exact runWorkerE_first_table ctx root _ rfl tt

/-- **`C03_first_iteration_only_root_inserts`, worker list.**  For ANY table, context, seeds, worker count and whatever
the workers' outcomes (normal, interrupted, panic): the table after the workers of the first iteration (`depth = 0`, every
worker searches the root with `search_depth = 1`) is the initial table after a list of inserts under the root's key. -/
theorem _root_.Wee.Search.runWorkers_first_table (ctx : Ctx) (root : State) (bestMv : Option Move) :
    ∀ (l : List (Nat × UInt64)) (acc : WorkersOut),
      ∃ es, (runWorkers ctx root 0 bestMv l acc).tt = insertsAt acc.tt (Wee.hash ctx.keys root).toNat es := by
  intro l acc
  refine runWorkers_rule (P := fun o => ∃ es, o.tt = insertsAt acc.tt (Wee.hash ctx.keys root).toNat es) ctx root 0 bestMv
    (fun p a out _ he ⟨es, hes⟩ => ?_) l acc ⟨[], rfl⟩
  obtain ⟨es1, h1⟩ := runWorker_first_table ctx root (if p.1 == 0 then bestMv else Option.none) a.tt
    (Rng.seedFromU64 p.2) a.polls
  have h1' : out.2.tt = insertsAt a.tt (Wee.hash ctx.keys root).toNat es1 := by
    rw [← he]; unfold workerRun; rw [first_searchDepth]; exact h1
  rcases a.join_cases out with ⟨ht, _⟩ | ⟨ht, _⟩
  · exact ⟨es ++ es1, by rw [ht, h1', hes, insertsAt_append]⟩
  · exact ⟨es, by rw [ht]; exact hes⟩

/-! ### the shared table after the first iteration -/

theorem joinOf_interrupted {ctx : Ctx} {root : State} {tt : TT.Access} {ws : List Worker} {H : History} {polls : Nat}
    (hp : (joinOf ctx root tt ws H polls).interrupted = true) :
    ∃ i, ∃ h : i < ws.length, outcomeOf ctx root tt ws[i] H i = .error .interrupt := by
  unfold joinOf at hp
  simp only at hp
  obtain ⟨o, ho, hoe⟩ := List.any_eq_true.1 hp
  obtain ⟨i, h, rfl⟩ := mem_joinOuts ho
  refine ⟨i, h, ?_⟩
  unfold outcomeOf
  cases hr : (runWorkerE (envOf H i) ctx root ws[i] tt).1 with
  | ok v => rw [hr] at hoe; cases hoe
  | error err =>
    rw [hr] at hoe
    cases err with
    | interrupt => rfl
    | panic w => cases hoe

theorem mem_workersOfIteration_first {seeds : List UInt64} {pollsOf : Nat → Nat} {w : Worker}
    (hw : w ∈ workersOfIteration 0 Option.none seeds pollsOf) : w.searchDepth = 1 ∧ w.best = Option.none := by
  unfold workersOfIteration at hw
  obtain ⟨p, _, rfl⟩ := List.mem_map.1 hw
  exact ⟨first_searchDepth p.1, ite_self _⟩

theorem workersOfIteration_length (depth : Nat) (bestMv : Option Move) (seeds : List UInt64) (pollsOf : Nat → Nat) :
    (workersOfIteration depth bestMv seeds pollsOf).length = seeds.length := by
  unfold workersOfIteration
  rw [List.length_map, List.length_zip, List.length_range, Nat.min_self]

/-- **the workers of the first iteration under ANY schedule**: the root has at least one and fewer than `pollInterval - 1`
legal moves and its key is in the history (as `analyze_iterative` arranges); the workers `started` of iteration 0 (all of
them unless one is interrupted or panics) race in an arbitrary interleaving `H`; there is at least one worker, or the
root's key is in the table.  Then none panics, none is interrupted, and the root's key is in the final table. -/
theorem interleaving_first {R : State → Prop} (hR : Region R) (ctx : Ctx) (root : State)
    (hroot : R root) (hmoves : legalMoves root ≠ []) (hfew : (legalMoves root).length + 1 < Gen.pollInterval)
    (nT nB : Nat) (hT : 0 < nT) (hB : 0 < nB) (hhist : ctx.history.contains (Wee.hash ctx.keys root) = true)
    (tt : TT.Access) (hI0 : FirstI ctx root nT nB tt) (seeds : List UInt64) (pollsOf : Nat → Nat) (started : List Worker)
    (H : History) (polls' : Nat)
    (hw : 0 < seeds.length ∨ (tt.find (Wee.hash ctx.keys root).toNat).isSome = true)
    (hsub : started.Sublist (workersOfIteration 0 Option.none seeds pollsOf))
    (hall : (joinOf ctx root tt started H polls').interrupted = false →
      (joinOf ctx root tt started H polls').panic = Option.none → started = workersOfIteration 0 Option.none seeds pollsOf)
    (hI : Interleaving ctx root tt started H) :
    (joinOf ctx root tt started H polls').panic = Option.none ∧
    (joinOf ctx root tt started H polls').interrupted = false ∧
    ((joinOf ctx root tt started H polls').tt.find (Wee.hash ctx.keys root).toNat).isSome = true := by
  obtain ⟨hl, hdj⟩ := hR.good _ hroot
  have hL := C02.legalMoves?_eq root hl hdj
  have hwk : ∀ w ∈ started, w.searchDepth = 1 ∧ w.best = Option.none :=
    fun w hw' => mem_workersOfIteration_first (hsub.subset hw')
  -- no worker panics
  have hsafe := interleaving_safe ctx root nT nB hT hB hhist ⟨hl, hdj⟩ tt hI0.1 started
    (fun w hw' m hm => by rw [(hwk w hw').2] at hm; cases hm) H hI
  have hnp : (joinOf ctx root tt started H polls').panic = Option.none := by
    cases hp : (joinOf ctx root tt started H polls').panic with
    | none => rfl
    | some why =>
      obtain ⟨i, h, he⟩ := joinOf_panic hp
      exact absurd he (hsafe.1 i h why)
  -- no worker is interrupted: each counts at most one node for itself and one per legal move
  have hnoint : ∀ i (h : i < started.length), outcomeOf ctx root tt started[i] H i ≠ .error .interrupt := by
    intro i h he
    obtain ⟨hsd, hb⟩ := hwk _ (List.getElem_mem h)
    unfold outcomeOf at he
    rw [runWorkerE_eq, hsd] at he
    have h1 := searchNodeE_interrupt_nodes _ ctx 1 _ 0 _ he
    have h2 := root1E_nodes (envOf H i) ctx (rootArgsE root started[i]) hb _ hL 0
      { tt := tt, rng := started[i].rng, nodes := 0, polls := started[i].polls }
    have h2' : (searchNodeE (envOf H i) ctx 1 (rootArgsE root started[i]) 0
      { tt := tt, rng := started[i].rng, nodes := 0, polls := started[i].polls }).2.1.nodes ≤ 0 + 1 + (legalMoves root).length := h2
    omega
  have hni : (joinOf ctx root tt started H polls').interrupted = false := by
    cases hi : (joinOf ctx root tt started H polls').interrupted with
    | false => rfl
    | true =>
      obtain ⟨i, h, he⟩ := joinOf_interrupted hi
      exact absurd he (hnoint i h)
  -- so all workers were started
  have hlen : started.length = seeds.length := by rw [hall hni hnp, workersOfIteration_length]
  -- all inserts go under the root's key
  have hkeys : ∀ p ∈ H, ∀ k e, p.2 = TOp.insert k e → k = (Wee.hash ctx.keys root).toNat :=
    interleaving_guarantee (fun k _ => k = (Wee.hash ctx.keys root).toNat)
      (fun i h env _ => runWorkerE_rootkey env ctx root started[i] tt (hwk _ (List.getElem_mem h)).1) hI
  -- the root's key is in the final table
  have hwf : TTWf tt := ⟨nT, nB, hT, hB, hI0.1.2.1⟩
  refine ⟨hnp, hni, ?_⟩
  rw [joinOf_tt]
  apply Classical.byContradiction
  intro hnot
  have hno : ¬ ((tt.find (Wee.hash ctx.keys root).toNat).isSome = true ∨ ∃ p ∈ H, ∃ k e, p.2 = TOp.insert k e) :=
    fun h => hnot (table_rootkey _ H tt hwf hkeys h)
  have hno1 : ¬ (tt.find (Wee.hash ctx.keys root).toNat).isSome = true := fun h => hno (Or.inl h)
  have hno2 : ∀ p ∈ H, ∀ k e, p.2 ≠ TOp.insert k e := fun p hp k e he => hno (Or.inr ⟨p, hp, k, e, he⟩)
  -- worker 0 ran as if alone, missed the root's key and returned: the key is in its table, which is the one it started on
  have h0 : 0 < started.length := by have := hw.resolve_right hno1; omega
  obtain ⟨hsd, hb⟩ := hwk _ (List.getElem_mem h0)
  have hlog := hI.2 0 h0
  have hp0 := hsafe.1 0 h0
  have hi0 := hnoint 0 h0
  unfold outcomeOf at hp0 hi0
  rw [envOf_eq_empty (i := 0) fun p hp k e he => absurd he (hno2 p hp k e)] at hlog hp0 hi0
  cases hr : (runWorkerE Env.empty ctx root started[0] tt).1 with
  | error err =>
    cases err with
    | interrupt => exact hi0 hr
    | panic why => exact hp0 why hr
  | ok v =>
    have hfound := root1E_found hR ctx root hroot hmoves started[0] hsd hb tt ⟨hI0.2, hwf⟩
      (Option.not_isSome_iff_eq_none.1 hno1) v hr
    rw [replay_empty_table _ _ _ _ 0 (runWorkerE_replay Env.empty ctx root started[0] tt),
      table_inv (P := (· = tt)) (Adm := fun _ _ => False) (fun _ _ _ _ h => h.elim) _ tt rfl fun p hp k e he => by
        obtain ⟨op, hop, rfl⟩ := List.mem_map.1 hp
        rw [hlog] at hop
        exact hno2 _ (mem_of_mem_proj hop) k e he] at hfound
    exact hno1 hfound

theorem _root_.Wee.Search.finishStep_first_reports {R : State → Prop} {ctx : Ctx} {root : State} (hroot : R root)
    {w : WorkersOut} (htab : TTInv ctx.keys R w.tt) (hp : w.panic = Option.none) (hi : w.interrupted = false)
    (hf : (w.tt.find (Wee.hash ctx.keys root).toNat).isSome = true) (rng : Rng.ChaCha8) (st : IterSt) :
    ∃ ev line, Event.best ev line ∈ (finishStep ctx root (Wee.hash ctx.keys root) 0 rng w st).events := by
  cases hfe : w.tt.find (Wee.hash ctx.keys root).toNat with
  | none => rw [hfe] at hf; cases hf
  | some e =>
    have hne := walkLine_ne_nil htab 0 root hroot e hfe
    rw [finishStep_complete hp hi]
    dsimp only
    rw [if_neg (by intro hemp; exact hne (List.isEmpty_iff.1 hemp))]
    exact ⟨_, _, List.mem_append_right _ (List.mem_singleton.2 rfl)⟩

theorem stepS_first_reports {R : State → Prop} (hR : Region R) (ctx : Ctx) (root : State)
    (hroot : R root) (hmoves : legalMoves root ≠ []) (hfew : (legalMoves root).length + 1 < Gen.pollInterval)
    (hcf : CollisionFree ctx.keys R) (nT nB : Nat) (hT : 0 < nT) (hB : 0 < nB)
    (hhist : ctx.history.contains (Wee.hash ctx.keys root) = true) (workers : Nat) (hw : 0 < workers)
    (st st' : IterSt) (hbest : st.bestMv = Option.none) (hI0 : FirstI ctx root nT nB st.tt)
    (htinv : TTInv ctx.keys R st.tt) (hs : StepS ctx root (Wee.hash ctx.keys root) workers 0 st st') :
    ∃ ev line, Event.best ev line ∈ st'.events := by
  obtain ⟨pollsOf, started, H, polls', hsub, hall, hI, rfl⟩ := hs
  rw [hbest] at hsub hall
  obtain ⟨hnp, hni, hfind⟩ := interleaving_first hR ctx root hroot hmoves hfew nT nB hT hB hhist st.tt hI0 _ pollsOf
    started H polls' (Or.inl (by rw [drawSeeds_length]; exact hw)) hsub hall hI
  refine finishStep_first_reports hroot ?_ hnp hni hfind _ st
  have := ((interleaving_legal_region hR ctx hcf root hroot st.tt ⟨⟨nT, nB, hT, hB, hI0.1.2.1⟩, htinv⟩ started
    (fun w hw' m hm => by rw [(mem_workersOfIteration_first (hsub.subset hw')).2] at hm; cases hm) H hI).2 H.length).2
  rwa [take_all_table, ← joinOf_tt ctx root st.tt started H polls'] at this

/-- **`FirstRootEntryKept` for ANY incoming memory and ANY number of workers**: the sequential run of the workers is one of
the schedules (`runWorkers_schedule`) -/
theorem _root_.Wee.Search.first_root_entry_kept_always {R : State → Prop} (hR : Region R) (root : State)
    (hroot : R root) (hmoves : legalMoves root ≠ []) (hfew : (legalMoves root).length + 1 < Gen.pollInterval)
    (art : Artifact) (nT nB : Nat) (hT : 0 < nT) (hB : 0 < nB) (hdep : art.tt.All SearchCtl.DepthOK)
    (hinv : TT.AInv Gen.bucketSize nT nB art.tt) (hprio : SearchCtl.PrioritizedOK art root) (hin : EvalIn art.tt)
    (rng0 : Rng.ChaCha8) (workersOf : Nat → Nat) (cancelAt : Option Nat)
    (hw : 0 < workersOf 0 ∨ (art.tt.find (Wee.hash art.keys.keys root).toNat).isSome = true) :
    FirstRootEntryKept root rng0 art workersOf cancelAt := by
  obtain ⟨pollsOf, started, H, polls', hsub, hall, hI, hp, hsame⟩ :=
    runWorkers_schedule (iterCtx root art cancelAt) root (workersOf 0) 0 (iterInit rng0 art)
  obtain ⟨hnp, hni, hfind⟩ := interleaving_first hR (iterCtx root art cancelAt) root hroot hmoves hfew nT nB hT hB
    (by show (Wee.hash art.keys.keys root :: art.history).contains (Wee.hash art.keys.keys root) = true; simp)
    art.tt ⟨⟨hdep, hinv, hprio⟩, hin⟩ _ pollsOf started H polls'
    (hw.imp_left fun h => by rw [drawSeeds_length]; exact h) hsub hall hI
  obtain ⟨hi, htt, _⟩ := hsame (hp.trans hnp)
  exact ⟨hp.trans hnp, hi.trans hni, by rw [show (firstWorkers root rng0 art workersOf cancelAt).tt = _ from htt]; exact hfind⟩

theorem loopS_events_mono {ctx : Ctx} {root : State} {rootHash : UInt64} {workersOf : Nat → Nat} {n depth : Nat}
    {st st' : IterSt} (hl : LoopS ctx root rootHash workersOf n depth st st') : ∀ ev ∈ st.events, ev ∈ st'.events :=
  loopS_rule (N := depth + n) (P := fun s => ∀ ev ∈ st.events, ev ∈ s.events)
    (fun _ _ _ h ev hev => by rw [boundaryPoll_events]; exact h ev hev)
    (fun _ _ _ _ h hs ev hev => by
      obtain ⟨_, _, _, _, _, _, _, rfl⟩ := hs
      exact finishStep_events_mono _ _ _ _ _ _ _ ev (h ev hev))
    hl (Nat.le_refl _) fun _ h => h

/-- **every outcome of `analyze_iterative` under arbitrary schedules reports at least once** -/
theorem searchS_first_reports {R : State → Prop} (hR : Region R) (root : State) (hroot : R root)
    (hmoves : legalMoves root ≠ []) (art : Artifact) (hcf : CollisionFree art.keys.keys R)
    (htt : TInv art.keys.keys R art.tt) (hdep : art.tt.All SearchCtl.DepthOK) (hprio : SearchCtl.PrioritizedOK art root)
    (hin : EvalIn art.tt) (rng0 : Rng.ChaCha8) (maxDepth : Option Nat) (fuelDepth : Nat)
    (hlim : 1 ≤ maxDepth.getD fuelDepth) (workersOf : Nat → Nat) (hw : 0 < workersOf 0) (cancelAt : Option Nat)
    (out : Outcome) (hout : SearchS root rng0 maxDepth art workersOf cancelAt fuelDepth out) :
    ∃ ev line, Event.best ev line ∈ out.events := by
  obtain ⟨nT, nB, hT, hB, hinv⟩ := htt.1
  obtain ⟨st, hl, _, _, hsub, _⟩ := searchS_out hout
  rw [iterLimit_of_moves hmoves, ← Nat.sub_add_cancel hlim] at hl
  have hfin : (iterInit rng0 art).finished = false := rfl
  cases hl with
  | finished _ _ _ hf => rw [hfin] at hf; cases hf
  | stopped _ _ _ p _ hb =>
    -- the flag is not read before the first iteration
    rw [boundaryPoll_zero] at hb; rw [hfin] at hb; cases hb
  | step _ _ _ st1 _ p _ _ hs hrest =>
    rw [boundaryPoll_zero] at hs
    obtain ⟨ev, line, hmem⟩ := stepS_first_reports hR (iterCtx root art cancelAt) root hroot hmoves
      (legalMoves_few root (hR.good root hroot).1 (hR.good root hroot).2) hcf nT nB hT hB (by simp [iterCtx]) (workersOf 0) hw
      { iterInit rng0 art with polls := p } st1 rfl ⟨⟨hdep, hinv, hprio⟩, hin⟩ htt.2 hs
    exact ⟨ev, line, hsub _ (loopS_events_mono hrest _ hmem)⟩

end Wee.Env

/-! ## the first iteration of the sequential run reports, if its workers leave the root's entry -/
namespace Wee.Search
open Wee

theorem first_iteration_reports {R : State → Prop} (hR : Region R) (root : State) (hroot : R root) (art : Artifact)
    (hcf : CollisionFree art.keys.keys R) (htt : TInv art.keys.keys R art.tt)
    (rng0 : Rng.ChaCha8) (maxDepth : Option Nat) (workersOf : Nat → Nat) (cancelAt : Option Nat) (fuelDepth : Nat)
    (hmoves : legalMoves root ≠ [])
    (hlimit : 1 ≤ maxDepth.getD fuelDepth)
    (hkept : FirstRootEntryKept root rng0 art workersOf cancelAt) :
    ∃ ev line, Event.best ev line ∈ (iterate root rng0 maxDepth art workersOf cancelAt fuelDepth).events := by
  obtain ⟨hp, hi, hf⟩ := hkept
  -- the first iteration is the report step on what its workers return; it keeps the loop invariant
  have hfs : iterStep (iterCtx root art cancelAt) root (hash art.keys.keys root) (workersOf 0) 0 (iterInit rng0 art) =
      finishStep (iterCtx root art cancelAt) root (hash art.keys.keys root) 0 (drawSeeds (workersOf 0) rng0).2
        (firstWorkers root rng0 art workersOf cancelAt) (iterInit rng0 art) :=
    iterStep_eq_finishStep _ _ _ _ _ _
  have h1 := Env.stepS_inv_region hR (iterCtx root art cancelAt) hcf root hroot _ _ 0 (iterInit rng0 art) _
    ⟨htt, fun m hm => (nomatch hm), fun ev line hm => (nomatch hm)⟩
    (Env.iterStep_stepS (iterCtx root art cancelAt) root (hash art.keys.keys root) (workersOf 0) 0 (iterInit rng0 art))
  rw [hfs, finishStep_complete hp hi] at h1
  have hwk : TInv art.keys.keys R (firstWorkers root rng0 art workersOf cancelAt).tt := h1.tt
  obtain ⟨ev, line, hmem⟩ := finishStep_first_reports (ctx := iterCtx root art cancelAt) hroot hwk.2 hp hi hf
    (drawSeeds (workersOf 0) rng0).2 (iterInit rng0 art)
  replace hmem : Event.best ev line ∈ (iterStep (iterCtx root art cancelAt) root (hash art.keys.keys root) (workersOf 0) 0
      (iterInit rng0 art)).events := hfs ▸ hmem
  -- the rest of the loop and the saturation warning only append events
  have hlim : iterLimit root maxDepth fuelDepth = (iterLimit root maxDepth fuelDepth - 1) + 1 := by
    rw [iterLimit_of_moves hmoves]; exact (Nat.sub_add_cancel hlimit).symm
  have hfin : Event.best ev line ∈ (iterFinal root rng0 maxDepth art workersOf cancelAt fuelDepth).events := by
    unfold iterFinal
    rw [hlim, iterLoop_succ, boundaryPoll_zero, if_neg (fun h => nomatch h)]
    exact Env.loopS_events_mono (Env.iterLoop_loopS _ _ _ _ _ _ _) _ hmem
  refine ⟨ev, line, ?_⟩
  rw [iterate_eq]
  dsimp only
  split
  · exact List.mem_append_left _ hfin
  · exact hfin

end Wee.Search
