import Wee.Gen.MoveFns
import Wee.Proofs.BridgeBasics
/-!
# When a primitive of the translation returns

The checked operations of the prelude (`Wee/Gen/MoveFns.lean`) answer `some r` behind a range test of the debug
profile and `none` (panic) otherwise.  Those the bridges meet have one characterisation each, here: **it returns `r` exactly
when `r` denotes the exact result**; the range test says no more than that such an `r` exists.  Read from left to right this is
"whenever the Rust function returns, it returns the model's value"; from right to left, with the value as witness, "it returns";
with `r` known, the equation `… = some r`.

Here: `Int32.checked_add/sub/mul/neg`, `Int8.checked_add/mul/neg`, `UInt8.checked_add/sub`, `UInt32.checked_sub`,
`UInt64.checked_add/sub`.  The other checked operations of that prelude (`UInt8/UInt32/UInt64.checked_mul`, `UInt32.checked_add`,
`Int8.checked_sub`, `Int8/Int32.checked_abs`) have none: no bridge goes backwards through them.  The operations of the later
preludes are characterised beside their users: `ArrayMap.index_eq_some`, `ArrayMap.set_eq_some` and the checked shifts
(`checked_shl_ofNat`, `checked_shr_ofNat`) in `CoreFnsBridge.lean`; `usize_sum_eq_some`, `checked_rem_len` and the counters
(`entries_eq_some`, `max_entries_eq_some`) in `TTFnsBridge.lean`.
-/
namespace Wee.GenFns

/-- a result `w` behind a test `t`, where `w` is `r` exactly when `Q` (given `t`) and `Q` cannot hold unless `t` does -/
theorem guarded_eq_some {α : Type} {t Q : Prop} [Decidable t] {w r : α} (h1 : t → (w = r ↔ Q)) (h2 : Q → t) :
    (if t then some w else none) = some r ↔ Q := by
  by_cases ht : t
  · rw [if_pos ht, Option.some.injEq]; exact h1 ht
  · rw [if_neg ht]; exact ⟨(nomatch ·), fun q => absurd (h2 q) ht⟩

/-! ## signed: the wrapped result of an operation whose exact result is in range denotes it -/

theorem int8_add_toInt (a b : Int8) (h1 : -2 ^ 7 ≤ a.toInt + b.toInt) (h2 : a.toInt + b.toInt < 2 ^ 7) :
    (a + b).toInt = a.toInt + b.toInt := by
  rw [Int8.toInt_add]
  exact Int.bmod_eq_of_le h1 h2

theorem int8_mul_toInt (a b : Int8) (h1 : -2 ^ 7 ≤ a.toInt * b.toInt) (h2 : a.toInt * b.toInt < 2 ^ 7) :
    (a * b).toInt = a.toInt * b.toInt := by
  rw [Int8.toInt_mul]
  exact Int.bmod_eq_of_le h1 h2

theorem int32_sub_toInt (a b : Int32) (h1 : -2 ^ 31 ≤ a.toInt - b.toInt) (h2 : a.toInt - b.toInt < 2 ^ 31) :
    (a - b).toInt = a.toInt - b.toInt := by
  rw [Int32.toInt_sub]
  exact Int.bmod_eq_of_le h1 h2

theorem int32_add_toInt (a b : Int32) (h1 : -2 ^ 31 ≤ a.toInt + b.toInt) (h2 : a.toInt + b.toInt < 2 ^ 31) :
    (a + b).toInt = a.toInt + b.toInt := by
  rw [Int32.toInt_add]
  exact Int.bmod_eq_of_le h1 h2

theorem int32_mul_toInt (a b : Int32) (h1 : -2 ^ 31 ≤ a.toInt * b.toInt) (h2 : a.toInt * b.toInt < 2 ^ 31) :
    (a * b).toInt = a.toInt * b.toInt := by
  rw [Int32.toInt_mul]
  exact Int.bmod_eq_of_le h1 h2

theorem i32_bnd (x : Int32) : -2 ^ 31 ≤ x.toInt ∧ x.toInt < 2 ^ 31 := ⟨Int32.le_toInt x, Int32.toInt_lt x⟩
theorem i8_bnd (x : Int8) : -2 ^ 7 ≤ x.toInt ∧ x.toInt < 2 ^ 7 := ⟨Int8.le_toInt x, Int8.toInt_lt x⟩

theorem Int32.checked_add_eq_some {a b r : Int32} : Int32.checked_add a b = some r ↔ r.toInt = a.toInt + b.toInt :=
  guarded_eq_some (fun t => by rw [← Int32.toInt_inj, int32_add_toInt a b t.1 t.2]; exact eq_comm)
    (fun q => q ▸ i32_bnd r)

theorem Int32.checked_sub_eq_some {a b r : Int32} : Int32.checked_sub a b = some r ↔ r.toInt = a.toInt - b.toInt :=
  guarded_eq_some (fun t => by rw [← Int32.toInt_inj, int32_sub_toInt a b t.1 t.2]; exact eq_comm)
    (fun q => q ▸ i32_bnd r)

theorem Int32.checked_mul_eq_some {a b r : Int32} : Int32.checked_mul a b = some r ↔ r.toInt = a.toInt * b.toInt :=
  guarded_eq_some (fun t => by rw [← Int32.toInt_inj, int32_mul_toInt a b t.1 t.2]; exact eq_comm)
    (fun q => q ▸ i32_bnd r)

theorem Int32.checked_neg_eq_some {a r : Int32} : Int32.checked_neg a = some r ↔ r.toInt = -a.toInt := by
  have ha := i32_bnd a
  have hr := i32_bnd r
  unfold Int32.checked_neg
  by_cases h : a.toInt = -2 ^ 31
  · rw [if_pos h]; exact ⟨(nomatch ·), fun q => by omega⟩
  · rw [if_neg h, Option.some.injEq, ← Int32.toInt_inj, Int32.toInt_neg, Int.bmod_eq_of_le (by omega) (by omega)]
    exact eq_comm

theorem Int8.checked_add_eq_some {a b r : Int8} : Int8.checked_add a b = some r ↔ r.toInt = a.toInt + b.toInt :=
  guarded_eq_some (fun t => by rw [← Int8.toInt_inj, int8_add_toInt a b t.1 t.2]; exact eq_comm)
    (fun q => q ▸ i8_bnd r)

theorem Int8.checked_mul_eq_some {a b r : Int8} : Int8.checked_mul a b = some r ↔ r.toInt = a.toInt * b.toInt :=
  guarded_eq_some (fun t => by rw [← Int8.toInt_inj, int8_mul_toInt a b t.1 t.2]; exact eq_comm)
    (fun q => q ▸ i8_bnd r)

theorem Int8.checked_neg_eq_some {a r : Int8} : Int8.checked_neg a = some r ↔ r.toInt = -a.toInt := by
  have ha := i8_bnd a
  have hr := i8_bnd r
  unfold Int8.checked_neg
  by_cases h : a.toInt = -2 ^ 7
  · rw [if_pos h]; exact ⟨(nomatch ·), fun q => by omega⟩
  · rw [if_neg h, Option.some.injEq, ← Int8.toInt_inj, Int8.toInt_neg, Int.bmod_eq_of_le (by omega) (by omega)]
    exact eq_comm

theorem i32_max_toInt (a b : Int32) : (i32_max a b).toInt = max a.toInt b.toInt := by
  unfold i32_max
  by_cases h : a ≤ b
  · rw [if_pos h]; rw [Int32.le_iff_toInt_le] at h; omega
  · rw [if_neg h]; rw [Int32.le_iff_toInt_le] at h; omega

/-! ## unsigned -/

theorem UInt8.checked_add_eq_some {a b r : UInt8} : UInt8.checked_add a b = some r ↔ r.toNat = a.toNat + b.toNat :=
  guarded_eq_some (fun t => by rw [← UInt8.toNat_inj, UInt8.toNat_add, Nat.mod_eq_of_lt t]; exact eq_comm)
    (fun q => q ▸ r.toNat_lt)

theorem UInt64.checked_add_eq_some {a b r : UInt64} : UInt64.checked_add a b = some r ↔ r.toNat = a.toNat + b.toNat :=
  guarded_eq_some (fun t => by rw [← UInt64.toNat_inj, UInt64.toNat_add, Nat.mod_eq_of_lt t]; exact eq_comm)
    (fun q => q ▸ r.toNat_lt)

theorem UInt8.checked_sub_eq_some {a b r : UInt8} : UInt8.checked_sub a b = some r ↔ r.toNat + b.toNat = a.toNat :=
  guarded_eq_some
    (fun t => by rw [← UInt8.toNat_inj, UInt8.toNat_sub_of_le _ _ (UInt8.le_iff_toNat_le.2 t)]; omega)
    (fun q => by omega)

theorem UInt32.checked_sub_eq_some {a b r : UInt32} : UInt32.checked_sub a b = some r ↔ r.toNat + b.toNat = a.toNat :=
  guarded_eq_some
    (fun t => by rw [← UInt32.toNat_inj, UInt32.toNat_sub_of_le _ _ (UInt32.le_iff_toNat_le.2 t)]; omega)
    (fun q => by omega)

theorem UInt64.checked_sub_eq_some {a b r : UInt64} : UInt64.checked_sub a b = some r ↔ r.toNat + b.toNat = a.toNat :=
  guarded_eq_some
    (fun t => by rw [← UInt64.toNat_inj, UInt64.toNat_sub_of_le _ _ (UInt64.le_iff_toNat_le.2 t)]; omega)
    (fun q => by omega)

end Wee.GenFns
