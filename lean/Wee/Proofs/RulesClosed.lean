import Wee.Proofs.Rules
/-!
# Make-move by the rules: the cells of the successor, well-formed moves, legality is kept

A mailbox is read as a function and a move as a composition of function updates (`C02.moved`; the rules' `C02.specFn`
and the model's `expectedF` are instances).  The update lemmas `moved_*` serve both sides; their consequences are drawn
on each: here for `Spec.Fits` on `specFn` (`Fits.dst_content`, `succ_src … succ_piece_stays`, `succ_king`), in
`Wee/Proofs/ApplyCells.lean` for `C02.MFits` on `expectedF` (`MFits.dest_content`, `expectedF_*`, `corner_rook`,
`king_stays`), where the bitboards of the castling rights need them before the two sides are known to agree.
`Spec.Fits P m` lists what make-move relies on in terms of the mailbox alone, `Spec.PawnShape` adds the geometry of pawn
moves; every pseudo-legal move of a legal position has both (`Spec.fits_of_pseudo`).  From these, clause by clause of
`Spec.Legal`: a legal move of a legal position leads to a legal position (`Spec.legal_succ`).
-/
namespace Wee.C02

/-! ## mailboxes as functions; what a move does to one -/

def upd {α : Type} (f : Nat → α) (sq : Nat) (x : α) : Nat → α := fun n => if n = sq then x else f n

@[simp] theorem upd_same {α : Type} (f : Nat → α) (sq : Nat) (x : α) : upd f sq x sq = x := by simp [upd]
theorem upd_ne {α : Type} (f : Nat → α) (sq n : Nat) (x : α) (h : n ≠ sq) : upd f sq x n = f n := by simp [upd, h]
theorem upd_upd {α : Type} (f : Nat → α) (sq : Nat) (x y : α) : upd (upd f sq x) sq y = upd f sq y := by
  funext n; by_cases h : n = sq <;> simp [upd, h]
theorem upd_eq_self {α : Type} (f : Nat → α) (sq : Nat) (x : α) (h : f sq = x) : upd f sq x = f := by
  funext n; by_cases e : n = sq <;> simp [upd, e, h]

/-- the part of a move that every move has: origin emptied, en-passant victim removed, `x` put on the destination -/
def placed {α : Type} (f : Nat → Option α) (o d : Nat) (ep : Bool) (x : α) : Nat → Option α :=
  upd (if ep = true then upd (upd f o Option.none) (o / 8 * 8 + d % 8) Option.none else upd f o Option.none) d (some x)

/-- the mailbox after a move from `o` to `d`: `placed`, and the castling rook relocated.  Both the model's `expectedF`
and the rules' `specFn` are instances. -/
def moved {α : Type} (f : Nat → Option α) (o d : Nat) (ep : Bool) (x rook : α) (castle : Option Bool) : Nat → Option α :=
  match castle with
  | some true => upd (upd (placed f o d ep x) (o + 3) Option.none) (o + 1) (some rook)
  | some false => upd (upd (placed f o d ep x) (o - 4) Option.none) (o - 1) (some rook)
  | Option.none => placed f o d ep x

section moved
variable {α : Type} (f : Nat → Option α) {o d : Nat} {ep : Bool} (x rook : α) {castle : Option Bool}

theorem placed_untouched (n : Nat) (h1 : n ≠ o) (h2 : n ≠ d) (h3 : ep = true → n ≠ o / 8 * 8 + d % 8) :
    placed f o d ep x n = f n := by
  unfold placed
  rw [upd_ne _ _ _ _ h2]
  cases hep : ep
  · simp only [Bool.false_eq_true, if_false]; rw [upd_ne _ _ _ _ h1]
  · simp only [if_true]; rw [upd_ne _ _ _ _ (h3 hep), upd_ne _ _ _ _ h1]

theorem placed_dst : placed f o d ep x d = some x := upd_same _ _ _

theorem placed_src (h : o ≠ d) : placed f o d ep x o = Option.none := by
  unfold placed
  rw [upd_ne _ _ _ _ h]
  cases hep : ep
  · simp only [Bool.false_eq_true, if_false, upd_same]
  · simp only [if_true]
    by_cases e : o = o / 8 * 8 + d % 8
    · rw [← e, upd_same]
    · rw [upd_ne _ _ _ _ e, upd_same]

theorem placed_upd (y : α) : upd (placed f o d ep x) d (some y) = placed f o d ep y := upd_upd _ _ _ _

theorem moved_untouched (n : Nat) (h1 : n ≠ o) (h2 : n ≠ d) (h3 : ep = true → n ≠ o / 8 * 8 + d % 8)
    (h4 : castle = some true → n ≠ o + 3 ∧ n ≠ o + 1) (h5 : castle = some false → n ≠ o - 4 ∧ n ≠ o - 1) :
    moved f o d ep x rook castle n = f n := by
  have hmid := placed_untouched f x n h1 h2 h3
  unfold moved
  cases hcs : castle with
  | none => exact hmid
  | some b =>
    cases b with
    | true => simp only []; rw [upd_ne _ _ _ _ (h4 hcs).2, upd_ne _ _ _ _ (h4 hcs).1]; exact hmid
    | false => simp only []; rw [upd_ne _ _ _ _ (h5 hcs).2, upd_ne _ _ _ _ (h5 hcs).1]; exact hmid

theorem moved_dst (h4 : castle = some true → d = o + 2) (h5 : castle = some false → d = o - 2 ∧ 4 ≤ o) :
    moved f o d ep x rook castle d = some x := by
  unfold moved
  cases hcs : castle with
  | none => exact placed_dst f x
  | some b =>
    cases b with
    | true =>
      have := h4 hcs
      simp only []; rw [upd_ne _ _ _ _ (by omega), upd_ne _ _ _ _ (by omega)]; exact placed_dst f x
    | false =>
      have := h5 hcs
      simp only []; rw [upd_ne _ _ _ _ (by omega), upd_ne _ _ _ _ (by omega)]; exact placed_dst f x

theorem moved_src (h : o ≠ d) (h5 : castle = some false → 4 ≤ o) : moved f o d ep x rook castle o = Option.none := by
  have hmid := placed_src f x (ep := ep) h
  unfold moved
  cases hcs : castle with
  | none => exact hmid
  | some b =>
    cases b with
    | true => simp only []; rw [upd_ne _ _ _ _ (by omega), upd_ne _ _ _ _ (by omega)]; exact hmid
    | false =>
      have := h5 hcs
      simp only []; rw [upd_ne _ _ _ _ (by omega), upd_ne _ _ _ _ (by omega)]; exact hmid

theorem moved_victim (hep : ep = true) (hcs : castle = Option.none) (h : o / 8 * 8 + d % 8 ≠ d) :
    moved f o d ep x rook castle (o / 8 * 8 + d % 8) = Option.none := by
  unfold moved placed
  simp only [hcs, hep, if_true]
  rw [upd_ne _ _ _ _ h, upd_same]

theorem moved_rookK (hcs : castle = some true) :
    moved f o d ep x rook castle (o + 3) = Option.none ∧ moved f o d ep x rook castle (o + 1) = some rook := by
  unfold moved
  simp only [hcs]
  exact ⟨by rw [upd_ne _ _ _ _ (by omega), upd_same], by rw [upd_same]⟩

theorem moved_rookQ (hcs : castle = some false) (h : 4 ≤ o) :
    moved f o d ep x rook castle (o - 4) = Option.none ∧ moved f o d ep x rook castle (o - 1) = some rook := by
  unfold moved
  simp only [hcs]
  exact ⟨by rw [upd_ne _ _ _ _ (by omega), upd_same], by rw [upd_same]⟩

/-- a cell-wise reading `g` of the mailbox commutes with the move -/
theorem moved_map {β : Type} (g : Option α → Option β) (hg : g Option.none = Option.none) (x' rook' : β)
    (hx : g (some x) = some x') (hr : g (some rook) = some rook') (o d : Nat) (ep : Bool) (castle : Option Bool) :
    (fun n => g (moved f o d ep x rook castle n)) = moved (fun n => g (f n)) o d ep x' rook' castle := by
  have hu : ∀ (h : Nat → Option α) (sq : Nat) (y : Option α),
      (fun n => g (upd h sq y n)) = upd (fun n => g (h n)) sq (g y) := by
    intro h sq y; funext n; unfold upd; split <;> rfl
  unfold moved placed
  cases castle with
  | none => cases ep <;> simp only [hu, hg, hx, Bool.false_eq_true, if_false, if_true]
  | some b => cases b <;> cases ep <;> simp only [hu, hg, hx, hr, Bool.false_eq_true, if_false, if_true]

end moved

def cellsFn (a : Array (Option (Spec.Color × Spec.Kind))) : Nat → Option (Spec.Color × Spec.Kind) :=
  fun n => (a[n]?).getD Option.none

theorem cellsFn_setCell (a : Array (Option (Spec.Color × Spec.Kind))) (sq : Nat) (v) (h : sq < a.size) :
    cellsFn (Spec.setCell a sq v) = upd (cellsFn a) sq v := by
  funext n
  unfold cellsFn Spec.setCell upd
  rw [Array.getElem?_setIfInBounds]
  by_cases e : n = sq
  · subst e; simp [h]
  · have : ¬ sq = n := fun e' => e e'.symm
    simp [e, this]

theorem size_setCell (a : Array (Option (Spec.Color × Spec.Kind))) (sq : Nat) (v) :
    (Spec.setCell a sq v).size = a.size := by simp [Spec.setCell]

theorem array_ext_cellsFn (a b : Array (Option (Spec.Color × Spec.Kind))) (hs : a.size = b.size)
    (h : ∀ n, n < a.size → cellsFn a n = cellsFn b n) : a = b := by
  apply Array.ext hs
  intro i h1 h2
  have := h i h1
  unfold cellsFn at this
  simpa [h1, h2] using this

theorem spec_mid (A : Array (Option (Spec.Color × Spec.Kind))) (hA : A.size = 64) (o d : Nat) (ho : o < 64) (hd : d < 64)
    (ep : Bool) (x : Option (Spec.Color × Spec.Kind)) :
    cellsFn (Spec.setCell (if ep = true then Spec.setCell (Spec.setCell A o Option.none) (o / 8 * 8 + d % 8) Option.none
        else Spec.setCell A o Option.none) d x) =
      upd (if ep = true then upd (upd (cellsFn A) o Option.none) (o / 8 * 8 + d % 8) Option.none
        else upd (cellsFn A) o Option.none) d x := by
  have hv : o / 8 * 8 + d % 8 < 64 := by omega
  cases ep
  · simp only [Bool.false_eq_true, if_false]
    rw [cellsFn_setCell _ _ _ (by rw [size_setCell, hA]; exact hd), cellsFn_setCell _ _ _ (by rw [hA]; exact ho)]
  · simp only [if_true]
    rw [cellsFn_setCell _ _ _ (by rw [size_setCell, size_setCell, hA]; exact hd),
      cellsFn_setCell _ _ _ (by rw [size_setCell, hA]; exact hv), cellsFn_setCell _ _ _ (by rw [hA]; exact ho)]

theorem applyMove_cells_size (P : Spec.Pos) (sm : Spec.SMove) : (Spec.applyMove P sm).cells.size = P.cells.size := by
  unfold Spec.applyMove
  simp only []
  split <;> (try split) <;> simp [size_setCell]

/-- the mailbox function of `Spec.applyMove P m`: the instance of `moved` at the move's attributes -/
def specFn (P : Spec.Pos) (m : Spec.SMove) : Nat → Option (Spec.Color × Spec.Kind) :=
  moved (cellsFn P.cells) m.src m.dst m.ep (m.color, m.promo.getD m.kind) (m.color, Spec.Kind.rook) m.castle

theorem at_eq_cellsFn (P : Spec.Pos) (hsz : P.cells.size = 64) (n : Nat) : P.at n = cellsFn P.cells n := by
  unfold Spec.Pos.at cellsFn
  by_cases h : n < 64
  · rw [if_pos h, Array.getD_eq_getD_getElem?]
  · rw [if_neg h, Array.getElem?_eq_none (by omega)]; rfl

theorem applyMove_cellsFn (P : Spec.Pos) (hsz : P.cells.size = 64) (m : Spec.SMove) (hs : m.src < 64)
    (hd : m.dst < 64) (hc : m.castle ≠ Option.none → m.src + 3 < 64) :
    cellsFn (Spec.applyMove P m).cells = specFn P m := by
  unfold Spec.applyMove specFn moved placed
  simp only []
  cases hcs : m.castle with
  | none => simp only []; rw [spec_mid _ hsz _ _ hs hd]
  | some b =>
    have hb := hc (by rw [hcs]; simp)
    cases b
    all_goals
      simp only []
      rw [cellsFn_setCell _ _ _ (by rw [size_setCell, size_setCell]; split <;> simp [size_setCell, hsz] <;> omega),
        cellsFn_setCell _ _ _ (by rw [size_setCell]; split <;> simp [size_setCell, hsz] <;> omega),
        spec_mid _ hsz _ _ hs hd]

theorem step_down (t : Nat) (h : 8 ≤ t) (h64 : t < 64) : Spec.step t 0 (-1) = some (t - 8) :=
  (step_iff _ _ _ _).2 (by omega)

theorem step_up (t : Nat) (h : t < 56) : Spec.step t 0 1 = some (t + 8) :=
  (step_iff _ _ _ _).2 (by omega)

/-! ## counting the cells of a mailbox -/

def sumTo {α : Type} (w : α → Nat) (f : Nat → α) (N : Nat) : Nat := ((List.range N).map fun n => w (f n)).sum

theorem sumTo_succ {α : Type} (w : α → Nat) (f : Nat → α) (N : Nat) : sumTo w f (N + 1) = sumTo w f N + w (f N) := by
  unfold sumTo; rw [List.range_succ, List.map_append, List.sum_append]; simp

/-- writing one cell changes the sum by the difference of the two weights -/
theorem sumTo_upd {α : Type} (w : α → Nat) (f : Nat → α) (sq : Nat) (x : α) (N : Nat) :
    (sq < N → sumTo w (upd f sq x) N + w (f sq) = sumTo w f N + w x) ∧
    (N ≤ sq → sumTo w (upd f sq x) N = sumTo w f N) := by
  induction N with
  | zero => exact ⟨fun h => absurd h (by omega), fun _ => rfl⟩
  | succ N ih =>
    rw [sumTo_succ, sumTo_succ]
    constructor
    · intro h
      by_cases e : sq = N
      · subst e
        rw [ih.2 (Nat.le_refl _), upd_same]; omega
      · rw [upd_ne _ _ _ _ (fun e' => e e'.symm)]
        have := ih.1 (by omega); omega
    · intro h
      rw [ih.2 (by omega), upd_ne _ _ _ _ (by omega)]

theorem length_filter_range (p : Nat → Bool) (N : Nat) :
    ((List.range N).filter p).length = sumTo (fun b : Bool => if b then 1 else 0) p N := by
  induction N with
  | zero => rfl
  | succ N ih =>
    rw [sumTo_succ, ← ih, List.range_succ, List.filter_append, List.length_append]
    cases h : p N <;> simp [h]

/-- **what a move does to a count of the cells**, exactly: the cells of the origin, the destination and (en passant) the
victim's square leave the sum, the placed man enters it (`w none = 0`; the three squares distinct) -/
theorem sumTo_placed {α : Type} (w : Option α → Nat) (hw : w Option.none = 0) (f : Nat → Option α) (o d : Nat) (ep : Bool)
    (x : α) (ho : o < 64) (hd : d < 64) (hod : o ≠ d) (hv : ep = true → o / 8 * 8 + d % 8 < 64 ∧ o / 8 * 8 + d % 8 ≠ o ∧
      o / 8 * 8 + d % 8 ≠ d) :
    sumTo w (placed f o d ep x) 64 + w (f o) + w (f d) + (if ep = true then w (f (o / 8 * 8 + d % 8)) else 0) =
      sumTo w f 64 + w (some x) := by
  unfold placed
  have h1 := (sumTo_upd w f o Option.none 64).1 ho
  cases ep with
  | false =>
    simp only [Bool.false_eq_true, if_false]
    have h2 := (sumTo_upd w (upd f o Option.none) d (some x) 64).1 hd
    rw [upd_ne _ _ _ _ (Ne.symm hod)] at h2
    omega
  | true =>
    simp only [if_true]
    obtain ⟨v1, v2, v3⟩ := hv rfl
    have h2 := (sumTo_upd w (upd f o Option.none) (o / 8 * 8 + d % 8) Option.none 64).1 v1
    rw [upd_ne _ _ _ _ v2] at h2
    have h3 := (sumTo_upd w (upd (upd f o Option.none) (o / 8 * 8 + d % 8) Option.none) d (some x) 64).1 hd
    rw [upd_ne _ _ _ _ (Ne.symm v3), upd_ne _ _ _ _ (Ne.symm hod)] at h3
    omega

end Wee.C02

namespace Wee.Spec
open Wee.C02

/-! ## well-formed moves -/


theorem pawn_attack_mem (occ : Nat → Bool) (c : Color) (o t : Nat) (east : Bool)
    (h : step o (capDf east) c.fwd = some t) : t ∈ attacksFrom occ c Kind.pawn o := by
  simp only [attacksFrom, List.mem_filterMap, List.mem_cons, List.not_mem_nil, or_false]
  cases east
  · exact ⟨(-1, c.fwd), Or.inl rfl, h⟩
  · exact ⟨(1, c.fwd), Or.inr rfl, h⟩

/-- one rank forward is not the geometry of a double step -/
theorem geo_single {o t : Nat} {f df : Int} (hf : f = 1 ∨ f = -1) (hdf : df = 0 ∨ df = 1 ∨ df = -1)
    (h : step o df f = some t) : ¬ ((t : Int) = (o : Int) + 16 * f) := by
  have := step_one_ne16 hf hdf h
  omega

/-- what the rule-level generator guarantees beyond `Fits`: an unpromoted pawn does not land on
its last rank, pawns advance one or two ranks, a double step starts on the home rank and passes
over an empty square -/
structure PawnShape (P : Pos) (sm : SMove) : Prop where
  notLast : sm.kind = Kind.pawn → sm.promo = Option.none → sm.dst / 8 ≠ lastRank sm.color
  advance : sm.kind = Kind.pawn →
    (((sm.dst / 8 : Nat) : Int) = ((sm.src / 8 : Nat) : Int) + sm.color.fwd ∨
     ((sm.dst / 8 : Nat) : Int) = ((sm.src / 8 : Nat) : Int) + 2 * sm.color.fwd)
  dbl : sm.dbl = true → sm.src / 8 = homeRank sm.color ∧ P.at ((sm.src + sm.dst) / 2) = Option.none ∧
    sm.promo = Option.none ∧ sm.ep = false ∧ sm.castle = Option.none

theorem PawnShape.of_piece {P : Pos} {sm : SMove} (hk : sm.kind ≠ Kind.pawn) (hd : sm.dbl = false) :
    PawnShape P sm :=
  ⟨fun h => absurd h hk, fun h => absurd h hk, fun h => by rw [hd] at h; cases h⟩

theorem PawnShape.of_single {P : Pos} {sm : SMove}
    (hr : ((sm.dst / 8 : Nat) : Int) = ((sm.src / 8 : Nat) : Int) + sm.color.fwd)
    (hl : sm.promo = Option.none → sm.dst / 8 ≠ lastRank sm.color) (hd : sm.dbl = false) : PawnShape P sm :=
  ⟨fun _ => hl, fun _ => Or.inl hr, fun h => by rw [hd] at h; cases h⟩

theorem lastRank_cases (c : Color) : (c.fwd = 1 ∧ lastRank c = 7 ∧ homeRank c = 1) ∨
    (c.fwd = -1 ∧ lastRank c = 0 ∧ homeRank c = 6) := by
  cases c <;> simp [Color.fwd, lastRank, homeRank]

/-- **the rule-level move `sm` is well formed in position `P`**: what make-move relies on, as checkable facts about `sm` and
the mailbox; nothing refers to a move generator.

* `size` : the board has 64 cells;
* `color`, `mover` : `sm` is a move of the side to move, whose piece of kind `sm.kind` stands on `sm.src`;
* `quiet` / `capture` / `enPassant` : the destination is empty when nothing is captured; holds an enemy piece of the
  captured kind (never a king) in an ordinary capture; in an en-passant capture the mover is a pawn advancing one rank
  onto the empty en-passant target of `P`, and the enemy pawn stands beside the origin, behind the destination;
* `promo` : a promotion is a pawn reaching its last rank and becoming N, B, R or Q;
* `castle` : the king is on its home square, moves two files, the rook is on its corner and the square the rook lands on is
  empty;
* `dbl` : the double-step flag is set exactly for a pawn advancing two ranks on its file. -/
structure Fits (P : Pos) (sm : SMove) : Prop where
  size : P.cells.size = 64
  color : sm.color = P.turn
  src_lt : sm.src < 64
  dst_lt : sm.dst < 64
  mover : P.at sm.src = some (sm.color, sm.kind)
  quiet : sm.capture = none → sm.ep = false ∧ P.at sm.dst = none
  capture : ∀ k, sm.capture = some k → sm.ep = false → P.at sm.dst = some (sm.color.opp, k) ∧ k ≠ Kind.king
  enPassant : sm.ep = true →
    sm.capture = some Kind.pawn ∧ sm.kind = Kind.pawn ∧ sm.promo = none ∧ sm.castle = none ∧
    P.at sm.dst = none ∧ P.ep = some sm.dst ∧
    ((sm.dst / 8 : Nat) : Int) = ((sm.src / 8 : Nat) : Int) + sm.color.fwd ∧
    P.at (sm.src / 8 * 8 + sm.dst % 8) = some (sm.color.opp, Kind.pawn)
  promo : ∀ k, sm.promo = some k → sm.kind = Kind.pawn ∧ sm.dst / 8 = lastRank sm.color ∧ k ∈ promoKinds
  castle : ∀ b, sm.castle = some b →
    sm.kind = Kind.king ∧ sm.src = kingHome sm.color ∧ sm.capture = none ∧
    (match b with
     | true => sm.dst = sm.src + 2 ∧ P.at (sm.src + 3) = some (sm.color, Kind.rook) ∧ P.at (sm.src + 1) = none
     | false => sm.dst = sm.src - 2 ∧ P.at (sm.src - 4) = some (sm.color, Kind.rook) ∧ P.at (sm.src - 1) = none)
  dbl : sm.dbl = true ↔ (sm.kind = Kind.pawn ∧ (sm.dst : Int) = (sm.src : Int) + 16 * sm.color.fwd)


/-- moves that are neither en passant nor castling -/
theorem fits_plain {P : Pos} {sm : SMove} (hsz : P.cells.size = 64) (hcol : sm.color = P.turn)
    (hsrc : sm.src < 64) (hdst : sm.dst < 64) (hep : sm.ep = false) (hcs : sm.castle = none)
    (hmover : P.at sm.src = some (sm.color, sm.kind))
    (hq : sm.capture = none → P.at sm.dst = none)
    (hc : ∀ k, sm.capture = some k → P.at sm.dst = some (sm.color.opp, k) ∧ k ≠ Kind.king)
    (hpromo : ∀ k, sm.promo = some k → sm.kind = Kind.pawn ∧ sm.dst / 8 = lastRank sm.color ∧ k ∈ promoKinds)
    (hdbl : sm.dbl = true ↔ (sm.kind = Kind.pawn ∧ (sm.dst : Int) = (sm.src : Int) + 16 * sm.color.fwd)) :
    Fits P sm :=
  { size := hsz, color := hcol, src_lt := hsrc, dst_lt := hdst, mover := hmover
    quiet := fun h => ⟨hep, hq h⟩, capture := fun k h _ => hc k h
    enPassant := fun h => by rw [hep] at h; cases h
    promo := hpromo, castle := (fun b h => by rw [hcs] at h; cases h), dbl := hdbl }

theorem promoOK_fits {c : Color} {t : Nat} {pr : Option Kind} (h : PromoOK c t pr) :
    (∀ k, pr = some k → t / 8 = lastRank c ∧ k ∈ promoKinds) ∧ (pr = none → t / 8 ≠ lastRank c) := by
  rcases h with ⟨h, rfl⟩ | ⟨h, k, hk, rfl⟩
  · exact ⟨fun k e => (by cases e), fun _ => h⟩
  · exact ⟨fun k' e => (by cases e; exact ⟨h, hk⟩), fun e => by cases e⟩

/-- no pseudo-legal capture takes a king: the side not to move is not in check -/
theorem Legal.no_king_capture {P : Pos} (hl : Legal P) {o t : Nat} {k : Kind} (hat : P.at o = some (P.turn, k))
    (ht : t ∈ attacksFrom P.occupied P.turn k o) : P.at t ≠ some (P.turn.opp, Kind.king) := by
  intro h
  have hc : P.inCheck P.turn.opp = true := by
    rw [C10.inCheck_iff]
    refine ⟨t, at_lt h, h, ?_⟩
    rw [C10.attackedBy_iff, opp_opp]
    exact ⟨o, at_lt hat, k, hat, ht⟩
  rw [hl.noCheck] at hc; cases hc

/-- **every pseudo-legal move of a legal position fits**, and has the shape of a move of the rules -/
theorem fits_of_pseudo {P : Pos} (hl : Legal P) {sm : SMove} (hps : Pseudo P sm) : Fits P sm ∧ PawnShape P sm := by
  have hf := fwd_cases P.turn
  cases hps with
  | @push o t pr hat hst hn hpr =>
    obtain ⟨p1, p2⟩ := promoOK_fits hpr
    exact ⟨fits_plain hl.size rfl (at_lt hat) (step_lt hst) rfl rfl hat (fun _ => hn) (fun k h => by cases h)
      (fun k h => ⟨rfl, p1 k h⟩) ⟨fun h => (by cases h), fun h => absurd h.2 (geo_single hf (Or.inl rfl) hst)⟩,
      .of_single ((step_coords hst).1) p2 rfl⟩
  | @double o t1 t2 hat hhome h1 h2 n1 n2 =>
    have hr1 := step_coords h1
    have hr2 := step_coords h2
    refine ⟨fits_plain hl.size rfl (at_lt hat) (step_lt h2) rfl rfl hat (fun _ => n2) (fun k h => by cases h)
      (fun k h => by cases h) ⟨fun _ => ⟨rfl, step_two_16 h1 h2⟩, fun _ => rfl⟩,
      fun _ _ => ?_, fun _ => Or.inr ?_, fun _ => ⟨hhome, ?_, rfl, rfl, rfl⟩⟩
    · exact home_not_last P.turn hhome h1 h2
    · show ((t2 / 8 : Nat) : Int) = ((o / 8 : Nat) : Int) + 2 * P.turn.fwd
      omega
    · show P.at ((o + t2) / 2) = none
      rw [show (o + t2) / 2 = t1 by omega]; exact n1
  | @capture o t k pr east hat hst hatt hpr =>
    obtain ⟨p1, p2⟩ := promoOK_fits hpr
    have hg := geo_single hf (Or.inr (capDf_cases east)) hst
    have hrank := (step_coords hst).1
    have hnk : k ≠ Kind.king := by
      rintro rfl; exact hl.no_king_capture hat (pawn_attack_mem _ _ _ _ east hst) hatt
    exact ⟨fits_plain hl.size rfl (at_lt hat) (step_lt hst) rfl rfl hat (fun h => by cases h)
      (fun k h => by cases h; exact ⟨hatt, hnk⟩) (fun k h => ⟨rfl, p1 k h⟩)
      ⟨fun h => (by cases h), fun h => absurd h.2 hg⟩, .of_single hrank p2 rfl⟩
  | @enPassant o t east hat hst hn hep =>
    have hg := geo_single hf (Or.inr (capDf_cases east)) hst
    have hrank := (step_coords hst).1
    obtain ⟨hr, _, ⟨v, hv, hvat⟩, _⟩ := hl.ep t hep
    rw [fwd_opp] at hv
    have hveq : v = o / 8 * 8 + t % 8 := by
      have := step_coords hv
      omega
    have hnl : t / 8 ≠ lastRank P.turn := by
      revert hr
      cases P.turn <;> simp only [homeRank, Color.fwd, Color.opp, lastRank] <;> omega
    exact
      ⟨{ size := hl.size, color := rfl, src_lt := at_lt hat, dst_lt := step_lt hst, mover := hat
         quiet := fun h => by cases h
         capture := fun k _ h => by cases h
         enPassant := fun _ => ⟨rfl, rfl, rfl, rfl, hn, hep, hrank, by
           show P.at (o / 8 * 8 + t % 8) = some (P.turn.opp, Kind.pawn)
           rw [← hveq]; exact hvat⟩
         promo := fun k h => by cases h
         castle := fun b h => by cases h
         dbl := ⟨fun h => (by cases h), fun h => absurd h.2 hg⟩ }, .of_single hrank (fun _ => hnl) rfl⟩
  | @piece o t k hk hat hatt hown =>
    refine ⟨fits_plain hl.size rfl (at_lt hat) (attacksFrom_lt _ _ _ _ _ hatt) rfl rfl hat ?_ ?_
      (fun k h => by cases h) ⟨fun h => (by cases h), fun h => absurd h.1 hk⟩, .of_piece hk rfl⟩
    · intro h
      cases hatT : P.at t with
      | none => rfl
      | some x => simp only [hatT, Option.map_some] at h; cases h
    · intro k' h
      cases hatT : P.at t with
      | none => simp only [hatT, Option.map_none] at h; cases h
      | some x =>
        obtain ⟨c', k''⟩ := x
        simp only [hatT, Option.map_some, Option.some.injEq] at h
        subst h
        have hc' : c' = P.turn.opp := by
          cases hc : c' <;> cases ht' : P.turn <;> first | rfl | (exfalso; rw [hc, ← ht'] at hatT; exact hown _ hatT)
        subst hc'
        exact ⟨rfl, fun e => hl.no_king_capture hat hatt (e ▸ hatT)⟩
  | castleK r e1 e2 =>
    obtain ⟨hk, hrk⟩ := hl.rightK _ r
    have := kingHome_cases P.turn
    exact
      ⟨{ size := hl.size, color := rfl, src_lt := by dsimp only; omega, dst_lt := by dsimp only; omega, mover := hk
         quiet := fun _ => ⟨rfl, e2⟩, capture := (fun k h => by cases h), enPassant := fun h => by cases h
         promo := fun k h => by cases h
         castle := fun b h => by cases h; exact ⟨rfl, rfl, rfl, rfl, hrk, e1⟩
         dbl := ⟨fun h => (by cases h), fun h => (by cases h.1)⟩ }, .of_piece (fun h => by cases h) rfl⟩
  | castleQ r e1 e2 =>
    obtain ⟨hk, hrk⟩ := hl.rightQ _ r
    have := kingHome_cases P.turn
    exact
      ⟨{ size := hl.size, color := rfl, src_lt := by dsimp only; omega, dst_lt := by dsimp only; omega, mover := hk
         quiet := fun _ => ⟨rfl, e2⟩, capture := (fun k h => by cases h), enPassant := fun h => by cases h
         promo := fun k h => by cases h
         castle := fun b h => by cases h; exact ⟨rfl, rfl, rfl, rfl, hrk, e1⟩
         dbl := ⟨fun h => (by cases h), fun h => (by cases h.1)⟩ }, .of_piece (fun h => by cases h) rfl⟩




/-! ## what a move changes and what it leaves alone -/

/-- before the move the destination is empty or holds an enemy piece that is not a king -/
theorem Fits.dst_content {P : Pos} {sm : SMove} (h : Fits P sm) :
    P.at sm.dst = Option.none ∨ ∃ k, P.at sm.dst = some (sm.color.opp, k) ∧ k ≠ Spec.Kind.king := by
  cases hcap : sm.capture with
  | none => exact Or.inl (h.quiet hcap).2
  | some k =>
    cases hep : sm.ep with
    | false => exact Or.inr ⟨k, h.capture k hcap hep⟩
    | true => exact Or.inl (h.enPassant hep).2.2.2.2.1

theorem Fits.distinct {P : Pos} {sm : SMove} (h : Fits P sm) :
    sm.src ≠ sm.dst ∧
    (sm.ep = true → sm.src / 8 * 8 + sm.dst % 8 ≠ sm.src ∧ sm.src / 8 * 8 + sm.dst % 8 ≠ sm.dst ∧
      sm.castle = Option.none) ∧
    (sm.castle ≠ Option.none → (sm.src = 4 ∨ sm.src = 60) ∧ sm.ep = false) := by
  have hmv := h.mover
  refine ⟨?_, ?_, ?_⟩
  · intro e
    rcases Fits.dst_content h with hn | ⟨k, hk, _⟩
    · rw [← e, hmv] at hn; cases hn
    · rw [← e, hmv] at hk
      exact specColor_opp_ne _ (congrArg Prod.fst (Option.some.inj hk)).symm
  · intro hep
    obtain ⟨_, _, _, hcs, hdn, _, _, hv⟩ := h.enPassant hep
    refine ⟨?_, ?_, hcs⟩
    · intro e; rw [e, hmv] at hv
      exact specColor_opp_ne _ (congrArg Prod.fst (Option.some.inj hv)).symm
    · intro e; rw [e, hdn] at hv; cases hv
  · intro hcs
    cases hc : sm.castle with
    | none => exact absurd hc hcs
    | some b =>
      obtain ⟨_, hsrc, hcap, _⟩ := h.castle b hc
      refine ⟨by rw [hsrc]; exact kingHome_cases _, (h.quiet hcap).1⟩

theorem succ_at {P : Pos} {sm : SMove} (h : Fits P sm) (n : Nat) :
    (Spec.applyMove P sm).at n = specFn P sm n := by
  have hsz := h.size
  rw [at_eq_cellsFn _ (by rw [applyMove_cells_size, hsz]),
    applyMove_cellsFn _ hsz _ h.src_lt h.dst_lt (fun hc => by have := ((Fits.distinct h).2.2 hc).1; omega)]

theorem Fits.castle_facts {P : Pos} {sm : SMove} (h : Fits P sm) :
    (sm.castle = some true → sm.dst = sm.src + 2 ∧ P.at (sm.src + 3) = some (sm.color, Spec.Kind.rook) ∧
      P.at (sm.src + 1) = Option.none) ∧
    (sm.castle = some false → sm.dst = sm.src - 2 ∧ 4 ≤ sm.src ∧
      P.at (sm.src - 4) = some (sm.color, Spec.Kind.rook) ∧ P.at (sm.src - 1) = Option.none) := by
  constructor
  · intro hc
    obtain ⟨_, _, _, h4⟩ := h.castle true hc
    exact h4
  · intro hc
    obtain ⟨_, hsrc, _, h4⟩ := h.castle false hc
    have := kingHome_cases sm.color
    simp only [] at h4
    exact ⟨h4.1, by omega, h4.2.1, h4.2.2⟩

theorem succ_src {P : Pos} {sm : SMove} (h : Fits P sm) :
    (Spec.applyMove P sm).at sm.src = Option.none := by
  rw [succ_at h, specFn]
  exact moved_src _ _ _ (Fits.distinct h).1 (fun hc => ((Fits.castle_facts h).2 hc).2.1)

theorem succ_dst {P : Pos} {sm : SMove} (h : Fits P sm) :
    (Spec.applyMove P sm).at sm.dst = some (sm.color, sm.promo.getD sm.kind) := by
  rw [succ_at h, specFn]
  exact moved_dst _ _ _ (fun hc => ((Fits.castle_facts h).1 hc).1)
    (fun hc => ⟨((Fits.castle_facts h).2 hc).1, ((Fits.castle_facts h).2 hc).2.1⟩)

/-- every piece of the successor that is not on the destination stood there before, or is the castled rook -/
theorem succ_piece_origin {P : Pos} {sm : SMove} (h : Fits P sm) (n : Nat)
    (hd : n ≠ sm.dst) (x : Spec.Color × Spec.Kind) (hx : (Spec.applyMove P sm).at n = some x) :
    P.at n = some x ∨ (sm.castle ≠ Option.none ∧ x = (sm.color, Spec.Kind.rook)) := by
  obtain ⟨hsd, hepd, hcsd⟩ := Fits.distinct h
  by_cases h1 : n = sm.src
  · rw [h1, succ_src h] at hx; cases hx
  by_cases h3 : sm.ep = true ∧ n = sm.src / 8 * 8 + sm.dst % 8
  · obtain ⟨hep, rfl⟩ := h3
    rw [succ_at h, specFn, moved_victim _ _ _ hep (hepd hep).2.2 (hepd hep).2.1] at hx; cases hx
  by_cases h4 : sm.castle = some true ∧ (n = sm.src + 3 ∨ n = sm.src + 1)
  · obtain ⟨hc, hn⟩ := h4
    rw [succ_at h, specFn] at hx
    rcases hn with rfl | rfl
    · rw [(moved_rookK _ _ _ hc).1] at hx; cases hx
    · rw [(moved_rookK _ _ _ hc).2] at hx
      exact Or.inr ⟨by rw [hc]; simp, (Option.some.inj hx).symm⟩
  by_cases h5 : sm.castle = some false ∧ (n = sm.src - 4 ∨ n = sm.src - 1)
  · obtain ⟨hc, hn⟩ := h5
    have h4' := ((Fits.castle_facts h).2 hc).2.1
    rw [succ_at h, specFn] at hx
    rcases hn with rfl | rfl
    · rw [(moved_rookQ _ _ _ hc h4').1] at hx; cases hx
    · rw [(moved_rookQ _ _ _ hc h4').2] at hx
      exact Or.inr ⟨by rw [hc]; simp, (Option.some.inj hx).symm⟩
  left
  rw [succ_at h, specFn, moved_untouched _ _ _ n h1 hd (fun he e => h3 ⟨he, e⟩)
    (fun hc => ⟨fun e => h4 ⟨hc, Or.inl e⟩, fun e => h4 ⟨hc, Or.inr e⟩⟩)
    (fun hc => ⟨fun e => h5 ⟨hc, Or.inl e⟩, fun e => h5 ⟨hc, Or.inr e⟩⟩), ← at_eq_cellsFn _ h.size] at hx
  exact hx

/-- every piece of the position that is neither the mover, the captured piece, the en-passant victim nor
the castling rook is still on its square -/
theorem succ_piece_stays {P : Pos} {sm : SMove} (h : Fits P sm) (n : Nat)
    (h1 : n ≠ sm.src) (h2 : n ≠ sm.dst) (x : Spec.Color × Spec.Kind) (hx : P.at n = some x) :
    (Spec.applyMove P sm).at n = some x ∨ (sm.ep = true ∧ x = (sm.color.opp, Spec.Kind.pawn)) ∨
      (sm.castle ≠ Option.none ∧ x = (sm.color, Spec.Kind.rook)) := by
  by_cases h3 : sm.ep = true ∧ n = sm.src / 8 * 8 + sm.dst % 8
  · obtain ⟨hep, rfl⟩ := h3
    obtain ⟨_, _, _, _, _, _, _, hv⟩ := h.enPassant hep
    rw [hv] at hx
    exact Or.inr (Or.inl ⟨hep, (Option.some.inj hx).symm⟩)
  by_cases h4 : sm.castle = some true ∧ (n = sm.src + 3 ∨ n = sm.src + 1)
  · obtain ⟨hc, hn⟩ := h4
    obtain ⟨_, hr, he⟩ := (Fits.castle_facts h).1 hc
    rcases hn with rfl | rfl
    · rw [hr] at hx; exact Or.inr (Or.inr ⟨by rw [hc]; simp, (Option.some.inj hx).symm⟩)
    · rw [he] at hx; cases hx
  by_cases h5 : sm.castle = some false ∧ (n = sm.src - 4 ∨ n = sm.src - 1)
  · obtain ⟨hc, hn⟩ := h5
    obtain ⟨_, _, hr, he⟩ := (Fits.castle_facts h).2 hc
    rcases hn with rfl | rfl
    · rw [hr] at hx; exact Or.inr (Or.inr ⟨by rw [hc]; simp, (Option.some.inj hx).symm⟩)
    · rw [he] at hx; cases hx
  left
  rw [succ_at h, specFn, moved_untouched _ _ _ n h1 h2 (fun he e => h3 ⟨he, e⟩)
    (fun hc => ⟨fun e => h4 ⟨hc, Or.inl e⟩, fun e => h4 ⟨hc, Or.inr e⟩⟩)
    (fun hc => ⟨fun e => h5 ⟨hc, Or.inl e⟩, fun e => h5 ⟨hc, Or.inr e⟩⟩), ← at_eq_cellsFn _ h.size]
  exact hx


/-! ## the clauses of legality for the successor -/

theorem Fits.dst_not_king {P : Pos} {sm : SMove} (h : Fits P sm) (col : Spec.Color) :
    P.at sm.dst ≠ some (col, Spec.Kind.king) := by
  intro e
  rcases Fits.dst_content h with hn | ⟨k, hk, hnk⟩
  · rw [e] at hn; cases hn
  · rw [e] at hk
    exact hnk (congrArg Prod.snd (Option.some.inj hk)).symm

/-- a pawn promotes to N, B, R or Q: a king or a pawn lands on the destination only if it is the piece that moved -/
theorem Fits.landing {P : Pos} {sm : SMove} (h : Fits P sm) {k : Kind} (hk : k ∉ promoKinds)
    (e : sm.promo.getD sm.kind = k) : sm.kind = k ∧ sm.promo = Option.none := by
  cases hp : sm.promo with
  | none => rw [hp] at e; exact ⟨e, rfl⟩
  | some kp =>
    rw [hp] at e
    exact absurd (e ▸ (h.promo kp hp).2.2) hk

/-- **exactly one king of each colour** -/
theorem succ_king {P : Pos} {sm : SMove} (h : Fits P sm) (col : Spec.Color)
    (hc : ∃ q, q < 64 ∧ P.at q = some (col, Kind.king) ∧ ∀ n, n < 64 → P.at n = some (col, Kind.king) → n = q) :
    ∃ q, q < 64 ∧ (applyMove P sm).at q = some (col, Kind.king) ∧
      ∀ n, n < 64 → (applyMove P sm).at n = some (col, Kind.king) → n = q := by
  obtain ⟨q, hq, hqat, hqu⟩ := hc
  by_cases hk : sm.kind = Spec.Kind.king ∧ sm.color = col
  · -- the king of `col` moves
    obtain ⟨hkind, hcol⟩ := hk
    have hsrcq : sm.src = q := hqu _ h.src_lt (by rw [h.mover, hkind, hcol])
    have hpromo : sm.promo = Option.none := by
      cases hp : sm.promo with
      | none => rfl
      | some kp => have := (h.promo kp hp).1; rw [hkind] at this; cases this
    refine ⟨sm.dst, h.dst_lt, by rw [succ_dst h, hpromo, hkind, hcol]; rfl, fun n hn hat => ?_⟩
    apply Classical.byContradiction
    intro hne
    rcases succ_piece_origin h n hne _ hat with h1 | ⟨_, h2⟩
    · have := hqu n hn h1
      rw [this, ← hsrcq, succ_src h] at hat; cases hat
    · cases congrArg Prod.snd h2
  · -- that king does not move
    have hq1 : q ≠ sm.src := by
      intro e
      rw [e, h.mover] at hqat
      have := Option.some.inj hqat
      exact hk ⟨congrArg Prod.snd this, congrArg Prod.fst this⟩
    have hq2 : q ≠ sm.dst := by
      intro e; rw [e] at hqat; exact Fits.dst_not_king h col hqat
    refine ⟨q, hq, ?_, fun n hn hat => ?_⟩
    · rcases succ_piece_stays h q hq1 hq2 _ hqat with h1 | ⟨_, h2⟩ | ⟨_, h2⟩
      · exact h1
      · cases congrArg Prod.snd h2
      · cases congrArg Prod.snd h2
    · by_cases hnd : n = sm.dst
      · rw [hnd, succ_dst h] at hat
        have e := Option.some.inj hat
        obtain ⟨hkind, _⟩ := h.landing (k := .king) (by decide) (congrArg Prod.snd e)
        exact absurd ⟨hkind, congrArg Prod.fst e⟩ hk
      · rcases succ_piece_origin h n hnd _ hat with h1 | ⟨_, h2⟩
        · exact hqu n hn h1
        · cases congrArg Prod.snd h2


/-- **no pawn on rank 1 or 8** -/
theorem succ_no_backrank_pawns {P : Pos} {sm : SMove} (h : Fits P sm)
    (hsh : PawnShape P sm)
    (hP : ∀ n, n < 64 → (n / 8 = 0 ∨ n / 8 = 7) → ∀ col, P.at n ≠ some (col, Spec.Kind.pawn)) :
    ∀ n, n < 64 → (n / 8 = 0 ∨ n / 8 = 7) → ∀ col,
      (Spec.applyMove P sm).at n ≠ some (col, Spec.Kind.pawn) := by
  intro n hn hr col hat
  by_cases hnd : n = sm.dst
  · rw [hnd, succ_dst h] at hat
    obtain ⟨e, hpn⟩ := h.landing (k := .pawn) (by decide) (congrArg Prod.snd (Option.some.inj hat))
    have h1 := hsh.notLast e hpn
    have h2 := hsh.advance e
    have hsrc : ¬ (sm.src / 8 = 0 ∨ sm.src / 8 = 7) := by
      intro hr'
      have := h.mover
      rw [e] at this
      exact hP sm.src h.src_lt hr' sm.color this
    have hd64 := h.dst_lt
    have hs64 := h.src_lt
    rw [hnd] at hr
    rcases lastRank_cases sm.color with ⟨hf, hl, _⟩ | ⟨hf, hl, _⟩ <;> rw [hf] at h2 <;> rw [hl] at h1 <;> omega
  · rcases succ_piece_origin h n hnd _ hat with h1 | ⟨_, h2⟩
    · exact hP n hn hr col h1
    · cases congrArg Prod.snd h2

/-- a two-rank advance from the home rank: the square passed over, seen from both ends -/
theorem dbl_geometry {src dst : Nat} {c : Spec.Color} (hs : src < 64) (hd : dst < 64)
    (hgeo : (dst : Int) = (src : Int) + 16 * c.fwd) (hhome : src / 8 = Spec.homeRank c) :
    (src + dst) / 2 ≠ src ∧ (src + dst) / 2 ≠ dst ∧ (((src + dst) / 2 / 8 : Nat) : Int) = Spec.homeRank c + c.fwd ∧
    Spec.step ((src + dst) / 2) 0 c.fwd = some dst ∧ Spec.step ((src + dst) / 2) 0 (-c.fwd) = some src := by
  cases c <;> simp only [Spec.Color.fwd, Spec.homeRank] at hgeo hhome ⊢
  · obtain rfl : dst = src + 16 := by omega
    rw [show (src + (src + 16)) / 2 = src + 8 by omega]
    exact ⟨by omega, by omega, by omega, step_up _ (by omega), step_down _ (by omega) (by omega)⟩
  · obtain rfl : src = dst + 16 := by omega
    rw [show (dst + 16 + dst) / 2 = dst + 8 by omega]
    exact ⟨by omega, by omega, by omega, step_down _ (by omega) (by omega), step_up _ (by omega)⟩

/-- **the en-passant target, when set, lies behind the pawn that just double-stepped** -/
theorem succ_ep {P : Pos} {sm : SMove} (h : Fits P sm) (hsh : PawnShape P sm) (t : Nat)
    (ht : (applyMove P sm).ep = some t) :
    t / 8 = homeRank (applyMove P sm).turn.opp + (applyMove P sm).turn.opp.fwd ∧ (applyMove P sm).at t = none ∧
    (∃ b, step t 0 (applyMove P sm).turn.opp.fwd = some b ∧
      (applyMove P sm).at b = some ((applyMove P sm).turn.opp, Kind.pawn)) ∧
    ∃ a, step t 0 (-(applyMove P sm).turn.opp.fwd) = some a ∧ (applyMove P sm).at a = none := by
  have hep' : (applyMove P sm).ep = if sm.dbl then some ((sm.src + sm.dst) / 2) else none := rfl
  cases hdbl : sm.dbl with
  | false => rw [hep', hdbl] at ht; cases ht
  | true =>
    rw [hep', hdbl] at ht
    cases ht
    obtain ⟨hkind, hgeo⟩ := h.dbl.1 hdbl
    obtain ⟨hhome, hmid, hpromo, hep, hcs⟩ := hsh.dbl hdbl
    obtain ⟨hne1, hne2, hrank, hup, hdown⟩ := dbl_geometry h.src_lt h.dst_lt hgeo hhome
    -- the passed-over square is untouched and was empty
    have hmidQ : (applyMove P sm).at ((sm.src + sm.dst) / 2) = none := by
      rw [succ_at h, specFn, moved_untouched _ _ _ _ hne1 hne2 (fun e => by rw [hep] at e; cases e)
        (fun e => by rw [hcs] at e; cases e) (fun e => by rw [hcs] at e; cases e), ← at_eq_cellsFn _ h.size]
      exact hmid
    have hdstQ : (applyMove P sm).at sm.dst = some (sm.color, Kind.pawn) := by
      rw [succ_dst h, hpromo, hkind]; rfl
    have hturn : (applyMove P sm).turn.opp = sm.color := opp_opp sm.color
    rw [hturn]
    exact ⟨hrank, hmidQ, ⟨_, hup, hdstQ⟩, _, hdown, succ_src h⟩


/-- **the rules are closed**: a legal move of a legal position leads to a legal position -/
theorem legal_succ {P : Pos} (hl : Legal P) {sm : SMove} (hps : Pseudo P sm)
    (hlegal : isLegalAfter P sm = true) : Legal (applyMove P sm) := by
  obtain ⟨h, hsh⟩ := fits_of_pseudo hl hps
  have hright : ∀ c kingSide, (applyMove P sm).right c kingSide = true →
      (applyMove P sm).at (kingHome c) = some (c, .king) ∧
      (applyMove P sm).at (if kingSide then kingHome c + 3 else kingHome c - 4) = some (c, .rook) := by
    intro c kingSide hr
    have e : (applyMove P sm).right c kingSide =
        (P.right c kingSide && !(sm.kind == .king && sm.color == c) &&
          !(sm.src == (if kingSide then kingHome c + 3 else kingHome c - 4) ||
            sm.dst == (if kingSide then kingHome c + 3 else kingHome c - 4))) := by
      cases c <;> cases kingSide <;> rfl
    rw [e] at hr
    simp only [Bool.and_eq_true, Bool.not_eq_true', Bool.and_eq_false_iff, Bool.or_eq_false_iff, beq_eq_false_iff_ne,
      ne_eq] at hr
    obtain ⟨⟨hheld, hnk⟩, hs, hd⟩ := hr
    obtain ⟨hk, hrk⟩ : P.at (kingHome c) = some (c, .king) ∧
        P.at (if kingSide then kingHome c + 3 else kingHome c - 4) = some (c, .rook) := by
      cases kingSide
      · exact hl.rightQ c hheld
      · exact hl.rightK c hheld
    have hmover : ¬ (sm.kind = .king ∧ sm.color = c) := fun ⟨a, b⟩ => by rcases hnk with h | h <;> contradiction
    constructor
    · rcases succ_piece_stays h _ (fun e => hmover (by
          have := h.mover; rw [← e, hk] at this
          exact ⟨(congrArg Prod.snd (Option.some.inj this)).symm, (congrArg Prod.fst (Option.some.inj this)).symm⟩))
        (fun e => Fits.dst_not_king h c (e ▸ hk)) _ hk with h1 | ⟨_, h2⟩ | ⟨_, h2⟩
      · exact h1
      · cases congrArg Prod.snd h2
      · cases congrArg Prod.snd h2
    · rcases succ_piece_stays h _ (fun e => hs e.symm) (fun e => hd e.symm) _ hrk with h1 | ⟨_, h2⟩ | ⟨hc, h2⟩
      · exact h1
      · cases congrArg Prod.snd h2
      · cases hcs : sm.castle with
        | none => exact absurd hcs hc
        | some b => exact absurd ⟨(h.castle b hcs).1, (congrArg Prod.fst h2).symm⟩ hmover
  exact
    { size := by rw [applyMove_cells_size]; exact hl.size
      king := fun c => succ_king h c (hl.king c)
      noCheck := by
        have : (applyMove P sm).turn.opp = P.turn := by
          show sm.color.opp.opp = _; rw [opp_opp, h.color]
        rw [this]; simpa [isLegalAfter] using hlegal
      backrank := succ_no_backrank_pawns h hsh hl.backrank
      rightK := fun c r => hright c true r
      rightQ := fun c r => hright c false r
      ep := succ_ep h hsh }


end Wee.Spec

namespace Wee
open Wee.C02

/-- **a king may not step onto an empty square that the opponent attacks**: after the step the king stands
attacked (the attacker is neither captured nor newly blocked; leaving the origin square only opens lines) -/
theorem kingStep_into_attack_illegal (P : Spec.Pos) (hsz : P.cells.size = 64) (o t : Nat)
    (hat_o : P.at o = some (P.turn, Spec.Kind.king)) (ht_empty : P.at t = Option.none) (ht : t < 64)
    (hatt : P.attackedBy P.turn.opp t = true) :
    Spec.isLegalAfter P { color := P.turn, kind := .king, src := o, dst := t } = false := by
  unfold Spec.isLegalAfter
  simp only [Bool.not_eq_eq_eq_not, Bool.not_false]
  have ho : o < 64 := at_lt hat_o
  have hcell : ∀ x, (Spec.applyMove P { color := P.turn, kind := .king, src := o, dst := t }).at x =
      if x = t then some (P.turn, Spec.Kind.king) else if x = o then Option.none else P.at x := by
    intro x
    rw [at_eq_cellsFn _ (by rw [applyMove_cells_size]; exact hsz) x,
      applyMove_cellsFn P hsz _ ho ht (fun h => absurd rfl h), at_eq_cellsFn P hsz x]
    rfl
  rw [C10.inCheck_iff]
  refine ⟨t, ht, by rw [hcell, if_pos rfl], ?_⟩
  obtain ⟨s', hs', k, hat', hmem⟩ := (C10.attackedBy_iff P P.turn.opp t).1 hatt
  rw [C10.attackedBy_iff]
  have hs't : s' ≠ t := by rintro rfl; rw [ht_empty] at hat'; cases hat'
  have hs'o : s' ≠ o := by
    rintro rfl; rw [hat_o] at hat'
    exact specColor_opp_ne _ (congrArg Prod.fst (Option.some.inj hat')).symm
  refine ⟨s', hs', k, by rw [hcell, if_neg hs't, if_neg hs'o]; exact hat', ?_⟩
  apply attacksFrom_mono P.occupied _ t _ _ _ _ hmem
  intro x hxt hocc
  unfold Spec.Pos.occupied at hocc ⊢
  rw [hcell, if_neg hxt] at hocc
  by_cases hxo : x = o
  · rw [if_pos hxo] at hocc; cases hocc
  · rw [if_neg hxo] at hocc; exact hocc

end Wee
