import Wee.Proofs.AbsLemmas
/-!
# The rules of chess read through a function: a second evaluator for `Wee/Spec/Chess.lean`

Evaluating the rules on a concrete position costs the kernel what `Spec.Pos.at` costs: a walk along the list under an
`Array`, at every cell that the attack tests of every candidate move look at.  `Spec.PosF` is a position whose mailbox is a function, and the functions of
namespace `Spec.PosF` are those of `Wee/Spec/Chess.lean` word for word over it (`p.cell` for `p.at`, `PosF.set` for
`Spec.setCell`).  That they are is checked by Lean, not by reading: the `…_view` lemmas are `rfl` or end in it; only make-move
needs an argument (`Spec.view_applyMove`).  For `abs s` the mailbox is packed into one number, four bits a cell
(`fastAbs`), so that a lookup is arithmetic on a literal; a fact about `Spec.legalMoves (abs s)`, `LegalPos s`, … is
rewritten with `legalMoves_abs`, `legalPos_abs`, … before `decide +kernel`.
-/
namespace Wee.Spec

/-- a position with the mailbox as a function -/
structure PosF where
  cell : Nat → Option (Color × Kind)
  turn : Color
  wk : Bool
  wq : Bool
  bk : Bool
  bq : Bool
  ep : Option Nat
  halfmove : Nat
  fullmove : Nat

def Pos.view (p : Pos) : PosF :=
  { cell := p.at, turn := p.turn, wk := p.wk, wq := p.wq, bk := p.bk, bq := p.bq, ep := p.ep, halfmove := p.halfmove,
    fullmove := p.fullmove }

namespace PosF

def occupied (p : PosF) (sq : Nat) : Bool := (p.cell sq).isSome

def attackedBy (p : PosF) (c : Color) (t : Nat) : Bool :=
  (List.range 64).any fun s =>
    match p.cell s with
    | some (c', k) => c' == c && (attacksFrom p.occupied c k s).contains t
    | none => false

def kingSquares (p : PosF) (c : Color) : List Nat :=
  (List.range 64).filter fun s => p.cell s == some (c, .king)

def inCheck (p : PosF) (c : Color) : Bool := (p.kingSquares c).any (p.attackedBy c.opp)

def pawnMovesFrom (p : PosF) (c : Color) (s : Nat) : List SMove :=
  let withPromo (m : SMove) : List SMove :=
    if m.dst / 8 = lastRank c then promoKinds.map fun k => { m with promo := some k } else [m]
  let push1 : List SMove := match step s 0 c.fwd with
    | some t => if p.occupied t then [] else withPromo { color := c, kind := .pawn, src := s, dst := t }
    | none => []
  let push2 : List SMove :=
    if s / 8 = homeRank c then
      match step s 0 c.fwd with
      | some t1 => match step t1 0 c.fwd with
        | some t2 => if p.occupied t1 || p.occupied t2 then [] else [{ color := c, kind := .pawn, src := s, dst := t2, dbl := true }]
        | none => []
      | none => []
    else []
  let caps : List SMove := ([(-1 : Int), 1].filterMap fun df => step s df c.fwd).flatMap fun t =>
    match p.cell t with
    | some (c', k) => if c' == c.opp then withPromo { color := c, kind := .pawn, src := s, dst := t, capture := some k } else []
    | none => if p.ep == some t then [{ color := c, kind := .pawn, src := s, dst := t, capture := some .pawn, ep := true }] else []
  push1 ++ push2 ++ caps

def pieceMovesFrom (p : PosF) (c : Color) (k : Kind) (s : Nat) : List SMove :=
  (attacksFrom p.occupied c k s).filterMap fun t =>
    match p.cell t with
    | some (c', k') => if c' == c then none else some { color := c, kind := k, src := s, dst := t, capture := some k' }
    | none => some { color := c, kind := k, src := s, dst := t }

def castleMoves (p : PosF) (c : Color) : List SMove :=
  let k := kingHome c
  let ks := (match c with | .white => p.wk | .black => p.bk) &&
    !p.occupied (k+1) && !p.occupied (k+2) &&
    !p.attackedBy c.opp k && !p.attackedBy c.opp (k+1) && !p.attackedBy c.opp (k+2)
  let qs := (match c with | .white => p.wq | .black => p.bq) &&
    !p.occupied (k-1) && !p.occupied (k-2) && !p.occupied (k-3) &&
    !p.attackedBy c.opp k && !p.attackedBy c.opp (k-1) && !p.attackedBy c.opp (k-2)
  (if ks then [{ color := c, kind := .king, src := k, dst := k+2, castle := some true }] else []) ++
  (if qs then [{ color := c, kind := .king, src := k, dst := k-2, castle := some false }] else [])

def pseudoMoves (p : PosF) : List SMove :=
  let c := p.turn
  ((List.range 64).flatMap fun s =>
    match p.cell s with
    | some (c', k) =>
      if c' == c then (if k == .pawn then pawnMovesFrom p c s else pieceMovesFrom p c k s) else []
    | none => []) ++ castleMoves p c

/-- `Spec.setCell` on a mailbox of 64 cells -/
def set (f : Nat → Option (Color × Kind)) (sq : Nat) (v : Option (Color × Kind)) : Nat → Option (Color × Kind) :=
  if sq < 64 then C02.upd f sq v else f

def applyMove (p : PosF) (m : SMove) : PosF :=
  let c := m.color
  let cells := set p.cell m.src none
  let cells := if m.ep then set cells (m.src / 8 * 8 + m.dst % 8) none else cells
  let cells := set cells m.dst (some (c, m.promo.getD m.kind))
  let cells := match m.castle with
    | some true => set (set cells (m.src + 3) none) (m.src + 1) (some (c, .rook))
    | some false => set (set cells (m.src - 4) none) (m.src - 1) (some (c, .rook))
    | none => cells
  let touches (sq : Nat) : Bool := m.src == sq || m.dst == sq
  let kingMoved (col : Color) : Bool := m.kind == .king && c == col
  { cell := cells
    turn := c.opp
    wk := p.wk && !kingMoved .white && !touches 7
    wq := p.wq && !kingMoved .white && !touches 0
    bk := p.bk && !kingMoved .black && !touches 63
    bq := p.bq && !kingMoved .black && !touches 56
    ep := if m.dbl then some ((m.src + m.dst) / 2) else none
    halfmove := if m.kind == .pawn || m.capture.isSome then 0 else clockSucc p.halfmove
    fullmove := if c == .black then clockSucc p.fullmove else p.fullmove }

def isLegalAfter (p : PosF) (m : SMove) : Bool := !(applyMove p m).inCheck p.turn

def legalMoves (p : PosF) : List SMove := (pseudoMoves p).filter (isLegalAfter p)

def count (p : PosF) (c : Color) (k : Kind) : Nat :=
  ((List.range 64).filter fun s => p.cell s == some (c, k)).length

/-- `Spec.LegalPos` without its first clause, the size of the mailbox -/
def LegalPos (p : PosF) : Bool :=
  count p .white .king == 1 && count p .black .king == 1 &&
  !p.inCheck p.turn.opp &&
  ((List.range 8).all fun f => ([0, 56].all fun b =>
     match p.cell (b + f) with | some (_, .pawn) => false | _ => true)) &&
  (!p.wk || (p.cell 4 == some (.white, .king) && p.cell 7 == some (.white, .rook))) &&
  (!p.wq || (p.cell 4 == some (.white, .king) && p.cell 0 == some (.white, .rook))) &&
  (!p.bk || (p.cell 60 == some (.black, .king) && p.cell 63 == some (.black, .rook))) &&
  (!p.bq || (p.cell 60 == some (.black, .king) && p.cell 56 == some (.black, .rook))) &&
  (match p.ep with
   | none => true
   | some t =>
     let c := p.turn.opp
     let r : Nat := match c with | .white => 2 | .black => 5
     t / 8 == r && !p.occupied t &&
     (match step t 0 c.fwd with | some s => p.cell s == some (c, .pawn) | none => false) &&
     (match step t 0 (-c.fwd) with | some s => !p.occupied s | none => false))

end PosF

open C02 (cellsFn cellsFn_setCell size_setCell at_eq_cellsFn applyMove_cells_size)

theorem cellsFn_setCell_64 {a : Array (Option (Color × Kind))} (h : a.size = 64) (sq : Nat) (v) :
    cellsFn (setCell a sq v) = PosF.set (cellsFn a) sq v := by
  unfold PosF.set
  by_cases hs : sq < 64
  · rw [if_pos hs, cellsFn_setCell a sq v (h ▸ hs)]
  · rw [if_neg hs]; unfold setCell; rw [Array.setIfInBounds_eq_of_size_le (by omega)]

theorem view_applyMove (P : Pos) (hsz : P.cells.size = 64) (m : SMove) :
    (applyMove P m).view = PosF.applyMove P.view m := by
  have h : (applyMove P m).at = (PosF.applyMove P.view m).cell := by
    rw [funext (at_eq_cellsFn _ ((applyMove_cells_size P m).trans hsz))]
    unfold applyMove PosF.applyMove Pos.view
    rw [funext (at_eq_cellsFn P hsz)]
    rcases m with ⟨_, _, _, _, _, _, ep, castle, _⟩
    cases ep <;> rcases castle with _ | _ | _ <;>
      simp only [cellsFn_setCell_64, size_setCell, hsz, if_true, Bool.false_eq_true, if_false]
  unfold Pos.view; rw [h]; rfl

theorem isLegalAfter_view (P : Pos) (hsz : P.cells.size = 64) (m : SMove) :
    isLegalAfter P m = PosF.isLegalAfter P.view m := by
  unfold isLegalAfter PosF.isLegalAfter; rw [← view_applyMove P hsz m]; rfl

theorem pseudoMoves_view (P : Pos) : pseudoMoves P = PosF.pseudoMoves P.view := by rfl

theorem legalMoves_view (P : Pos) (hsz : P.cells.size = 64) : legalMoves P = PosF.legalMoves P.view := by
  unfold legalMoves PosF.legalMoves; rw [← pseudoMoves_view]
  exact List.filter_congr fun m _ => isLegalAfter_view P hsz m

theorem legalPos_view (P : Pos) (hsz : P.cells.size = 64) : LegalPos P = PosF.LegalPos P.view := by
  unfold LegalPos; rw [hsz, beq_self_eq_true, Bool.true_and]; rfl

def encCell : Option (Color × Kind) → Nat
  | none => 0
  | some (c, k) => (match c with | .white => 1 | .black => 7) +
    (match k with | .pawn => 0 | .knight => 1 | .bishop => 2 | .rook => 3 | .queen => 4 | .king => 5)

def decCell : Nat → Option (Color × Kind)
  | 1 => some (.white, .pawn) | 2 => some (.white, .knight) | 3 => some (.white, .bishop)
  | 4 => some (.white, .rook) | 5 => some (.white, .queen) | 6 => some (.white, .king)
  | 7 => some (.black, .pawn) | 8 => some (.black, .knight) | 9 => some (.black, .bishop)
  | 10 => some (.black, .rook) | 11 => some (.black, .queen) | 12 => some (.black, .king)
  | _ => none

theorem decCell_encCell (x : Option (Color × Kind)) : decCell (encCell x) = x ∧ encCell x < 16 := by
  rcases x with _ | ⟨c, k⟩
  · decide
  · cases c <;> cases k <;> decide

/-- the first `n` cells of a mailbox as the digits of a number to the base 16 -/
def packCells (f : Nat → Option (Color × Kind)) : Nat → Nat
  | 0 => 0
  | n + 1 => packCells f n + encCell (f n) * 16 ^ n

def fastAt (b : Nat) (sq : Nat) : Option (Color × Kind) := if sq < 64 then decCell (b / 16 ^ sq % 16) else none

theorem packCells_lt (f : Nat → Option (Color × Kind)) (n : Nat) : packCells f n < 16 ^ n := by
  induction n with
  | zero => exact Nat.one_pos
  | succ n ih =>
    have := Nat.mul_le_mul_right (16 ^ n) (Nat.le_of_lt_succ (decCell_encCell (f n)).2)
    rw [packCells, Nat.pow_succ]; omega

theorem packCells_digit (f : Nat → Option (Color × Kind)) (k j : Nat) :
    packCells f (k + 1 + j) / 16 ^ k % 16 = encCell (f k) := by
  have hk : 0 < 16 ^ k := Nat.pow_pos (by decide)
  induction j with
  | zero =>
    rw [Nat.add_zero, packCells, Nat.add_mul_div_right _ _ hk, Nat.div_eq_of_lt (packCells_lt f k), Nat.zero_add,
      Nat.mod_eq_of_lt (decCell_encCell (f k)).2]
  | succ j ih =>
    have e (x : Nat) : x * 16 ^ (k + 1 + j) = x * 16 ^ j * 16 * 16 ^ k := by rw [Nat.pow_add, Nat.pow_succ]; ac_rfl
    rw [← Nat.add_assoc, packCells, e, Nat.add_mul_div_right _ _ hk, Nat.add_mul_mod_self_right, ih]

theorem fastAt_packCells (f : Nat → Option (Color × Kind)) (hf : ∀ sq, 64 ≤ sq → f sq = none) :
    fastAt (packCells f 64) = f := by
  funext sq
  unfold fastAt
  by_cases h : sq < 64
  · obtain ⟨j, hj⟩ : ∃ j, 64 = sq + 1 + j := ⟨63 - sq, by omega⟩
    rw [if_pos h, hj, packCells_digit, (decCell_encCell _).1]
  · rw [if_neg h, hf sq (by omega)]

end Wee.Spec

namespace Wee
open Spec (PosF)

/-- `abs s` as the kernel is to evaluate the rules on it: the mailbox is computed from the bitboards once (the kernel keeps
the value of a closed term) and packed into a number -/
def fastAbs (s : State) : PosF := { (abs s).view with cell := Spec.fastAt (Spec.packCells (absCell s.pieces) 64) }

theorem view_abs (s : State) : (abs s).view = fastAbs s := by
  unfold fastAbs; rw [Spec.fastAt_packCells _ (C10.absCell_ge s.pieces), ← funext (C10.abs_at s)]; rfl

theorem inCheck_abs (s : State) (c : Spec.Color) : (abs s).inCheck c = PosF.inCheck (fastAbs s) c := by
  rw [← view_abs]; rfl

theorem pseudoMoves_abs (s : State) : Spec.pseudoMoves (abs s) = PosF.pseudoMoves (fastAbs s) := by
  rw [Spec.pseudoMoves_view, view_abs]

theorem isLegalAfter_abs (s : State) (m : Spec.SMove) :
    Spec.isLegalAfter (abs s) m = PosF.isLegalAfter (fastAbs s) m := by
  rw [← view_abs, Spec.isLegalAfter_view _ (abs_size s)]

theorem legalMoves_abs (s : State) : Spec.legalMoves (abs s) = PosF.legalMoves (fastAbs s) := by
  rw [Spec.legalMoves_view _ (abs_size s), view_abs]

theorem legalPos_abs (s : State) : LegalPos s = PosF.LegalPos (fastAbs s) := by
  unfold LegalPos; rw [Spec.legalPos_view _ (abs_size s), view_abs]

end Wee
