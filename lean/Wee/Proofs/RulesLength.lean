import Wee.Spec.Chess
import Wee.Proofs.ListLemmas
/-!
# The generator lists of the rules are short

At most 64 moves from a square (a slide sees at most `fuel` squares, a pawn has at most thirteen: four promotions of a push, a double step, four of a capture to either side), `64 * 64 + 2` in all:
`pseudoMoves_length`, `legalMoves_length`.
-/
namespace Wee.Spec

theorem slideDir_length (occ : Nat → Bool) (df dr : Int) : ∀ (fuel sq : Nat), (slideDir occ df dr fuel sq).length ≤ fuel := by
  intro fuel
  induction fuel with
  | zero => intro sq; simp [slideDir]
  | succ fuel ih =>
    intro sq
    rw [slideDir]
    split
    · simp
    · split
      · simp
      · have := ih ‹Nat›
        simp only [List.length_cons]
        omega

theorem slide_length (occ : Nat → Bool) (dirs : List (Int × Int)) (sq : Nat) :
    (slide occ dirs sq).length ≤ 8 * dirs.length := by
  unfold slide
  exact flatMap_length_le (fun d : Int × Int => slideDir occ d.1 d.2 8 sq) 8 (fun d => slideDir_length occ d.1 d.2 8 sq) dirs

theorem attacksFrom_length (occ : Nat → Bool) (c : Color) (k : Kind) (s : Nat) : (attacksFrom occ c k s).length ≤ 64 := by
  cases k <;> unfold attacksFrom <;> simp only []
  · exact Nat.le_trans (List.length_filterMap_le _ _) (by simp)
  · exact Nat.le_trans (List.length_filterMap_le _ _) (by decide)
  · exact Nat.le_trans (slide_length occ bishopDirs s) (by decide)
  · exact Nat.le_trans (slide_length occ rookDirs s) (by decide)
  · exact Nat.le_trans (slide_length occ (rookDirs ++ bishopDirs) s) (by decide)
  · exact Nat.le_trans (List.length_filterMap_le _ _) (by decide)

theorem pieceMovesFrom_length (p : Pos) (c : Color) (k : Kind) (s : Nat) : (pieceMovesFrom p c k s).length ≤ 64 :=
  Nat.le_trans (List.length_filterMap_le _ _) (attacksFrom_length _ c k s)


theorem withPromo_length (c : Color) (m : SMove) :
    (if m.dst / 8 = lastRank c then promoKinds.map fun k => { m with promo := some k } else [m]).length ≤ 4 := by
  split <;> simp [promoKinds]

theorem pawnMovesFrom_length (p : Pos) (c : Color) (s : Nat) : (pawnMovesFrom p c s).length ≤ 64 := by
  unfold pawnMovesFrom
  dsimp only
  rw [List.length_append, List.length_append]
  refine Nat.le_trans (Nat.add_le_add (Nat.add_le_add (?_ : _ ≤ 4) (?_ : _ ≤ 1)) (?_ : _ ≤ 4 * 2)) (by decide)
  · split
    · split
      · simp
      · split <;> simp [promoKinds]
    · simp
  · split
    · split
      · split
        · split <;> simp
        · simp
      · simp
    · simp
  · refine Nat.le_trans (flatMap_length_le _ 4 (fun t => ?_) _)
      (Nat.mul_le_mul_left 4 (Nat.le_trans (List.length_filterMap_le _ _) (by simp)))
    split
    · split
      · split <;> simp [promoKinds]
      · simp
    · split <;> simp

theorem pseudoMoves_length (p : Pos) : (pseudoMoves p).length ≤ 64 * 64 + 2 := by
  unfold pseudoMoves
  rw [List.length_append]
  refine Nat.add_le_add ?_ ?_
  · refine Nat.le_trans (flatMap_length_le _ 64 (fun s => ?_) (List.range 64)) (by rw [List.length_range]; exact Nat.le_refl _)
    split
    · split
      · split
        · exact pawnMovesFrom_length _ _ _
        · exact pieceMovesFrom_length _ _ _ _
      · simp
    · simp
  · unfold castleMoves
    rw [List.length_append]
    refine Nat.add_le_add (?_ : _ ≤ 1) (?_ : _ ≤ 1)
    · exact ite_singleton_length _ _
    · exact ite_singleton_length _ _

theorem legalMoves_length (p : Pos) : (legalMoves p).length ≤ 4098 :=
  Nat.le_trans (List.length_filter_le _ _) (pseudoMoves_length p)

end Wee.Spec
