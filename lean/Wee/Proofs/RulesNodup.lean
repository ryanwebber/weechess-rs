import Wee.Proofs.Rules
/-!
# The generator lists of the rules have no duplicates

Squares along one direction are pairwise different (`Along`, `slideDir_pairwise`), hence so are the attack lists
(`attacksFrom_nodup`), the moves of one piece, of one pawn (the sorts of pawn move differ in an attribute), the castling
moves, and all of them together: `pseudoMoves_nodup`, `legalMoves_nodup`.
-/
namespace Wee


/-- `b` lies `n ≥ 1` steps from `a` in direction `(df, dr)` -/
def Along (df dr : Int) (a b : Nat) : Prop :=
  ∃ n : Nat, 0 < n ∧ ((b % 8 : Nat) : Int) = (a % 8 : Nat) + n * df ∧ ((b / 8 : Nat) : Int) = (a / 8 : Nat) + n * dr

theorem along_step {df dr : Int} {a b : Nat} (h : Spec.step a df dr = some b) : Along df dr a b := by
  rw [step_iff] at h
  exact ⟨1, Nat.one_pos, by omega, by omega⟩

theorem along_trans {df dr : Int} {a b c : Nat} (h1 : Along df dr a b) (h2 : Along df dr b c) : Along df dr a c := by
  obtain ⟨n, hn, h1a, h1b⟩ := h1
  obtain ⟨n', hn', h2a, h2b⟩ := h2
  refine ⟨n + n', by omega, ?_, ?_⟩
  · have : ((n + n' : Nat) : Int) * df = n * df + n' * df := by rw [Int.natCast_add, Int.add_mul]
    rw [this]; omega
  · have : ((n + n' : Nat) : Int) * dr = n * dr + n' * dr := by rw [Int.natCast_add, Int.add_mul]
    rw [this]; omega

theorem slideDir_along (occ : Nat → Bool) (df dr : Int) : ∀ (fuel sq x : Nat),
    x ∈ Spec.slideDir occ df dr fuel sq → Along df dr sq x := by
  intro fuel
  induction fuel with
  | zero => intro sq x h; simp [Spec.slideDir] at h
  | succ n ih =>
    intro sq x h
    simp only [Spec.slideDir] at h
    cases hs : Spec.step sq df dr with
    | none => rw [hs] at h; simp at h
    | some m =>
      rw [hs] at h
      dsimp only at h
      by_cases ho : occ m = true
      · rw [if_pos ho] at h
        have : x = m := by simpa using h
        subst this; exact along_step hs
      · rw [if_neg ho] at h
        rcases List.mem_cons.1 h with e | e
        · subst e; exact along_step hs
        · exact along_trans (along_step hs) (ih m x e)

def UnitDir (d : Int × Int) : Prop :=
  (d.1 = -1 ∨ d.1 = 0 ∨ d.1 = 1) ∧ (d.2 = -1 ∨ d.2 = 0 ∨ d.2 = 1) ∧ ¬ (d.1 = 0 ∧ d.2 = 0)

instance (d : Int × Int) : Decidable (UnitDir d) := by unfold UnitDir; infer_instance

theorem comp_unique (n n' : Nat) (hn : 0 < n) (hn' : 0 < n') (d d' : Int) (hd : d = -1 ∨ d = 0 ∨ d = 1)
    (hd' : d' = -1 ∨ d' = 0 ∨ d' = 1) (h : (n : Int) * d = n' * d') : d = d' := by
  rcases hd with rfl | rfl | rfl <;> rcases hd' with rfl | rfl | rfl <;> omega

theorem along_dir_unique {d d' : Int × Int} (hd : UnitDir d) (hd' : UnitDir d') {a b : Nat}
    (h : Along d.1 d.2 a b) (h' : Along d'.1 d'.2 a b) : d = d' := by
  obtain ⟨n, hn, h1, h2⟩ := h
  obtain ⟨n', hn', h1', h2'⟩ := h'
  have e1 := comp_unique n n' hn hn' d.1 d'.1 hd.1 hd'.1 (by omega)
  have e2 := comp_unique n n' hn hn' d.2 d'.2 hd.2.1 hd'.2.1 (by omega)
  exact Prod.ext e1 e2

theorem along_ne {d : Int × Int} (hd : UnitDir d) {a b : Nat} (h : Along d.1 d.2 a b) : a ≠ b := by
  rintro rfl
  obtain ⟨n, hn, h1, h2⟩ := h
  obtain ⟨h1d, h2d, hnz⟩ := hd
  apply hnz
  constructor
  · rcases h1d with e | e | e
    · rw [e] at h1; omega
    · exact e
    · rw [e] at h1; omega
  · rcases h2d with e | e | e
    · rw [e] at h2; omega
    · exact e
    · rw [e] at h2; omega

theorem slideDir_pairwise (occ : Nat → Bool) (df dr : Int) : ∀ (fuel sq : Nat),
    (Spec.slideDir occ df dr fuel sq).Pairwise (Along df dr) := by
  intro fuel
  induction fuel with
  | zero => intro sq; simp [Spec.slideDir]
  | succ n ih =>
    intro sq
    simp only [Spec.slideDir]
    cases hs : Spec.step sq df dr with
    | none => simp
    | some m =>
      dsimp only
      by_cases ho : occ m = true
      · rw [if_pos ho]; simp
      · rw [if_neg ho]
        exact List.pairwise_cons.2 ⟨fun x hx => slideDir_along occ df dr n m x hx, ih m⟩

theorem slide_nodup (occ : Nat → Bool) (dirs : List (Int × Int)) (hdirs : dirs.Nodup) (hu : ∀ d ∈ dirs, UnitDir d)
    (sq : Nat) : (Spec.slide occ dirs sq).Nodup := by
  unfold Spec.slide
  refine nodup_flatMap_of hdirs
    (fun d hd => (slideDir_pairwise occ d.1 d.2 8 sq).imp (fun h => along_ne (hu d hd) h))
    fun d hd d' hd' x hx hy => along_dir_unique (hu d hd) (hu d' hd') (slideDir_along occ _ _ _ _ _ hx)
      (slideDir_along occ _ _ _ _ _ hy)

theorem filterMap_step_nodup (l : List (Int × Int)) (hl : l.Nodup) (s : Nat) :
    (l.filterMap fun d => Spec.step s d.1 d.2).Nodup := by
  rw [List.nodup_iff_pairwise_ne]
  apply List.Pairwise.filterMap _ _ hl
  intro d d' hne b hb b' hb' e
  subst e
  exact hne (Prod.ext (step_dir_inj hb hb').1 (step_dir_inj hb hb').2)

theorem attacksFrom_nodup (occ : Nat → Bool) (c : Spec.Color) (k : Spec.Kind) (s : Nat) :
    (Spec.attacksFrom occ c k s).Nodup := by
  cases k <;> simp only [Spec.attacksFrom]
  · apply filterMap_step_nodup
    cases c <;> decide
  · exact filterMap_step_nodup _ (by decide) s
  · exact slide_nodup occ _ (by decide) (by decide) s
  · exact slide_nodup occ _ (by decide) (by decide) s
  · exact slide_nodup occ _ (by decide) (by decide) s
  · exact filterMap_step_nodup _ (by decide) s

theorem pieceMovesFrom_nodup (P : Spec.Pos) (c : Spec.Color) (k : Spec.Kind) (s : Nat) :
    (Spec.pieceMovesFrom P c k s).Nodup := by
  unfold Spec.pieceMovesFrom
  rw [List.nodup_iff_pairwise_ne]
  apply List.Pairwise.filterMap _ _ (attacksFrom_nodup P.occupied c k s)
  intro t t' hne b hb b' hb' e
  subst e
  -- a move made for the attacked square `t` has destination `t`
  have dst : ∀ t, b ∈ (match P.at t with
      | some (c', k') => if c' == c then none else some ({ color := c, kind := k, src := s, dst := t, capture := some k' } : Spec.SMove)
      | none => some { color := c, kind := k, src := s, dst := t }) → b.dst = t := by
    intro t hb
    cases hat : P.at t with
    | none => rw [hat] at hb; cases hb; rfl
    | some x =>
      obtain ⟨c', k'⟩ := x
      rw [hat] at hb; dsimp only at hb
      split at hb
      · cases hb
      · cases hb; rfl
  exact hne ((dst t hb).symm.trans (dst t' hb'))

theorem withPromo_nodup (c : Spec.Color) (m : Spec.SMove) : (withPromo c m).Nodup := by
  unfold withPromo
  split
  · rw [List.nodup_iff_pairwise_ne, List.pairwise_map]
    have : Spec.promoKinds.Nodup := by decide
    apply this.imp
    intro k k' hne e
    apply hne
    have := congrArg Spec.SMove.promo e
    exact Option.some.inj this
  · simp

theorem sCapAt_nodup (P : Spec.Pos) (c : Spec.Color) (s t : Nat) : (sCapAt P c s t).Nodup := by
  unfold sCapAt
  split
  · split
    · exact withPromo_nodup _ _
    · simp
  · split <;> simp

theorem dst_sCapAt {P : Spec.Pos} {c : Spec.Color} {s t : Nat} {m : Spec.SMove} (h : m ∈ sCapAt P c s t) :
    m.dst = t ∧ m.dbl = false := by
  rcases (mem_sCapAt _ _ _ _ _).1 h with ⟨k, _, hw⟩ | ⟨_, _, rfl⟩
  · rcases (mem_withPromo _ _ _).1 hw with ⟨_, kp, _, rfl⟩ | ⟨_, rfl⟩ <;> exact ⟨rfl, rfl⟩
  · exact ⟨rfl, rfl⟩

theorem sCaps_nodup (P : Spec.Pos) (c : Spec.Color) (s : Nat) : (sCaps P c s).Nodup := by
  unfold sCaps
  have : ([(-1 : Int), 1].filterMap fun df => Spec.step s df c.fwd).Nodup := by
    rw [List.nodup_iff_pairwise_ne]
    apply List.Pairwise.filterMap _ _ (by decide : [(-1 : Int), 1].Nodup)
    intro d d' hne b hb b' hb' e
    subst e
    exact hne (step_dir_inj hb hb').1
  exact nodup_flatMap_of this (fun t _ => sCapAt_nodup P c s t)
    fun t _ t' _ x hx hy => (dst_sCapAt hx).1.symm.trans (dst_sCapAt hy).1

theorem pawnMovesFrom_nodup (P : Spec.Pos) (c : Spec.Color) (s : Nat) : (Spec.pawnMovesFrom P c s).Nodup := by
  rw [pawnMovesFrom_eq, List.nodup_append, List.nodup_append]
  refine ⟨⟨?_, ?_, ?_⟩, sCaps_nodup P c s, ?_⟩
  · unfold sPush1
    split
    · split
      · simp
      · exact withPromo_nodup _ _
    · simp
  · unfold sPush2
    split
    · split
      · split
        · split <;> simp
        · simp
      · simp
    · simp
  · intro a ha b hb e
    subst e
    obtain ⟨t, _, _, hw⟩ := (mem_sPush1 _ _ _ _).1 ha
    obtain ⟨_, t1, t2, _, _, _, _, rfl⟩ := (mem_sPush2 _ _ _ _).1 hb
    rcases (mem_withPromo _ _ _).1 hw with ⟨_, k, _, e⟩ | ⟨_, e⟩
    · have := congrArg Spec.SMove.dbl e; cases this
    · have := congrArg Spec.SMove.dbl e; cases this
  · intro a ha b hb e
    subst e
    obtain ⟨east, t', hst', hm⟩ := (mem_sCaps _ _ _ _).1 hb
    obtain ⟨hdst, hdbl⟩ := dst_sCapAt hm
    rcases List.mem_append.1 ha with ha | ha
    · obtain ⟨t, hst, _, hw⟩ := (mem_sPush1 _ _ _ _).1 ha
      have : a.dst = t := (kind_withPromo hw).2.2.2.1
      rw [this] at hdst; subst hdst
      have := (step_dir_inj hst hst').1
      cases east <;> cases this
    · obtain ⟨_, t1, t2, _, _, _, _, rfl⟩ := (mem_sPush2 _ _ _ _).1 ha
      cases hdbl

theorem castleMoves_nodup (P : Spec.Pos) (c : Spec.Color) : (Spec.castleMoves P c).Nodup := by
  unfold Spec.castleMoves
  dsimp only
  rw [List.nodup_append]
  refine ⟨ite_single_nodup _, ite_single_nodup _, ?_⟩
  intro a ha b hb e
  have h1 := mem_ite_single ha
  have h2 := mem_ite_single hb
  rw [e, h2] at h1
  have := congrArg Spec.SMove.castle h1
  cases this

theorem pseudoMoves_nodup (P : Spec.Pos) : (Spec.pseudoMoves P).Nodup := by
  unfold Spec.pseudoMoves
  dsimp only
  rw [List.nodup_append]
  refine ⟨?_, castleMoves_nodup P P.turn, ?_⟩
  · refine nodup_flatMap_of List.nodup_range (fun s _ => ?_) ?_
    · split
      · split
        · split
          · exact pawnMovesFrom_nodup _ _ _
          · exact pieceMovesFrom_nodup _ _ _ _
        · simp
      · simp
    · have hsrc : ∀ s x, x ∈ (match P.at s with
          | some (c', k) => if c' == P.turn then
              (if k == Spec.Kind.pawn then Spec.pawnMovesFrom P P.turn s else Spec.pieceMovesFrom P P.turn k s) else []
          | Option.none => []) → x.src = s := by
        intro s x hx
        split at hx
        · split at hx
          · split at hx
            · exact (attrs_pawnMovesFrom hx).2.2.1
            · exact (attrs_pieceMovesFrom hx).2.2.1
          · simp at hx
        · simp at hx
      exact fun s _ s' _ x hx hy => (hsrc s x hx).symm.trans (hsrc s' x hy)
  · intro a ha b hb e
    subst e
    have hc := (attrs_castleMoves hb).2.1
    obtain ⟨s, _, hx⟩ := List.mem_flatMap.1 ha
    split at hx
    · split at hx
      · split at hx
        · exact hc (attrs_pawnMovesFrom hx).2.1
        · exact hc (attrs_pieceMovesFrom hx).2.1
      · simp at hx
    · simp at hx

theorem legalMoves_nodup (P : Spec.Pos) : ((Spec.legalMoves P).map some).Nodup := by
  exact map_some_nodup (List.Nodup.sublist List.filter_sublist (pseudoMoves_nodup P))

end Wee
