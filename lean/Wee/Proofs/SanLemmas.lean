import Wee.Model.San
import Wee.Spec.San
import Wee.Spec.Abs
import Wee.Proofs.MoveBits
import Wee.Proofs.AbsLemmas
import Wee.Proofs.QueryLemmas
import Wee.Proofs.SquareText
/-!
# Helper lemmas for C12 (SAN scanner, move queries, coordinate notation)

The SAN scanner `parseSanChars` is a pipeline of stages on the reversed text (`scan`, equal to the model by `rfl`);
on the text the independent SAN writer `Spec.partsText` emits, each stage consumes its own part, so the scanner reads
back exactly the parts that were written (`parse_written`).  The link between `MoveQuery.test` and `Spec.denotes`:
the hypotheses on a packed move (`AccOK`) and on a move list (`WFMoves`) under which parts that `Spec.denotes` one
move give a query that selects one move (`unique_parts`), and the case of a move that is not in the list (`NegOK`,
`negative_parts`).  Coordinate notation (`Move.lan`, `parseUciMoveToken`): byte slices of a written token
(`sliceBytes_append`), and `lan_unique`.
-/
namespace Wee.SanP
open Wee

def stMark (it : List Char) : List Char :=
  match it with | '#' :: r => r | '+' :: r => r | _ => it

def promoOf (c : Char) : Option Piece :=
  match c with
  | 'Q' => some .queen | 'R' => some .rook | 'B' => some .bishop | 'N' => some .knight | _ => Option.none

def stEq (r : List Char) : List Char := match r with | '=' :: r' => r' | _ => r

def stPromo (it : List Char) (q : MoveQuery) : Option (List Char × MoveQuery) :=
  match it with
  | c :: r =>
    if c.isUpper then
      match promoOf c with
      | Option.none => Option.none
      | some p => some (stEq r, { q with promotion := some p })
    else some (it, q)
  | [] => some (it, q)

def stDigit (set : MoveQuery → Nat → MoveQuery) (it : List Char) (q : MoveQuery) :
    Option (List Char × MoveQuery) :=
  match it with
  | c :: r =>
    if c.isDigit then
      if '1' ≤ c ∧ c ≤ '8' then some (r, set q (c.toNat - '1'.toNat)) else Option.none
    else some (it, q)
  | [] => some (it, q)

def stLower (set : MoveQuery → Nat → MoveQuery) (it : List Char) (q : MoveQuery) :
    Option (List Char × MoveQuery) :=
  match it with
  | c :: r =>
    if c.isLower then
      if 'a' ≤ c ∧ c ≤ 'h' then some (r, set q (c.toNat - 'a'.toNat)) else Option.none
    else some (it, q)
  | [] => some (it, q)

def stCapture (it : List Char) (q : MoveQuery) : List Char × MoveQuery :=
  match it with | 'x' :: r => (r, { q with isCapture := some true }) | _ => (it, q)

def pieceOf (c : Char) : Option Piece :=
  match c with
  | 'K' => some .king | 'Q' => some .queen | 'R' => some .rook | 'B' => some .bishop
  | 'N' => some .knight | 'P' => some .pawn | _ => Option.none

def stPiece (it : List Char) (q : MoveQuery) : Option (List Char × MoveQuery) :=
  match it with
  | c :: r =>
    if c.isUpper then
      match pieceOf c with
      | Option.none => Option.none
      | some p => some (r, { q with piece := some p })
    else some (it, q)
  | [] => some (it, q)

def stFinish (it : List Char) (q : MoveQuery) : Option MoveQuery :=
  if !it.isEmpty then Option.none
  else some (if q.piece.isNone then { q with piece := some .pawn } else q)

def scanBack (it : List Char) (q : MoveQuery) : Option MoveQuery :=
  let (it, q) := stCapture it q
  match stDigit (fun q n => { q with originRank := some n }) it q with
  | Option.none => Option.none
  | some (it, q) =>
  match stLower (fun q n => { q with originFile := some n }) it q with
  | Option.none => Option.none
  | some (it, q) =>
  match stPiece it q with
  | Option.none => Option.none
  | some (it, q) => stFinish it q

/-- the non-castling part of the scanner as a pipeline of stages on the reversed text -/
def scan (it : List Char) : Option MoveQuery :=
  match stPromo (stMark it) {} with
  | Option.none => Option.none
  | some (it, q) =>
  match stDigit (fun q n => { q with destRank := some n }) it q with
  | Option.none => Option.none
  | some (it, q) =>
  match stLower (fun q n => { q with destFile := some n }) it q with
  | Option.none => Option.none
  | some (it, q) => scanBack it q

theorem parseSanChars_eq (cs : List Char) :
    parseSanChars cs =
      if startsWith cs "O-O-O".toList then some { castle := some .queen }
      else if startsWith cs "O-O".toList then some { castle := some .king }
      else scan cs.reverse := by rfl

/-! ## stage lemmas, on the characters the SAN writer emits -/

theorem stMark_skip (c : Char) (t : List Char) (h1 : c ≠ '#') (h2 : c ≠ '+') :
    stMark (c :: t) = c :: t := by
  unfold stMark; split <;> simp_all

theorem stEq_skip (c : Char) (t : List Char) (h : c ≠ '=') : stEq (c :: t) = c :: t := by
  unfold stEq; split <;> simp_all

theorem stPromo_skip (c : Char) (t : List Char) (q : MoveQuery) (h : c.isUpper = false) :
    stPromo (c :: t) q = some (c :: t, q) := by
  simp [stPromo, h]

theorem stDigit_hit (set : MoveQuery → Nat → MoveQuery) (r : Nat) (h : r < 8) (t : List Char)
    (q : MoveQuery) : stDigit set (rankChar r :: t) q = some (t, set q r) := by
  obtain ⟨_, h2, h3, h4, _⟩ := rankChar_facts r h
  have h4' : (rankChar r).toNat - 49 = r := h4
  simp [stDigit, h2, h3, h4']

theorem stDigit_skip (set : MoveQuery → Nat → MoveQuery) (c : Char) (t : List Char) (q : MoveQuery)
    (h : c.isDigit = false) : stDigit set (c :: t) q = some (c :: t, q) := by
  simp [stDigit, h]

theorem stLower_hit (set : MoveQuery → Nat → MoveQuery) (f : Nat) (h : f < 8) (t : List Char)
    (q : MoveQuery) : stLower set (fileChar f :: t) q = some (t, set q f) := by
  obtain ⟨_, _, h3, h4, h5, _⟩ := fileChar_facts f h
  have h5' : (fileChar f).toNat - 97 = f := h5
  simp [stLower, h3, h4, h5']

theorem stLower_skip (set : MoveQuery → Nat → MoveQuery) (c : Char) (t : List Char) (q : MoveQuery)
    (h : c.isLower = false) : stLower set (c :: t) q = some (c :: t, q) := by
  simp [stLower, h]

theorem stCapture_skip (c : Char) (t : List Char) (q : MoveQuery) (h : c ≠ 'x') :
    stCapture (c :: t) q = (c :: t, q) := by
  unfold stCapture; split <;> simp_all

/-! ## the written text as a list of characters; the query it should read as, and when -/

def kindChars : Spec.Kind → List Char
  | .pawn => [] | .knight => ['N'] | .bishop => ['B'] | .rook => ['R'] | .queen => ['Q'] | .king => ['K']

theorem kindUpper_toList (k : Spec.Kind) : (Spec.kindUpper k).toList = kindChars k := by
  cases k <;> rfl

def optC (f : Nat → Char) : Option Nat → List Char | some n => [f n] | Option.none => []
def capChars (b : Bool) : List Char := if b then ['x'] else []
def promoChars (p : Option Spec.Kind) (eqSign : Bool) : List Char :=
  match p with
  | some k => (if eqSign then ['='] else []) ++ kindChars k
  | Option.none => []

def partsChars (s : Spec.SanParts) (eqSign : Bool) : List Char :=
  kindChars s.kind ++ optC fileChar s.fromFile ++ optC rankChar s.fromRank ++ capChars s.capture ++
    [fileChar (s.dst % 8), rankChar (s.dst / 8)] ++ promoChars s.promo eqSign

theorem partsText_toList (s : Spec.SanParts) (eqSign : Bool) :
    (Spec.partsText s eqSign).toList = partsChars s eqSign := by
  obtain ⟨k, ff, fr, cap, dst, pr⟩ := s
  cases ff <;> cases fr <;> cases cap <;> cases pr <;> cases eqSign <;>
    simp [Spec.partsText, partsChars, kindUpper_toList, Spec.sqName, optC, capChars, promoChars,
      fileChar, rankChar]

/-- the query that `parse_written` says the scanner returns on the text of the parts `s` -/
def expectedQuery (s : Spec.SanParts) : MoveQuery :=
  { piece := some (kindPiece s.kind)
    originRank := s.fromRank
    originFile := s.fromFile
    destRank := some (s.dst / 8)
    destFile := some (s.dst % 8)
    promotion := s.promo.map kindPiece
    castle := Option.none
    isCapture := if s.capture then some true else Option.none }

/-- the hypothesis of `parse_written` on the parts: coordinates on the board, promotion to Q/R/B/N -/
structure WFParts (s : Spec.SanParts) : Prop where
  file : ∀ f, s.fromFile = some f → f < 8
  rank : ∀ r, s.fromRank = some r → r < 8
  dst : s.dst < 64
  promo : ∀ k, s.promo = some k → k ∈ Spec.promoKinds

/-! ## the scanner reads back what the writer wrote

Reversed, a written text is a concatenation of optional parts, one per stage of the scanner and in the order
of the stages.  Each `st…_part` lemma says that a stage consumes its own part and stops in front of the
rest, because no character that can follow belongs to the class the stage looks for. -/

theorem stPiece_nil (q : MoveQuery) : stPiece [] q = some ([], q) := rfl
theorem stDigit_nil (set) (q : MoveQuery) : stDigit set [] q = some ([], q) := rfl
theorem stLower_nil (set) (q : MoveQuery) : stLower set [] q = some ([], q) := rfl
theorem stCapture_nil (q : MoveQuery) : stCapture [] q = ([], q) := rfl
theorem stCapture_x (t) (q : MoveQuery) : stCapture ('x' :: t) q = (t, { q with isCapture := some true }) := rfl

theorem kindChars_facts (k : Spec.Kind) :
    ∀ c ∈ kindChars k, c.isDigit = false ∧ c.isLower = false ∧ c ≠ 'x' := by
  cases k <;> decide

theorem fileChars_facts (ff : Option Nat) (hf : ∀ f, ff = some f → f < 8) :
    ∀ c ∈ optC fileChar ff, c.isDigit = false ∧ c ≠ 'x' := by
  cases ff with
  | none => simp [optC]
  | some f =>
    obtain ⟨-, h2, -, -, -, h6⟩ := fileChar_facts f (hf f rfl)
    simp [optC, h2, h6]

theorem rankChars_facts (fr : Option Nat) (hr : ∀ r, fr = some r → r < 8) :
    ∀ c ∈ optC rankChar fr, c ≠ 'x' := by
  cases fr with
  | none => simp [optC]
  | some r => simpa [optC] using (rankChar_facts r (hr r rfl)).2.2.2.2.2.2.2.2

theorem stCapture_part (cap : Bool) (t : List Char) (q : MoveQuery) (ht : ∀ c ∈ t, c ≠ 'x') :
    stCapture ((capChars cap).reverse ++ t) q =
      (t, { q with isCapture := if cap then some true else q.isCapture }) := by
  cases cap
  · cases t with
    | nil => exact stCapture_nil q
    | cons c t => exact stCapture_skip c t q (ht c List.mem_cons_self)
  · exact stCapture_x t q

theorem stDigit_part (upd : MoveQuery → Option Nat → MoveQuery) (fr : Option Nat) (hr : ∀ r, fr = some r → r < 8)
    (t : List Char) (q : MoveQuery) (ht : ∀ c ∈ t, c.isDigit = false) (hq : upd q Option.none = q) :
    stDigit (fun q n => upd q (some n)) ((optC rankChar fr).reverse ++ t) q = some (t, upd q fr) := by
  cases fr with
  | some r => exact stDigit_hit _ r (hr r rfl) t q
  | none =>
    rw [hq]
    cases t with
    | nil => exact stDigit_nil _ q
    | cons c t => exact stDigit_skip _ c t q (ht c List.mem_cons_self)

theorem stLower_part (upd : MoveQuery → Option Nat → MoveQuery) (ff : Option Nat) (hf : ∀ f, ff = some f → f < 8)
    (t : List Char) (q : MoveQuery) (ht : ∀ c ∈ t, c.isLower = false) (hq : upd q Option.none = q) :
    stLower (fun q n => upd q (some n)) ((optC fileChar ff).reverse ++ t) q = some (t, upd q ff) := by
  cases ff with
  | some f => exact stLower_hit _ f (hf f rfl) t q
  | none =>
    rw [hq]
    cases t with
    | nil => exact stLower_nil _ q
    | cons c t => exact stLower_skip _ c t q (ht c List.mem_cons_self)

theorem stPiece_finish (k : Spec.Kind) (q : MoveQuery) (hq : q.piece = Option.none) :
    (match stPiece (kindChars k).reverse q with
      | Option.none => Option.none
      | some (it, q) => stFinish it q) = some { q with piece := some (kindPiece k) } := by
  cases k <;> simp [kindChars, stPiece, pieceOf, stFinish, kindPiece, hq]

theorem scanBack_written (k : Spec.Kind) (ff fr : Option Nat) (cap : Bool)
    (hf : ∀ f, ff = some f → f < 8) (hr : ∀ r, fr = some r → r < 8)
    (pr : Option Piece) (a b : Nat) :
    scanBack ((kindChars k ++ optC fileChar ff ++ optC rankChar fr ++ capChars cap).reverse)
        { promotion := pr, destRank := some a, destFile := some b } =
      some { piece := some (kindPiece k), originRank := fr, originFile := ff, destRank := some a,
             destFile := some b, promotion := pr, castle := Option.none,
             isCapture := if cap then some true else Option.none } := by
  have hK := kindChars_facts k
  have hF := fileChars_facts ff hf
  have hR := rankChars_facts fr hr
  have h1 := stCapture_part cap ((optC rankChar fr).reverse ++ ((optC fileChar ff).reverse ++ (kindChars k).reverse))
  have h2 := stDigit_part (fun q x => { q with originRank := x }) fr hr ((optC fileChar ff).reverse ++ (kindChars k).reverse)
  have h3 := stLower_part (fun q x => { q with originFile := x }) ff hf (kindChars k).reverse
  simp only [List.reverse_append, List.append_assoc, List.mem_append, List.mem_reverse] at h1 h2 h3 ⊢
  unfold scanBack
  rw [h1 _ (fun c hc => hc.elim (hR c) fun hc => hc.elim (fun h => (hF c h).2) fun h => (hK c h).2.2)]
  dsimp only
  rw [h2 _ (fun c hc => hc.elim (fun h => (hF c h).1) fun h => (hK c h).1) rfl]
  dsimp only
  rw [h3 _ (fun c hc => (hK c hc).2.1) rfl]
  dsimp only
  exact stPiece_finish k _ rfl

theorem stMark_plus (t : List Char) : stMark ('+' :: t) = t := rfl
theorem stMark_hash (t : List Char) : stMark ('#' :: t) = t := rfl
theorem stEq_eq (t : List Char) : stEq ('=' :: t) = t := rfl

theorem stMark_part (mark : List Char) (hmark : mark = [] ∨ mark = ['+'] ∨ mark = ['#']) (t : List Char)
    (ht : ∀ d ∈ t.head?, d ≠ '#' ∧ d ≠ '+') : stMark (mark.reverse ++ t) = t := by
  rcases hmark with rfl | rfl | rfl
  · cases t with
    | nil => rfl
    | cons c t => exact stMark_skip c t (ht c rfl).1 (ht c rfl).2
  · exact stMark_plus t
  · exact stMark_hash t

theorem promoChars_head (pr : Option Spec.Kind) (eqSign : Bool) (c : Char) (t : List Char)
    (hc : c ≠ '#' ∧ c ≠ '+') : ∀ d ∈ ((promoChars pr eqSign).reverse ++ c :: t).head?, d ≠ '#' ∧ d ≠ '+' := by
  cases pr with
  | none => rintro d ⟨⟩; exact hc
  | some k => cases k <;> cases eqSign <;> rintro d ⟨⟩ <;> first | exact hc | decide

theorem stPromo_part (pr : Option Spec.Kind) (hpr : ∀ k, pr = some k → k ∈ Spec.promoKinds) (eqSign : Bool)
    (c : Char) (t : List Char) (hu : c.isUpper = false) (he : c ≠ '=') :
    stPromo ((promoChars pr eqSign).reverse ++ c :: t) {} = some (c :: t, { promotion := pr.map kindPiece }) := by
  cases pr with
  | none => exact stPromo_skip c t {} hu
  | some k =>
    have hk := hpr k rfl
    cases k <;> cases eqSign <;> first
      | exact absurd hk (by decide)
      | simp [promoChars, kindChars, stPromo, promoOf, stEq_eq, stEq_skip, he, kindPiece]

theorem scan_written (mark : List Char) (hmark : mark = [] ∨ mark = ['+'] ∨ mark = ['#'])
    (pr : Option Spec.Kind) (hpr : ∀ k, pr = some k → k ∈ Spec.promoKinds) (eqSign : Bool)
    (r f : Nat) (hr : r < 8) (hf : f < 8) (t : List Char) (res : MoveQuery)
    (hback : scanBack t { promotion := pr.map kindPiece, destRank := some r, destFile := some f } = some res) :
    scan (mark.reverse ++ (promoChars pr eqSign).reverse ++ rankChar r :: fileChar f :: t) = some res := by
  obtain ⟨hu, -, -, -, h1, h2, he, -⟩ := rankChar_facts r hr
  unfold scan
  rw [List.append_assoc, stMark_part mark hmark _ (promoChars_head pr eqSign _ _ ⟨h1, h2⟩),
    stPromo_part pr hpr eqSign _ _ hu he]
  dsimp only
  rw [stDigit_hit _ r hr]
  dsimp only
  rw [stLower_hit _ f hf]
  exact hback

theorem startsWith_O_false (c : Char) (t pre : List Char) (h : c ≠ 'O') :
    startsWith (c :: t) ('O' :: pre) = false := by
  simp only [startsWith, List.isPrefixOf, Bool.and_eq_false_imp, beq_iff_eq]
  intro h'; exact absurd h'.symm h

theorem partsChars_head (s : Spec.SanParts) (eqSign : Bool) (hs : WFParts s) (mark : List Char) :
    ∃ c t, partsChars s eqSign ++ mark = c :: t ∧ c ≠ 'O' := by
  obtain ⟨k, ff, fr, cap, dst, pr⟩ := s
  have h1 := fileChar_facts (dst % 8) (by omega)
  have hF : ∀ f, ff = some f → _ := fun f h => fileChar_facts f (hs.file f h)
  have hR : ∀ r, fr = some r → _ := fun r h => rankChar_facts r (hs.rank r h)
  have hO : fileChar (dst % 8) ≠ 'O' := by
    intro h; have := h1.2.2.1; rw [h] at this; exact absurd this (by decide)
  cases k
  case pawn =>
    rcases ff with _ | f
    · rcases fr with _ | r
      · cases cap
        · exact ⟨_, _, rfl, hO⟩
        · exact ⟨_, _, rfl, by decide⟩
      · refine ⟨_, _, rfl, ?_⟩
        intro h; have := (hR r rfl).2.1; rw [h] at this; exact absurd this (by decide)
    · refine ⟨_, _, rfl, ?_⟩
      intro h; have := (hF f rfl).2.2.1; rw [h] at this; exact absurd this (by decide)
  all_goals exact ⟨_, _, rfl, by decide⟩

theorem parse_written_chars (s : Spec.SanParts) (hs : WFParts s) (eqSign : Bool) (mark : List Char)
    (hmark : mark = [] ∨ mark = ['+'] ∨ mark = ['#']) :
    parseSanChars (partsChars s eqSign ++ mark) = some (expectedQuery s) := by
  obtain ⟨c, t, hct, hc⟩ := partsChars_head s eqSign hs mark
  rw [parseSanChars_eq, hct]
  simp only [String.reduceToList, startsWith_O_false _ _ _ hc, Bool.false_eq_true, if_false]
  rw [← hct]
  have hrev : (partsChars s eqSign ++ mark).reverse =
      mark.reverse ++ (promoChars s.promo eqSign).reverse ++ rankChar (s.dst / 8) :: fileChar (s.dst % 8) ::
        (kindChars s.kind ++ optC fileChar s.fromFile ++ optC rankChar s.fromRank ++ capChars s.capture).reverse := by
    simp [partsChars]
  rw [hrev]
  have hd := hs.dst
  exact scan_written mark hmark s.promo hs.promo eqSign _ _ (by omega) (by omega) _ _
    (scanBack_written s.kind s.fromFile s.fromRank s.capture hs.file hs.rank _ _ _)

theorem parse_written (s : Spec.SanParts) (hs : WFParts s) (eqSign : Bool) (mark : String)
    (hmark : mark = "" ∨ mark = "+" ∨ mark = "#") :
    parseSan (Spec.partsText s eqSign ++ mark) = some (expectedQuery s) := by
  unfold parseSan
  rw [String.toList_append, partsText_toList]
  apply parse_written_chars s hs
  rcases hmark with rfl | rfl | rfl
  · exact Or.inl rfl
  · exact Or.inr (Or.inl rfl)
  · exact Or.inr (Or.inr rfl)

/-! ## queries against moves: `MoveQuery.test` versus `Spec.denotes` -/

def optEq (o : Option Nat) (x : Nat) : Bool := match o with | some f => x == f | none => true

theorem optEq_iff (o : Option Nat) (x : Nat) : optEq o x = true ↔ ∀ f, o = some f → x = f := by
  cases o <;> simp [optEq]

def matchesParts (s : Spec.SanParts) (m : Spec.SMove) : Bool :=
  m.castle.isNone && m.kind == s.kind && m.dst == s.dst && m.promo == s.promo &&
  m.capture.isSome == s.capture && optEq s.fromFile (m.src % 8) && optEq s.fromRank (m.src / 8)

theorem denotes_eq (L : List Spec.SMove) (s : Spec.SanParts) :
    Spec.denotes L s = L.filter (matchesParts s) := rfl

theorem matchesParts_iff (s : Spec.SanParts) (m : Spec.SMove) :
    matchesParts s m = true ↔
      m.castle = none ∧ m.kind = s.kind ∧ m.dst = s.dst ∧ m.promo = s.promo ∧
      m.capture.isSome = s.capture ∧ (∀ f, s.fromFile = some f → m.src % 8 = f) ∧
      (∀ r, s.fromRank = some r → m.src / 8 = r) := by
  simp only [matchesParts, Bool.and_eq_true, optEq_iff, beq_iff_eq, Option.isNone_iff_eq_none, and_assoc]

theorem expectedQuery_test_iff (s : Spec.SanParts) (m : Move) :
    (expectedQuery s).test m = true ↔
      kindPiece s.kind = Move.piece m ∧
      (∀ r, s.fromRank = some r → r = Move.origin m / 8) ∧
      (∀ f, s.fromFile = some f → f = Move.origin m % 8) ∧
      s.dst = Move.dest m ∧
      (∀ k, s.promo = some k → kindPiece k = (Move.promotion m).getD (Move.piece m)) ∧
      (s.capture = true → Move.isCapture m = true) := by
  have hd : (s.dst / 8 = Move.dest m / 8 ∧ s.dst % 8 = Move.dest m % 8) ↔ s.dst = Move.dest m := by omega
  have hcap : (∀ a, (if s.capture = true then some true else Option.none) = some a → a = Move.isCapture m) ↔
      (s.capture = true → Move.isCapture m = true) := by
    cases s.capture <;> simp
  rw [MoveQuery.test_iff, ← hd]
  simp only [expectedQuery, hcap, Option.some.injEq, forall_eq', rankOf, fileOf, Option.map_eq_some_iff,
    forall_exists_index, and_imp, forall_apply_eq_imp_iff₂, reduceCtorEq, false_implies, implies_true, true_and, and_assoc]

/-- the promotions a legal move can carry: none, or Q/R/B/N (`common::PROMOTION_TYPES`) -/
def lanPromos : List (Option Piece) := [Option.none, some .queen, some .rook, some .bishop, some .knight]

/-- accessor consistency of one packed move: what `Move::piece/origin/…` must satisfy for the
accessors not to panic and to describe a chess move.  Origin and destination are always `< 64`
(six-bit fields): `Move.origin_lt`, `Move.dest_lt`. -/
structure AccOK (m : Move) : Prop where
  /-- the piece code is one of pawn … king -/
  piece : (absKind (Move.piece m)).isSome = true
  /-- the capture code is 0 (no capture) or a piece code -/
  capture : Move.captureCode m < 7
  promotion : Move.promotion m ∈ lanPromos
  promoPawn : Move.promotion m ≠ none → Move.piece m = .pawn
  castleKing : Move.castleSide m ≠ none → Move.piece m = .king

instance (m : Move) : Decidable (AccOK m) :=
  decidable_of_iff
    ((absKind (Move.piece m)).isSome = true ∧
      Move.captureCode m < 7 ∧ Move.promotion m ∈ lanPromos ∧
      (Move.promotion m ≠ none → Move.piece m = .pawn) ∧
      (Move.castleSide m ≠ none → Move.piece m = .king))
    ⟨fun ⟨a, b, c, d, e⟩ => ⟨a, b, c, d, e⟩, fun h => ⟨h.1, h.2, h.3, h.4, h.5⟩⟩

theorem AccOK.piece' {m : Move} (h : AccOK m) : ∃ k, Move.piece m = kindPiece k := by
  have := h.piece
  cases hk : absKind (Move.piece m) with
  | none => rw [hk] at this; cases this
  | some k => exact ⟨k, (absKind_eq_some _ _).1 hk⟩

theorem AccOK.promotion' {m : Move} (h : AccOK m) :
    Move.promotion m = none ∨ ∃ k ∈ Spec.promoKinds, Move.promotion m = some (kindPiece k) := by
  have := h.promotion
  simp only [lanPromos, List.mem_cons, List.not_mem_nil, or_false] at this
  rcases this with h | h | h | h | h
  · exact Or.inl h
  · exact Or.inr ⟨.queen, by decide, h⟩
  · exact Or.inr ⟨.rook, by decide, h⟩
  · exact Or.inr ⟨.bishop, by decide, h⟩
  · exact Or.inr ⟨.knight, by decide, h⟩

/-- what uniqueness of move text needs from a list of (legal) moves -/
structure WFMoves (L : List Move) : Prop where
  acc : ∀ m ∈ L, AccOK m
  /-- a move is determined by piece, origin, destination and promotion -/
  inj : ∀ m ∈ L, ∀ m' ∈ L, Move.piece m = Move.piece m' → Move.origin m = Move.origin m' →
    Move.dest m = Move.dest m' → Move.promotion m = Move.promotion m' → m = m'
  /-- whether a move captures is a function of (piece kind, destination) -/
  capFn : ∀ m ∈ L, ∀ m' ∈ L, Move.piece m = Move.piece m' → Move.dest m = Move.dest m' →
    Move.isCapture m = Move.isCapture m'
  /-- whether a move promotes is a function of (piece kind, destination) -/
  promoFn : ∀ m ∈ L, ∀ m' ∈ L, Move.piece m = Move.piece m' → Move.dest m = Move.dest m' →
    (Move.promotion m).isSome = (Move.promotion m').isSome
  /-- one piece per origin square -/
  pieceFn : ∀ m ∈ L, ∀ m' ∈ L, Move.origin m = Move.origin m' → Move.piece m = Move.piece m'
  /-- one king: all king moves start on the same square -/
  oneKing : ∀ m ∈ L, ∀ m' ∈ L, Move.piece m = .king → Move.piece m' = .king →
    Move.origin m = Move.origin m'
  /-- at most one castling move per side -/
  castle : ∀ m ∈ L, ∀ m' ∈ L, Move.castleSide m ≠ none → Move.castleSide m = Move.castleSide m' → m = m'

instance (L : List Move) : Decidable (WFMoves L) :=
  -- found on its own: together with the other six the search outgrows the default size limit
  haveI : Decidable (∀ m ∈ L, ∀ m' ∈ L, Move.piece m = Move.piece m' → Move.origin m = Move.origin m' →
      Move.dest m = Move.dest m' → Move.promotion m = Move.promotion m' → m = m') := inferInstance
  decidable_of_iff
    ((∀ m ∈ L, AccOK m) ∧
     (∀ m ∈ L, ∀ m' ∈ L, Move.piece m = Move.piece m' → Move.origin m = Move.origin m' →
        Move.dest m = Move.dest m' → Move.promotion m = Move.promotion m' → m = m') ∧
     (∀ m ∈ L, ∀ m' ∈ L, Move.piece m = Move.piece m' → Move.dest m = Move.dest m' →
        Move.isCapture m = Move.isCapture m') ∧
     (∀ m ∈ L, ∀ m' ∈ L, Move.piece m = Move.piece m' → Move.dest m = Move.dest m' →
        (Move.promotion m).isSome = (Move.promotion m').isSome) ∧
     (∀ m ∈ L, ∀ m' ∈ L, Move.origin m = Move.origin m' → Move.piece m = Move.piece m') ∧
     (∀ m ∈ L, ∀ m' ∈ L, Move.piece m = .king → Move.piece m' = .king →
        Move.origin m = Move.origin m') ∧
     (∀ m ∈ L, ∀ m' ∈ L, Move.castleSide m ≠ none → Move.castleSide m = Move.castleSide m' → m = m'))
    ⟨fun ⟨a, b, c, d, e, f, g⟩ => ⟨a, b, c, d, e, f, g⟩, fun h => ⟨h.1, h.2, h.3, h.4, h.5, h.6, h.7⟩⟩

theorem capture_isSome (m : Move) (h : Move.captureCode m < 7) :
    ((Move.capture m).bind absKind).isSome = Move.isCapture m := by
  have H : ∀ c, c < 7 → ((if c = 0 then none else Piece.ofCode? c).bind absKind).isSome = (c != 0) := by
    decide
  exact H _ h

theorem promo_bind_none (m : Move) (h : AccOK m) :
    (Move.promotion m).bind absKind = none ↔ Move.promotion m = none := by
  rcases h.promotion' with h | ⟨k, _, h⟩ <;> simp [h, absKind_kindPiece]

theorem promo_bind_some (m : Move) (k : Spec.Kind) :
    (Move.promotion m).bind absKind = some k ↔ Move.promotion m = some (kindPiece k) := by
  cases h : Move.promotion m <;> simp [absKind_eq_some]

theorem promo_bind_inj (m m' : Move) (h : AccOK m) (h' : AccOK m')
    (e : (Move.promotion m).bind absKind = (Move.promotion m').bind absKind) :
    Move.promotion m = Move.promotion m' := by
  cases hb : (Move.promotion m').bind absKind with
  | none => rw [hb] at e; rw [(promo_bind_none m h).1 e, (promo_bind_none m' h').1 hb]
  | some k => rw [hb] at e; rw [(promo_bind_some m k).1 e, (promo_bind_some m' k).1 hb]

theorem noPromo_of_ne_pawn (m : Move) (h : AccOK m) (hp : Move.piece m ≠ .pawn) :
    Move.promotion m = none := by
  cases h' : Move.promotion m with
  | none => rfl
  | some p => exact absurd (h.promoPawn (by rw [h']; simp)) hp

theorem toSpecMove_of_acc (m : Move) (h : AccOK m) : ∃ sm, toSpecMove m = some sm := by
  obtain ⟨k, hk⟩ := h.piece'
  exact ⟨_, (toSpecMove_eq_some m { color := absColor (Move.color m), kind := k, src := Move.origin m, dst := Move.dest m, capture := (Move.capture m).bind absKind, promo := (Move.promotion m).bind absKind, ep := Move.isEnPassant m, castle := (Move.castleSide m).map (fun s => s == .king), dbl := Move.isDoublePawn m }).2 ⟨hk, rfl⟩⟩

theorem unique_parts (L : List Move) (hwf : WFMoves L) (m : Move) (hm : m ∈ L) (sm : Spec.SMove)
    (hsm : toSpecMove m = some sm) (parts : Spec.SanParts)
    (hden : Spec.denotes (L.filterMap toSpecMove) parts = [sm]) :
    WFParts parts ∧ ∀ m' ∈ L, ((expectedQuery parts).test m' = true ↔ m' = m) := by
  have hmem : sm ∈ Spec.denotes (L.filterMap toSpecMove) parts := by rw [hden]; exact List.mem_singleton.2 rfl
  rw [denotes_eq, List.mem_filter, matchesParts_iff] at hmem
  obtain ⟨_, hc, hk, hd, hp, hcap, hf, hr⟩ := hmem
  obtain ⟨hpiece, hsrc, hdst, hpromo, hcapt, -⟩ := toSpecMove_fields hsm
  have hacc := hwf.acc m hm
  have hwfp : WFParts parts := by
    refine ⟨fun f h => ?_, fun r h => ?_, ?_, fun k h => ?_⟩
    · have := hf f h; omega
    · have := hr r h; have := Move.origin_lt m; omega
    · have := Move.dest_lt m; omega
    · rw [← hp, hpromo, promo_bind_some] at h
      rcases hacc.promotion' with h' | ⟨k', hk', h'⟩
      · rw [h'] at h; cases h
      · rw [h'] at h; cases kindPiece_inj (Option.some.inj h); exact hk'
  refine ⟨hwfp, fun m' hm' => ⟨fun ht => ?_, fun e => ?_⟩⟩
  · rw [expectedQuery_test_iff] at ht
    obtain ⟨t1, t2, t3, t4, t5, t6⟩ := ht
    have hacc' := hwf.acc m' hm'
    have hpc : Move.piece m' = Move.piece m := by rw [← t1, hpiece, hk]
    have hde : Move.dest m' = Move.dest m := by rw [← t4, ← hd, hdst]
    by_cases hking : Move.piece m = .king
    · -- king moves: one king, so same origin; no promotions
      have ho := hwf.oneKing m' hm' m hm (hpc.trans hking) hking
      have p1 : Move.promotion m = none := noPromo_of_ne_pawn m hacc (by rw [hking]; decide)
      have p2 : Move.promotion m' = none := noPromo_of_ne_pawn m' hacc' (by rw [hpc, hking]; decide)
      exact hwf.inj m' hm' m hm hpc ho hde (p2.trans p1.symm)
    · -- otherwise m' is not a castle and its spec image is denoted by the parts
      obtain ⟨sm', hsm'⟩ := toSpecMove_of_acc m' hacc'
      obtain ⟨hpiece', hsrc', hdst', hpromo', hcapt', hcast'⟩ := toSpecMove_fields hsm'
      have hin : sm' ∈ Spec.denotes (L.filterMap toSpecMove) parts := by
        rw [denotes_eq, List.mem_filter, matchesParts_iff]
        refine ⟨List.mem_filterMap.2 ⟨m', hm', hsm'⟩, ?_, ?_, ?_, ?_, ?_, ?_, ?_⟩
        · rw [hcast']
          cases hcs : Move.castleSide m' with
          | none => rfl
          | some s =>
            have := hacc'.castleKing (by rw [hcs]; simp)
            rw [hpc] at this; exact absurd this hking
        · apply kindPiece_inj; rw [← hpiece', ← t1]
        · rw [hdst', ← t4]
        · -- promotion: absent on both sides (`promoFn`), or the one the parts name, which the query tests
          have hsame := hwf.promoFn m' hm' m hm hpc hde
          rw [hpromo', ← hp, hpromo]
          cases hb : (Move.promotion m).bind absKind with
          | none =>
            rw [(promo_bind_none m hacc).1 hb, Option.isSome_none] at hsame
            exact (promo_bind_none m' hacc').2 (Option.not_isSome_iff_eq_none.1 (by rw [hsame]; exact Bool.false_ne_true))
          | some k =>
            rw [(promo_bind_some m k).1 hb, Option.isSome_some] at hsame
            obtain ⟨p', hp'⟩ := Option.isSome_iff_exists.1 hsame
            have := t5 k (by rw [← hp, hpromo]; exact hb)
            rw [hp', Option.getD_some] at this
            exact (promo_bind_some m' k).2 (by rw [hp', this])
        · rw [hcapt', capture_isSome m' hacc'.capture, hwf.capFn m' hm' m hm hpc hde,
            ← capture_isSome m hacc.capture, ← hcapt, hcap]
        · intro f h; rw [hsrc']; exact (t3 f h).symm
        · intro r h; rw [hsrc']; exact (t2 r h).symm
      rw [hden, List.mem_singleton] at hin
      subst hin
      have ho : Move.origin m' = Move.origin m := by rw [← hsrc', hsrc]
      have hpr : Move.promotion m' = Move.promotion m :=
        promo_bind_inj m' m hacc' hacc (by rw [← hpromo', hpromo])
      exact hwf.inj m' hm' m hm hpc ho hde hpr
  · subst e
    rw [expectedQuery_test_iff]
    refine ⟨by rw [hpiece, hk], fun r h => ?_, fun f h => ?_, by rw [← hd, hdst], fun k h => ?_, fun h => ?_⟩
    · rw [← hsrc]; exact (hr r h).symm
    · rw [← hsrc]; exact (hf f h).symm
    · rw [← hp, hpromo, promo_bind_some] at h; rw [h]; rfl
    · rw [← capture_isSome m' hacc.capture, ← hcapt, hcap, h]

/-- the disambiguation variants `Spec.spellings` tries for a non-castling move -/
def variants (m : Spec.SMove) : List Spec.SanParts :=
  let base : Spec.SanParts := { kind := m.kind, fromFile := none, fromRank := none, capture := m.capture.isSome, dst := m.dst, promo := m.promo }
  if m.kind == .pawn then
    if m.capture.isSome then [{ base with fromFile := some (m.src % 8) }, { base with fromFile := some (m.src % 8), fromRank := some (m.src / 8) }]
    else [base]
  else [base, { base with fromFile := some (m.src % 8) }, { base with fromRank := some (m.src / 8) },
        { base with fromFile := some (m.src % 8), fromRank := some (m.src / 8) }]

def withMarks (mark t : String) : List String := if mark.isEmpty then [t] else [t, t ++ mark]

/-- `Spec.spellings` with the list of legal moves and the check mark as parameters -/
def spellingsIn (L : List Spec.SMove) (mark : String) (m : Spec.SMove) : List String :=
  match m.castle with
  | some true => withMarks mark "O-O"
  | some false => withMarks mark "O-O-O"
  | none =>
    ((variants m).filter fun s => Spec.denotes L s == [m]).flatMap fun s =>
      (if s.promo.isSome then [Spec.partsText s true, Spec.partsText s false] else [Spec.partsText s true]).flatMap (withMarks mark)

theorem mem_withMarks (mark t u : String)
    (h : u ∈ withMarks mark t) : u = t ++ "" ∨ u = t ++ mark := by
  unfold withMarks at h
  split at h
  · left; simpa using h
  · simp only [List.mem_cons, List.not_mem_nil, or_false] at h
    rcases h with h | h
    · left; simpa using h
    · right; exact h

theorem test_castle (s : Side) (m : Move) :
    ({ castle := some s } : MoveQuery).test m = Move.isCastle m s := by
  rw [Bool.eq_iff_iff, MoveQuery.test_iff]
  simp only [reduceCtorEq, false_implies, implies_true, true_and, and_true, Option.some.injEq, forall_eq']

theorem isCastle_of_spec (m : Move) (b : Bool)
    (h : (Move.castleSide m).map (fun s => s == .king) = some b) :
    Move.isCastle m (if b then .king else .queen) = true := by
  unfold Move.isCastle
  cases hs : Move.castleSide m with
  | none => rw [hs] at h; cases h
  | some s =>
    rw [hs] at h
    cases s <;> cases b <;> first | rfl | exact absurd h (by decide)

/-! ## negative cases -/

def fullParts (sm : Spec.SMove) : Spec.SanParts :=
  { kind := sm.kind, fromFile := some (sm.src % 8), fromRank := some (sm.src / 8),
    capture := sm.capture.isSome, dst := sm.dst, promo := sm.promo }

theorem fullSpelling_eq (sm : Spec.SMove) (h : sm.castle = none) :
    Spec.fullSpelling sm = Spec.partsText (fullParts sm) true := by
  unfold Spec.fullSpelling; rw [h]; rfl

/-- what `C12_negative` assumes about the attributes of the move `sm` that is not in the list -/
structure NegOK (L : List Move) (sm : Spec.SMove) : Prop where
  noCastle : sm.castle = none
  src : sm.src < 64
  dst : sm.dst < 64
  promo : ∀ k, sm.promo = some k → k ∈ Spec.promoKinds ∧ sm.kind = .pawn
  /-- relative to `L`, a move is determined by kind, origin, destination and promotion
  (for chess: legal moves are pseudo-legal moves, and the pseudo-legal list has this property) -/
  det : ∀ m' ∈ L, ∀ sm', toSpecMove m' = some sm' → sm'.kind = sm.kind → sm'.src = sm.src →
    sm'.dst = sm.dst → sm'.promo = sm.promo → sm' = sm
  /-- if `sm` does not promote, no listed move of its kind to its destination promotes
  (for chess: promotion is decided by the destination rank) -/
  promoFn : sm.promo = none → ∀ m' ∈ L, Move.piece m' = kindPiece sm.kind → Move.dest m' = sm.dst →
    Move.promotion m' = none

theorem negative_parts (L : List Move) (hacc : ∀ m ∈ L, AccOK m) (sm : Spec.SMove)
    (hnot : ∀ m' ∈ L, toSpecMove m' ≠ some sm) (hok : NegOK L sm) :
    WFParts (fullParts sm) ∧ ∀ m' ∈ L, (expectedQuery (fullParts sm)).test m' = false := by
  have hwfp : WFParts (fullParts sm) := by
    refine ⟨fun f h => ?_, fun r h => ?_, hok.dst, fun k h => (hok.promo k h).1⟩
    · simp only [fullParts, Option.some.injEq] at h; omega
    · have := hok.src; simp only [fullParts, Option.some.injEq] at h; omega
  refine ⟨hwfp, fun m' hm' => ?_⟩
  cases ht : (expectedQuery (fullParts sm)).test m' with
  | false => rfl
  | true =>
    exfalso
    rw [expectedQuery_test_iff] at ht
    obtain ⟨t1, t2, t3, t4, t5, _⟩ := ht
    have ha := hacc m' hm'
    obtain ⟨sm', hsm'⟩ := toSpecMove_of_acc m' ha
    obtain ⟨hpiece', hsrc', hdst', hpromo', -, -⟩ := toSpecMove_fields hsm'
    have h2 := t2 (sm.src / 8) rfl
    have h3 := t3 (sm.src % 8) rfl
    have t1' : kindPiece sm.kind = Move.piece m' := t1
    have t4' : sm.dst = Move.dest m' := t4
    have hkind : sm'.kind = sm.kind := kindPiece_inj (hpiece'.symm.trans t1'.symm)
    have hpr : sm'.promo = sm.promo := by
      rw [hpromo']
      cases hp : sm.promo with
      | none => rw [hok.promoFn hp m' hm' t1'.symm t4'.symm]; rfl
      | some k =>
        have := t5 k hp
        cases hpm : Move.promotion m' with
        | none =>
          rw [hpm] at this
          simp only [Option.getD_none] at this
          have hk : k = sm.kind := kindPiece_inj (this.trans t1'.symm)
          obtain ⟨hk1, hk2⟩ := hok.promo k hp
          rw [hk, hk2] at hk1; exact absurd hk1 (by decide)
        | some p' =>
          rw [hpm] at this
          simp only [Option.getD_some] at this
          rw [← this]; simp [absKind_kindPiece]
    have := hok.det m' hm' sm' hsm' hkind (by rw [hsrc']; omega) (by rw [hdst', ← t4']) hpr
    exact hnot m' hm' (this ▸ hsm')

/-- a decidable sufficient condition for `NegOK.det` -/
theorem det_of_noMatch (L : List Move) (sm : Spec.SMove)
    (h : ∀ m' ∈ L, ¬(Move.piece m' = kindPiece sm.kind ∧ Move.origin m' = sm.src ∧
      Move.dest m' = sm.dst ∧ (Move.promotion m').bind absKind = sm.promo)) :
    ∀ m' ∈ L, ∀ sm', toSpecMove m' = some sm' → sm'.kind = sm.kind → sm'.src = sm.src →
      sm'.dst = sm.dst → sm'.promo = sm.promo → sm' = sm := by
  intro m' hm' sm' hsm' hk hs hd hp
  exfalso
  obtain ⟨hpiece', hsrc', hdst', hpromo', -, -⟩ := toSpecMove_fields hsm'
  exact h m' hm' ⟨by rw [hpiece', hk], by rw [← hsrc', hs], by rw [← hdst', hd], by rw [← hpromo', hp]⟩

/-! ## coordinate notation -/

theorem firstByte_boundary (c : UInt8) (h : c.IsUTF8FirstByte) : ((c.toNat &&& 0xC0) != 0x80) = true := by
  have H : ∀ n : Fin 256, (UInt8.ofNat n.val).IsUTF8FirstByte → ((UInt8.ofNat n.val).toNat &&& 0xC0) != 0x80 := by
    decide +kernel
  have := H ⟨c.toNat, c.toNat_lt⟩
  have e : UInt8.ofNat c.toNat = c := by simp
  simp only [e] at this
  exact this h

theorem fromUTF8?_toByteArray (s : String) : String.fromUTF8? s.toByteArray = some s := by
  unfold String.fromUTF8?
  rw [dif_pos s.isValidUTF8]
  rfl

/-- the offset at which `S` starts in `P ++ S` is a character boundary in the sense of `sliceBytes` -/
theorem boundary_start (P S : String) :
    (let bytes := (P ++ S).toByteArray
     (P.utf8ByteSize == bytes.size || (bytes[P.utf8ByteSize]!.toNat &&& 0xC0) != 0x80)) = true := by
  simp only [String.toByteArray_append, ByteArray.size_append, String.size_toByteArray, Bool.or_eq_true, beq_iff_eq]
  by_cases hS : S.utf8ByteSize = 0
  · left; omega
  · right
    have hlt : P.utf8ByteSize < (P.toByteArray ++ S.toByteArray).size := by
      simp [ByteArray.size_append, String.size_toByteArray]; omega
    rw [getElem!_pos (P.toByteArray ++ S.toByteArray) P.utf8ByteSize hlt, ByteArray.getElem_append_right (by simp [String.size_toByteArray])]
    apply firstByte_boundary
    simp only [String.size_toByteArray, Nat.sub_self]
    exact S.isValidUTF8.isUTF8FirstByte_getElem_zero (by simp [String.size_toByteArray]; omega)

theorem sliceBytes_append (P A S : String) :
    sliceBytes (P ++ A ++ S) P.utf8ByteSize (P.utf8ByteSize + A.utf8ByteSize) = some A := by
  have hb1 := boundary_start P (A ++ S)
  have hb2 := boundary_start (P ++ A) S
  rw [← String.append_assoc] at hb1
  have hsz : (P ++ A).utf8ByteSize = P.utf8ByteSize + A.utf8ByteSize := by
    simp [← String.size_toByteArray, String.toByteArray_append, ByteArray.size_append]
  rw [hsz] at hb2
  have hsize : (P ++ A ++ S).toByteArray.size = P.utf8ByteSize + A.utf8ByteSize + S.utf8ByteSize := by
    simp [String.toByteArray_append, ByteArray.size_append, String.size_toByteArray]
  have hext : (P ++ A ++ S).toByteArray.extract P.utf8ByteSize (P.utf8ByteSize + A.utf8ByteSize) = A.toByteArray := by
    rw [String.toByteArray_append, String.toByteArray_append, ByteArray.append_assoc]
    have h1 := ByteArray.extract_append_size_add' (a := P.toByteArray) (b := A.toByteArray ++ S.toByteArray)
      (i := 0) (j := A.utf8ByteSize) (k := P.utf8ByteSize) (String.size_toByteArray).symm
    rw [Nat.add_zero] at h1; rw [h1]
    exact ByteArray.extract_append_eq_left (String.size_toByteArray).symm
  unfold sliceBytes
  simp only [String.toUTF8_eq_toByteArray]
  rw [if_neg (by rw [hsize]; omega)]
  simp only at hb1 hb2
  rw [hb1, hb2]
  simp only [Bool.and_self, Bool.not_true, Bool.false_eq_true, if_false]
  rw [hext, fromUTF8?_toByteArray]

/-- the lower-case promotion letter of `Lan::into_notation` -/
def lanSuffix : Option Piece → String
  | some .queen => "q" | some .rook => "r" | some .bishop => "b" | some .knight => "n"
  | some .king => "k" | some .pawn => "p" | some .none => " " | Option.none => ""

/-- the text `Lan::into_notation` writes, as a function of origin, destination, promotion -/
def lanText (o d : Nat) (pr : Option Piece) : String := sqName o ++ sqName d ++ lanSuffix pr

theorem lan_eq (m : Move) : Move.lan m = lanText (Move.origin m) (Move.dest m) (Move.promotion m) := by
  unfold Move.lan lanText
  rcases Move.promotion m with _ | p
  · rfl
  · cases p <;> rfl

def lanQuery (o d : Nat) (pr : Option Piece) : MoveQuery :=
  { originRank := some (o / 8), originFile := some (o % 8), destRank := some (d / 8),
    destFile := some (d % 8), promotion := pr }

theorem sqName_facts : ∀ o < 64,
    (sqName o).utf8ByteSize = 2 ∧ parseSquare (sqName o).toList = some o ∧ (sqName o).toList.length = 2 :=
  fun o h => ⟨sqName_utf8ByteSize o h, parseSquare_sqName o h, by rw [sqName, String.toList_ofList]; rfl⟩

theorem lanQuery_test_iff (o d : Nat) (pr : Option Piece) (m : Move) :
    (lanQuery o d pr).test m = true ↔
      Move.origin m = o ∧ Move.dest m = d ∧
      (∀ p, pr = some p → p = (Move.promotion m).getD (Move.piece m)) :=
  coords_test_iff o d pr m

theorem lan_unique (L : List Move) (hwf : WFMoves L) (m : Move) (hm : m ∈ L) :
    ∀ m' ∈ L, ((lanQuery (Move.origin m) (Move.dest m) (Move.promotion m)).test m' = true ↔ m' = m) := by
  intro m' hm'
  rw [lanQuery_test_iff]
  constructor
  · rintro ⟨ho, hd, hp⟩
    have hpc := hwf.pieceFn m' hm' m hm ho
    have hsame := hwf.promoFn m' hm' m hm hpc hd
    refine hwf.inj m' hm' m hm hpc ho hd ?_
    cases hpm : Move.promotion m with
    | none =>
      rw [hpm] at hsame
      cases h : Move.promotion m' with
      | none => rfl
      | some p' => rw [h] at hsame; cases hsame
    | some p =>
      rw [hpm] at hsame
      cases h : Move.promotion m' with
      | none => rw [h] at hsame; cases hsame
      | some p' =>
        have := hp p hpm
        rw [h] at this
        simp only [Option.getD_some] at this
        rw [this]
  · rintro rfl
    refine ⟨rfl, rfl, fun p hp => ?_⟩
    rw [hp]; rfl

end Wee.SanP
