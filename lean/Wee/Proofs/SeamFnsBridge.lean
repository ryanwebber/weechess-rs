import Wee.Gen.SeamFns
import Wee.Proofs.UciFnsBridge
/-!
# Stage 5: the resolver `State::by_performing_moves` translated from `state.rs` = the model's `performQueries`;
the seam hypothesis of the UCI loop bridge discharged

`Wee/Gen/SeamFns.lean` is generated by `tools/rs2lean_seams.py` from `weechess-core/src/state.rs` (`State::by_performing_moves`)
and `weechess-core/src/moves.rs` (`MoveSet::filter`).

`State.by_performing_moves_eq` is the resolver theorem (for `QueryOk` queries).  `ResolverSeamQ` is the `ResolverSeam` of
`UciFnsBridge.lean` restricted to such queries; `resolverSeamQ_seamEnv` shows that the translated resolver satisfies it on
`StateOK` positions.  A `ResolverSeamQ` gives the `TokenSeam` of the command loop (`ResolverSeamQ.tokens`), hence its theorems
`TokenSeam.body_refines` / `.loop_refines` / `.exec_refines`; for `seamEnv` they are stated without any resolver hypothesis
(`Client.exec.body_refines_resolved`, `Client.exec_refines_resolved`): THESE are the ones to build on — the unrestricted
`ResolverSeam` of `Client.exec_refines` can be satisfied by no `env` (argued in the head of `UciFnsBridge.lean`, not proved in Lean).
-/
namespace Wee.GenFns
open Wee Wee.Uci

/-! ## the resolver -/

/-- `MovePerformError` of the model's error -/
def seamErrOf : MoveErr → MovePerformError
  | .ambiguous => .AmbiguousMove
  | .illegalEnPassant => .IllegalEnPassant
  | .unknown => .UnknownMove

/-- Rust-side value of a resolver outcome -/
def seamResOf : Option (Except MoveErr Wee.State) → Panics (Except MovePerformError State)
  | Option.none => Option.none
  | some (.ok s) => some (.ok (stateOf s))
  | some (.error e) => some (.error (seamErrOf e))

/-- how a loop pass ends, from the model's outcome for one query -/
def seamCtlOf : Option (Except MoveErr Wee.State) → Panics (SeamCtl (Except MovePerformError State) State)
  | Option.none => Option.none
  | some (.ok s) => some (.next (stateOf s))
  | some (.error e) => some (.ret (.error (seamErrOf e)))

/-- `collect` after `filter` over a vector, for ANY closure with a point-wise specification -/
theorem SeamIter.collect_filter {α : Type} (p : α → Panics Bool) (q : α → Bool) :
    ∀ l : List α, (∀ a ∈ l, p a = some (q a)) → SeamIter.collect (Iter.filter p (Iter.ofList l)) = some (l.filter q) := by
  intro l
  induction l with
  | nil => intro _; rfl
  | cons a l ih =>
    intro h
    have ha := h a (by simp)
    have ih' := ih (fun b hb => h b (List.mem_cons_of_mem _ hb))
    simp only [Iter.ofList, Iter.filter, ha, List.filter_cons]
    cases q a
    · simpa using ih'
    · simp only [SeamIter.collect, ih', if_true]

/-- **`MoveSet::filter` + `collect`**: the legal moves passing the query, in generation order (`MoveSet::find`:
`MoveSet.find_eq` in `BookFnsBridge.lean`) -/
theorem MoveSet.filter_eq (L : List (Wee.Move × Wee.State)) (q : Wee.MoveQuery) (hq : QueryOk q) (hL : ∀ r ∈ L, MoveOk r.1) :
    SeamIter.collect (MoveSet.filter (L.map resOf).toArray (mqOf q)) = some ((L.filter (fun r => q.test r.1)).map resOf) := by
  unfold MoveSet.filter
  rw [SeamIter.collect_filter _ (fun m : Move × State => q.test m.1)]
  · simp only [List.filter_map]; rfl
  · intro a ha
    simp only [List.mem_map] at ha
    obtain ⟨r, hr, rfl⟩ := ha
    rw [show MoveQuery.test (mqOf q) (resOf r).1 = .ok (q.test r.1) from MoveQuery.test_eq q hq r.1 (hL r hr)]
    rfl

/-- **one pass of the loop** = the model's `performQuery` -/
theorem State.by_performing_moves.body_eq (s : Wee.State) (ok : StateOK s) (q : Wee.MoveQuery) (hq : QueryOk q) :
    State.by_performing_moves.body (stateOf s) (mqOf q) = seamCtlOf (performQuery s q) := by
  unfold State.by_performing_moves.body performQuery
  rw [MoveGenerator.compute_legal_moves_model s ok]
  cases hl : legalMoves? s with
  | none => rfl
  | some L =>
    have hmem := legalMoves?_mem s L hl
    simp only [Option.map_some, some_bind']
    rw [MoveSet.filter_eq L q hq (fun r hr => moveOk_of_wf _ (hmem r hr).1)]
    simp only [some_bind']
    cases hf : L.filter (fun r => q.test r.1) with
    | nil => rfl
    | cons r rest =>
      cases rest with
      | cons r2 rest2 => rfl
      | nil =>
        have hr : r ∈ L := (List.mem_filter.1 (by rw [hf]; simp)).1
        obtain ⟨wf, hpm⟩ := hmem r hr
        simp only [List.map_cons, List.map_nil]
        rw [show (resOf r).1 = r.1 from rfl, State.by_performing_move_of_wf s r.1 ok wf, hpm]
        rfl

/-- the loop, for ANY body with the point-wise specification -/
theorem SeamFor_resolve (F : MoveQuery → State → Panics (SeamCtl (Except MovePerformError State) State))
    (hF : ∀ s q, StateOK s → QueryOk q → F (mqOf q) (stateOf s) = seamCtlOf (performQuery s q)) (qs : List Wee.MoveQuery) :
    ∀ s, StateOK s → (∀ q ∈ qs, QueryOk q) → SeamFor (qs.map mqOf) (stateOf s) F = seamCtlOf (performQueries s qs) := by
  induction qs with
  | nil => intro s _ _; rfl
  | cons q qs ih =>
    intro s ok hqs
    simp only [List.map_cons, SeamFor, hF s q ok (hqs q (by simp))]
    unfold performQueries
    cases hq : performQuery s q with
    | none => rfl
    | some r =>
      cases r with
      | error e => rfl
      | ok s1 =>
        simp only [seamCtlOf]
        exact ih s1 (performQuery_stateOK s ok q s1 hq) (fun q' h' => hqs q' (List.mem_cons_of_mem _ h'))

/-- **`State::by_performing_moves`** translated from `state.rs` = the model's resolver `performQueries`, on every representable
position and every list of queries whose ranks / files fit a `u8` (every query a notation reader produces) -/
theorem State.by_performing_moves_eq (s : Wee.State) (ok : StateOK s) (qs : List Wee.MoveQuery) (hqs : ∀ q ∈ qs, QueryOk q) :
    State.by_performing_moves (stateOf s) (qs.map mqOf) = seamResOf (performQueries s qs) := by
  unfold State.by_performing_moves
  simp only []
  rw [SeamFor_resolve _ (fun s q ok hq => State.by_performing_moves.body_eq s ok q hq) qs s ok hqs]
  cases performQueries s qs with
  | none => rfl
  | some r => cases r <;> rfl

/-! ## the class of positions the command loop stays in -/

theorem parseUciMoveToken_queryOk (m : String) (q : Wee.MoveQuery) (h : parseUciMoveToken m = some (some q)) : QueryOk q := by
  unfold parseUciMoveToken at h
  split at h
  · cases h
  · split at h
    · cases h
    · rename_i o ho
      split at h
      · cases h
      · split at h
        · cases h
        · rename_i d hd
          have ho' := parseSquare_lt _ _ ho
          have hd' := parseSquare_lt _ _ hd
          have key : QueryOk { originRank := some (rankOf o), originFile := some (fileOf o),
                               destRank := some (rankOf d), destFile := some (fileOf d) } := by
            refine ⟨?_, ?_, ?_, ?_⟩ <;> intro r hr <;> cases hr <;> simp only [rankOf, fileOf] <;> omega
          simp only [] at h
          split at h <;> first | (cases h; done) | (cases h; exact key) | (cases h; exact ⟨key.1, key.2, key.3, key.4⟩)

theorem queryOk_tokens (M : List String) :
    ∀ q ∈ (M.map parseUciMoveToken).filterMap (fun x => x.bind id), QueryOk q := by
  intro q hq
  simp only [List.mem_filterMap, List.mem_map] at hq
  obtain ⟨x, ⟨m, _, rfl⟩, hx⟩ := hq
  cases hm : parseUciMoveToken m with
  | none => rw [hm] at hx; cases hx
  | some y =>
    rw [hm] at hx
    cases y with
    | none => cases hx
    | some q' =>
      simp only [Option.bind_some, id, Option.some.injEq] at hx
      subst hx
      exact parseUciMoveToken_queryOk m q' hm

/-! ## the seam of the UCI loop, restricted to the queries the loop can produce -/

/-- the `ResolverSeam` of `UciFnsBridge.lean` with the resolver only constrained on query lists whose ranks / files fit a `u8`
(`QueryOk`: everything `uci.parse_move_token` produces, `queryOk_tokens`).  The unrestricted `ResolverSeam` can be satisfied by no `env`, the
translated resolver in particular (argued, not proved in Lean): `mqOf` truncates the model's `Nat` ranks to `u8`, so a model query
with rank 259 (never produced by a reader) resolves like rank 3 in the code and like no move in the model. -/
structure ResolverSeamQ (env : UciSeams) (Inv : Wee.State → Prop) : Prop where
  start : Inv startState
  fen : ∀ text st, parseFen false text = .ok st → Inv st
  keeps : ∀ st qs st', Inv st → performQueries st qs = some (.ok st') → Inv st'
  resolve : ∀ st qs, Inv st → (∀ q ∈ qs, QueryOk q) →
    match performQueries st qs with
    | Option.none => env.by_performing_moves (stateOf st) (qs.map mqOf) = Option.none
    | some (.ok st') => env.by_performing_moves (stateOf st) (qs.map mqOf) = some (.ok (stateOf st'))
    | some (.error _) => ∃ e, env.by_performing_moves (stateOf st) (qs.map mqOf) = some (.error e)

theorem ResolverSeam.toQ {env : UciSeams} {Inv : Wee.State → Prop} (h : ResolverSeam env Inv) : ResolverSeamQ env Inv :=
  ⟨h.start, h.fen, h.keeps, fun st qs hi _ => h.resolve st qs hi⟩

/-- **the seam is satisfiable, by the translated function**: for the `env` whose resolver IS `State.by_performing_moves`
(generated from `state.rs`) the hypothesis of the UCI bridge holds on the class `StateOK` of representable positions -/
theorem resolverSeamQ_seamEnv (dm : Move → List Char) (dv au : List Char) : ResolverSeamQ (seamEnv dm dv au) StateOK where
  start := startState_ok
  fen := fun text st h => parseFenChars_stateOK false text.toList st h
  keeps := fun st qs st' ok h => performQueries_stateOK qs st ok st' h
  resolve := by
    intro st qs ok hqs
    have h := State.by_performing_moves_eq st ok qs hqs
    show match performQueries st qs with
      | Option.none => State.by_performing_moves (stateOf st) (qs.map mqOf) = Option.none
      | some (.ok st') => State.by_performing_moves (stateOf st) (qs.map mqOf) = some (.ok (stateOf st'))
      | some (.error _) => ∃ e, State.by_performing_moves (stateOf st) (qs.map mqOf) = some (.error e)
    rw [h]
    cases performQueries st qs with
    | none => rfl
    | some r =>
      cases r with
      | ok s' => rfl
      | error e => exact ⟨seamErrOf e, rfl⟩

/-- the restricted seam is what the command loop needs -/
theorem ResolverSeamQ.tokens {env : UciSeams} {Inv : Wee.State → Prop} (h : ResolverSeamQ env Inv) : TokenSeam env Inv :=
  ⟨h.start, h.fen, h.keeps, fun st M hi => h.resolve st _ hi (queryOk_tokens M)⟩

/-! ## the seam discharged -/

/-- **the command-loop step with the resolver translated from `state.rs`** — no hypothesis on the resolver is left -/
theorem Client.exec.body_refines_resolved (dm : Move → List Char) (dv au : List Char) (rx : RegexCaptures)
    (hrx : RxOK rx) (book : OpeningBook) (g : Vars) (s : Sess) (hrep : Rep StateOK g s) (cmd : String)
    (hlen : (splitAsciiWs cmd).length < 2 ^ 64) (r : Flow Vars)
    (h : Client.exec.body (seamEnv dm dv au) rx book g cmd.toList = some r) :
    ∃ s' outs evs, Uci.step (hasBookOf book) s cmd (fun _ => okOf r.vars.1) = some (s', outs, r.isBrk) ∧
      Rep StateOK r.vars s' ∧ r.vars.2.2.2.2.out = g.2.2.2.2.out ++ evs ∧ UEvR (seamEnv dm dv au) evs outs :=
  (resolverSeamQ_seamEnv dm dv au).tokens.body_refines rx hrx book g s hrep cmd hlen r h

/-- **a whole run of `Client::exec` with the resolver translated from `state.rs`** refines the model's run -/
theorem Client.exec_refines_resolved (dm : Move → List Char) (dv au : List Char) (rx : RegexCaptures) (hrx : RxOK rx)
    (book : OpeningBook) (lines : List String) (hl : ShortLines lines) (rng : ThreadRng) (io io' : World)
    (h : Client.exec (seamEnv dm dv au) rx (lines.map String.toList) rng book io = some io') :
    ∃ s' outs evs, RunsTo (hasBookOf book) Sess.init lines s' outs ∧ io'.out = io.out ++ evs ∧
      UEvR (seamEnv dm dv au) evs outs :=
  (resolverSeamQ_seamEnv dm dv au).tokens.exec_refines rx hrx book lines hl rng io io' h

local macro "arm_start" h:ident htok:ident : tactic => `(tactic| (
  unfold Client.exec.body at $h:ident
  rw [str.split_ascii_whitespace_eq, $htok:ident] at $h:ident
  simp (config := {decide := true}) only [List.map_cons, slice.split_first, if_false, if_true] at $h:ident))

end Wee.GenFns
