import Wee.Proofs.Iteration
import Wee.Proofs.WalkE
/-!
# The generic induction over `searchNode` with three instances; the root call of a worker; the iteration level

`searchNode_walk`: an invariant `I` over the worker state (with a second invariant `J` for the state at an interrupt), a
node predicate `N` (closed under the child construction) and a set `Allowed` of outcomes that may be thrown
(`SearchCtl.Walk`).  It is the induction for the worker in an environment (`Env.searchNodeE_walk`) in the empty
environment, where the worker is `searchNode` (`Env.searchNodeE_empty`).  Every C04 fact about `searchNode` is an instance;
here: `stop_walk` (the counters once `Stop` is visible) and `underflow_walk` (the usize subtractions, over
`TT.Access.All`: a property of every stored entry), both for C04, and `noint_walk` (no interrupt without a cancellation
instant), which C06 completeness uses.

The iteration level: `iterate` as its loop between `iterInit` and `iterFinal` (`iterate_eq`), the three cases of `iterStep`
(from the `finishStep_*` equations of `Iteration.lean`), and what follows an interrupt; C17 takes `iterate_eq` and `iterCtx`
from here.
-/
namespace Wee.Search

/-- number of iterations of the deepening loop -/
def iterLimit (root : State) (maxDepth : Option Nat) (fuelDepth : Nat) : Nat :=
  if (legalMoves root).isEmpty then 0 else match maxDepth with | some d => d | Option.none => fuelDepth

/-- a root without legal moves is not searched -/
theorem iterLimit_nil {root : State} (h : legalMoves root = []) (maxDepth : Option Nat) (fuelDepth : Nat) :
    iterLimit root maxDepth fuelDepth = 0 := by unfold iterLimit; rw [h]; rfl

/-- a root with a legal move is searched to the depth limit -/
theorem iterLimit_of_moves {root : State} (h : legalMoves root ≠ []) (maxDepth : Option Nat) (fuelDepth : Nat) :
    iterLimit root maxDepth fuelDepth = maxDepth.getD fuelDepth := by
  unfold iterLimit
  cases hm : legalMoves root with
  | nil => exact absurd hm h
  | cons _ _ => cases maxDepth <;> rfl

theorem iterLimit_le (root : State) (maxDepth : Option Nat) (fuelDepth : Nat) :
    iterLimit root maxDepth fuelDepth ≤ maxDepth.getD fuelDepth := by
  by_cases h : legalMoves root = []
  · rw [iterLimit_nil h]; exact Nat.zero_le _
  · rw [iterLimit_of_moves h]; exact Nat.le_refl _

end Wee.Search

namespace Wee.SearchCtl
open Wee Wee.Search

theorem searchNode_walk {ctx : Ctx} {I J : St → Prop} {N : Nat → NodeArgs → Prop} {Allowed : Stop → Prop}
    (W : Walk ctx I J N Allowed) :
    ∀ (rem : Nat) (a : NodeArgs) (st : St), N rem a → I st →
      Post I J Allowed ((searchNode ctx rem a).run.run st) := by
  intro rem a st hN hI
  have h := Env.searchNodeE_walk (env := Env.empty) (V := { I := I, J := J, A := Allowed, G := fun _ _ => True }) W
    (fun _ _ hi => hi) (fun _ _ _ _ _ _ _ _ _ _ _ _ _ => trivial) rem a hN 0 st hI
  rw [← Env.searchNodeE_empty ctx rem a 0 st]
  generalize searchNodeE Env.empty ctx rem a 0 st = out at h
  obtain ⟨r, st', l⟩ := out
  cases r with
  | ok v => exact h.1
  | error e =>
    cases e with
    | interrupt => exact ⟨h.1, h.2.1⟩
    | panic w => exact ⟨h.1, h.2.1⟩

/-! ## instance: the counters once `Stop` is visible -/

/-- `Stop` is visible (`polls ≥ k`), the node counter is in the poll interval number `c`, counters only grow -/
def StopI (k c n0 : Nat) (st : St) : Prop := k ≤ st.polls ∧ st.nodes / Gen.pollInterval = c ∧ n0 ≤ st.nodes

/-- the state at the interrupt: the counter is exactly the next multiple of the poll interval -/
def StopJ (c : Nat) (st : St) : Prop := st.nodes = (c + 1) * Gen.pollInterval

theorem stop_walk (ctx : Ctx) (k : Nat) (hk : ctx.cancelAt = some k) (c n0 : Nat) :
    Walk ctx (StopI k c n0) (StopJ c) (fun _ _ => True) (fun _ => True) where
  tick := by
    intro st ⟨h1, h2, h3⟩
    rw [tick_eq]
    have hc : cancelledAt ctx st = true := by
      unfold cancelledAt; rw [hk]; simpa using h1
    unfold Gen.pollInterval at *
    by_cases h : (st.nodes + 1) % 10000 = 0
    · rw [if_pos h, if_pos hc]
      refine ⟨trivial, ?_⟩
      show st.nodes + 1 = (c + 1) * 10000
      omega
    · rw [if_neg h]
      refine ⟨h1, ?_, ?_⟩
      · show (st.nodes + 1) / 10000 = c
        omega
      · show n0 ≤ st.nodes + 1
        omega
  rng := fun _ _ h => h
  underflow := fun _ _ _ _ _ _ _ _ => trivial
  leaf := fun _ _ _ _ _ _ => trivial
  pseudo := fun _ _ _ _ => trivial
  legal := fun _ _ _ _ _ _ _ _ => trivial
  eval := fun _ _ _ _ => trivial
  window := fun _ _ _ _ _ => trivial
  child := fun _ _ _ _ _ _ _ _ _ _ _ => trivial
  insert := fun _ _ _ _ _ _ _ _ _ _ h _ _ _ _ => h

/-- **what the stop invariants say of an outcome**: interrupted with the node counter exactly at the next multiple of
the poll interval, or ended (normally or with a panic) before that multiple, the counters grown, `Stop` still visible -/
theorem stop_post_cases {α : Type} {k c n0 : Nat} {A : Stop → Prop} {out : Except Stop α × St}
    (h : Post (StopI k c n0) (StopJ c) A out) :
    out.1 = .error .interrupt ∧ out.2.nodes = (c + 1) * Gen.pollInterval ∨
    out.1 ≠ .error .interrupt ∧ n0 ≤ out.2.nodes ∧ out.2.nodes < (c + 1) * Gen.pollInterval ∧ k ≤ out.2.polls := by
  obtain ⟨r, st'⟩ := out
  have hI : StopI k c n0 st' → n0 ≤ st'.nodes ∧ st'.nodes < (c + 1) * Gen.pollInterval ∧ k ≤ st'.polls :=
    fun ⟨h1, h2, h3⟩ => ⟨h3, by unfold Gen.pollInterval at *; omega, h1⟩
  cases r with
  | ok v => exact Or.inr ⟨nofun, hI h⟩
  | error e => cases e with
    | interrupt => exact Or.inl ⟨rfl, h.2⟩
    | panic w => exact Or.inr ⟨nofun, hI h.2⟩

/-! ## instance: the usize subtractions -/

/-- the relation between the structural argument of `searchNode` and the two depth counters of the Rust code -/
def RemInv (rem : Nat) (a : NodeArgs) : Prop := a.curDepth + rem = a.maxDepth

/-- stored depths never exceed the stored maximum depth -/
def DepthOK (e : TT.Entry) : Prop := e.depth ≤ e.maxDepth

theorem remInv_child (rem : Nat) (a : NodeArgs) (next : State) (alpha : Eval) (h : RemInv (rem+1) a) :
    RemInv rem (childArgs a next alpha) := by
  unfold RemInv childArgs at *
  simp only []
  omega

theorem RemInv.depthOK {rem : Nat} {a : NodeArgs} (h : RemInv rem a) (kind : Nat) (m : Move) (ev : Eval) :
    DepthOK (entryOf a kind m ev) := by
  unfold RemInv at h
  show a.curDepth ≤ a.maxDepth
  omega

theorem underflow_walk (ctx : Ctx) :
    Walk ctx (fun st => st.tt.All DepthOK) (fun st => st.tt.All DepthOK) RemInv
      (fun e => e ≠ .panic "usize subtraction underflow") where
  tick := tick_table ctx (fun e => nomatch e)
  rng := fun _ _ h => h
  underflow := by
    intro rem a st e hN hI hf hc
    exfalso
    have := hI.find hf
    unfold RemInv at hN
    unfold DepthOK at this
    omega
  leaf := by
    intro a alpha beta e _ hq
    exact quiesce_walk (F := fun _ _ => True) (Allowed := fun e => e ≠ .panic "usize subtraction underflow")
      ⟨fun _ _ => by simp, fun _ _ _ _ => by simp,
       fun _ _ _ _ _ => by simp, fun _ _ _ _ _ _ _ _ => trivial⟩ _ _ _ _ _ e trivial hq
  pseudo := fun _ _ _ _ => by simp
  legal := fun _ _ _ _ _ _ _ _ => by simp
  eval := fun _ _ _ _ => by simp
  window := fun _ _ _ _ h => h
  child := fun rem a _ _ _ next alpha h _ _ _ => remInv_child rem a next alpha h
  insert := fun _ _ _ _ m _ kind ev _ hN hI _ _ _ _ => hI.insert _ _ (hN.depthOK kind m ev)


/-! ## the root call of a worker; `iterate` as its loop -/

/-- the arguments of the root call of a worker -/
def rootArgs (root : State) (searchDepth : Nat) (best : Option Move) : NodeArgs :=
  { s := root, maxDepth := searchDepth, curDepth := 0, curExt := 0,
    alpha := - Ev.mateInPly 0, beta := Ev.mateInPly 0, prioritized := best }

theorem runWorker_eq (ctx : Ctx) (root : State) (searchDepth : Nat) (best : Option Move) (tt : TT.Access)
    (rng : Rng.ChaCha8) (polls : Nat) :
    runWorker ctx root searchDepth best tt rng polls =
      (searchNode ctx searchDepth (rootArgs root searchDepth best)).run.run { tt, rng, nodes := 0, polls } := rfl

theorem remInv_root (root : State) (searchDepth : Nat) (best : Option Move) :
    RemInv searchDepth (rootArgs root searchDepth best) := by
  unfold RemInv rootArgs; simp

/-- the context `iterate` searches with -/
def iterCtx (root : State) (art : Artifact) (cancelAt : Option Nat) : Ctx :=
  { keys := art.keys.keys, history := Wee.hash art.keys.keys root :: art.history, cancelAt }

/-- the state `iterate` starts its loop with -/
def iterInit (rng0 : Rng.ChaCha8) (art : Artifact) : IterSt :=
  { tt := art.tt, rng := rng0, events := [], nodes := 0, bestEval := Ev.negInf, bestMv := Option.none, polls := 0 }

/-- the final loop state of `iterate` -/
def iterFinal (root : State) (rng0 : Rng.ChaCha8) (maxDepth : Option Nat) (art : Artifact)
    (workersOf : Nat → Nat) (cancelAt : Option Nat) (fuelDepth : Nat) : IterSt :=
  iterLoop (iterCtx root art cancelAt) root (Wee.hash art.keys.keys root) workersOf
    (iterLimit root maxDepth fuelDepth) 0 (iterInit rng0 art)

/-- a root without legal moves: the loop does not run -/
theorem iterFinal_nil {root : State} (h : legalMoves root = []) (rng0 : Rng.ChaCha8) (maxDepth : Option Nat) (art : Artifact)
    (workersOf : Nat → Nat) (cancelAt : Option Nat) (fuelDepth : Nat) :
    iterFinal root rng0 maxDepth art workersOf cancelAt fuelDepth = iterInit rng0 art := by
  unfold iterFinal; rw [iterLimit_nil h]; rfl

theorem iterFinal_of_moves {root : State} (h : legalMoves root ≠ []) (rng0 : Rng.ChaCha8) (maxDepth : Option Nat)
    (art : Artifact) (workersOf : Nat → Nat) (cancelAt : Option Nat) (fuelDepth : Nat) :
    iterFinal root rng0 maxDepth art workersOf cancelAt fuelDepth =
      iterLoop (iterCtx root art cancelAt) root (Wee.hash art.keys.keys root) workersOf (maxDepth.getD fuelDepth) 0
        (iterInit rng0 art) := by
  unfold iterFinal; rw [iterLimit_of_moves h]

theorem iterate_eq (root : State) (rng0 : Rng.ChaCha8) (maxDepth : Option Nat) (art : Artifact)
    (workersOf : Nat → Nat) (cancelAt : Option Nat) (fuelDepth : Nat) :
    iterate root rng0 maxDepth art workersOf cancelAt fuelDepth =
      let st := iterFinal root rng0 maxDepth art workersOf cancelAt fuelDepth
      { events := if st.panic.isNone && st.tt.entries * 2 > st.tt.maxEntries then st.events ++ [.warning] else st.events
        artifact := { keys := art.keys, tt := st.tt, history := Wee.hash art.keys.keys root :: art.history }
        panic := st.panic } := rfl

/-- what the workers of iteration `depth` return, started from the loop state `st` -/
def workersOut (ctx : Ctx) (root : State) (workers depth : Nat) (st : IterSt) : WorkersOut :=
  runWorkers ctx root depth st.bestMv ((List.range workers).zip (drawSeeds workers st.rng).1)
    { tt := st.tt, polls := st.polls, evals := [], sumNodes := 0 }

/-- an iteration with one worker: the joined results are that worker's -/
theorem workersOut_one (ctx : Ctx) (root : State) (depth : Nat) (st : IterSt) :
    workersOut ctx root 1 depth st =
      WorkersOut.join { tt := st.tt, polls := st.polls, evals := [], sumNodes := 0 }
        (runWorker ctx root (depth + 1) st.bestMv st.tt (Rng.seedFromU64 (Rng.nextU64 st.rng).1) st.polls) := by
  unfold workersOut
  rw [drawSeeds_one]
  exact (runWorkers_cons ..).trans (if_neg Bool.false_ne_true)

/-! ### the three cases of an iteration step -/

section iterStepCases
variable {ctx : Ctx} {root : State} {workers depth : Nat} {st : IterSt}

theorem iterStep_eq (rootHash : UInt64) :
    iterStep ctx root rootHash workers depth st =
      finishStep ctx root rootHash depth (drawSeeds workers st.rng).2 (workersOut ctx root workers depth st) st :=
  iterStep_eq_finishStep ..

/-- a worker panicked: the generator state and the panic are recorded and the loop ends; nothing else changes -/
theorem iterStep_panic {why : String} (hp : (workersOut ctx root workers depth st).panic = some why)
    (rootHash : UInt64) :
    iterStep ctx root rootHash workers depth st =
      { st with rng := (drawSeeds workers st.rng).2, panic := some why, finished := true } := by
  rw [iterStep_eq]; exact finishStep_panic hp

/-- a worker was interrupted: the workers' table and poll count are taken over, the root's entry is reported if it improves on
the previous iteration, the loop ends -/
theorem iterStep_interrupt (hp : (workersOut ctx root workers depth st).panic = Option.none)
    (hi : (workersOut ctx root workers depth st).interrupted = true) (rootHash : UInt64) :
    iterStep ctx root rootHash workers depth st =
      let w := workersOut ctx root workers depth st
      { st with
        tt := w.tt, rng := (drawSeeds workers st.rng).2, polls := w.polls, finished := true
        events := match w.tt.find rootHash.toNat with
          | some x =>
            if x.eval > st.bestEval then
              let line := walkLine ctx.keys w.tt (depth + 1) root
              if line.isEmpty then st.events else st.events ++ [.best x.eval line]
            else st.events
          | Option.none => st.events } := by
  rw [iterStep_eq]; exact finishStep_interrupt hp hi

/-- all workers returned: progress is reported, and the walked line if there is one -/
theorem iterStep_complete (hp : (workersOut ctx root workers depth st).panic = Option.none)
    (hi : (workersOut ctx root workers depth st).interrupted = false) (rootHash : UInt64) :
    iterStep ctx root rootHash workers depth st =
      let w := workersOut ctx root workers depth st
      let nodes := st.nodes + w.sumNodes
      let bestEval := match w.evals with | [] => st.bestEval | e :: es => es.foldl max e
      let line := walkLine ctx.keys w.tt (depth + 1) root
      let events := st.events ++ [.progress (depth + 1) nodes]
      { st with
        tt := w.tt, rng := (drawSeeds workers st.rng).2, polls := w.polls, nodes, bestEval, bestMv := line.head?
        events := if line.isEmpty then events else events ++ [.best bestEval line]
        finished := if line.isEmpty then st.finished else decide (bestEval ≥ Ev.posInf) } := by
  rw [iterStep_eq]; exact finishStep_complete hp hi

end iterStepCases

theorem iterStep_tt (ctx : Ctx) (root : State) (rootHash : UInt64) (workers depth : Nat) (st : IterSt) :
    (iterStep ctx root rootHash workers depth st).tt =
      if (workersOut ctx root workers depth st).panic.isSome then st.tt
      else (workersOut ctx root workers depth st).tt := by
  cases hp : (workersOut ctx root workers depth st).panic with
  | some why => rw [iterStep_panic hp]; rfl
  | none =>
    cases hi : (workersOut ctx root workers depth st).interrupted with
    | true => rw [iterStep_interrupt hp hi]; rfl
    | false => rw [iterStep_complete hp hi]; rfl


/-! ## consequences at worker level -/

theorem runWorker_depthOK (ctx : Ctx) (root : State) (sd : Nat) (best : Option Move) (tt : TT.Access)
    (rng : Rng.ChaCha8) (polls : Nat) (h : tt.All DepthOK) :
    (runWorker ctx root sd best tt rng polls).2.tt.All DepthOK ∧
    (runWorker ctx root sd best tt rng polls).1 ≠ .error (.panic "usize subtraction underflow") := by
  rw [runWorker_eq]
  have := searchNode_walk (underflow_walk ctx) sd (rootArgs root sd best) { tt, rng, nodes := 0, polls }
    (remInv_root root sd best) h
  exact ⟨this.same, fun he => this.allowed _ he rfl⟩

/-- once `Stop` is visible to the polls, a node (with everything below it) either is interrupted exactly when the
worker's counter reaches the next multiple of the poll interval, or ends before that multiple -/
theorem searchNode_stop_bound (ctx : Ctx) (k : Nat) (hk : ctx.cancelAt = some k) (rem : Nat) (a : NodeArgs) (st : St)
    (hp : k ≤ st.polls) :
    Post (StopI k (st.nodes / Gen.pollInterval) st.nodes) (StopJ (st.nodes / Gen.pollInterval)) (fun _ => True)
      ((searchNode ctx rem a).run.run st) :=
  searchNode_walk (stop_walk ctx k hk _ _) rem a st trivial ⟨hp, rfl, Nat.le_refl _⟩

/-! ### no interrupt without a cancellation instant -/

/-- the flag's answer to a poll of a worker is its answer to the boundary read (`Search.flagSays`) -/
theorem cancelledAt_eq_flagSays (ctx : Ctx) (st : St) : cancelledAt ctx st = flagSays ctx st.polls := rfl

theorem noint_walk (ctx : Ctx) (hc : ctx.cancelAt = Option.none) :
    Walk ctx (fun _ => True) (fun _ => True) (fun _ _ => True) (fun e => e ≠ .interrupt) where
  tick := by
    intro st _
    rw [tick_eq]
    have : cancelledAt ctx st = false := by unfold cancelledAt; rw [hc]
    rw [this]
    split <;> trivial
  rng := fun _ _ h => h
  underflow := fun _ _ _ _ _ _ _ _ h => nomatch h
  leaf := fun a alpha beta e _ hq h => by
    obtain ⟨w, hw⟩ := quiesce_error_panic _ _ _ _ _ _ _ hq
    rw [hw] at h; exact nomatch h
  pseudo := fun _ _ _ _ h => nomatch h
  legal := fun _ _ _ _ _ _ _ _ h => nomatch h
  eval := fun _ _ _ _ h => nomatch h
  window := fun _ _ _ _ _ => trivial
  child := fun _ _ _ _ _ _ _ _ _ _ _ => trivial
  insert := fun _ _ _ _ _ _ _ _ _ _ _ _ _ _ _ => trivial

theorem searchNode_not_interrupted (ctx : Ctx) (hc : ctx.cancelAt = Option.none) (rem : Nat) (a : NodeArgs) (st : St) :
    ((searchNode ctx rem a).run.run st).1 ≠ .error .interrupt :=
  fun he => (searchNode_walk (noint_walk ctx hc) rem a st trivial trivial).allowed _ he rfl

theorem runWorker_no_interrupt (ctx : Ctx) (root : State) (hc : ctx.cancelAt = Option.none) (sd : Nat) (best : Option Move) (tt : TT.Access)
    (rng : Rng.ChaCha8) (polls : Nat) (stw : St) :
    runWorker ctx root sd best tt rng polls ≠ (.error .interrupt, stw) := by
  intro h
  have := searchNode_not_interrupted ctx hc sd (rootArgs root sd best) { tt := tt, rng := rng, nodes := 0, polls := polls }
  rw [← runWorker_eq, h] at this
  exact this rfl

/-! ## the iteration level: after an interrupt nothing more is run -/

theorem iterStep_interrupted (ctx : Ctx) (root : State) (rootHash : UInt64) (workers depth : Nat) (st : IterSt)
    (hp : (workersOut ctx root workers depth st).panic = Option.none)
    (hi : (workersOut ctx root workers depth st).interrupted = true) :
    (iterStep ctx root rootHash workers depth st).finished = true ∧
    (iterStep ctx root rootHash workers depth st).panic = st.panic ∧
    (iterStep ctx root rootHash workers depth st).tt = (workersOut ctx root workers depth st).tt ∧
    (iterStep ctx root rootHash workers depth st).nodes = st.nodes ∧
    (iterStep ctx root rootHash workers depth st).bestMv = st.bestMv := by
  rw [iterStep_interrupt hp hi]
  exact ⟨rfl, rfl, rfl, rfl, rfl⟩

/-- the body of `iterLoop`: the boundary read of the flag, then the iteration unless the read ended the loop.  It is declared
in the namespace of the translated functions because its only user, `SearchIterBridge.lean`, states the translated loop body
against it. -/
def _root_.Wee.GenFns.iterBody (ctx : Ctx) (root : Wee.State) (rootHash : UInt64) (workers depth : Nat) (st : IterSt) : IterSt :=
  if (boundaryPoll ctx depth st).finished then boundaryPoll ctx depth st
  else iterStep ctx root rootHash workers depth (boundaryPoll ctx depth st)

/-- the loop from a state that is not finished: the body, then the loop -/
theorem _root_.Wee.GenFns.iterLoop_succ_body (ctx : Ctx) (root : Wee.State) (rootHash : UInt64) (workersOf : Nat → Nat) (n depth : Nat) (st : IterSt)
    (h : st.finished = false) :
    iterLoop ctx root rootHash workersOf (n + 1) depth st
      = iterLoop ctx root rootHash workersOf n (depth + 1) (GenFns.iterBody ctx root rootHash (workersOf depth) depth st) := by
  rw [iterLoop_succ, if_neg (by rw [h]; exact Bool.false_ne_true)]
  unfold GenFns.iterBody
  by_cases hb : (boundaryPoll ctx depth st).finished = true
  · rw [if_pos hb, if_pos hb, iterLoop_finished _ _ _ _ _ _ _ hb]
  · rw [if_neg hb, if_neg hb]

/-- an interrupted iteration is the last one (the workers run on the state after the boundary read of the flag, which
did not end the loop) -/
theorem iterLoop_interrupted (ctx : Ctx) (root : State) (rootHash : UInt64) (workersOf : Nat → Nat)
    (n depth : Nat) (st : IterSt) (hf : st.finished = false) (hb : (boundaryPoll ctx depth st).finished = false)
    (hp : (workersOut ctx root (workersOf depth) depth (boundaryPoll ctx depth st)).panic = Option.none)
    (hi : (workersOut ctx root (workersOf depth) depth (boundaryPoll ctx depth st)).interrupted = true) :
    iterLoop ctx root rootHash workersOf (n+1) depth st =
      iterStep ctx root rootHash (workersOf depth) depth (boundaryPoll ctx depth st) := by
  rw [iterLoop_succ, if_neg (by rw [hf]; decide), if_neg (by rw [hb]; decide)]
  exact iterLoop_finished _ _ _ _ _ _ _ (iterStep_interrupted ctx root rootHash _ depth _ hp hi).1

/-- a boundary read that says "cancelled" ends the loop at once: no further worker is run -/
theorem iterLoop_boundary_stop (ctx : Ctx) (root : State) (rootHash : UInt64) (workersOf : Nat → Nat)
    (n depth : Nat) (st : IterSt) (hf : st.finished = false) (hb : (boundaryPoll ctx depth st).finished = true) :
    iterLoop ctx root rootHash workersOf (n+1) depth st = boundaryPoll ctx depth st := by
  rw [iterLoop_succ, if_neg (by rw [hf]; decide), if_pos hb]

end Wee.SearchCtl
