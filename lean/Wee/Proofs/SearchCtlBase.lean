import Wee.Model.Search
import Wee.Proofs.TTLemmas
/-!
# Control-flow lemmas for the search model (C04, C17, C19): the cut, the run equations, `Walk`

`searchNode` is cut into `nodeM` (entry: node count, poll, history, table probe) followed by `leafM` (quiescence) or
`expandM` (move loop); the cut is definitional (`searchNode_zero`, `searchNode_succ`).  Every piece gets a *flat* run
equation that says what `(x.run.run st)` is, as plain `match`/`if` over the result pairs, so that no proof above opens a
`do` block.  `RngOnly`: the move ordering only advances the generator.  `Walk` bundles the hypotheses of the generic
induction over the whole recursion: an invariant `I` over the worker state (with a second invariant `J` for the state at an
interrupt), a node predicate `N` (closed under the child construction) and a set `Allowed` of outcomes that may be thrown;
the induction itself is `Env.searchNodeE_walk` (`WalkE.lean`, for the worker in an environment) and its instance
`searchNode_walk` (`SearchCtl.lean`); `QRule`, `quiesce_rule` are the same for `quiescence_search`, with a contract for the
values (`QWalk`, `quiesce_walk`: without).
-/
namespace Wee.SearchCtl
open Wee Wee.Search

/-! ## the monad, unfolded -/

theorem bind_run {α β : Type} (x : M α) (f : α → M β) (st : St) :
    (x >>= f).run.run st = (match x.run.run st with
      | (.ok v, s) => (f v).run.run s
      | (.error e, s) => (.error e, s)) := by
  show (match x.run.run st with | (r, s) => (ExceptT.bindCont f r).run s) = _
  rcases x.run.run st with ⟨r, s⟩
  cases r <;> rfl

theorem get_bind_run {α : Type} (f : St → M α) (st : St) :
    ((get : M St) >>= f).run.run st = (f st).run.run st := rfl

theorem set_bind_run {α : Type} (s' : St) (f : PUnit → M α) (st : St) :
    ((set s' : M PUnit) >>= f).run.run st = (f ⟨⟩).run.run s' := rfl

theorem modify_bind_run {α : Type} (g : St → St) (f : PUnit → M α) (st : St) :
    (modify g >>= f).run.run st = (f ⟨⟩).run.run (g st) := rfl

/-! ## count and poll (`tick`) and the table probe (`probe`) as functions -/

/-- the entry of a node: count it, poll the flag when the count is a multiple of `pollInterval` -/
def tick (ctx : Ctx) (st : St) : Except Stop Unit × St :=
  if (st.nodes + 1) % Gen.pollInterval == 0 then
    if (match ctx.cancelAt with | some k => decide (st.polls ≥ k) | Option.none => false)
    then (.error .interrupt, { st with nodes := st.nodes + 1, polls := st.polls + 1 })
    else (.ok (), { st with nodes := st.nodes + 1, polls := st.polls + 1 })
  else (.ok (), { st with nodes := st.nodes + 1 })

/-- the flag answers "cancelled" to this poll -/
def cancelledAt (ctx : Ctx) (st : St) : Bool :=
  match ctx.cancelAt with | some k => decide (st.polls ≥ k) | Option.none => false

theorem tick_eq (ctx : Ctx) (st : St) :
    tick ctx st =
      if (st.nodes + 1) % Gen.pollInterval = 0 then
        if cancelledAt ctx st = true
        then (.error .interrupt, { st with nodes := st.nodes + 1, polls := st.polls + 1 })
        else (.ok (), { st with nodes := st.nodes + 1, polls := st.polls + 1 })
      else (.ok (), { st with nodes := st.nodes + 1 }) := by
  unfold tick cancelledAt
  by_cases h : (st.nodes + 1) % Gen.pollInterval = 0
  · (simp only [h, beq_self_eq_true, ↓reduceIte]) <;> rfl
  · simp only [h, ↓reduceIte, beq_iff_eq]

theorem tick_state (ctx : Ctx) (st : St) :
    ∃ polls, (tick ctx st).2 = { st with nodes := st.nodes + 1, polls := polls } := by
  rw [tick_eq]
  by_cases h1 : (st.nodes + 1) % Gen.pollInterval = 0
  · rw [if_pos h1]
    by_cases h2 : cancelledAt ctx st = true
    · rw [if_pos h2]; exact ⟨_, rfl⟩
    · rw [if_neg h2]; exact ⟨_, rfl⟩
  · rw [if_neg h1]; exact ⟨_, rfl⟩

inductive Probe | cut (v : Eval) | window (alpha beta : Eval) | underflow

/-- the table probe of `analyze_recursive` on the result of `find` -/
def probe (a : NodeArgs) : Option TT.Entry → Probe
  | Option.none => .window a.alpha a.beta
  | some e =>
    if a.maxDepth < a.curDepth ∨ e.maxDepth < e.depth then .underflow
    else if e.maxDepth - e.depth ≥ a.maxDepth - a.curDepth then
      if e.kind == kindExact then .cut e.eval
      else if e.kind == kindUpper then
        (if a.alpha ≥ min a.beta e.eval then .cut e.eval else .window a.alpha (min a.beta e.eval))
      else (if max a.alpha e.eval ≥ a.beta then .cut e.eval else .window (max a.alpha e.eval) a.beta)
    else .window a.alpha a.beta

theorem probe_spec (a : NodeArgs) (o : Option TT.Entry) :
    match probe a o with
    | .underflow => ∃ e, o = some e ∧ (a.maxDepth < a.curDepth ∨ e.maxDepth < e.depth)
    | .cut v => ∃ e, o = some e ∧ v = e.eval ∧ a.maxDepth - a.curDepth ≤ e.maxDepth - e.depth ∧
        (e.kind = kindExact ∨ (e.kind = kindUpper ∧ min a.beta e.eval ≤ a.alpha) ∨
          (e.kind ≠ kindExact ∧ e.kind ≠ kindUpper ∧ a.beta ≤ max a.alpha e.eval))
    | .window alpha beta =>
      (alpha = a.alpha ∧ beta = a.beta ∧ ∀ e, o = some e → e.maxDepth - e.depth < a.maxDepth - a.curDepth) ∨
      ∃ e, o = some e ∧ a.maxDepth - a.curDepth ≤ e.maxDepth - e.depth ∧ e.kind ≠ kindExact ∧ alpha < beta ∧
        ((e.kind = kindUpper ∧ alpha = a.alpha ∧ beta = min a.beta e.eval) ∨
         (e.kind ≠ kindUpper ∧ alpha = max a.alpha e.eval ∧ beta = a.beta)) := by
  cases o with
  | none => exact .inl ⟨rfl, rfl, fun _ h => nomatch h⟩
  | some e =>
    unfold probe
    dsimp only
    by_cases hu : a.maxDepth < a.curDepth ∨ e.maxDepth < e.depth
    · rw [if_pos hu]; exact ⟨e, rfl, hu⟩
    by_cases hd : e.maxDepth - e.depth ≥ a.maxDepth - a.curDepth
    · by_cases hx : (e.kind == kindExact) = true
      · rw [if_neg hu, if_pos hd, if_pos hx]; exact ⟨e, rfl, rfl, hd, .inl (beq_iff_eq.1 hx)⟩
      have hx' : e.kind ≠ kindExact := fun h => hx (beq_iff_eq.2 h)
      by_cases hk : (e.kind == kindUpper) = true
      · by_cases hc : a.alpha ≥ min a.beta e.eval
        · rw [if_neg hu, if_pos hd, if_neg hx, if_pos hk, if_pos hc]
          exact ⟨e, rfl, rfl, hd, .inr (.inl ⟨beq_iff_eq.1 hk, hc⟩)⟩
        · rw [if_neg hu, if_pos hd, if_neg hx, if_pos hk, if_neg hc]
          exact .inr ⟨e, rfl, hd, hx', Int.not_le.1 hc, .inl ⟨beq_iff_eq.1 hk, rfl, rfl⟩⟩
      · have hk' : e.kind ≠ kindUpper := fun h => hk (beq_iff_eq.2 h)
        by_cases hc : max a.alpha e.eval ≥ a.beta
        · rw [if_neg hu, if_pos hd, if_neg hx, if_neg hk, if_pos hc]
          exact ⟨e, rfl, rfl, hd, .inr (.inr ⟨hx', hk', hc⟩)⟩
        · rw [if_neg hu, if_pos hd, if_neg hx, if_neg hk, if_neg hc]
          exact .inr ⟨e, rfl, hd, hx', Int.not_le.1 hc, .inr ⟨hk', rfl, rfl⟩⟩
    · rw [if_neg hu, if_neg hd]
      exact .inl ⟨rfl, rfl, fun e' he' => by cases he'; omega⟩

/-! ## `searchNode` cut into `nodeM` / `leafM` / `expandM`; the flat run equations of the first two -/

/-- `searchNode` up to and including the table probe; `k` is the rest -/
def nodeM (ctx : Ctx) (a : NodeArgs) (k : Eval → Eval → M Eval) : M Eval := do
    modify fun st => { st with nodes := st.nodes + 1 }
    let st ← get
    if st.nodes % Gen.pollInterval == 0 then
      let cancelled := match ctx.cancelAt with | some k => decide (st.polls ≥ k) | Option.none => false
      set { st with polls := st.polls + 1 }
      if cancelled then throw .interrupt
    let hash := Wee.hash ctx.keys a.s
    if a.curDepth > 0 && ctx.history.contains hash then return 0
    let mut alpha := a.alpha
    let mut beta := a.beta
    match (← get).tt.find hash.toNat with
    | some e =>
      if a.maxDepth < a.curDepth ∨ e.maxDepth < e.depth then throw (.panic "usize subtraction underflow")
      if e.maxDepth - e.depth ≥ a.maxDepth - a.curDepth then
        if e.kind == kindExact then return e.eval
        else if e.kind == kindUpper then beta := min beta e.eval
        else alpha := max alpha e.eval
        if alpha ≥ beta then return e.eval
    | Option.none => pure ()
    k alpha beta

/-- the remaining-depth-0 continuation: quiescence -/
def leafM (a : NodeArgs) (alpha beta : Eval) : M Eval :=
  match quiesce evaluate (quiesceFuel a.s) a.s a.curDepth alpha beta with
  | .ok v => pure v
  | .error e => throw e

/-- the ordering key of `analyze_recursive`, under a name: `expandM` and `sort_rngOnly` spell the expression out, so only
`jitterKey_rngOnly` speaks of it -/
def jitterKey (s : State) (mv : Move) : M Eval := do
  let j ← jitter
  pure (estimate s mv + j)

/-- the remaining-depth-`rem'+1` continuation: sort, loop over the moves, store -/
def expandM (ctx : Ctx) (child : NodeArgs → M Eval) (a : NodeArgs) (hash : UInt64) (alpha beta : Eval) : M Eval := do
  match pseudoLegalMoves a.s with
  | Option.none => throw (.panic "move generation: Square::offset(..).unwrap()")
  | some pseudo =>
    let sorted ← sortByCachedKey pseudo fun mv => do
      let j ← jitter
      pure (estimate a.s mv + j)
    let buffer := match a.prioritized with | some m => sorted ++ [m] | Option.none => sorted
    let before := (← get).nodes
    let a' := { a with alpha := alpha, beta := beta }
    match ← childLoop ctx child a' hash buffer.reverse alpha Option.none kindUpper with
    | .error b => return b
    | .ok (alpha', best, kind) =>
      if (← get).nodes == before then
        match evaluate a.s a.s.turn a.curDepth with
        | some e => return e
        | Option.none => throw (.panic "evaluate: no king")
      match best with
      | some m =>
        let e : TT.Entry := { kind := kind, mv := m.toNat, depth := a.curDepth, maxDepth := a.maxDepth, eval := alpha' }
        modify fun st => { st with tt := st.tt.insert hash.toNat e }
      | Option.none => pure ()
      return alpha'

theorem searchNode_zero (ctx : Ctx) (a : NodeArgs) :
    searchNode ctx 0 a = nodeM ctx a (leafM a) := by rfl

/-- the tactic `rfl`, because the term `rfl` is slow to elaborate against the structural recursion -/
theorem searchNode_succ (ctx : Ctx) (rem : Nat) (a : NodeArgs) :
    searchNode ctx (rem+1) a = nodeM ctx a (expandM ctx (searchNode ctx rem) a (Wee.hash ctx.keys a.s)) := by rfl

/-- the continuation after the probe, for any remaining depth -/
def contM (ctx : Ctx) (rem : Nat) (a : NodeArgs) : Eval → Eval → M Eval :=
  match rem with
  | 0 => leafM a
  | rem' + 1 => expandM ctx (searchNode ctx rem') a (Wee.hash ctx.keys a.s)

theorem searchNode_eq (ctx : Ctx) (rem : Nat) (a : NodeArgs) :
    searchNode ctx rem a = nodeM ctx a (contM ctx rem a) := by
  cases rem <;> rfl

theorem nodeM_run (ctx : Ctx) (a : NodeArgs) (k : Eval → Eval → M Eval) (st : St) :
    (nodeM ctx a k).run.run st =
      match tick ctx st with
      | (.error e, st1) => (.error e, st1)
      | (.ok _, st1) =>
        if a.curDepth > 0 && ctx.history.contains (Wee.hash ctx.keys a.s) then (.ok 0, st1) else
        match probe a (st1.tt.find (Wee.hash ctx.keys a.s).toNat) with
        | .underflow => (.error (.panic "usize subtraction underflow"), st1)
        | .cut v => (.ok v, st1)
        | .window alpha beta => (k alpha beta).run.run st1 := by
  unfold nodeM
  rw [modify_bind_run, get_bind_run]
  extract_lets hash alpha beta main rest cancelled
  -- `rest` is the body after the poll: history test and table probe, from any state
  have hrest : ∀ st1 : St, (rest ()).run.run st1 =
      if a.curDepth > 0 && ctx.history.contains (Wee.hash ctx.keys a.s) then (.ok 0, st1) else
        match probe a (st1.tt.find (Wee.hash ctx.keys a.s).toNat) with
        | .underflow => (.error (.panic "usize subtraction underflow"), st1)
        | .cut v => (.ok v, st1)
        | .window alpha beta => (k alpha beta).run.run st1 := by
    intro st1
    simp only [rest, hash, alpha, beta, main]
    by_cases hc : (decide (a.curDepth > 0) && ctx.history.contains (Wee.hash ctx.keys a.s)) = true
    · simp only [if_pos hc]; rfl
    · simp only [if_neg hc]
      rw [get_bind_run]
      cases st1.tt.find (Wee.hash ctx.keys a.s).toNat with
      | none => rfl
      | some e =>
        simp only [probe]
        by_cases c1 : a.maxDepth < a.curDepth ∨ e.maxDepth < e.depth
        · simp only [if_pos c1]; rfl
        · simp only [if_neg c1]
          by_cases c2 : e.maxDepth - e.depth ≥ a.maxDepth - a.curDepth
          · simp only [if_pos c2]
            by_cases c3 : (e.kind == kindExact) = true
            · simp only [if_pos c3]; rfl
            · simp only [if_neg c3]
              by_cases c4 : (e.kind == kindUpper) = true
              · simp only [if_pos c4]
                by_cases c5 : a.alpha ≥ min a.beta e.eval
                · simp only [if_pos c5]; rfl
                · simp only [if_neg c5]
              · simp only [if_neg c4]
                by_cases c6 : max a.alpha e.eval ≥ a.beta
                · simp only [if_pos c6]; rfl
                · simp only [if_neg c6]
          · simp only [if_neg c2]
  rw [tick_eq]
  have hcan : cancelled = cancelledAt ctx st := rfl
  by_cases h1 : (st.nodes + 1) % Gen.pollInterval = 0
  · have h1' : ((st.nodes + 1) % Gen.pollInterval == 0) = true := by rw [h1]; rfl
    simp only [if_pos h1, if_pos h1']
    rw [set_bind_run, hcan]
    by_cases h2 : cancelledAt ctx st = true
    · simp only [if_pos h2]; rfl
    · simp only [if_neg h2]; exact hrest _
  · have h1' : ¬ ((st.nodes + 1) % Gen.pollInterval == 0) = true := by simpa using h1
    simp only [if_neg h1, if_neg h1']; exact hrest _

theorem leafM_run (a : NodeArgs) (alpha beta : Eval) (st : St) :
    (leafM a alpha beta).run.run st =
      (match quiesce evaluate (quiesceFuel a.s) a.s a.curDepth alpha beta with
       | .ok v => .ok v | .error e => .error e, st) := by
  unfold leafM
  cases quiesce evaluate (quiesceFuel a.s) a.s a.curDepth alpha beta <;> rfl

/-- a node below the root at a recorded position is counted, polls the flag if the count says so, and returns the draw
score: the table is neither read nor written, the generator not advanced, no child searched -/
theorem searchNode_recorded (ctx : Ctx) (rem : Nat) (a : NodeArgs) (st : St)
    (hd : a.curDepth > 0) (hh : ctx.history.contains (Wee.hash ctx.keys a.s) = true) :
    (searchNode ctx rem a).run.run st =
      if (st.nodes + 1) % Gen.pollInterval = 0 then
        if cancelledAt ctx st = true
        then (.error .interrupt, { st with nodes := st.nodes + 1, polls := st.polls + 1 })
        else (.ok 0, { st with nodes := st.nodes + 1, polls := st.polls + 1 })
      else (.ok 0, { st with nodes := st.nodes + 1 }) := by
  have hc : (decide (a.curDepth > 0) && ctx.history.contains (Wee.hash ctx.keys a.s)) = true := by
    rw [hh, Bool.and_true]; exact decide_eq_true hd
  rw [searchNode_eq, nodeM_run, tick_eq]
  by_cases h1 : (st.nodes + 1) % Gen.pollInterval = 0
  · rw [if_pos h1, if_pos h1]
    by_cases h2 : cancelledAt ctx st = true
    · rw [if_pos h2, if_pos h2]
    · rw [if_neg h2, if_neg h2]
      simp only [hc, ↓reduceIte]
  · rw [if_neg h1, if_neg h1]
    simp only [hc, ↓reduceIte]

/-! ## generator-only computations: `jitter`, the ordering key, the sort -/

theorem jitter_run (st : St) :
    jitter.run.run st =
      (.ok (Rng.genRangeI32 Gen.jitterLo Gen.jitterHi st.rng).1,
       { st with rng := (Rng.genRangeI32 Gen.jitterLo Gen.jitterHi st.rng).2 }) := by
  unfold jitter
  rw [get_bind_run]
  rcases Rng.genRangeI32 Gen.jitterLo Gen.jitterHi st.rng with ⟨v, r⟩
  rfl

/-- a computation that cannot fail, only touches the generator and returns a value satisfying `P` -/
def RngOnly {α : Type} (x : M α) (P : α → Prop) : Prop :=
  ∀ st, ∃ v r, x.run.run st = (.ok v, { st with rng := r }) ∧ P v

theorem RngOnly.pure {α : Type} {P : α → Prop} (v : α) (h : P v) : RngOnly (pure v : M α) P :=
  fun st => ⟨v, st.rng, rfl, h⟩

theorem RngOnly.bind {α β : Type} {x : M α} {f : α → M β} {P : α → Prop} {Q : β → Prop}
    (hx : RngOnly x P) (hf : ∀ v, P v → RngOnly (f v) Q) : RngOnly (x >>= f) Q := by
  intro st
  obtain ⟨v, r, h, hp⟩ := hx st
  obtain ⟨w, r', h', hq⟩ := hf v hp { st with rng := r }
  refine ⟨w, r', ?_, hq⟩
  rw [bind_run, h]
  exact h'

/-! ### the jitter `rng.gen_range(-10..=10)` stays in its range (so the `as i32` view of the translated code is exact) -/

open Wee.Rng in
theorem _root_.Wee.GenFns.genRange_loop_bound (low : Int) (range zone : UInt32) : ∀ (f : Nat) (r : ChaCha8),
    low ≤ (genRangeI32.loop low range zone f r).1 ∧ (genRangeI32.loop low range zone f r).1 ≤ low + (range.toNat - 1 : Nat) := by
  intro f
  induction f with
  | zero => intro r; rw [genRangeI32.loop]; constructor <;> simp <;> omega
  | succ f ih =>
    intro r
    rw [genRangeI32.loop]
    simp only []
    split
    · have hv := (nextU32 r).1.toNat_lt
      generalize (nextU32 r).1 = v at hv
      have h1 : (v.toUInt64 * range.toUInt64).toNat = v.toNat * range.toNat := by
        rw [UInt64.toNat_mul, UInt32.toNat_toUInt64, UInt32.toNat_toUInt64]
        have := range.toNat_lt
        apply Nat.mod_eq_of_lt
        calc v.toNat * range.toNat < 2^32 * 2^32 := Nat.mul_lt_mul'' hv this
          _ = 2^64 := by decide
      have h2 : ((v.toUInt64 * range.toUInt64) >>> 32).toUInt32.toNat = v.toNat * range.toNat / 2^32 := by
        rw [UInt64.toNat_toUInt32, UInt64.toNat_shiftRight, h1]
        have : (32 : UInt64).toNat % 64 = 32 := by decide
        rw [this, Nat.shiftRight_eq_div_pow]
        apply Nat.mod_eq_of_lt
        have := range.toNat_lt
        have h3 : v.toNat * range.toNat / 2^32 ≤ v.toNat := by
          apply Nat.div_le_of_le_mul
          rw [Nat.mul_comm]
          exact Nat.mul_le_mul_right _ (by omega)
        omega
      rw [h2]
      simp only []
      by_cases hz : range.toNat = 0
      · rw [hz]; simp
      · have : v.toNat * range.toNat / 2^32 < range.toNat := by
          apply Nat.div_lt_of_lt_mul
          exact Nat.mul_lt_mul_of_pos_right hv (by omega)
        constructor <;> omega
    · exact ih _

open Wee.Rng in
theorem _root_.Wee.GenFns.jitter_bound (r : ChaCha8) : -10 ≤ (genRangeI32 (-10) 10 r).1 ∧ (genRangeI32 (-10) 10 r).1 ≤ 10 := by
  unfold genRangeI32
  simp only []
  generalize ((10 - -10 + 1 : Int).toNat.toUInt32 <<< _ - 1 : UInt32) = zone
  have := GenFns.genRange_loop_bound (-10) ((10 - -10 + 1 : Int).toNat.toUInt32) zone 64 r
  have e : ((10 - -10 + 1 : Int).toNat.toUInt32).toNat = 21 := by decide
  rw [e] at this
  omega

/-! ### `jitter`, the key and the sort touch the generator only -/

theorem jitter_rngOnly : RngOnly jitter (fun _ => True) := fun st => ⟨_, _, jitter_run st, trivial⟩

theorem jitterKey_rngOnly (s : State) (mv : Move) : RngOnly (jitterKey s mv) (fun _ => True) := by
  unfold jitterKey
  exact jitter_rngOnly.bind (fun j _ => RngOnly.pure _ trivial)

theorem mapM_rngOnly {α β : Type} (f : α → M β) (g : β → α)
   (hg : ∀ x, RngOnly (f x) (fun y => g y = x)) :
    ∀ xs : List α, RngOnly (xs.mapM f) (fun ys => ys.map g = xs) := by
  intro xs
  induction xs with
  | nil => exact RngOnly.pure _ rfl
  | cons x xs ih =>
    rw [List.mapM_cons]
    refine (hg x).bind (fun y hy => ?_)
    refine ih.bind (fun ys hys => ?_)
    exact RngOnly.pure _ (by simp [hy, hys])

theorem sort_rngOnly (s : State) (xs : List Move) :
    RngOnly (sortByCachedKey xs fun mv => do let j ← jitter; pure (estimate s mv + j)) (fun ys => ys.Perm xs) := by
  unfold sortByCachedKey
  by_cases h : xs.length < 2
  · simp only [h, ↓reduceIte]
    exact RngOnly.pure _ (List.Perm.refl _)
  · simp only [h, ↓reduceIte]
    refine (mapM_rngOnly _ (·.2) (fun x => ?_) xs).bind (fun ys hys => ?_)
    · exact (jitter_rngOnly.bind (Q := fun _ => True) (fun j _ => RngOnly.pure _ trivial)).bind
        (fun k _ => RngOnly.pure _ rfl)
    · refine RngOnly.pure _ ?_
      rw [← hys]
      exact (List.mergeSort_perm _ _).map _

/-! ## the move loop and the expansion, flat -/

/-- the arguments of the recursive call for the successor `next` when the current best is `alpha` -/
def childArgs (a : NodeArgs) (next : State) (alpha : Eval) : NodeArgs :=
  { s := next
    maxDepth := a.maxDepth + (if a.curExt < Gen.extensionCap then extensionOf a.s else 0)
    curDepth := a.curDepth + 1 + (if a.curExt < Gen.extensionCap then extensionOf a.s else 0)
    curExt := a.curExt + (if a.curExt < Gen.extensionCap then extensionOf a.s else 0)
    alpha := -a.beta, beta := -alpha, prioritized := Option.none }

/-- the entry written by node `a` for move `m` -/
def entryOf (a : NodeArgs) (kind : Nat) (m : Move) (ev : Eval) : TT.Entry :=
  { kind := kind, mv := m.toNat, depth := a.curDepth, maxDepth := a.maxDepth, eval := ev }

def _root_.Wee.Search.St.ctlInsert (st : St) (k : Nat) (e : TT.Entry) : St := { st with tt := st.tt.insert k e }

theorem childLoop_nil_run (ctx : Ctx) (child : NodeArgs → M Eval) (a : NodeArgs) (hash : UInt64)
    (alpha : Eval) (best : Option Move) (kind : Nat) (st : St) :
    (childLoop ctx child a hash [] alpha best kind).run.run st = (.ok (.ok (alpha, best, kind)), st) := by
  rw [childLoop]; rfl

theorem childLoop_cons_run (ctx : Ctx) (child : NodeArgs → M Eval) (a : NodeArgs) (hash : UInt64)
    (mv : Move) (rest : List Move) (alpha : Eval) (best : Option Move) (kind : Nat) (st : St) :
    (childLoop ctx child a hash (mv :: rest) alpha best kind).run.run st =
      match tryAsLegal a.s mv with
      | Option.none => (.error (.panic "try_as_legal_move: by_performing_move(..).unwrap()"), st)
      | some Option.none => (childLoop ctx child a hash rest alpha best kind).run.run st
      | some (some (m, next)) =>
        match (child (childArgs a next alpha)).run.run st with
        | (.error e, st') => (.error e, st')
        | (.ok v, st') =>
          if -v ≥ a.beta then (.ok (.error a.beta), st'.ctlInsert hash.toNat (entryOf a kindLower m a.beta))
          else if -v > alpha then (childLoop ctx child a hash rest (-v) (some m) kindExact).run.run st'
          else (childLoop ctx child a hash rest alpha best kind).run.run st' := by
  rw [childLoop]
  cases h : tryAsLegal a.s mv with
  | none => rfl
  | some o =>
    cases o with
    | none => rfl
    | some r =>
      obtain ⟨m, next⟩ := r
      simp only []
      rw [bind_run]
      unfold childArgs
      generalize StateT.run (ExceptT.run (child _)) st = out
      obtain ⟨r, st'⟩ := out
      cases r with
      | error e => rfl
      | ok v =>
        simp only []
        by_cases c1 : -v ≥ a.beta
        · simp only [c1, ↓reduceIte]; rfl
        · by_cases c2 : -v > alpha <;> simp only [c1, c2, ↓reduceIte]

/-- the move buffer: sorted pseudo-legal moves, then the prioritized move (searched first, from the back) -/
def bufferOf (prio : Option Move) (sorted : List Move) : List Move :=
  match prio with | some m => sorted ++ [m] | Option.none => sorted

theorem expandM_run (ctx : Ctx) (child : NodeArgs → M Eval) (a : NodeArgs) (hash : UInt64) (alpha beta : Eval)
    (st : St) :
    (expandM ctx child a hash alpha beta).run.run st =
      match pseudoLegalMoves a.s with
      | Option.none => (.error (.panic "move generation: Square::offset(..).unwrap()"), st)
      | some pseudo =>
        match (sortByCachedKey pseudo fun mv => do let j ← jitter; pure (estimate a.s mv + j)).run.run st with
        | (.error e, st1) => (.error e, st1)
        | (.ok sorted, st1) =>
          match (childLoop ctx child { a with alpha := alpha, beta := beta } hash
                  (bufferOf a.prioritized sorted).reverse alpha Option.none kindUpper).run.run st1 with
          | (.error e, st2) => (.error e, st2)
          | (.ok (.error b), st2) => (.ok b, st2)
          | (.ok (.ok (alpha', best, kind)), st2) =>
            if st2.nodes == st1.nodes then
              (match evaluate a.s a.s.turn a.curDepth with
               | some e => (.ok e, st2)
               | Option.none => (.error (.panic "evaluate: no king"), st2))
            else match best with
              | some m => (.ok alpha', st2.ctlInsert hash.toNat (entryOf a kind m alpha'))
              | Option.none => (.ok alpha', st2) := by
  unfold expandM
  cases hp : pseudoLegalMoves a.s with
  | none => rfl
  | some pseudo =>
    simp only []
    rw [bind_run]
    generalize StateT.run (ExceptT.run (sortByCachedKey pseudo _)) st = out1
    obtain ⟨r1, st1⟩ := out1
    cases r1 with
    | error e => rfl
    | ok sorted =>
      simp only []
      rw [get_bind_run, bind_run]
      unfold bufferOf
      generalize StateT.run (ExceptT.run (childLoop ctx child _ hash _ alpha Option.none kindUpper)) st1 = out2
      obtain ⟨r2, st2⟩ := out2
      cases r2 with
      | error e => rfl
      | ok x =>
        cases x with
        | error b => rfl
        | ok y =>
          obtain ⟨alpha', best, kind⟩ := y
          simp only []
          rw [get_bind_run]
          by_cases hn : (st2.nodes == st1.nodes) = true
          · simp only [hn, ↓reduceIte]
            cases evaluate a.s a.s.turn a.curDepth <;> rfl
          · simp only [hn]
            cases best <;> rfl

/-! ## quiescence: generic induction -/

/-- the errors-only bundle, for `quiesce_walk`: which errors a call of `quiescence_search` may end in, without a contract for
its value; `F fuel s` is the precondition of a call (`QRule` below is the bundle with a contract) -/
structure QWalk (ev : State → Color → Nat → Option Eval) (F : Nat → State → Prop) (Allowed : Stop → Prop) : Prop where
  fuel0 : ∀ s, F 0 s →
    Allowed (.panic "quiescence fuel exhausted (cannot happen: each capture removes a piece)")
  gen : ∀ fuel s, F (fuel+1) s → legalMoves? s = Option.none → Allowed (.panic "move generation")
  eval : ∀ fuel s d, F (fuel+1) s → ev s s.turn d = Option.none → Allowed (.panic "evaluate: no king")
  capture : ∀ fuel s ms r, F (fuel+1) s → legalMoves? s = some ms → r ∈ ms → Move.isCapture r.1 = true → F fuel r.2

/-- what a call of `quiescence_search` ends in: an allowed error, or a value within the contract -/
def QPost (Allowed : Stop → Prop) (Q : Eval → Prop) : Except Stop Eval → Prop
  | .ok v => Q v
  | .error e => Allowed e

/-- hypotheses of the induction over `quiescence_search` with a contract for the values: `F fuel s d α β` is the precondition
of a call, `Q s d α β v` the contract of its value `v`, `I s d α β a` the invariant of the running `alpha` of its capture
loop.  `static`: no move, or no capture; `standPat`: the static value cuts off, or starts the loop; `child`, `capture`: before
and after the call for a capture, which cuts off or moves the running `alpha`; `done`: the end of the loop. -/
structure QRule (ev : State → Color → Nat → Option Eval) (F : Nat → State → Nat → Eval → Eval → Prop)
    (Allowed : Stop → Prop) (Q I : State → Nat → Eval → Eval → Eval → Prop) : Prop where
  fuel0 : ∀ {s d α β}, F 0 s d α β →
    Allowed (.panic "quiescence fuel exhausted (cannot happen: each capture removes a piece)")
  gen : ∀ {fuel s d α β}, F (fuel+1) s d α β → legalMoves? s = Option.none → Allowed (.panic "move generation")
  eval : ∀ {fuel s d α β}, F (fuel+1) s d α β → ev s s.turn d = Option.none → Allowed (.panic "evaluate: no king")
  static : ∀ {fuel s d α β ms e}, F (fuel+1) s d α β → legalMoves? s = some ms → ev s s.turn d = some e →
    (ms.isEmpty = true ∨ (ms.all fun r => !Move.isCapture r.1) = true) → Q s d α β e
  standPat : ∀ {fuel s d α β ms e}, F (fuel+1) s d α β → legalMoves? s = some ms → ev s s.turn d = some e →
    ¬ ms.isEmpty = true → (e ≥ β → Q s d α β β) ∧ (¬ e ≥ β → I s d α β (if α < e then e else α))
  child : ∀ {fuel s d α β ms a r}, F (fuel+1) s d α β → legalMoves? s = some ms → I s d α β a → r ∈ ms →
    Move.isCapture r.1 = true → F fuel r.2 (d + 1) (-β) (-a)
  capture : ∀ {fuel s d α β ms a r v}, F (fuel+1) s d α β → legalMoves? s = some ms → I s d α β a → r ∈ ms →
    Q r.2 (d + 1) (-β) (-a) v → (-v ≥ β → Q s d α β β) ∧ (¬ -v ≥ β → I s d α β (if -v > a then -v else a))
  done : ∀ {fuel s d α β a}, F (fuel+1) s d α β → I s d α β a → Q s d α β a

section qrule
variable {ev : State → Color → Nat → Option Eval} {F : Nat → State → Nat → Eval → Eval → Prop} {Allowed : Stop → Prop}
  {Q I : State → Nat → Eval → Eval → Eval → Prop} (W : QRule ev F Allowed Q I)
include W

theorem quiesce_loop_rule (fuel : Nat)
    (ih : ∀ s d α β, F fuel s d α β → QPost Allowed (Q s d α β) (quiesce ev fuel s d α β))
    {s : State} {d : Nat} {α β : Eval} {ms : List (Move × State)} (hF : F (fuel+1) s d α β)
    (hg : legalMoves? s = some ms) :
    ∀ (l : List (Move × State)), (∀ r ∈ l, r ∈ ms) → ∀ a, I s d α β a →
      QPost Allowed (Q s d α β) (quiesce.loop ev fuel d β l a) := by
  intro l
  induction l with
  | nil => intro _ a ha; rw [quiesce.loop.eq_1]; exact W.done hF ha
  | cons r rest ihl =>
    intro hl a ha
    have hrest : ∀ x ∈ rest, x ∈ ms := fun x hx => hl x (List.mem_cons_of_mem _ hx)
    rw [quiesce.loop.eq_2]
    by_cases hc : (!Move.isCapture r.1) = true
    · rw [if_pos hc]; exact ihl hrest a ha
    · rw [if_neg hc]
      have hr := hl r List.mem_cons_self
      have hchild := ih r.2 (d + 1) (-β) (-a) (W.child hF hg ha hr (by simpa using hc))
      cases hq : quiesce ev fuel r.2 (d + 1) (-β) (-a) with
      | error e => rw [hq] at hchild; exact hchild
      | ok v =>
        rw [hq] at hchild
        dsimp only
        by_cases c1 : -v ≥ β
        · rw [if_pos c1]; exact (W.capture hF hg ha hr hchild).1 c1
        · rw [if_neg c1]; exact ihl hrest _ ((W.capture hF hg ha hr hchild).2 c1)

/-- **the induction over `quiescence_search`**: every call from its precondition ends in an allowed error or a value
within the contract -/
theorem quiesce_rule : ∀ fuel s d α β, F fuel s d α β → QPost Allowed (Q s d α β) (quiesce ev fuel s d α β) := by
  intro fuel
  induction fuel with
  | zero => intro s d α β hF; rw [quiesce.eq_1]; exact W.fuel0 hF
  | succ fuel ih =>
    intro s d α β hF
    rw [quiesce.eq_2]
    cases hg : legalMoves? s with
    | none => exact W.gen hF hg
    | some ms =>
      dsimp only
      cases hev : ev s s.turn d with
      | none =>
        have := W.eval hF hev
        by_cases hemp : ms.isEmpty = true
        · rw [if_pos hemp]; exact this
        · rw [if_neg hemp]; exact this
      | some normal =>
        by_cases hemp : ms.isEmpty = true
        · rw [if_pos hemp]; exact W.static hF hg hev (.inl hemp)
        · rw [if_neg hemp]
          dsimp only
          by_cases hq : (ms.all fun r => !r.fst.isCapture) = true
          · rw [if_pos hq]; exact W.static hF hg hev (.inr hq)
          · rw [if_neg hq]
            by_cases hb : normal ≥ β
            · rw [if_pos hb]; exact (W.standPat hF hg hev hemp).1 hb
            · rw [if_neg hb]
              refine quiesce_loop_rule W fuel ih hF hg _ (fun r hr => ?_) _ ((W.standPat hF hg hev hemp).2 hb)
              by_cases hlen : ms.length < 2
              · rw [if_pos hlen] at hr; exact hr
              · rw [if_neg hlen] at hr
                obtain ⟨x, hx, rfl⟩ := List.mem_map.1 hr
                obtain ⟨y, hy, rfl⟩ := List.mem_map.1 ((List.mergeSort_perm _ _).mem_iff.1 hx)
                exact hy

theorem QRule.ok {fuel : Nat} {s : State} {d : Nat} {α β v : Eval} (hF : F fuel s d α β)
    (h : quiesce ev fuel s d α β = .ok v) : Q s d α β v := by
  have := quiesce_rule W fuel s d α β hF
  rwa [h] at this

end qrule

/-- the instance of `quiesce_rule` without a contract: the errors alone -/
theorem quiesce_walk {ev : State → Color → Nat → Option Eval} {F : Nat → State → Prop} {Allowed : Stop → Prop}
    (W : QWalk ev F Allowed) :
    ∀ fuel s d α β e, F fuel s → quiesce ev fuel s d α β = .error e → Allowed e :=
  fun fuel s d α β e hF h => by
    have := quiesce_rule (F := fun fuel s _ _ _ => F fuel s) (Q := fun _ _ _ _ _ => True) (I := fun _ _ _ _ _ => True)
      ⟨fun h => W.fuel0 _ h, fun h => W.gen _ _ h, fun h => W.eval _ _ _ h, fun _ _ _ _ => trivial,
        fun _ _ _ _ => ⟨fun _ => trivial, fun _ => trivial⟩, fun h hg _ hr hc => W.capture _ _ _ _ h hg hr hc,
        fun _ _ _ _ _ => ⟨fun _ => trivial, fun _ => trivial⟩, fun _ _ => trivial⟩ fuel s d α β hF
    rwa [h] at this

/-- on a position without legal moves quiescence returns the static evaluation -/
theorem quiesce_nil (ev : State → Color → Nat → Option Eval) (fuel : Nat) {s : State} (d : Nat) (α β : Eval)
    (hl : legalMoves? s = some []) :
    quiesce ev (fuel + 1) s d α β =
      match ev s s.turn d with
      | some e => .ok e
      | Option.none => .error (.panic "evaluate: no king") := by
  rw [quiesce.eq_2, hl]
  rfl

/-- `quiescence_search` has no way to return `SearchInterrupt` -/
theorem quiesce_error_panic (ev : State → Color → Nat → Option Eval) (fuel : Nat) (s : State) (d : Nat) (α β : Eval)
    (e : Stop) (h : quiesce ev fuel s d α β = .error e) : ∃ w, e = .panic w :=
  quiesce_walk (F := fun _ _ => True) (Allowed := fun e => ∃ w, e = .panic w)
    ⟨fun _ _ => ⟨_, rfl⟩, fun _ _ _ _ => ⟨_, rfl⟩, fun _ _ _ _ _ => ⟨_, rfl⟩, fun _ _ _ _ _ _ _ _ => trivial⟩
    fuel s d α β e trivial h

/-! ## the hypotheses of the generic induction over `searchNode` -/

/-- outcome predicate: `I` on normal return and at a panic, `J` at an interrupt, thrown values in `Allowed` -/
def Post {α : Type} (I J : St → Prop) (Allowed : Stop → Prop) : Except Stop α × St → Prop
  | (.ok _, st') => I st'
  | (.error .interrupt, st') => Allowed .interrupt ∧ J st'
  | (.error (.panic w), st') => Allowed (.panic w) ∧ I st'

theorem Post.same {α : Type} {I : St → Prop} {Allowed : Stop → Prop} {out : Except Stop α × St}
    (h : Post I I Allowed out) : I out.2 := by
  obtain ⟨r, st⟩ := out
  cases r with
  | ok v => exact h
  | error e => cases e with
    | interrupt => exact h.2
    | panic w => exact h.2

theorem Post.allowed {α : Type} {I J : St → Prop} {Allowed : Stop → Prop} {out : Except Stop α × St}
    (h : Post I J Allowed out) : ∀ e, out.1 = .error e → Allowed e := by
  obtain ⟨r, st⟩ := out
  intro e he
  cases r with
  | ok v => cases he
  | error e' =>
    cases he
    cases e with
    | interrupt => exact h.1
    | panic w => exact h.1

/-- an invariant that does not look at the two counters survives the node entry, whatever it returns -/
theorem tick_post {I J : St → Prop} {Allowed : Stop → Prop} (ctx : Ctx) (hA : Allowed .interrupt) (hJ : ∀ st, I st → J st)
    (h : ∀ st polls, I st → I { st with nodes := st.nodes + 1, polls := polls }) (st : St) (hi : I st) :
    Post I J Allowed (tick ctx st) := by
  rw [tick_eq]
  split
  · split
    · exact ⟨hA, hJ _ (h st _ hi)⟩
    · exact h st _ hi
  · exact h st st.polls hi

/-- the node entry does not touch the table: a property of the table alone survives it, whatever it returns -/
theorem tick_table (ctx : Ctx) {P : TT.Access → Prop} {Allowed : Stop → Prop} (hA : Allowed .interrupt) (st : St)
    (h : P st.tt) : Post (fun st => P st.tt) (fun st => P st.tt) Allowed (tick ctx st) :=
  tick_post ctx hA (fun _ h => h) (fun _ _ h => h) st h

/-- where a move of the buffer comes from -/
def InBuffer (a : NodeArgs) (pseudo : List Move) (mv : Move) : Prop := mv ∈ pseudo ∨ a.prioritized = some mv

/-- the hypotheses of the generic induction over the search recursion -/
structure Walk (ctx : Ctx) (I J : St → Prop) (N : Nat → NodeArgs → Prop) (Allowed : Stop → Prop) : Prop where
  /-- counting the node / polling the flag -/
  tick : ∀ st, I st → Post I J Allowed (tick ctx st)
  /-- drawing from the generator -/
  rng : ∀ st r, I st → I { st with rng := r }
  /-- the usize subtractions of the table probe -/
  underflow : ∀ rem a st e, N rem a → I st → st.tt.find (Wee.hash ctx.keys a.s).toNat = some e →
    (a.maxDepth < a.curDepth ∨ e.maxDepth < e.depth) → Allowed (.panic "usize subtraction underflow")
  /-- quiescence at remaining depth 0 -/
  leaf : ∀ a alpha beta e, N 0 a → quiesce evaluate (quiesceFuel a.s) a.s a.curDepth alpha beta = .error e → Allowed e
  /-- pseudo-legal move generation -/
  pseudo : ∀ rem a, N (rem+1) a → pseudoLegalMoves a.s = Option.none →
    Allowed (.panic "move generation: Square::offset(..).unwrap()")
  /-- `try_as_legal_move` on a buffer move -/
  legal : ∀ rem a pseudo mv, N (rem+1) a → pseudoLegalMoves a.s = some pseudo → InBuffer a pseudo mv →
    tryAsLegal a.s mv = Option.none → Allowed (.panic "try_as_legal_move: by_performing_move(..).unwrap()")
  /-- `evaluate` of a node without legal moves -/
  eval : ∀ rem a, N (rem+1) a → evaluate a.s a.s.turn a.curDepth = Option.none → Allowed (.panic "evaluate: no king")
  /-- the node predicate does not look at the window -/
  window : ∀ rem a alpha beta, N rem a → N rem { a with alpha := alpha, beta := beta }
  /-- the node predicate passes to the children -/
  child : ∀ rem a pseudo mv m next alpha, N (rem+1) a → pseudoLegalMoves a.s = some pseudo → InBuffer a pseudo mv →
    tryAsLegal a.s mv = some (some (m, next)) → N rem (childArgs a next alpha)
  /-- the writes of a node that was not cut by the history -/
  insert : ∀ rem a pseudo mv m next kind ev st, N (rem+1) a → I st →
    ¬ (a.curDepth > 0 ∧ ctx.history.contains (Wee.hash ctx.keys a.s) = true) →
    pseudoLegalMoves a.s = some pseudo → InBuffer a pseudo mv → tryAsLegal a.s mv = some (some (m, next)) →
    I (st.ctlInsert (Wee.hash ctx.keys a.s).toNat (entryOf a kind m ev))

theorem mem_bufferOf {a : NodeArgs} {pseudo sorted : List Move} (hs : sorted.Perm pseudo) :
    ∀ mv ∈ (bufferOf a.prioritized sorted).reverse, InBuffer a pseudo mv := by
  intro mv hmv
  rw [List.mem_reverse] at hmv
  unfold bufferOf at hmv
  cases hpr : a.prioritized with
  | none => rw [hpr] at hmv; exact Or.inl (hs.mem_iff.1 hmv)
  | some m =>
    rw [hpr] at hmv
    simp only [List.mem_append, List.mem_singleton] at hmv
    rcases hmv with h | h
    · exact Or.inl (hs.mem_iff.1 h)
    · exact Or.inr (by rw [hpr, h])

end Wee.SearchCtl

namespace Wee.C06
open Wee Wee.Search

/-! ## the two readings of `SearchCtl.probe_spec` that the proofs about values use -/

/-- the table probe returns the stored value only from an entry searched at least as deep, and then the entry is
`Exact`, or an `UpperBound` at most `alpha`, or a lower bound at least `beta` -/
theorem probe_cut {a : NodeArgs} {o : Option TT.Entry} {v : Eval} (h : SearchCtl.probe a o = .cut v) :
    ∃ e, o = some e ∧ v = e.eval ∧ a.maxDepth - a.curDepth ≤ e.maxDepth - e.depth ∧
      (e.kind = kindExact ∨ (e.kind = kindUpper ∧ min a.beta e.eval ≤ a.alpha) ∨
        (e.kind ≠ kindExact ∧ e.kind ≠ kindUpper ∧ a.beta ≤ max a.alpha e.eval)) := by
  have := SearchCtl.probe_spec a o
  rw [h] at this
  exact this

/-- the window the search goes on with: the node's own, or tightened (and still open) by a bound searched at least as
deep -/
theorem probe_window {a : NodeArgs} {o : Option TT.Entry} {alpha beta : Eval}
    (h : SearchCtl.probe a o = .window alpha beta) :
    (alpha = a.alpha ∧ beta = a.beta ∧ ∀ e, o = some e → e.maxDepth - e.depth < a.maxDepth - a.curDepth) ∨
    ∃ e, o = some e ∧ a.maxDepth - a.curDepth ≤ e.maxDepth - e.depth ∧ e.kind ≠ kindExact ∧ alpha < beta ∧
      ((e.kind = kindUpper ∧ alpha = a.alpha ∧ beta = min a.beta e.eval) ∨
       (e.kind ≠ kindUpper ∧ alpha = max a.alpha e.eval ∧ beta = a.beta)) := by
  have := SearchCtl.probe_spec a o
  rw [h] at this
  exact this

end Wee.C06
