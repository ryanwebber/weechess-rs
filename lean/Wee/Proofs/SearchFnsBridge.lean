import Wee.Gen.SearchFns
import Wee.Proofs.EvalFnsBridge
import Wee.Proofs.TTFnsBridge
import Wee.Proofs.SearchCtl
import Wee.Proofs.StateOKLemmas
/-!
# Bridge, stage 4a: the search recursion translated from `searcher.rs` (`Wee/Gen/SearchFns.lean`) REFINES the
hand-written model (`quiesce`, `searchNode` of `Wee/Model/Search.lean`)

Form of the theorems ("when it returns", as for the evaluator in `EvalFnsBridge.lean`): whenever the generated function does not
panic (debug profile: checked arithmetic, `unwrap`s of the callees) and does not run out of the translation's fuel, the
model returns the same value / the same interrupt, in the corresponding final state of the cells.

The relations are `QRef` (the cell-free monad `QM`) and `SRef` with `CellsRep` (the cell monad `SM`); a proof runs both sides
step by step, with one rule per kind of step (`…_bind`).  The expansion of a node is in `SearchFnsBridge2.lean`.

**Why the same rule exists once per monad.**  "A panic or exhausted fuel promises nothing, the interrupt and a value come with
their model counterparts" is analysed in `QRef.elim`, `SRef.elim` (here) and again in `WhenReturns.andThen`, `iterPost_*`
(`SearchIterBridge.lean`); the run equations come as `sm_*` (here), `im_*` (`SearchIterBridge.lean`) and `iter5_*`
(`IterateFnsBridge.lean`), although `SM`, `IM` and `Iter5M` are all `CellM σ` below.  A rule stated once for `CellM σ` does not
apply: each translated monad is a definition of its own with its own `Monad` instance, so a goal `(x >>= f) c` of `SM` carries
another instance term than the rule, and the `match` inside each `bind` is a matcher constant of its declaration — two textually
equal `match`es of different declarations do not unify.  The per-monad equations hold by `rfl`.  What is shared is stated on OUTCOMES, not on `bind`: `WhenReturns` with the one sequencing rule
`WhenReturns.andThen`, reached through `im_andThen` and its likes.
-/
namespace Wee
namespace GenFns
open Wee.Search Wee.SearchCtl

/-! ## the `QM` monad (`Result<T, SearchInterrupt>` without cells) -/

/-- generated outcome `g` refines model outcome `m` (values related by `R`) -/
def QRef {α β : Type} (R : α → β → Prop) (g : QM α) (m : Except Stop β) : Prop :=
  match g with
  | .ok v => ∃ w, m = .ok w ∧ R v w
  | .error .interrupt => m = .error .interrupt
  | .error _ => True

/-- `Evaluation` (i32) denotes the model's `Eval` (Int) -/
def EvR (v : Evaluation) (w : Eval) : Prop := v.toInt = w

@[elab_as_elim]
theorem QRef.elim {α β : Type} {R : α → β → Prop} {g : QM α} {m : Except Stop β} (h : QRef R g m)
    {C : QM α → Except Stop β → Prop} (panic : ∀ m, C (.error .panic) m) (fuel : ∀ m, C (.error .out_of_fuel) m)
    (interrupt : C (.error .interrupt) (.error .interrupt)) (ok : ∀ v w, R v w → C (.ok v) (.ok w)) : C g m := by
  cases g with
  | error e =>
    cases e with
    | interrupt => have : m = .error .interrupt := h; subst this; exact interrupt
    | panic => exact panic m
    | out_of_fuel => exact fuel m
  | ok v =>
    obtain ⟨w, hw, hs⟩ := h
    subst hw
    exact ok v w hs

theorem qref_liftP_bind {α γ β : Type} {R : γ → β → Prop} {p : Panics α} {f : α → QM γ} {m : Except Stop β}
    (h : ∀ v, p = some v → QRef R (f v) m) : QRef R (QM.liftP p >>= f) m := by
  cases p with
  | none => exact True.intro
  | some v => exact h v rfl

theorem qref_pure {α β : Type} {R : α → β → Prop} {v : α} {w : β} (h : R v w) : QRef R (pure v : QM α) (.ok w) :=
  ⟨w, rfl, h⟩

theorem qref_bind {α γ β δ : Type} {R : γ → β → Prop} {S : α → δ → Prop} {x : QM α} {f : α → QM γ}
    {mx : Except Stop δ} {mf : δ → Except Stop β}
    (hx : QRef S x mx) (hf : ∀ v w, S v w → QRef R (f v) (mf w)) :
    QRef R (x >>= f) (match mx with | .ok w => mf w | .error e => .error e) := by
  cases x with
  | error e =>
    cases e with
    | interrupt => have : mx = .error .interrupt := hx; subst this; exact rfl
    | panic => exact True.intro
    | out_of_fuel => exact True.intro
  | ok v =>
    obtain ⟨w, hw, hs⟩ := hx
    subst hw
    exact hf v w hs

/-! ## Int32 order -/

theorem i32_le_iff (a b : Int32) : a ≤ b ↔ a.toInt ≤ b.toInt := Int32.le_iff_toInt_le
theorem i32_lt_iff (a b : Int32) : a < b ↔ a.toInt < b.toInt := Int32.lt_iff_toInt_lt

/-- a comparison of two evaluations in the code is the model's comparison of the integers they denote -/
theorem ev_ge {a b : Int32} {a' b' : Int} (ha : a.toInt = a') (hb : b.toInt = b') : decide (a ≥ b) = decide (a' ≥ b') := by
  subst ha hb; exact decide_eq_decide.2 Int32.le_iff_toInt_le
theorem ev_gt {a b : Int32} {a' b' : Int} (ha : a.toInt = a') (hb : b.toInt = b') : decide (a > b) = decide (a' > b') := by
  subst ha hb; exact decide_eq_decide.2 Int32.lt_iff_toInt_lt


/-! ## callees of `quiescence_search` -/

/-- `compute_legal_moves_into`, whatever the incoming buffer `b`: the `legal_moves` field is the model's `legalMoves?` -/
theorem legal_moves_into (s : Wee.State) (ok : StateOK s) (b buf : MoveGenerationBuffer)
    (h : MoveGenerator.compute_legal_moves_into (stateOf s) b = some buf) :
    ∃ ms, legalMoves? s = some ms ∧ buf.f_legal_moves = (ms.map resOf).toArray := by
  rw [MoveGenerator.compute_legal_moves_into_eq s b ok] at h
  cases hp : pseudoLegalMoves s with
  | none => rw [hp] at h; cases h
  | some ps =>
    rw [hp] at h
    simp only [Option.bind_some] at h
    cases hm : ps.mapM (tryAsLegal s) with
    | none => rw [hm] at h; cases h
    | some rs =>
      rw [hm] at h
      cases h
      exact ⟨rs.filterMap id, legalMoves?_eq_some.2 ⟨ps, hp, rs, hm, rfl⟩, rfl⟩

theorem evaluate_turn (s : Wee.State) (ok : StateOK s) (depth : UInt64) (hd : depth.toNat < 2 ^ 31) (r : Int32)
    (h : Evaluator.evaluate ⟨eval.EVALUATORS⟩ (stateOf s) (State.turn_to_move (stateOf s)) depth = some r) :
    Wee.evaluate s s.turn depth.toNat = some r.toInt :=
  Evaluator.evaluate_eq s ok s.turn depth hd r h

/-- `legal_moves.iter().all(|m| !m.0.is_capture())` -/
theorem iter_all_quiet (ms : List (Wee.Move × Wee.State)) (b : Bool)
    (h : SPrim.iter_all (fun (m : Move × State) => do let t ← Move.is_capture m.1; pure (!t)) (ms.map resOf) = some b) :
    b = ms.all fun r => !Wee.Move.isCapture r.1 := by
  induction ms with
  | nil => simp [SPrim.iter_all] at h; simp [h]
  | cons r rest ih =>
    simp only [List.map_cons, SPrim.iter_all] at h
    cases hc : Move.is_capture (resOf r).1 with
    | none => simp [hc] at h
    | some t =>
      have ht := Move.is_capture_some hc
      simp only [hc, some_bind', Option.pure_def] at h
      have e : (resOf r).1 = r.1 := rfl
      rw [e] at ht
      cases t with
      | true =>
        simp only [Bool.not_true] at h
        cases h
        simp [← ht]
      | false =>
        simp only [Bool.not_false] at h
        rw [ih h]
        simp [← ht]

/-! ## `sort_by_cached_key` in the `Panics` monad -/

theorem keyed_mapM {α β : Type} (f : β → α) (kf : α → Panics Int32) (km : β → Int)
    (hk : ∀ r k, kf (f r) = some k → k.toInt = km r) :
    ∀ (xs : List β) (keyed : List (Int32 × α)),
      (xs.map f).mapM (fun x => do let k ← kf x; pure (k, x)) = some keyed →
      ∃ L : List (Int32 × β), L.map (·.2) = xs ∧ keyed = L.map (fun p => (p.1, f p.2)) ∧ ∀ p ∈ L, p.1.toInt = km p.2 := by
  intro xs
  induction xs with
  | nil => intro keyed h; simp at h; exact ⟨[], rfl, by simp [h], by simp⟩
  | cons x xs ih =>
    intro keyed h
    rw [List.map_cons, List.mapM_cons] at h
    obtain ⟨kx, hkx, h⟩ := bind_eq_some.1 h
    obtain ⟨k, hx, hkx⟩ := bind_eq_some.1 hkx
    cases pure_eq_some.1 hkx
    obtain ⟨rest, hr, h⟩ := bind_eq_some.1 h
    cases pure_eq_some.1 h
    obtain ⟨L, h1, h2, h3⟩ := ih rest hr
    refine ⟨(k, x) :: L, by simp [h1], by simp [h2], ?_⟩
    intro p hp
    rcases List.mem_cons.1 hp with rfl | hp
    · exact hk x k hx
    · exact h3 p hp

/-- the generated sort (keys `i32`, computed by a closure that may panic) is the model's stable sort by the `Int` keys -/
theorem sort_cached_refines {α β : Type} (f : β → α) (xs : List β) (kf : α → Panics Int32) (km : β → Int)
    (hk : ∀ r k, kf (f r) = some k → k.toInt = km r) (ys : Array α)
    (h : SPrim.sort_by_cached_key (m := Option) (xs.map f).toArray kf = some ys) :
    ys = ((if xs.length < 2 then xs
           else ((xs.map fun r => (km r, r)).mergeSort fun a b => a.1 ≤ b.1).map (·.2)).map f).toArray := by
  unfold SPrim.sort_by_cached_key at h
  simp only [List.size_toArray, List.length_map] at h
  by_cases hl : xs.length < 2
  · simp only [hl, if_true] at h ⊢
    cases h; rfl
  · simp only [hl, if_false] at h ⊢
    obtain ⟨keyed, hm, h⟩ := bind_eq_some.1 h
    cases pure_eq_some.1 h
    obtain ⟨L, h1, h2, h3⟩ := keyed_mapM f kf km hk xs keyed hm
    have e1 : keyed.mergeSort (fun a b => decide (a.1 ≤ b.1))
        = (L.mergeSort (fun a b => decide (a.1 ≤ b.1))).map (fun p => (p.1, f p.2)) := by
      rw [h2]; symm; exact List.map_mergeSort (fun a _ b _ => rfl)
    have e2 : (xs.map fun r => (km r, r)).mergeSort (fun a b => decide (a.1 ≤ b.1))
        = (L.mergeSort (fun a b => decide (a.1 ≤ b.1))).map (fun p => (p.1.toInt, p.2)) := by
      have : xs.map (fun r => (km r, r)) = L.map (fun p => (p.1.toInt, p.2)) := by
        rw [← h1, List.map_map]
        apply List.map_congr_left
        intro p hp
        simp [h3 p hp]
      rw [this]; symm
      exact List.map_mergeSort (fun a _ b _ => by simp [Int32.le_iff_toInt_le])
    rw [e1, e2]
    simp [List.map_map, Function.comp_def]

/-! ## the capture loop of `quiescence_search` -/

/-- one iteration of the model's capture loop (`quiesce.loop`) as a step function -/
def qstepM (fuel depth : Nat) (beta alpha : Eval) (r : Wee.Move × Wee.State) : Except Stop (Early Eval Eval) :=
  if (!Wee.Move.isCapture r.1) = true then .ok (.cont alpha) else
  match quiesce evaluate fuel r.2 (depth + 1) (-beta) (-alpha) with
  | .error e => .error e
  | .ok v => if -v ≥ beta then .ok (.ret beta) else .ok (.cont (if -v > alpha then -v else alpha))

def EarlyR : Early Evaluation Evaluation → Early Eval Eval → Prop
  | .ret a, .ret b => a.toInt = b
  | .cont a, .cont b => a.toInt = b
  | _, _ => False

/-- the value a finished loop stands for: `Early.ret r => r`, `Early.cont alpha => alpha` -/
def EarlyV (e : Early Evaluation Evaluation) (w : Eval) : Prop :=
  (match e with | .ret a => a.toInt | .cont a => a.toInt) = w

theorem qloop_cons (fuel depth : Nat) (beta alpha : Eval) (r : Wee.Move × Wee.State) (rest : List (Wee.Move × Wee.State)) :
    quiesce.loop evaluate fuel depth beta (r :: rest) alpha =
      match qstepM fuel depth beta alpha r with
      | .error e => .error e
      | .ok (.ret b) => .ok b
      | .ok (.cont a) => quiesce.loop evaluate fuel depth beta rest a := by
  rw [quiesce.loop.eq_2]
  unfold qstepM
  by_cases hc : (!Wee.Move.isCapture r.1) = true
  · rw [if_pos hc, if_pos hc]
  · rw [if_neg hc, if_neg hc]
    cases quiesce evaluate fuel r.2 (depth + 1) (-beta) (-alpha) with
    | error e => rfl
    | ok v =>
      simp only []
      by_cases c1 : -v ≥ beta
      · rw [if_pos c1, if_pos c1]
      · rw [if_neg c1, if_neg c1]

theorem for_early_qloop (fuel depth : Nat) (beta : Eval)
    (body : Evaluation → (Move × State) → QM (Early Evaluation Evaluation)) :
    ∀ (l : List (Wee.Move × Wee.State)) (alpha : Int32),
      (∀ r ∈ l, ∀ a : Int32, QRef EarlyR (body a (resOf r)) (qstepM fuel depth beta a.toInt r)) →
      QRef EarlyV (SPrim.for_early (m := QM) body (l.map resOf) alpha)
        (quiesce.loop evaluate fuel depth beta l alpha.toInt) := by
  intro l
  induction l with
  | nil =>
    intro alpha _
    rw [quiesce.loop.eq_1]
    exact ⟨_, rfl, rfl⟩
  | cons r rest ih =>
    intro alpha hb
    have h1 := hb r List.mem_cons_self alpha
    have hrest := fun a => ih a (fun x hx => hb x (List.mem_cons_of_mem _ hx))
    rw [qloop_cons]
    simp only [List.map_cons, SPrim.for_early]
    generalize qstepM fuel depth beta alpha.toInt r = o at h1 ⊢
    generalize body alpha (resOf r) = g at h1 ⊢
    refine h1.elim (fun _ => True.intro) (fun _ => True.intro) rfl (fun e w hr => ?_)
    cases e with
    | ret a =>
      cases w with
      | ret b => exact ⟨_, rfl, hr⟩
      | cont b => exact hr.elim
    | cont a =>
      cases w with
      | ret b => exact hr.elim
      | cont b =>
        have : a.toInt = b := hr
        subst this
        exact hrest a

/-! ## `quiescence_search` -/

theorem qref_early_finish {x : QM (Early Evaluation Evaluation)} {m : Except Stop Eval} (h : QRef EarlyV x m) :
    QRef EvR (x >>= fun t => match t with | Early.ret r => pure r | Early.cont r => pure r) m := by
  cases x with
  | error e => cases e <;> exact h
  | ok t =>
    obtain ⟨w, hw, hv⟩ := h
    cases t with
    | ret a => exact ⟨w, hw, hv⟩
    | cont a => exact ⟨w, hw, hv⟩

theorem ite_pure_bind {α β : Type} (c : Prop) [Decidable c] (a b : α) (f : α → QM β) :
    ((if c then pure a else pure b : QM α) >>= f) = f (if c then a else b) := by
  split <;> rfl

/-- the ordering key of the capture sort: the generated closure computes the model's key -/
theorem qkey_spec (r : Wee.Move × Wee.State) (k : Int32)
    (h : (do
        let tmp7 ← Move.piece (resOf r).1
        let tmp8 ← ArrayMap.index evaluate_piece_worths.PIECE_PAWN_WORTHS (Index.from_Piece tmp7)
        let tmp9 ← Move.capture (resOf r).1
        let tmp11 ← SPrim.option_map (fun p => ArrayMap.index evaluate_piece_worths.PIECE_PAWN_WORTHS (Index.from_Piece p)) tmp9
        pure (f32.to_i32 (-F32.mul (F32.sub (tmp11.getD (f32.ofBits 0)) tmp8) (f32.ofBits 1092616192))) : Panics Int32) = some k) :
    k.toInt = F32.toI32 (-F32.mul (F32.sub (match Wee.Move.capture r.1 with | some p => pieceWorth p | none => 0)
        (pieceWorth (Wee.Move.piece r.1))) Gen.quiesceSortFactor) := by
  have e : (resOf r).1 = r.1 := rfl
  rw [e, Move.piece_eq] at h
  obtain ⟨p, hp, h⟩ := bind_eq_some.1 h
  rw [PIECE_PAWN_WORTHS_index, some_bind'] at h
  obtain ⟨c, hc, h⟩ := bind_eq_some.1 h
  have hcm := Move.capture_some _ _ hc
  have hpm : Wee.Move.piece r.1 = p := Wee.Move.piece_of_piece? hp
  have l0 : f32.ofBits 0 = 0 := by decide +kernel
  have l10 : f32.ofBits 1092616192 = Gen.quiesceSortFactor := by decide +kernel
  rw [hcm, hpm]
  cases c with
  | none =>
    cases pure_eq_some.1 h
    rw [f32.to_i32_toInt, l0, l10]; rfl
  | some cp =>
    rw [SPrim.option_map, PIECE_PAWN_WORTHS_index] at h
    cases pure_eq_some.1 h
    rw [f32.to_i32_toInt, l10]; rfl


/-- **`Searcher::quiescence_search` refines `quiesce`** (same fuel): whenever the translated function returns a value
(no debug-profile panic, fuel not exhausted), the model returns the same value. -/
theorem Searcher.quiescence_search_refines (fuel : Nat) : ∀ (s : Wee.State) (ok : StateOK s) (depth : UInt64)
    (hd : depth.toNat + fuel < 2 ^ 31) (alpha beta : Int32),
    QRef EvR (Searcher.quiescence_search fuel (stateOf s) ⟨eval.EVALUATORS⟩ depth alpha beta)
      (quiesce evaluate fuel s depth.toNat alpha.toInt beta.toInt) := by
  induction fuel with
  | zero => intro s ok depth hd alpha beta; exact True.intro
  | succ fuel ih =>
    intro s ok depth hd alpha beta
    rw [Searcher.quiescence_search, quiesce.eq_2]
    refine qref_liftP_bind (fun buf hbuf => ?_)
    obtain ⟨ms, hms, hlm⟩ := legal_moves_into s ok _ buf hbuf
    rw [hms]
    simp only [hlm]
    have hemp : (List.map resOf ms).toArray.isEmpty = ms.isEmpty := by cases ms <;> rfl
    rw [hemp]
    by_cases he : ms.isEmpty = true
    · rw [if_pos he, if_pos he]
      cases hv : Evaluator.evaluate ⟨eval.EVALUATORS⟩ (stateOf s) (State.turn_to_move (stateOf s)) depth with
      | none => exact True.intro
      | some r =>
        rw [evaluate_turn s ok depth (by omega) r hv]
        exact ⟨_, rfl, rfl⟩
    · rw [if_neg he, if_neg he]
      refine qref_liftP_bind (fun q hq => ?_)
      have hq' := iter_all_quiet ms q hq
      generalize hp : Evaluator.evaluate ⟨eval.EVALUATORS⟩ (stateOf s) (State.turn_to_move (stateOf s)) depth = p
      cases p with
      | none => exact True.intro
      | some normal =>
      have hn := evaluate_turn s ok depth (by omega) normal hp
      rw [hn, ← hq']
      show QRef EvR (if q = true then _ else _) (if q = true then _ else _)
      by_cases hquiet : q = true
      · rw [if_pos hquiet, if_pos hquiet]; exact ⟨_, rfl, rfl⟩
      · rw [if_neg hquiet, if_neg hquiet]
        rw [ev_ge (a := normal) (b := beta) rfl rfl]
        by_cases hcut : normal.toInt ≥ beta.toInt
        · rw [if_pos (decide_eq_true hcut), if_pos hcut]; exact ⟨_, rfl, rfl⟩
        · rw [if_neg (fun h => hcut (of_decide_eq_true h)), if_neg hcut]
          rw [ite_pure_bind]
          refine qref_liftP_bind (fun sorted hsorted => ?_)
          have hs := sort_cached_refines resOf ms _ _ (fun r k hk => qkey_spec r k hk) sorted hsorted
          rw [hs]
          have halpha : (if decide (alpha < normal) = true then normal else alpha).toInt
              = (if alpha.toInt < normal.toInt then normal.toInt else alpha.toInt) := by
            rw [ev_gt (a := normal) (b := alpha) rfl rfl]
            by_cases c : alpha.toInt < normal.toInt
            · rw [if_pos c, if_pos (decide_eq_true c)]
            · rw [if_neg c, if_neg (fun h => c (of_decide_eq_true h))]
          rw [← halpha]
          refine qref_early_finish (for_early_qloop fuel depth.toNat beta.toInt _ _ _ ?_)
          intro r hr a
          have hrm : r ∈ ms := by
            split at hr
            · exact hr
            · obtain ⟨x, hx, rfl⟩ := List.mem_map.1 hr
              obtain ⟨y, hy, hxy⟩ := List.mem_map.1 (List.mem_mergeSort.1 hx)
              rw [← hxy]; exact hy
          have okr := legalMoves?_stateOK s ok ms hms r hrm
          unfold qstepM
          refine qref_liftP_bind (fun t ht => ?_)
          have ht' := Move.is_capture_some ht
          have e : (resOf r).1 = r.1 := rfl
          rw [e] at ht'
          rw [← ht']
          by_cases hc : (!t) = true
          · rw [if_pos hc, if_pos hc]; exact ⟨_, rfl, rfl⟩
          · rw [if_neg hc, if_neg hc]
            refine qref_liftP_bind (fun d1 hd1 => ?_)
            have hd1' : d1.toNat = depth.toNat + 1 := UInt64.checked_add_eq_some.1 hd1
            refine qref_liftP_bind (fun nb hnb => ?_)
            refine qref_liftP_bind (fun na hna => ?_)
            have := ih r.2 okr d1 (by omega) nb na
            rw [hd1', Evaluation.neg_eq_some.1 hnb, Evaluation.neg_eq_some.1 hna] at this
            have e2 : (resOf r).2 = stateOf r.2 := rfl
            rw [e2]
            generalize Searcher.quiescence_search fuel (stateOf r.2) ⟨eval.EVALUATORS⟩ d1 nb na = g at this ⊢
            generalize quiesce evaluate fuel r.2 (depth.toNat + 1) (-beta.toInt) (-a.toInt) = m at this ⊢
            refine this.elim (fun _ => True.intro) (fun _ => True.intro) rfl (fun v w hvw => ?_)
            refine qref_liftP_bind (fun nv hnv => ?_)
            have hnv' := Evaluation.neg_eq_some.1 hnv
            have hvw' : v.toInt = w := hvw
            rw [hvw'] at hnv'
            show QRef EarlyR _ (if -w ≥ beta.toInt then _ else _)
            rw [ev_ge hnv' rfl, ev_gt hnv' rfl]
            by_cases c1 : -w ≥ beta.toInt
            · rw [if_pos (decide_eq_true c1), if_pos c1]; exact ⟨_, rfl, rfl⟩
            · rw [if_neg (fun h => c1 (of_decide_eq_true h)), if_neg c1]
              by_cases c2 : -w > a.toInt
              · rw [if_pos (decide_eq_true c2), if_pos c2]; exact ⟨_, rfl, hnv'⟩
              · rw [if_neg (fun h => c2 (of_decide_eq_true h)), if_neg c2]; exact ⟨_, rfl, rfl⟩

/-- the same, spelled out: a returned value is the model's value (the model's fuel is the translation's fuel) -/
theorem Searcher.quiescence_search_eq (fuel : Nat) (s : Wee.State) (ok : StateOK s) (depth : UInt64)
    (hd : depth.toNat + fuel < 2 ^ 31) (alpha beta v : Int32)
    (h : Searcher.quiescence_search fuel (stateOf s) ⟨eval.EVALUATORS⟩ depth alpha beta = .ok v) :
    quiesce evaluate fuel s depth.toNat alpha.toInt beta.toInt = .ok v.toInt := by
  have := Searcher.quiescence_search_refines fuel s ok depth hd alpha beta
  rw [h] at this
  obtain ⟨w, hw, hv⟩ := this
  rw [hw, ← (hv : v.toInt = w)]

/-- `quiescence_search` answers `Err(SearchInterrupt)` only if the model's `quiesce` does (it never does:
`SearchCtl.quiesce_error_panic`) -/
theorem Searcher.quiescence_search_no_interrupt (fuel : Nat) (s : Wee.State) (ok : StateOK s) (depth : UInt64)
    (hd : depth.toNat + fuel < 2 ^ 31) (alpha beta : Int32)
    (hm : quiesce evaluate fuel s depth.toNat alpha.toInt beta.toInt ≠ .error .interrupt) :
    Searcher.quiescence_search fuel (stateOf s) ⟨eval.EVALUATORS⟩ depth alpha beta ≠ .error .interrupt := by
  intro h
  have := Searcher.quiescence_search_refines fuel s ok depth hd alpha beta
  rw [h] at this
  exact hm this

/-! ## the `SM` monad (functions with cells) -/

/-- the shape shared by the cell monads `SM`, `IM` and `Iter5M`: a state that survives an error -/
def CellM (σ : Type) (α : Type) : Type := σ → Except SearchStop α × σ
instance (σ : Type) : Monad (CellM σ) where
  pure a := fun c => (.ok a, c)
  bind x f := fun c => match x c with
    | (.ok a, c') => f a c'
    | (.error e, c') => (.error e, c')
instance (σ : Type) : LawfulMonad (CellM σ) := LawfulMonad.mk'
  (id_map := by
    intro α x
    funext c
    show (match x c with | (.ok a, c') => (pure (id a) : CellM σ α) c' | (.error e, c') => (.error e, c')) = x c
    generalize x c = r
    obtain ⟨r, c'⟩ := r
    cases r <;> rfl)
  (pure_bind := by intro α β a f; rfl)
  (bind_assoc := by
    intro α β γ x f g
    funext c
    show (match (match x c with | (.ok a, c') => f a c' | (.error e, c') => (.error e, c')) with
          | (.ok b, c') => g b c' | (.error e, c') => (.error e, c'))
      = (match x c with | (.ok a, c') => (f a >>= g) c' | (.error e, c') => (.error e, c'))
    generalize x c = r
    obtain ⟨r, c'⟩ := r
    cases r <;> rfl)
instance : LawfulMonad SM := inferInstanceAs (LawfulMonad (CellM SearchCells))

theorem sm_bind {α β : Type} (x : SM α) (f : α → SM β) (c : SearchCells) :
    (x >>= f) c = match x c with | (.ok a, c') => f a c' | (.error e, c') => (.error e, c') := rfl
theorem sm_pure_bind {α β : Type} (a : α) (f : α → SM β) (c : SearchCells) : ((pure a : SM α) >>= f) c = f a c := rfl
theorem sm_pure {α : Type} (a : α) (c : SearchCells) : (pure a : SM α) c = (.ok a, c) := rfl
theorem sm_liftP_bind {α β : Type} (p : Panics α) (f : α → SM β) (c : SearchCells) :
    (SM.liftP p >>= f) c = match p with | none => (.error .panic, c) | some a => f a c := by cases p <;> rfl
theorem sm_liftP {α : Type} (p : Panics α) (c : SearchCells) :
    (SM.liftP p) c = match p with | none => (.error .panic, c) | some a => (.ok a, c) := by cases p <;> rfl
theorem sm_liftQ_bind {α β : Type} (q : QM α) (f : α → SM β) (c : SearchCells) :
    (SM.liftQ q >>= f) c = match q with | .error e => (.error e, c) | .ok a => f a c := by cases q <;> rfl
theorem sm_read_nodes_bind {β : Type} (f : UInt64 → SM β) (c : SearchCells) :
    (SM.read_nodes_searched >>= f) c = f c.nodes_searched c := rfl
theorem sm_write_nodes_bind {β : Type} (v : UInt64) (f : Unit → SM β) (c : SearchCells) :
    (SM.write_nodes_searched v >>= f) c = f () { c with nodes_searched := v } := rfl
theorem sm_read_tt_bind {β : Type} (f : TranspositionTableAccess → SM β) (c : SearchCells) :
    (SM.read_transpositions >>= f) c = f c.transpositions c := rfl
theorem sm_write_tt_bind {β : Type} (v : TranspositionTableAccess) (f : Unit → SM β) (c : SearchCells) :
    (SM.write_transpositions v >>= f) c = f () { c with transpositions := v } := rfl
theorem sm_is_cancelled_bind {β : Type} (t : CancellationToken) (f : Bool → SM β) (c : SearchCells) :
    (SPrim.is_cancelled t >>= f) c
      = f (match t.cancel_at with | some k => decide (c.polls ≥ k) | none => false) { c with polls := c.polls + 1 } := rfl
theorem sm_interrupt {α : Type} (c : SearchCells) : (SM.interrupt : SM α) c = (.error .interrupt, c) := rfl
theorem sm_out_of_fuel {α : Type} (c : SearchCells) : (SM.out_of_fuel : SM α) c = (.error .out_of_fuel, c) := rfl

/-- the cells represent the model's worker state -/
structure CellsRep (c : SearchCells) (st : St) : Prop where
  nodes : c.nodes_searched.toNat = st.nodes
  rng : c.rng = st.rng
  tt : accessOf c.transpositions = st.tt
  polls : c.polls = st.polls
  wf : AccessWF c.transpositions

/-- generated run `g` refines model run `m` -/
def SRef {α β : Type} (R : α → β → Prop) (g : Except SearchStop α × SearchCells) (m : Except Stop β × St) : Prop :=
  match g.1 with
  | .ok v => ∃ w, m.1 = .ok w ∧ R v w ∧ CellsRep g.2 m.2
  | .error .interrupt => m.1 = .error .interrupt ∧ CellsRep g.2 m.2
  | .error _ => True

theorem sref_panic {α β : Type} {R : α → β → Prop} {c : SearchCells} {m : Except Stop β × St} :
    SRef R (.error .panic, c) m := True.intro
theorem sref_fuel {α β : Type} {R : α → β → Prop} {c : SearchCells} {m : Except Stop β × St} :
    SRef R (.error .out_of_fuel, c) m := True.intro
theorem sref_ok {α β : Type} {R : α → β → Prop} {c : SearchCells} {st : St} {v : α} {w : β} (h : R v w) (hc : CellsRep c st) :
    SRef R (.ok v, c) (.ok w, st) := ⟨w, rfl, h, hc⟩
theorem sref_interrupt {α β : Type} {R : α → β → Prop} {c : SearchCells} {st : St} (hc : CellsRep c st) :
    SRef R (.error .interrupt, c) ((.error .interrupt : Except Stop β), st) := ⟨rfl, hc⟩

/-- case analysis on a refinement: a panic or exhausted fuel promises nothing, the interrupt and a value come with the
corresponding model outcome and related cells -/
@[elab_as_elim]
theorem SRef.elim {α δ : Type} {S : α → δ → Prop} {g : Except SearchStop α × SearchCells} {mo : Except Stop δ × St}
    (hx : SRef S g mo) {C : Except SearchStop α × SearchCells → Except Stop δ × St → Prop}
    (panic : ∀ c m, C (.error .panic, c) m) (fuel : ∀ c m, C (.error .out_of_fuel, c) m)
    (interrupt : ∀ c st, CellsRep c st → C (.error .interrupt, c) (.error .interrupt, st))
    (ok : ∀ v w c st, S v w → CellsRep c st → C (.ok v, c) (.ok w, st)) : C g mo := by
  obtain ⟨r, c⟩ := g
  obtain ⟨o, st⟩ := mo
  cases r with
  | error e =>
    cases e with
    | interrupt =>
      obtain ⟨h1, h2⟩ := hx
      simp only at h1 h2
      subst h1
      exact interrupt c st h2
    | panic => exact panic c _
    | out_of_fuel => exact fuel c _
  | ok v =>
    obtain ⟨w, h1, h2, h3⟩ := hx
    simp only at h1 h3
    subst h1
    exact ok v w c st h2 h3

/-! ### the generic rules: `bind`, `?` on a callee (`pure` is `sref_ok`); the special ones for the probe and the poll follow -/

theorem sref_bind {α γ β δ : Type} {R : γ → β → Prop} {S : α → δ → Prop} {x : SM α} {f : α → SM γ}
    {mx : M δ} {mf : δ → M β} {c : SearchCells} {st : St}
    (hx : SRef S (x c) (mx.run.run st))
    (hf : ∀ v w c1 st1, S v w → CellsRep c1 st1 → SRef R (f v c1) ((mf w).run.run st1)) :
    SRef R ((x >>= f) c) ((mx >>= mf).run.run st) := by
  rw [sm_bind, bind_run]
  generalize x c = g at hx ⊢
  generalize mx.run.run st = o at hx ⊢
  exact hx.elim (fun _ _ => True.intro) (fun _ _ => True.intro) (fun _ _ h => ⟨rfl, h⟩) hf

theorem sref_liftP_bind {α γ β : Type} {R : γ → β → Prop} {p : Panics α} {f : α → SM γ} {c : SearchCells}
    {m : Except Stop β × St} (h : ∀ v, p = some v → SRef R (f v c) m) : SRef R ((SM.liftP p >>= f) c) m := by
  rw [sm_liftP_bind]
  cases p with
  | none => exact True.intro
  | some v => exact h v rfl

/-! ## `analyze_recursive`: arguments, the node entry, the table probe -/

/-- the result of `analyze_recursive` (value and move buffer) denotes the model's value: the `i32` reads as it; the buffer, which
the model does not thread, is not constrained -/
def ResR (p : Evaluation × Array Move) (w : Eval) : Prop := p.1.toInt = w

/-- the model's `NodeArgs` of a call of `analyze_recursive`: the depths and the window read as numbers -/
def argsOf (s : Wee.State) (maxD curD curExt : UInt64) (alpha beta : Int32) (prio : Option Wee.Move) : NodeArgs :=
  { s := s, maxDepth := maxD.toNat, curDepth := curD.toNat, curExt := curExt.toNat, alpha := alpha.toInt, beta := beta.toInt,
    prioritized := prio }

theorem poll_eq (n1 : UInt64) (n : Nat) (h : n1.toNat = n) : (n1 % 10000 == 0) = (n % Gen.pollInterval == 0) := by
  rw [u64_beq_iff, UInt64.toNat_mod, h]
  show decide (n % 10000 = 0) = (n % 10000 == 0)
  by_cases hz : n % 10000 = 0 <;> simp [hz]

theorem u64_sub_some {a b r : UInt64} (h : UInt64.checked_sub a b = some r) : b.toNat ≤ a.toNat ∧ r.toNat = a.toNat - b.toNat := by
  have := UInt64.checked_sub_eq_some.1 h
  exact ⟨this ▸ Nat.le_add_left _ _, (Nat.sub_eq_of_eq_add this.symm).symm⟩

theorem ord_min_toInt (a b : Int32) : (Evaluation.ord_min a b).toInt = min a.toInt b.toInt := by
  unfold Evaluation.ord_min
  by_cases h : a ≤ b
  · rw [if_pos h]; have := Int32.le_iff_toInt_le.1 h; omega
  · rw [if_neg h]; have : ¬ a.toInt ≤ b.toInt := fun h' => h (Int32.le_iff_toInt_le.2 h'); omega

theorem ord_max_toInt (a b : Int32) : (Evaluation.ord_max a b).toInt = max a.toInt b.toInt := by
  unfold Evaluation.ord_max
  by_cases h : a ≤ b
  · rw [if_pos h]; have := Int32.le_iff_toInt_le.1 h; omega
  · rw [if_neg h]; have : ¬ a.toInt ≤ b.toInt := fun h' => h (Int32.le_iff_toInt_le.2 h'); omega

/-- what the generated table probe (an `Early` value) says, against the model's `probe` -/
def ProbeRel (g : Except SearchStop (Early (Evaluation × Array Move) (Evaluation × Evaluation)) × SearchCells)
    (c1 : SearchCells) (buf : Array Move) (pr : Probe) : Prop :=
  match g with
  | (.ok (Early.ret r), c') => c' = c1 ∧ r.2 = buf ∧ pr = .cut r.1.toInt
  | (.ok (Early.cont ls), c') => c' = c1 ∧ pr = .window ls.2.toInt ls.1.toInt
  | (.error .interrupt, _) => False
  | (.error _, _) => True

abbrev probeCont (pr : Probe) (st1 : St) (k : Eval → Eval → M Eval) : Except Stop Eval × St :=
  match pr with
  | .underflow => (.error (.panic "usize subtraction underflow"), st1)
  | .cut v => (.ok v, st1)
  | .window α β => (k α β).run.run st1

theorem sref_probe_bind {PB : SM (Early (Evaluation × Array Move) (Evaluation × Evaluation))}
    {K : Evaluation × Evaluation → SM (Evaluation × Array Move)} {k : Eval → Eval → M Eval}
    {c1 : SearchCells} {st1 : St} {pr : Probe} {buf : Array Move}
    (hP : ProbeRel (PB c1) c1 buf pr)
    (hK : ∀ α β : Int32, SRef ResR (K (β, α) c1) ((k α.toInt β.toInt).run.run st1))
    (hcr : CellsRep c1 st1) :
    SRef ResR ((PB >>= fun t => match t with | Early.ret r => pure r | Early.cont ls => K ls) c1)
      (probeCont pr st1 k) := by
  rw [sm_bind]
  generalize PB c1 = g at hP
  obtain ⟨r, c'⟩ := g
  cases r with
  | error e => cases e with
    | interrupt => exact hP.elim
    | panic => exact True.intro
    | out_of_fuel => exact True.intro
  | ok t =>
    cases t with
    | ret r =>
      obtain ⟨h1, h2, h3⟩ := hP
      subst h1; subst h3
      exact sref_ok rfl hcr
    | cont ls =>
      obtain ⟨h1, h3⟩ := hP
      subst h1; subst h3
      obtain ⟨b, a⟩ := ls
      exact hK a b

abbrev tickCont (x : Except Stop Unit × St) (kk : St → Except Stop Eval × St) : Except Stop Eval × St :=
  match x with
  | (.error e, st1) => (.error e, st1)
  | (.ok _, st1) => kk st1

/-- the node entry: count the node, poll the flag every 10000 nodes -/
theorem sref_tick_bind {cancel : Option Nat} {l : List UInt64} {keys : Keys} {n1 : UInt64}
    {K : SM (Evaluation × Array Move)} {kk : St → Except Stop Eval × St} {c : SearchCells} {st : St}
    (hc : CellsRep c st) (hn1 : n1.toNat = st.nodes + 1)
    (hK : ∀ c1 st1, CellsRep c1 st1 → SRef ResR (K c1) (kk st1)) :
    SRef ResR (((if (n1 % 10000 == 0) = true then SPrim.is_cancelled ⟨cancel⟩ else pure false) >>=
        fun t => if t = true then SM.interrupt else K) { c with nodes_searched := n1 })
      (tickCont (tick { keys := keys, history := l, cancelAt := cancel } st) kk) := by
  have hpoll := poll_eq n1 _ hn1
  unfold tick tickCont
  rw [← hpoll]
  have hc1 : CellsRep { c with nodes_searched := n1 } { st with nodes := st.nodes + 1 } :=
    ⟨hn1, hc.rng, hc.tt, hc.polls, hc.wf⟩
  have hc2 : CellsRep { c with nodes_searched := n1, polls := c.polls + 1 } { st with nodes := st.nodes + 1, polls := st.polls + 1 } :=
    ⟨hn1, hc.rng, hc.tt, by simp [hc.polls], hc.wf⟩
  by_cases hp : (n1 % 10000 == 0) = true
  · cases cancel with
    | none =>
      simp only [hp, if_true, sm_is_cancelled_bind, Bool.false_eq_true, if_false]
      exact hK _ _ hc2
    | some k =>
      by_cases hk : c.polls ≥ k
      · have hk' : st.polls ≥ k := hc.polls ▸ hk
        simp only [hp, if_true, sm_is_cancelled_bind, hk, hk', decide_true]
        exact sref_interrupt hc2
      · have hk' : ¬ st.polls ≥ k := hc.polls ▸ hk
        simp only [hp, if_true, sm_is_cancelled_bind, hk, hk', decide_false, Bool.false_eq_true, if_false]
        exact hK _ _ hc2
  · simp only [hp, if_false, sm_pure_bind, Bool.false_eq_true]
    exact hK _ _ hc1

/-- `calculate_extension_depth` is the model's `extensionOf` -/
theorem Searcher.calculate_extension_depth_eq (s : Wee.State) (m : Move) :
    Searcher.calculate_extension_depth (stateOf s) m = some (extensionOf s).toUInt64 := by
  unfold Searcher.calculate_extension_depth extensionOf
  rw [State.is_check_eq]
  cases s.isCheck <;> rfl

end GenFns
end Wee
