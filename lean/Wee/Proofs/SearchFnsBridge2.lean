import Wee.Proofs.SearchFnsBridge
/-!
# Bridge, stage 4a (second part): the WHOLE of `Searcher::analyze_recursive` (`Wee/Gen/SearchFns.lean`) REFINES the
hand-written `searchNode` (`Wee/Model/Search.lean`)

The entry of a node (counting, poll, table probe) is in `SearchFnsBridge.lean`.  Here: the jittered ordering, the prioritized
move, the move loop with the legality filter, the check extension and its cap, the recursive call, the cut-offs, the table
stores and the "no child searched" tail, by induction on the translation's fuel.
-/
namespace Wee
namespace GenFns
open Wee.Search Wee.SearchCtl

/-! ## `mapM` (the rules for `bind`, `pure` and `?` are with `SRef` in `SearchFnsBridge.lean`) -/

theorem sref_mapM {α β δ : Type} (φ : β → δ) (kf : α → SM β) (km : α → M δ)
    (hk : ∀ x c st, CellsRep c st → SRef (fun v w => w = φ v) (kf x c) ((km x).run.run st)) :
    ∀ (xs : List α) (c : SearchCells) (st : St), CellsRep c st →
      SRef (fun vs ws => ws = vs.map φ) (xs.mapM kf c) ((xs.mapM km).run.run st) := by
  intro xs
  induction xs with
  | nil => intro c st hc; rw [List.mapM_nil, List.mapM_nil]; exact sref_ok rfl hc
  | cons x xs ih =>
    intro c st hc
    rw [List.mapM_cons, List.mapM_cons]
    refine sref_bind (hk x c st hc) (fun v w c1 st1 hvw hc1 => ?_)
    refine sref_bind (ih c1 st1 hc1) (fun vs ws c2 st2 hvs hc2 => ?_)
    refine sref_ok ?_ hc2
    rw [hvw, hvs]; rfl

/-! ## the ordering of the inner nodes: key closure and `sort_by_cached_key` in `SM` -/

section
open Wee.Rng
theorem sm_gen_range_bind {β : Type} (lo hi : Int32) (f : Int32 → SM β) (c : SearchCells) :
    (SPrim.gen_range_i32 lo hi >>= f) c
      = f (Int32.ofInt (genRangeI32 lo.toInt hi.toInt c.rng).1) { c with rng := (genRangeI32 lo.toInt hi.toInt c.rng).2 } := rfl

/-- the ordering key of `analyze_recursive`: `estimate + gen_range(-10..=10)` is the model's `estimate + jitter` -/
theorem jkey_spec (ev : Evaluator) (s : Wee.State) (mv : Wee.Move) (c : SearchCells) (st : St) (hc : CellsRep c st) :
    SRef (fun (k : Int32) (w : Eval) => w = k.toInt)
      ((SM.liftP (Evaluator.estimate ev (stateOf s) mv) >>= fun e =>
        SPrim.gen_range_i32 (-10 : Int32) (10 : Int32) >>= fun j =>
        SM.liftP (Evaluation.add_assign_Evaluation e j) >>= fun r => pure r) c)
      ((do let j ← jitter; pure (Wee.estimate s mv + j) : M Eval).run.run st) := by
  rw [bind_run, jitter_run, sm_liftP_bind]
  cases he : Evaluator.estimate ev (stateOf s) mv with
  | none => exact True.intro
  | some e =>
    have hem := Evaluator.estimate_eq ev s mv e he
    simp only [sm_gen_range_bind, sm_liftP_bind]
    have e1 : (-10 : Int32).toInt = Gen.jitterLo := by decide
    have e2 : (10 : Int32).toInt = Gen.jitterHi := by decide
    rw [e1, e2, hc.rng]
    obtain ⟨b1, b2⟩ := jitter_bound st.rng
    have b1' : -10 ≤ (genRangeI32 Gen.jitterLo Gen.jitterHi st.rng).1 := b1
    have b2' : (genRangeI32 Gen.jitterLo Gen.jitterHi st.rng).1 ≤ 10 := b2
    generalize (genRangeI32 Gen.jitterLo Gen.jitterHi st.rng) = out at b1' b2'
    obtain ⟨x, r'⟩ := out
    simp only at b1' b2' ⊢
    cases ha : Evaluation.add_assign_Evaluation e (Int32.ofInt x) with
    | none => exact True.intro
    | some r =>
      have hr := Evaluation.add_assign_eq_some.1 ha
      have hx : (Int32.ofInt x).toInt = x := Int32.toInt_ofInt_of_le (by omega) (by omega)
      refine ⟨_, rfl, ?_, ⟨hc.nodes, rfl, hc.tt, hc.polls, hc.wf⟩⟩
      show Wee.estimate s mv + x = r.toInt
      rw [hr, hem, hx]

/-- `sort_by_cached_key` in the cell monad refines the model's `sortByCachedKey` (keys drawn in list order) -/
theorem sm_sort_refines {α : Type} (xs : List α) (kf : α → SM Int32) (km : α → M Eval)
    (hk : ∀ x c st, CellsRep c st → SRef (fun (k : Int32) (w : Eval) => w = k.toInt) (kf x c) ((km x).run.run st))
    (c : SearchCells) (st : St) (hc : CellsRep c st) :
    SRef (fun (ys : Array α) (zs : List α) => zs = ys.toList)
      (SPrim.sort_by_cached_key xs.toArray kf c) ((sortByCachedKey xs km).run.run st) := by
  unfold SPrim.sort_by_cached_key sortByCachedKey
  simp only [List.size_toArray]
  by_cases hl : xs.length < 2
  · simp only [hl, ↓reduceIte]
    exact sref_ok rfl hc
  · simp only [hl, ↓reduceIte]
    refine sref_bind (S := fun vs ws => ws = vs.map (fun p : Int32 × α => (p.1.toInt, p.2)))
      (sref_mapM _ _ _ (fun x c st hc => ?_) xs c st hc) (fun vs ws c1 st1 hvw hc1 => ?_)
    · refine sref_bind (hk x c st hc) (fun k w c1 st1 hkw hc1 => ?_)
      exact sref_ok (by rw [hkw]) hc1
    · refine sref_ok ?_ hc1
      rw [hvw]
      have : (vs.map fun p : Int32 × α => (p.1.toInt, p.2)).mergeSort (fun a b => decide (a.1 ≤ b.1))
          = (vs.mergeSort (fun a b => decide (a.1 ≤ b.1))).map (fun p => (p.1.toInt, p.2)) := by
        symm
        exact List.map_mergeSort (fun a _ b _ => by simp [Int32.le_iff_toInt_le])
      rw [this]
      simp [List.map_map, Function.comp_def]
end

/-! ## the move loop -/

/-- the loop state of the generated move loop: `(next_buffer, alpha, best_move, evaluation_type)` -/
abbrev LState := Array Move × Evaluation × Option Move × EvaluationKind
/-- the loop state of the model's `childLoop`: `(alpha, best, kind)` -/
abbrev MState := Eval × Option Wee.Move × Nat

/-- the loop states correspond: the same `alpha` (as a number), best move and entry kind; the generated buffer is free -/
def LsR (ls : LState) (ms : MState) : Prop := ls.2.1.toInt = ms.1 ∧ ls.2.2.1 = ms.2.1 ∧ kindOf ls.2.2.2 = ms.2.2

/-- one iteration of the model's `childLoop`, flat -/
def cstep (child : NodeArgs → M Eval) (a : NodeArgs) (hash : UInt64) (mv : Wee.Move) (ms : MState) (st : St) :
    Except Stop (Early Eval MState) × St :=
  match tryAsLegal a.s mv with
  | none => (.error (.panic "try_as_legal_move: by_performing_move(..).unwrap()"), st)
  | some none => (.ok (.cont ms), st)
  | some (some (m, next)) =>
    match (child (childArgs a next ms.1)).run.run st with
    | (.error e, st') => (.error e, st')
    | (.ok v, st') =>
      if -v ≥ a.beta then (.ok (.ret a.beta), st'.ctlInsert hash.toNat (SearchCtl.entryOf a kindLower m a.beta))
      else if -v > ms.1 then (.ok (.cont (-v, some m, kindExact)), st')
      else (.ok (.cont ms), st')

theorem childLoop_cons_step (ctx : Ctx) (child : NodeArgs → M Eval) (a : NodeArgs) (hash : UInt64)
    (mv : Wee.Move) (rest : List Wee.Move) (ms : MState) (st : St) :
    (childLoop ctx child a hash (mv :: rest) ms.1 ms.2.1 ms.2.2).run.run st =
      match cstep child a hash mv ms st with
      | (.error e, st') => (.error e, st')
      | (.ok (.ret b), st') => (.ok (.error b), st')
      | (.ok (.cont ms'), st') => (childLoop ctx child a hash rest ms'.1 ms'.2.1 ms'.2.2).run.run st' := by
  rw [childLoop_cons_run]
  unfold cstep
  cases h : tryAsLegal a.s mv with
  | none => rfl
  | some o =>
    cases o with
    | none => rfl
    | some r =>
      obtain ⟨m, next⟩ := r
      simp only []
      generalize (child (childArgs a next ms.1)).run.run st = out
      obtain ⟨r, st'⟩ := out
      cases r with
      | error e => rfl
      | ok v =>
        simp only []
        by_cases c1 : -v ≥ a.beta
        · simp only [c1, ↓reduceIte]
        · by_cases c2 : -v > ms.1 <;> simp only [c1, c2, ↓reduceIte]

/-- one pass of the loop body against `cstep`: both `return` (a cut-off) with the same value, or both `continue` with corresponding
loop states -/
def StepR : Early (Evaluation × Array Move) LState → Early Eval MState → Prop
  | .ret r, .ret b => r.1.toInt = b
  | .cont ls, .cont ms => LsR ls ms
  | _, _ => False

/-- the whole loop against `childLoop`, whose cut-off is the `.error` of its inner `Except`: the same value, or corresponding
final loop states -/
def LoopR : Early (Evaluation × Array Move) LState → Except Eval MState → Prop
  | .ret r, .error b => r.1.toInt = b
  | .cont ls, .ok ms => LsR ls ms
  | _, _ => False

/-- the move loop: ANY generated loop body with a point-wise spec against `cstep` refines the model's `childLoop` -/
theorem for_early_childLoop (ctx : Ctx) (child : NodeArgs → M Eval) (a : NodeArgs) (hash : UInt64)
    (body : LState → Move → SM (Early (Evaluation × Array Move) LState)) :
    ∀ (l : List Wee.Move),
      (∀ mv ∈ l, ∀ ls ms c st, LsR ls ms → CellsRep c st → SRef StepR (body ls mv c) (cstep child a hash mv ms st)) →
      ∀ ls ms c st, LsR ls ms → CellsRep c st →
        SRef LoopR (SPrim.for_early (m := SM) body l ls c) ((childLoop ctx child a hash l ms.1 ms.2.1 ms.2.2).run.run st) := by
  intro l
  induction l with
  | nil =>
    intro _ ls ms c st hls hc
    rw [childLoop_nil_run]
    exact ⟨_, rfl, hls, hc⟩
  | cons mv rest ih =>
    intro hb ls ms c st hls hc
    have h1 := hb mv List.mem_cons_self ls ms c st hls hc
    have hrest := ih (fun x hx => hb x (List.mem_cons_of_mem _ hx))
    rw [childLoop_cons_step]
    simp only [SPrim.for_early]
    rw [sm_bind]
    generalize body ls mv c = g at h1 ⊢
    generalize cstep child a hash mv ms st = o at h1 ⊢
    refine h1.elim (fun _ _ => True.intro) (fun _ _ => True.intro) (fun _ _ h => ⟨rfl, h⟩) (fun t w' c' st' h3 h4 => ?_)
    cases t with
    | ret r =>
      cases w' with
      | ret b => exact ⟨_, rfl, h3, h4⟩
      | cont ms' => exact h3.elim
    | cont ls' =>
      cases w' with
      | ret b => exact h3.elim
      | cont ms' => exact hrest ls' ms' c' st' h3 h4

/-! ## pieces of the expansion: the table store, the check extension, the child's depths, the horizon -/

/-- a table store `transpositions.insert(hash, entry)`: read the cell, insert, write it back — the model's `ctlInsert` -/
theorem sref_store_bind {γ β : Type} {R : γ → β → Prop} {hash : UInt64} {e : TranspositionEntry} {K : Unit → SM γ}
    {c : SearchCells} {st : St} {m : Except Stop β × St} (hc : CellsRep c st)
    (hK : ∀ c1, CellsRep c1 (st.ctlInsert hash.toNat (entryOf e)) → SRef R (K () c1) m) :
    SRef R ((SM.read_transpositions >>= fun t => SM.liftP (TranspositionTableAccess.insert t hash e) >>= fun t' =>
      SM.write_transpositions t' >>= K) c) m := by
  rw [sm_read_tt_bind]
  refine sref_liftP_bind (fun tt' htt' => ?_)
  obtain ⟨hi1, hi2⟩ := TranspositionTableAccess.insert_some _ _ _ _ hc.wf htt'
  rw [sm_write_tt_bind]
  exact hK _ ⟨hc.nodes, hc.rng, by rw [hi1, hc.tt]; rfl, hc.polls, hi2⟩

/-- the check extension with its cap -/
theorem sm_extension_bind {β : Type} (s : Wee.State) (m : Move) (curExt : UInt64) (K : UInt64 → SM β) (c : SearchCells) :
    ((if decide (curExt < (16 : UInt64)) = true then SM.liftP (Searcher.calculate_extension_depth (stateOf s) m) else pure (0 : UInt64)) >>= K) c
      = K (if curExt.toNat < Gen.extensionCap then extensionOf s else 0).toUInt64 c := by
  have h16 : (16 : UInt64).toNat = Gen.extensionCap := rfl
  by_cases h : curExt < 16
  · have h' : curExt.toNat < Gen.extensionCap := by rw [← h16]; exact UInt64.lt_iff_toNat_lt.1 h
    simp only [h, h', decide_true, if_true, Searcher.calculate_extension_depth_eq, sm_liftP_bind]
  · have h' : ¬ curExt.toNat < Gen.extensionCap := by rw [← h16]; exact fun x => h (UInt64.lt_iff_toNat_lt.2 x)
    simp only [h, h', decide_false, if_false, Bool.false_eq_true, sm_pure_bind]
    rfl

theorem ext_toNat (s : Wee.State) (n : Nat) :
    ((if n < Gen.extensionCap then extensionOf s else 0).toUInt64).toNat = (if n < Gen.extensionCap then extensionOf s else 0)
    ∧ (if n < Gen.extensionCap then extensionOf s else 0) ≤ 1
    ∧ ((if n < Gen.extensionCap then extensionOf s else 0) = 1 → n < 16) := by
  unfold extensionOf
  have : Gen.extensionCap = 16 := rfl
  by_cases h : n < Gen.extensionCap <;> cases s.isCheck <;> simp [h] <;> omega

theorem tryAsLegal_some {s : Wee.State} {mv m : Wee.Move} {next : Wee.State} (h : tryAsLegal s mv = some (some (m, next))) :
    performMove s mv = some (.ok next) ∧ m = mv := by
  obtain ⟨nx, hpm, _, e⟩ := tryAsLegal_eq_some_some.1 h
  cases e
  exact ⟨hpm, rfl⟩

/-- the depths of the recursive call (the extension `x` is added to `max_depth`, `current_depth + 1` and `current_extension`):
the remaining depth drops by one, and the bounds are kept because extensions stop at 16 -/
theorem child_depths {maxD curD curExt rem x d1 d2 d3 d4 : Nat} (hrem : curD + (rem + 1) = maxD)
    (hb : maxD + (16 - curExt) + 70 < 2 ^ 31) (e1 : d1 = maxD + x) (e2 : d2 = curD + 1) (e3 : d3 = d2 + x) (e4 : d4 = curExt + x)
    (hx : x ≤ 1) (hcap : x = 1 → curExt < 16) :
    d3 + rem = d1 ∧ d1 + 70 < 2 ^ 31 ∧ d1 + (16 - d4) + 70 < 2 ^ 31 := by
  omega

/-- the horizon: `quiescence_search` with the fuel `SPrim.quiescence_fuel` (= the model's `quiesceFuel`) is the model's `leafM` -/
theorem sref_leaf (s : Wee.State) (ok : StateOK s) {maxD curD curExt : UInt64} {alpha beta α β : Int32} {prio : Option Wee.Move}
    (hd : curD.toNat + 70 < 2 ^ 31) {buf : Array Move} {c1 : SearchCells} {st1 : St} (hc1 : CellsRep c1 st1) :
    SRef ResR
      ((SM.liftQ (Searcher.quiescence_search (SPrim.quiescence_fuel (stateOf s)) (stateOf s) ⟨eval.EVALUATORS⟩ curD α β) >>=
        fun v => pure (v, buf)) c1)
      ((leafM (argsOf s maxD curD curExt alpha beta prio) α.toInt β.toInt).run.run st1) := by
  rw [sm_liftQ_bind, leafM_run]
  have hqf : SPrim.quiescence_fuel (stateOf s) = quiesceFuel s := by
    unfold SPrim.quiescence_fuel quiesceFuel
    rw [Board.occupancy_stateOf, count_ones_prim_eq]
    have := popcount_le s.pieces.occ
    congr 1
    simp [Nat.toUInt32, UInt32.toNat_ofNat', Nat.mod_eq_of_lt (show popcount s.pieces.occ < 2 ^ 32 by omega)]
  rw [hqf]
  have hq := Searcher.quiescence_search_refines (quiesceFuel s) s ok curD (by
    have := popcount_le s.pieces.occ; unfold quiesceFuel; omega) α β
  show SRef ResR _ (match quiesce evaluate (quiesceFuel s) s curD.toNat α.toInt β.toInt with
    | .ok v => .ok v | .error e => .error e, st1)
  generalize Searcher.quiescence_search (quiesceFuel s) (stateOf s) ⟨eval.EVALUATORS⟩ curD α β = g at hq ⊢
  generalize quiesce evaluate (quiesceFuel s) s curD.toNat α.toInt β.toInt = m at hq ⊢
  exact hq.elim (fun _ => True.intro) (fun _ => True.intro) (sref_interrupt hc1) (fun v w hv => sref_ok (R := ResR) hv hc1)

/-! ## `analyze_recursive`, the whole function -/

theorem sref_pure_prop_bind {α γ β : Type} {R : γ → β → Prop} {x : SM α} {K : α → SM γ} {c : SearchCells}
    {m : Except Stop β × St} {P : α → Prop} (hx : ∃ v, x = pure v ∧ P v) (h : ∀ v, P v → SRef R (K v c) m) :
    SRef R ((x >>= K) c) m := by
  obtain ⟨v, rfl, hv⟩ := hx
  exact h v hv

/-- `Searcher::analyze_recursive` against `searchNode`, every remaining depth `rem`, with the side conditions where they are used:
the room for extensions and the well-formedness of the prioritized move only matter at a node that is expanded (`0 < rem`).
The proof runs both sides through the phases of the function, marked in the text: (1) node entry — count, poll, history;
(2) the table probe (`hP`); (3) the horizon, or the expansion: (3a) generation and the jittered sort, (3b) the prioritized move,
(3c) the move loop, whose body is run once against the model's `cstep` — the hypothesis of `for_early_childLoop`, proved for the
translated body (an inline closure of the generated text: a lemma of its own would have to copy its forty lines into the
statement) — with the child's depths (`child_depths`) and the induction hypothesis at the recursive call, (3d) the tail after the loop. -/
theorem Searcher.analyze_recursive_node_refines (k : KeyTable) (ht : k.turn.size = 2) (he : k.epFile.size = 8)
    (hist : StateHistory) (l : List UInt64) (hh : HistRep hist l) (cancel : Option Nat) (fuel : Nat) :
    ∀ (rem : Nat) (s : Wee.State) (ok : StateOK s) (maxD curD curExt : UInt64)
      (hrem : curD.toNat + rem = maxD.toNat) (hb : maxD.toNat + 70 < 2 ^ 31)
      (alpha beta : Int32) (prio : Option Wee.Move)
      (hx : 0 < rem → maxD.toNat + (16 - curExt.toNat) + 70 < 2 ^ 31 ∧ ∀ m, prio = some m → WFMove m) (buf : Array Move)
      (c : SearchCells) (st : St) (hc : CellsRep c st),
    SRef ResR
      (Searcher.analyze_recursive fuel (stateOf s) ⟨eval.EVALUATORS⟩ ⟨cancel⟩ (zobristOf k) hist maxD curD curExt alpha beta prio buf c)
      ((searchNode { keys := k.keys, history := l, cancelAt := cancel } rem (argsOf s maxD curD curExt alpha beta prio)).run.run st) := by
  induction fuel with
  | zero => intro rem s ok maxD curD curExt hrem hb alpha beta prio hx buf c st hc; exact sref_fuel
  | succ fuel ih =>
  intro rem s ok maxD curD curExt hrem hb alpha beta prio hx buf c st hc
  rw [Searcher.analyze_recursive, searchNode_eq, nodeM_run]
  -- (1) node entry: the node is counted, the flag polled every 10000th node, a recorded position returns `EVEN`
  rw [sm_read_nodes_bind]
  refine sref_liftP_bind (fun n1 hadd => ?_)
  have hn1 : n1.toNat = st.nodes + 1 := by rw [UInt64.checked_add_eq_some.1 hadd, hc.nodes]; rfl
  simp only [sm_write_nodes_bind, sm_read_nodes_bind]
  refine sref_tick_bind hc hn1 (fun c1 st1 hc1 => ?_)
  simp only [sm_liftP_bind, ZobristHasher.hash_keyTable k ht he s ok.ep]
  have hrep : (decide (curD > 0) && (StateHistory.lookup hist (Wee.hash k.keys s)).isSome)
      = (decide (curD.toNat > 0) && l.contains (Wee.hash k.keys s)) := by
    rw [StateHistory.lookup_isSome hh]
    congr 1
  rw [hrep]
  show SRef ResR _ (if (decide (curD.toNat > 0) && l.contains (Wee.hash k.keys s)) = true then _ else _)
  by_cases hr : (decide (curD.toNat > 0) && l.contains (Wee.hash k.keys s)) = true
  · simp only [hr, if_true]
    exact sref_ok (R := ResR) (show ResR (Evaluation.EVEN, buf) 0 from rfl) hc1
  · simp only [hr, if_false, Bool.false_eq_true]
    show SRef ResR _ (probeCont (SearchCtl.probe (argsOf s maxD curD curExt alpha beta prio) (st1.tt.find (Wee.hash k.keys s).toNat)) st1
      (contM { keys := k.keys, history := l, cancelAt := cancel } rem (argsOf s maxD curD curExt alpha beta prio)))
    refine sref_probe_bind (buf := buf) ?hP (fun α β => ?hK) hc1
    case hP =>
      -- (2) the table probe: the entry's kind and depth against the window, as `SearchCtl.probe`
      simp only [sm_read_tt_bind, sm_liftP_bind]
      generalize hfind : TranspositionTableAccess.find c1.transpositions (Wee.hash k.keys s) = fr
      cases fr with
      | none => exact True.intro
      | some r =>
      have hfm := TranspositionTableAccess.find_some _ _ hc1.wf r hfind
      rw [hc1.tt] at hfm
      rw [← hfm]
      cases r with
      | none => exact ⟨rfl, rfl⟩
      | some e =>
      simp only [sm_liftP_bind]
      generalize h1 : UInt64.checked_sub maxD curD = p1
      cases p1 with
      | none => exact True.intro
      | some rd =>
      obtain ⟨hle1, hrd⟩ := u64_sub_some h1
      generalize h2 : UInt64.checked_sub e.f_max_depth e.f_depth = p2
      cases p2 with
      | none => exact True.intro
      | some rdt =>
      obtain ⟨hle2, hrdt⟩ := u64_sub_some h2
      have hge : decide (rdt ≥ rd) = decide (e.f_max_depth.toNat - e.f_depth.toNat ≥ maxD.toNat - curD.toNat) := by
        rw [← hrd, ← hrdt]; exact decide_eq_decide.2 UInt64.le_iff_toNat_le
      have hnu : ¬ (maxD.toNat < curD.toNat ∨ e.f_max_depth.toNat < e.f_depth.toNat) := by omega
      have hmin := ord_min_toInt beta e.f_evaluation
      have hmax := ord_max_toInt alpha e.f_evaluation
      have hd1 := ev_ge (a := alpha) rfl hmin
      have hd2 := ev_ge (b := beta) hmax rfl
      simp only [Option.map_some, SearchCtl.probe, argsOf, GenFns.entryOf, hnu, if_false, hge]
      by_cases c2 : e.f_max_depth.toNat - e.f_depth.toNat ≥ maxD.toNat - curD.toNat
      · simp only [c2, decide_true, if_true]
        cases hk : e.f_kind with
        | Exact => exact ⟨rfl, rfl, rfl⟩
        | UpperBound =>
          simp only [sm_pure_bind, hd1, kindOf]
          by_cases c5 : alpha.toInt ≥ min beta.toInt e.f_evaluation.toInt
          · simp only [c5, decide_true, if_true]; exact ⟨rfl, rfl, rfl⟩
          · simp only [c5, decide_false, if_false, Bool.false_eq_true]
            refine ⟨rfl, ?_⟩
            simp [hmin, kindExact, kindUpper]
        | LowerBound =>
          simp only [sm_pure_bind, hd2, kindOf]
          by_cases c6 : max alpha.toInt e.f_evaluation.toInt ≥ beta.toInt
          · simp only [c6, decide_true, if_true]; exact ⟨rfl, rfl, rfl⟩
          · simp only [c6, decide_false, if_false, Bool.false_eq_true]
            refine ⟨rfl, ?_⟩
            simp [hmax, kindExact, kindUpper]
      · simp only [c2, decide_false, if_false, Bool.false_eq_true]
        exact ⟨rfl, rfl⟩
    case hK =>
      cases rem with
      | zero =>
        -- (3) the horizon: quiescence
        rw [if_pos (decide_eq_true (UInt64.le_iff_toNat_le.2 (by omega)))]
        exact sref_leaf s ok (by omega) hc1
      | succ rem' =>
        obtain ⟨hb16, hp⟩ := hx (Nat.succ_pos rem')
        rw [if_neg (fun h => by have := UInt64.le_iff_toNat_le.1 (of_decide_eq_true h); omega)]
        show SRef ResR _ ((expandM { keys := k.keys, history := l, cancelAt := cancel }
          (searchNode { keys := k.keys, history := l, cancelAt := cancel } rem')
          (argsOf s maxD curD curExt alpha beta prio) (Wee.hash k.keys s) α.toInt β.toInt).run.run st1)
        rw [expandM_run]
        simp only [argsOf]
        -- (3a) the pseudo-legal moves, sorted by the jittered estimate: only the generator state changes (`c2`, `r2`)
        refine sref_liftP_bind (fun mb0 hmb0 => ?_)
        rw [MoveGenerator.compute_psuedo_legal_moves_into_eq s buf ok.ep] at hmb0
        cases hps : pseudoLegalMoves s with
        | none => rw [hps] at hmb0; cases hmb0
        | some pseudo =>
        rw [hps] at hmb0
        simp only [Option.map_some, Option.some.injEq] at hmb0
        subst hmb0
        simp only []
        obtain ⟨sorted, r2, hrun, hperm⟩ := sort_rngOnly s pseudo st1
        have hsort := sm_sort_refines pseudo _ _ (fun x c st hc => jkey_spec ⟨eval.EVALUATORS⟩ s x c st hc) c1 st1 hc1
        rw [hrun] at hsort ⊢
        rw [sm_bind]
        generalize SPrim.sort_by_cached_key (m := SM) _ _ c1 = g at hsort ⊢
        obtain ⟨gr, c2⟩ := g
        cases gr with
        | error e =>
          cases e with
          | interrupt => exact absurd hsort.1 (by simp)
          | panic => exact sref_panic
          | out_of_fuel => exact sref_fuel
        | ok arr =>
        obtain ⟨w, hw, harr, hc2⟩ := hsort
        simp only [Except.ok.injEq] at hw
        subst hw
        simp only at harr hc2 ⊢
        subst harr
        -- (3b) the prioritized move is pushed last, so that the reversed buffer tries it first: the model's `bufferOf`
        refine sref_pure_prop_bind (P := fun mb => mb.toList = bufferOf prio arr.toList) ?_ (fun mb hmb => ?_)
        · cases prio with
          | none => exact ⟨_, rfl, rfl⟩
          | some pm => exact ⟨_, rfl, by simp [bufferOf, PseudoLegalMove.new]⟩
        rw [sm_read_nodes_bind, hmb, sm_bind]
        have hwf : ∀ mv ∈ (bufferOf prio arr.toList).reverse, WFMove mv := by
          intro mv hmv
          rcases mem_bufferOf (a := argsOf s maxD curD curExt alpha beta prio) hperm mv hmv with h | h
          · exact pseudoLegalMoves_wf s pseudo hps mv h
          · exact hp mv h
        generalize hg : SPrim.for_early (m := SM) _ _ _ c2 = g
        generalize hmo : (StateT.run (ExceptT.run (childLoop _ _ _ _ _ _ _ _)) _ : Except Stop (Except Eval MState) × St) = mo
        -- (3c) the move loop.  The contract of its body, for a move `mv` of the buffer, related loop states `ls`, `ms` (`LsR`:
        -- alpha, best move, entry kind) and related cells: one pass refines the model's `cstep` (`StepR`: `continue` with related
        -- loop states, or the `return` of a cut-off with its value)
        have hloop : SRef LoopR g mo := by
          rw [← hg, ← hmo]
          refine for_early_childLoop _ _ _ _ _ _ (fun mv hmv ls ms c st hls hc => ?_)
            (#[], α, none, EvaluationKind.UpperBound) (α.toInt, none, kindUpper) c2 _ ⟨rfl, rfl, rfl⟩ hc2
          obtain ⟨nbuf, al, bm, et⟩ := ls
          obtain ⟨mal, mbest, mkind⟩ := ms
          obtain ⟨hal, hbm, het⟩ := hls
          simp only at hal hbm het
          subst hal; subst hbm; subst het
          -- the legality filter: an illegal move is skipped
          refine sref_liftP_bind (fun tl htl => ?_)
          rw [PseudoLegalMove.try_as_legal_move_eq s mv ok (hwf mv hmv)] at htl
          unfold cstep
          cases htm : tryAsLegal s mv with
          | none => rw [htm] at htl; cases htl
          | some o =>
          rw [htm] at htl
          simp only [Option.map_some, Option.some.injEq] at htl
          subst htl
          cases o with
          | none => exact sref_ok (R := StepR) (show LsR _ _ from ⟨rfl, rfl, rfl⟩) hc
          | some res =>
          obtain ⟨m, next⟩ := res
          obtain ⟨hpm, hmm⟩ := tryAsLegal_some htm
          have oknext := performMove_stateOK s mv next ok hpm
          simp only [Option.map_some, resOf]
          -- the check extension `extN ≤ 1` with its cap, the child's depths and negated window (checked arithmetic)
          rw [sm_extension_bind]
          obtain ⟨hx1, hx2, hx3⟩ := ext_toNat s curExt.toNat
          generalize hxe : (if curExt.toNat < Gen.extensionCap then extensionOf s else 0) = extN at hx1 hx2 hx3
          refine sref_liftP_bind (fun d1 hd1 => ?_)
          refine sref_liftP_bind (fun d2 hd2 => ?_)
          refine sref_liftP_bind (fun d3 hd3 => ?_)
          refine sref_liftP_bind (fun d4 hd4 => ?_)
          refine sref_liftP_bind (fun nb hnb => ?_)
          refine sref_liftP_bind (fun na hna => ?_)
          have e1 := UInt64.checked_add_eq_some.1 hd1
          have e2 : d2.toNat = curD.toNat + 1 := UInt64.checked_add_eq_some.1 hd2
          have e3 := UInt64.checked_add_eq_some.1 hd3
          have e4 := UInt64.checked_add_eq_some.1 hd4
          have e5 := Evaluation.neg_eq_some.1 hnb
          have e6 := Evaluation.neg_eq_some.1 hna
          rw [hx1] at e1 e3 e4
          obtain ⟨a1, a2, a3⟩ := child_depths hrem hb16 e1 e2 e3 e4 hx2 hx3
          -- the recursive call: the induction hypothesis at the child, whose arguments are the model's `childArgs`
          have hrec := ih rem' next oknext d1 d3 d4 a1 a2 nb na none (fun _ => ⟨a3, fun m h => by cases h⟩) nbuf c st hc
          have hargs : argsOf next d1 d3 d4 nb na none
              = childArgs (argsOf s maxD curD curExt α β prio) next al.toInt := by
            unfold argsOf childArgs
            simp only [hxe, e1, e2, e3, e4, e5, e6]
          rw [hargs] at hrec
          simp only [argsOf] at hrec
          rw [sm_bind]
          generalize Searcher.analyze_recursive _ _ _ _ _ _ _ _ _ _ _ _ _ _ = gr at hrec ⊢
          generalize (StateT.run (ExceptT.run (searchNode _ _ _)) _ : Except Stop Eval × St) = mr at hrec ⊢
          refine hrec.elim (fun _ _ => sref_panic) (fun _ _ => sref_fuel) (fun _ _ h => sref_interrupt h)
            (fun rv w c' st' h2 h3 => ?_)
          have h2' : rv.1.toInt = w := h2
          simp only []
          -- the negated value `nv`: cut-off (store the `LowerBound` entry, return `beta`), raise `alpha`, or keep it
          refine sref_liftP_bind (fun nv hnv => ?_)
          have e7 := Evaluation.neg_eq_some.1 hnv
          rw [h2'] at e7
          rw [← e7]
          rw [ev_ge (a := nv) (b := β) rfl rfl, ev_gt (a := nv) (b := al) rfl rfl]
          by_cases c1 : nv.toInt ≥ β.toInt
          · simp only [c1, decide_true, if_true]
            exact sref_store_bind h3 fun c1 hc1 => sref_ok (R := StepR) (show (β, mb).1.toInt = β.toInt from rfl) hc1
          · simp only [c1, decide_false, if_false, Bool.false_eq_true]
            by_cases c2 : nv.toInt > al.toInt
            · simp only [c2, decide_true, if_true]
              exact sref_ok (R := StepR) (show LsR _ _ from ⟨rfl, by rw [hmm], rfl⟩) h3
            · simp only [c2, decide_false, if_false, Bool.false_eq_true]
              exact sref_ok (R := StepR) (show LsR _ _ from ⟨rfl, rfl, rfl⟩) h3
        -- (3d) after the loop: the cut-off's value; or no child was searched (static evaluation); or `alpha`, and the entry
        -- is stored if there is a best move
        refine hloop.elim (fun _ _ => sref_panic) (fun _ _ => sref_fuel) (fun _ _ h => sref_interrupt h)
          (fun t w c3 st3 h2 hc3 => ?_)
        cases t with
        | ret r =>
          cases w with
          | ok ms => exact h2.elim
          | error b => exact sref_ok (R := ResR) h2 hc3
        | cont ls =>
          cases w with
          | error b => exact h2.elim
          | ok ms =>
          obtain ⟨nbuf, al, bm, et⟩ := ls
          obtain ⟨mal, mbest, mkind⟩ := ms
          obtain ⟨hal, hbm, het⟩ := h2
          simp only at hal hbm het
          subst hal; subst hbm; subst het
          simp only [sm_read_nodes_bind]
          have hnodes : (c2.nodes_searched == c3.nodes_searched) = (st3.nodes == st1.nodes) := by
            rw [u64_beq_iff, hc2.nodes, hc3.nodes, Bool.eq_iff_iff, decide_eq_true_iff, beq_iff_eq]
            exact eq_comm
          rw [hnodes]
          by_cases hn : (st3.nodes == st1.nodes) = true
          · simp only [hn, if_true]
            rw [sm_liftP_bind]
            generalize hev : Evaluator.evaluate ⟨eval.EVALUATORS⟩ (stateOf s) (State.turn_to_move (stateOf s)) curD = evo
            cases evo with
            | none => exact sref_panic
            | some ev =>
            rw [evaluate_turn s ok curD (by omega) ev hev]
            exact sref_ok (R := ResR) rfl hc3
          · simp only [hn, if_false, Bool.false_eq_true]
            cases bm with
            | none => exact sref_ok (R := ResR) rfl hc3
            | some bmv =>
              simp only [bind_assoc, pure_bind]
              exact sref_store_bind hc3 fun c1 hc1 => sref_ok (R := ResR) rfl hc1

/-- **`Searcher::analyze_recursive` refines `searchNode`** — the whole function, every remaining depth.

`rem` is the model's recursion measure, the remaining depth `max_depth - current_depth` (hypothesis `hrem`; it is kept by the
recursive call, the extension being added to both).  The translation's `fuel` is ARBITRARY: the theorem is of the "when it
returns" kind, and a run that exhausts the fuel returns `out_of_fuel`, for which nothing is claimed (`fuel ≥ rem + 1` is what a
run needs to get through; each recursive call uses one unit of fuel and one unit of `rem`).  The move buffer the generated
function returns next to the value is not constrained (`ResR` looks at the value only): the model does not thread it.

Side conditions: `StateOK s` (what a Rust `State` can hold), the key-table sizes, `HistRep`, `CellsRep`, the depth bound
`max_depth + (16 - current_extension) + 70 < 2^31` (kept by the recursion since extensions stop at 16; 70 ≥ the quiescence fuel),
and the prioritized move, if any, is a well-formed packed move (`WFMove`; the recursion passes `None`). -/
theorem Searcher.analyze_recursive_refines (k : KeyTable) (ht : k.turn.size = 2) (he : k.epFile.size = 8)
    (hist : StateHistory) (l : List UInt64) (hh : HistRep hist l) (cancel : Option Nat) (fuel : Nat) :
    ∀ (rem : Nat) (s : Wee.State) (ok : StateOK s) (maxD curD curExt : UInt64)
      (hrem : curD.toNat + rem = maxD.toNat) (hb : maxD.toNat + (16 - curExt.toNat) + 70 < 2 ^ 31)
      (alpha beta : Int32) (prio : Option Wee.Move) (hp : ∀ m, prio = some m → WFMove m) (buf : Array Move)
      (c : SearchCells) (st : St) (hc : CellsRep c st),
    SRef ResR
      (Searcher.analyze_recursive fuel (stateOf s) ⟨eval.EVALUATORS⟩ ⟨cancel⟩ (zobristOf k) hist maxD curD curExt alpha beta prio buf c)
      ((searchNode { keys := k.keys, history := l, cancelAt := cancel } rem (argsOf s maxD curD curExt alpha beta prio)).run.run st) :=
  fun rem s ok maxD curD curExt hrem hb alpha beta prio hp buf c st hc =>
    Searcher.analyze_recursive_node_refines k ht he hist l hh cancel fuel rem s ok maxD curD curExt hrem (by omega) alpha beta prio
      (fun _ => ⟨hb, hp⟩) buf c st hc

/-- **`Searcher::analyze_recursive` at the horizon refines `searchNode … 0`** (remaining depth 0: `current_depth = max_depth`):
node counting and the poll every 10000 nodes (interrupt included, with the cells the interrupt leaves behind), the repetition
test, the table probe with its three entry kinds and both cut-offs, then `quiescence_search` with the fuel
`SPrim.quiescence_fuel` = the model's `quiesceFuel`.  Whenever the translated function returns a value or the interrupt, the
model returns the same, in the corresponding worker state. -/
theorem Searcher.analyze_recursive_leaf_refines (k : KeyTable) (ht : k.turn.size = 2) (he : k.epFile.size = 8)
    (hist : StateHistory) (l : List UInt64) (hh : HistRep hist l) (cancel : Option Nat) (fuel : Nat)
    (s : Wee.State) (ok : StateOK s) (maxD curD curExt : UInt64)
    (hrem : curD.toNat = maxD.toNat) (hb : maxD.toNat + 70 < 2 ^ 31)
    (alpha beta : Int32) (prio : Option Wee.Move) (buf : Array Move)
    (c : SearchCells) (st : St) (hc : CellsRep c st) :
    SRef ResR
      (Searcher.analyze_recursive (fuel + 1) (stateOf s) ⟨eval.EVALUATORS⟩ ⟨cancel⟩ (zobristOf k) hist maxD curD curExt alpha beta prio buf c)
      ((searchNode { keys := k.keys, history := l, cancelAt := cancel } 0 (argsOf s maxD curD curExt alpha beta prio)).run.run st) :=
  Searcher.analyze_recursive_node_refines k ht he hist l hh cancel (fuel + 1) 0 s ok maxD curD curExt hrem hb alpha beta prio
    (fun h => absurd h (Nat.lt_irrefl 0)) buf c st hc

/-- the root call of a worker (`analyze_recursive(.., search_depth, 0, 0, -mate_in_ply(0), mate_in_ply(0), best_move, ..)` on
fresh `nodes_searched = 0`) refines the model's `runWorker` -/
theorem Searcher.analyze_recursive_runWorker (k : KeyTable) (ht : k.turn.size = 2) (he : k.epFile.size = 8)
    (hist : StateHistory) (l : List UInt64) (hh : HistRep hist l) (cancel : Option Nat) (fuel : Nat)
    (root : Wee.State) (ok : StateOK root) (sd : UInt64) (hsd : sd.toNat + 86 < 2 ^ 31)
    (negm posm : Int32) (hpos : posm.toInt = Ev.mateInPly 0) (hneg : negm.toInt = - Ev.mateInPly 0)
    (best : Option Wee.Move) (hbest : ∀ m, best = some m → WFMove m) (buf : Array Move)
    (c : SearchCells) (tt : TT.Access) (rng : Rng.ChaCha8) (polls : Nat)
    (hc : CellsRep c { tt := tt, rng := rng, nodes := 0, polls := polls }) :
    SRef ResR
      (Searcher.analyze_recursive fuel (stateOf root) ⟨eval.EVALUATORS⟩ ⟨cancel⟩ (zobristOf k) hist sd 0 0 negm posm best buf c)
      (runWorker { keys := k.keys, history := l, cancelAt := cancel } root sd.toNat best tt rng polls) := by
  have h := Searcher.analyze_recursive_refines k ht he hist l hh cancel fuel sd.toNat root ok sd 0 0
    (by show (0 : UInt64).toNat + sd.toNat = sd.toNat; simp) (by show sd.toNat + (16 - (0 : UInt64).toNat) + 70 < 2 ^ 31; simp; omega)
    negm posm best hbest buf c _ hc
  unfold runWorker
  have ea : argsOf root sd 0 0 negm posm best
      = { s := root, maxDepth := sd.toNat, curDepth := 0, curExt := 0, alpha := - Ev.mateInPly 0, beta := Ev.mateInPly 0,
          prioritized := best } := by
    unfold argsOf; rw [hpos, hneg]; rfl
  rw [ea] at h
  exact h

end GenFns
end Wee
