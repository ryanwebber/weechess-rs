import Wee.Proofs.SearchFnsBridge2
/-!
# Bridge, stage 4e: the iterative-deepening loop translated from `Searcher::analyze_iterative` (`Wee/Gen/SearchFns.lean`,
`Searcher.analyze_iterative.iteration` / `.loop`) REFINES the model's `boundaryPoll` / `iterStep` / `iterLoop`
(`Wee/Model/Search.lean`)

The workers of one iteration run one after the other (`SPrim.par_map_collect_result`: the trusted reading of the rayon
`into_par_iter().map(..).collect()` as ONE admissible schedule) — this is the model's `runWorkers`.  The calls of the callback
`f` are the list `IterCells.events`, read through `eventOf` as the model's `Event`s.  Form of the theorems: "when it returns" —
a panic of the generated code (debug profile) or exhausted fuel promises nothing.
-/
namespace Wee
namespace GenFns
open Wee.Search Wee.SearchCtl

/-! ## the `IM` monad -/

theorem im_bind {α β : Type} (x : IM α) (f : α → IM β) (c : IterCells) :
    (x >>= f) c = match x c with | (.ok a, c') => f a c' | (.error e, c') => (.error e, c') := rfl
theorem im_pure_bind {α β : Type} (a : α) (f : α → IM β) (c : IterCells) : ((pure a : IM α) >>= f) c = f a c := rfl
theorem im_pure {α : Type} (a : α) (c : IterCells) : (pure a : IM α) c = (.ok a, c) := rfl
theorem im_liftP_bind {α β : Type} (p : Panics α) (f : α → IM β) (c : IterCells) :
    (IM.liftP p >>= f) c = match p with | none => (.error .panic, c) | some a => f a c := by cases p <;> rfl
theorem im_read_tt_bind {β : Type} (f : TranspositionTableAccess → IM β) (c : IterCells) :
    (IM.read_transpositions >>= f) c = f c.transpositions c := rfl
theorem im_emit_bind {β : Type} (e : StatusEvent) (f : Unit → IM β) (c : IterCells) :
    (IM.emit e >>= f) c = f () { c with events := c.events ++ [e] } := rfl
theorem im_is_cancelled_bind {β : Type} (t : CancellationToken) (f : Bool → IM β) (c : IterCells) :
    (IM.is_cancelled t >>= f) c
      = f (match t.cancel_at with | some k => decide (c.polls ≥ k) | none => false) { c with polls := c.polls + 1 } := rfl
theorem im_rng_gen_bind {β : Type} (f : UInt64 → IM β) (c : IterCells) :
    (IM.rng_gen_u64 >>= f) c = f (Rng.nextU64 c.rng).1 { c with rng := (Rng.nextU64 c.rng).2 } := rfl

/-- **the "when it returns" form of this file's theorems, as a predicate on the outcome pair of a run in a cell monad**: the run
returned a value `a` with final cells `c` such that `Q a c`; it never returns the interrupt; a panic or exhausted fuel promises
nothing.  (Stated on outcomes, not on `bind`: one rule, `WhenReturns.andThen`, serves `SM`, `IM` and `Iter5M`, whose `bind`s are
`andThen` by `im_andThen` and its likes.  `IterPost` and the conclusions of `loop_refines` / `loop_refines_init` are this predicate
written out as a `match`: their statements spell the predicate out.  Not to be confused with `Wee/Proofs/Returns.lean`, the equivalences
`checked_*_eq_some` of the checked primitives.) -/
@[reducible] def WhenReturns {α σ : Type} (o : Except SearchStop α × σ) (Q : α → σ → Prop) : Prop :=
  match o with
  | (.ok a, c) => Q a c
  | (.error .interrupt, _) => False
  | (.error _, _) => True

/-- sequencing of outcomes, as `bind` of `SM`, `IM`, `Iter5M` does it -/
def andThen {α β σ : Type} (o : Except SearchStop α × σ) (k : α → σ → Except SearchStop β × σ) : Except SearchStop β × σ :=
  match o with
  | (.ok a, c) => k a c
  | (.error e, c) => (.error e, c)

theorem WhenReturns.andThen {α β σ : Type} {o : Except SearchStop α × σ} {k : α → σ → Except SearchStop β × σ}
    {P : α → σ → Prop} {Q : β → σ → Prop} (ho : WhenReturns o P) (hk : ∀ a c, P a c → WhenReturns (k a c) Q) :
    WhenReturns (andThen o k) Q := by
  obtain ⟨r, c⟩ := o
  cases r with
  | ok a => exact hk a c ho
  | error e => cases e <;> first | exact ho | exact True.intro

theorem im_andThen {α β : Type} (x : IM α) (f : α → IM β) (c : IterCells) : (x >>= f) c = andThen (x c) fun a c' => f a c' := by
  rw [im_bind]; unfold andThen; rcases x c with ⟨_ | _, _⟩ <;> rfl

instance : LawfulMonad IM := inferInstanceAs (LawfulMonad (CellM IterCells))

/-! ## representation -/

/-- a call of the callback, read as the model's event (the saturation of a progress report is not modelled) -/
def eventOf : StatusEvent → Event
  | .BestMove e line => .best e.toInt line.toList
  | .Progress d n _ => .progress d.toNat n.toNat

/-- the cells of the loop and its state `(nodes_searched, best_eval, best_mv)` represent the model's `IterSt` (flags apart) -/
structure IterRep (ic : IterCells) (ls : UInt64 × Evaluation × Option Move) (st : IterSt) : Prop where
  rng : ic.rng = st.rng
  tt : accessOf ic.transpositions = st.tt
  wf : AccessWF ic.transpositions
  polls : ic.polls = st.polls
  events : ic.events.map eventOf = st.events
  nodes : ls.1.toNat = st.nodes
  bestEval : ls.2.1.toInt = st.bestEval
  bestMv : ls.2.2 = st.bestMv

inductive All2 {α β : Type} (R : α → β → Prop) : List α → List β → Prop
  | nil : All2 R [] []
  | cons {a : α} {b : β} {as : List α} {bs : List β} : R a b → All2 R as bs → All2 R (a :: as) (b :: bs)

/-! ## the thread data of one iteration: one `rng.gen()` per worker, in order (`drawSeeds`) -/

/-- a `ThreadData` value is the model's worker `(index, seed)` of the iteration `depth` -/
def TDR (gs : State) (depth : Nat) (bestMv : Option Move) (td : Searcher.analyze_iterative.ThreadData) (p : Nat × UInt64) : Prop :=
  td.f_rng = Rng.seedFromU64 p.2 ∧ td.f_game_state = gs ∧ td.f_search_depth.toNat = (depth - p.1 % 2) + 1 ∧
    td.f_best_move = (if p.1 == 0 then bestMv else none)

/-- what the closure `|i| ThreadData { .. }` does: one draw from the loop's generator, nothing else -/
def TDSpec (gs : State) (depth : Nat) (bestMv : Option Move) (f : UInt64 → IM Searcher.analyze_iterative.ThreadData) : Prop :=
  ∀ i ic, WhenReturns (f i ic) fun td ic' =>
    ic' = { ic with rng := (Rng.nextU64 ic.rng).2 } ∧ TDR gs depth bestMv td (i.toNat, (Rng.nextU64 ic.rng).1)

theorem range_mapM_seeds (gs : State) (depth : Nat) (bestMv : Option Move) (f : UInt64 → IM Searcher.analyze_iterative.ThreadData)
    (hf : TDSpec gs depth bestMv f) :
    ∀ (n : Nat) (i : UInt64) (ic : IterCells), i.toNat + n < 2 ^ 64 →
      WhenReturns (SPrim.range_mapM f n i ic) fun L ic' => ic' = { ic with rng := (drawSeeds n ic.rng).2 } ∧
          All2 (TDR gs depth bestMv) L ((List.range' i.toNat n).zip (drawSeeds n ic.rng).1) := by
  intro n
  induction n with
  | zero =>
    intro i ic _
    exact ⟨rfl, All2.nil⟩
  | succ n ih =>
    intro i ic hi
    simp only [SPrim.range_mapM]
    rw [im_andThen]
    refine (hf i ic).andThen fun td c1 ⟨hc1, htd⟩ => ?_
    rw [im_andThen]
    have hi1 : (i + 1).toNat = i.toNat + 1 := by
      rw [UInt64.toNat_add, Nat.mod_eq_of_lt (by simp; omega)]; rfl
    refine (ih (i + 1) c1 (by omega)).andThen fun L c2 ⟨hc2, hL⟩ => ?_
    subst hc1
    show _ ∧ _
    simp only [drawSeeds]
    refine ⟨hc2, ?_⟩
    rw [List.range'_succ, List.zip_cons_cons]
    rw [hi1] at hL
    exact All2.cons htd hL

/-! ## the workers of one iteration, one after the other (`runWorkers`) -/

/-- what stays / what changes in the loop's cells over workers: the table and the poll counter are the workers' final ones
`tt`, `polls`; the loop's generator and the events are untouched -/
structure CellsAfter (ic ic' : IterCells) (tt : TT.Access) (polls : Nat) : Prop where
  tt : accessOf ic'.transpositions = tt
  polls : ic'.polls = polls
  wf : AccessWF ic'.transpositions
  rng : ic'.rng = ic.rng
  events : ic'.events = ic.events

/-- a later stretch of workers after an earlier one -/
theorem CellsAfter.after {ic ic1 ic2 : IterCells} {tt1 tt2 : TT.Access} {p1 p2 : Nat} (h2 : CellsAfter ic1 ic2 tt2 p2)
    (h1 : CellsAfter ic ic1 tt1 p1) : CellsAfter ic ic2 tt2 p2 :=
  ⟨h2.tt, h2.polls, h2.wf, h2.rng.trans h1.rng, h2.events.trans h1.events⟩

/-- **the loop state after the workers and the report step**: the table and the poll counter are the workers', the generator
is the loop's after the seeds were drawn; the events `evs` (those before, and what the report step emitted), the node total,
the best evaluation and the best move are what the report step made of them.  (At a use the four equations are handed over as
`by exact …`, so that they are checked after the conclusion has been matched with the goal; elaborated first they would fix the
fields of the loop state in their own spelling.) -/
theorem CellsAfter.iterRep {ic ic' : IterCells} {tt : TT.Access} {polls : Nat} (h : CellsAfter ic ic' tt polls)
    {rng : Rng.ChaCha8} (hrng : ic.rng = rng) {ls : UInt64 × Evaluation × Option Move} {evs : List StatusEvent}
    {events : List Event} {nodes : Nat} {bestEval : Eval} {bestMv : Option Move} (hev : evs.map eventOf = events)
    (hn : ls.1.toNat = nodes) (hbe : ls.2.1.toInt = bestEval) (hbm : ls.2.2 = bestMv) {panic : Option String}
    {finished : Bool} :
    IterRep { ic' with events := evs } ls { tt, rng, events, nodes, bestEval, bestMv, polls, panic, finished } :=
  ⟨h.rng.trans hrng, h.tt, h.wf, h.polls, hev, hn, hbe, hbm⟩

/-- what the worker closure does: the model's `runWorker` on the worker's seed, depth and prioritized move -/
def WorkerSpec (ctx : Ctx) (root : Wee.State) (depth : Nat) (bestMv : Option Move)
    (wf : Searcher.analyze_iterative.ThreadData → IM (SResult (Evaluation × UInt64))) : Prop :=
  ∀ td p ic, TDR (stateOf root) depth bestMv td p → AccessWF ic.transpositions →
    WhenReturns (wf td ic) fun res ic' => match res with
    | .Ok r => ∃ st', runWorker ctx root ((depth - p.1 % 2) + 1) (if p.1 == 0 then bestMv else none)
          (accessOf ic.transpositions) (Rng.seedFromU64 p.2) ic.polls = (.ok r.1.toInt, st') ∧ r.2.toNat = st'.nodes ∧
        CellsAfter ic ic' st'.tt st'.polls
    | .Err => ∃ st', runWorker ctx root ((depth - p.1 % 2) + 1) (if p.1 == 0 then bestMv else none)
          (accessOf ic.transpositions) (Rng.seedFromU64 p.2) ic.polls = (.error .interrupt, st') ∧ CellsAfter ic ic' st'.tt st'.polls

/-- what the sequential run of the workers promises about the model's `runWorkers` result `w` -/
def WorkersPost (w acc : WorkersOut) (ic : IterCells) (res : SResult (List (Evaluation × UInt64))) (ic' : IterCells) : Prop :=
  match res with
  | .Ok rs =>
    w.interrupted = false ∧ w.panic = none ∧ w.evals = acc.evals ++ rs.map (fun r => r.1.toInt) ∧
    w.sumNodes = acc.sumNodes + (rs.map (fun r => r.2.toNat)).sum ∧ CellsAfter ic ic' w.tt w.polls
  | .Err => w.interrupted = true ∧ w.panic = none ∧ CellsAfter ic ic' w.tt w.polls

theorem par_map_runWorkers (ctx : Ctx) (root : Wee.State) (depth : Nat) (bestMv : Option Move)
    (wf : Searcher.analyze_iterative.ThreadData → IM (SResult (Evaluation × UInt64))) (hw : WorkerSpec ctx root depth bestMv wf)
    (L : List Searcher.analyze_iterative.ThreadData) (pairs : List (Nat × UInt64)) (hL : All2 (TDR (stateOf root) depth bestMv) L pairs) :
    ∀ (ic : IterCells) (acc : WorkersOut), acc.interrupted = false → acc.panic = none → accessOf ic.transpositions = acc.tt →
      ic.polls = acc.polls → AccessWF ic.transpositions →
      WhenReturns (SPrim.par_map_collect_result wf L ic) (WorkersPost (runWorkers ctx root depth bestMv pairs acc) acc ic) := by
  induction hL with
  | nil =>
    intro ic acc hi hp htt hpo hwf
    simp only [SPrim.par_map_collect_result, im_pure, runWorkers]
    exact ⟨hi, hp, by simp, by simp, htt, hpo, hwf, rfl, rfl⟩
  | @cons td p L pairs htd _ ih =>
    intro ic acc hi hp htt hpo hwf
    simp only [SPrim.par_map_collect_result]
    rw [im_andThen, runWorkers_cons, if_neg (by rw [WorkersOut.stopped, hi, hp]; exact Bool.false_ne_true)]
    unfold workerRun
    rw [← htt, ← hpo]
    refine (hw td p ic htd hwf).andThen fun v c1 h1 => ?_
    cases v with
    | Err =>
      obtain ⟨st', hrun, hc⟩ := h1
      rw [hrun, runWorkers_stopped _ _ _ _ _ _ (acc.join_stopped _ _)]
      exact ⟨rfl, hp, hc⟩
    | Ok r =>
      obtain ⟨st', hrun, hn, hc⟩ := h1
      rw [hrun]
      simp only []
      rw [im_andThen]
      refine (ih c1 (acc.join (.ok r.1.toInt, st')) hi hp hc.tt hc.polls hc.wf).andThen fun v2 c2 h7 => ?_
      cases v2 with
      | Err =>
        obtain ⟨hint, hpan, hc2⟩ := h7
        exact ⟨hint, hpan, hc2.after hc⟩
      | Ok rs =>
        obtain ⟨hint, hpan, hevals, hsum, hc2⟩ := h7
        refine ⟨hint, hpan, ?_, ?_, hc2.after hc⟩
        · rw [hevals]; simp [WorkersOut.join]
        · rw [hsum]; simp [WorkersOut.join, hn]; omega

/-! ## sums, maxima, the walked line -/

theorem foldl_ord_max_toInt (es : List Evaluation) : ∀ e : Evaluation,
    (es.foldl Evaluation.ord_max e).toInt = (es.map Int32.toInt).foldl max e.toInt := by
  induction es with
  | nil => intro e; rfl
  | cons x xs ih => intro e; simp only [List.foldl_cons, List.map_cons]; rw [ih, ord_max_toInt]

/-- `*it.max().unwrap()`, when it returns: the model's fold (never the empty case) -/
theorem iter_max_some {es : List Evaluation} {r : Evaluation} (h : SPrim.iter_max es = some r) :
    ∃ e es', es = e :: es' ∧ r.toInt = (es'.map Int32.toInt).foldl max e.toInt := by
  cases es with
  | nil => cases h
  | cons e es =>
    simp only [SPrim.iter_max, Option.some.injEq] at h
    subst h
    exact ⟨e, es, rfl, foldl_ord_max_toInt es e⟩

theorem usize_saturating_sub_toNat (a b : UInt64) : (SPrim.usize_saturating_sub a b).toNat = a.toNat - b.toNat := by
  unfold SPrim.usize_saturating_sub
  by_cases h : b ≤ a
  · rw [if_pos h]; exact UInt64.toNat_sub_of_le _ _ h
  · rw [if_neg h]
    have : ¬ b.toNat ≤ a.toNat := fun x => h (UInt64.le_iff_toNat_le.2 x)
    show (0 : UInt64).toNat = _
    simp; omega

/-- the first move of a walked line is a well-formed move word when the walk is `WalkOK` -/
theorem walkLine_head_wf (keys : Keys) (tt : TT.Access) (n : Nat) (s : Wee.State) (h : WalkOK keys tt (n + 1) s) (m : Wee.Move)
    (hm : (walkLine keys tt (n + 1) s).head? = some m) : WFMove m := by
  obtain ⟨e, _, hf, rfl, _⟩ := walkLine_head?_eq_some.1 hm
  exact (h.step.2 e hf).1

/-! ## the loop body -/

/-- the number of workers the loop uses in iteration `depth` -/
def workersOfGen (mtc : Option UInt64) (mnt : UInt64) (depth : UInt64) : Nat :=
  (match mtc with | some v => v | none => (if decide (depth < (3 : UInt64)) then (1 : UInt64) else (SPrim.usize_min mnt (32 : UInt64)))).toNat

/-- the state of the translated loop: `(nodes_searched, best_eval, best_mv)` -/
abbrev LS := UInt64 × Evaluation × Option Move

/-- what one run of the generated loop body promises about the model state `st'` after the model's loop body -/
def IterPost (st' : IterSt) (out : Except SearchStop (Early LS LS) × IterCells) : Prop :=
  match out with
  | (.ok (.cont ls'), ic') => st'.finished = false ∧ st'.panic = none ∧ IterRep ic' ls' st' ∧ (∀ m, st'.bestMv = some m → WFMove m)
  | (.ok (.ret ls'), ic') => st'.finished = true ∧ st'.panic = none ∧ IterRep ic' ls' st'
  | (.error .interrupt, _) => False
  | (.error _, _) => True

theorem iterPost_liftP_bind {α : Type} {st' : IterSt} {p : Panics α} {f : α → IM (Early LS LS)} {c : IterCells}
    (h : ∀ v, p = some v → IterPost st' (f v c)) : IterPost st' ((IM.liftP p >>= f) c) := by
  rw [im_liftP_bind]
  cases p with
  | none => exact True.intro
  | some v => exact h v rfl

theorem iterPost_andThen {α : Type} {st' : IterSt} {o : Except SearchStop α × IterCells}
    {k : α → IterCells → Except SearchStop (Early LS LS) × IterCells} {P : α → IterCells → Prop}
    (ho : WhenReturns o P) (hk : ∀ a c', P a c' → IterPost st' (k a c')) : IterPost st' (andThen o k) := by
  obtain ⟨r, c'⟩ := o
  cases r with
  | error e => cases e <;> first | exact ho | exact True.intro
  | ok a => exact hk a c' ho

theorem iterPost_bind {α : Type} {st' : IterSt} {x : IM α} {f : α → IM (Early LS LS)} {c : IterCells}
    (P : α → IterCells → Prop)
    (hx : match x c with | (.ok a, c') => P a c' | (.error .interrupt, _) => False | (.error _, _) => True)
    (hf : ∀ a c', P a c' → IterPost st' (f a c')) : IterPost st' ((x >>= f) c) := by
  rw [im_bind]
  generalize x c = r at hx
  obtain ⟨r, c'⟩ := r
  cases r with
  | error e => cases e <;> first | exact hx | exact True.intro
  | ok a => exact hf a c' hx

/-- the boundary poll `depth > 0 && token.is_cancelled()` -/
theorem boundary_poll_eq (keys : Keys) (l : List UInt64) (cancel : Option Nat) (depth : UInt64) (ls : LS) (ic : IterCells) (st : IterSt)
    (hrep : IterRep ic ls st) (hnf : st.finished = false) :
    ∃ ic1, (if decide (depth > 0) = true then IM.is_cancelled ⟨cancel⟩ else pure false) ic
        = (.ok (boundaryPoll { keys := keys, history := l, cancelAt := cancel } depth.toNat st).finished, ic1) ∧
      IterRep ic1 ls (boundaryPoll { keys := keys, history := l, cancelAt := cancel } depth.toNat st) ∧
      (boundaryPoll { keys := keys, history := l, cancelAt := cancel } depth.toNat st).panic = st.panic ∧
      (boundaryPoll { keys := keys, history := l, cancelAt := cancel } depth.toNat st).bestMv = st.bestMv := by
  by_cases h : depth > 0
  · have h' : depth.toNat > 0 := by have := UInt64.lt_iff_toNat_lt.1 h; simpa using this
    rw [boundaryPoll_pos _ h' st]
    refine ⟨{ ic with polls := ic.polls + 1 }, ?_, ⟨hrep.rng, hrep.tt, hrep.wf, ?_, hrep.events, hrep.nodes, hrep.bestEval, hrep.bestMv⟩, rfl, rfl⟩
    · rw [if_pos (by simpa using h), ← hrep.polls]
      cases cancel <;> rfl
    · show ic.polls + 1 = st.polls + 1
      rw [hrep.polls]
  · have h' : depth.toNat = 0 := by
      have : ¬ 0 < depth.toNat := fun x => h (UInt64.lt_iff_toNat_lt.2 (by simpa using x))
      omega
    rw [h', boundaryPoll_zero]
    refine ⟨ic, ?_, hrep, rfl, rfl⟩
    rw [if_neg (by simpa using h), hnf]
    rfl


/-- **the body of the loop of `Searcher::analyze_iterative` refines the model's loop body** (`boundaryPoll`, then `iterStep`
unless the poll said "cancelled"): whenever the translated body returns (`continue` / end of body: `Early.cont`; `break`:
`Early.ret`), the model's state after its loop body is represented by the final cells and loop state — generator, shared table,
polls, the events emitted so far (`eventOf`), node total, best evaluation, best move — its `finished` flag is `true` exactly for
`break`, and no panic is recorded.  The workers run one after the other (`SPrim.par_map_collect_result` = `runWorkers`).
Side conditions: `StateOK root`, key-table sizes, `HistRep`, `depth + 90 < 2^31`, the previous best move is a well-formed move
word, and the line walked from the root in the table the workers leave behind visits representable states and well-formed
stored moves (`WalkOK`, the side condition of `iter_moves_walkLine`, `TTFnsBridge.lean`). -/
theorem Searcher.analyze_iterative.iteration_refines (k : KeyTable) (ht : k.turn.size = 2) (he : k.epFile.size = 8)
    (hist : StateHistory) (l : List UInt64) (hh : HistRep hist l) (cancel : Option Nat)
    (root : Wee.State) (ok : StateOK root) (mtc : Option UInt64) (mnt : UInt64) (depth : UInt64) (hd : depth.toNat + 90 < 2 ^ 31)
    (ls : LS) (ic : IterCells) (st : IterSt) (hrep : IterRep ic ls st) (hnf : st.finished = false) (hnp : st.panic = none)
    (hbest : ∀ m, st.bestMv = some m → WFMove m)
    (hwalk : WalkOK k.keys (workersOut { keys := k.keys, history := l, cancelAt := cancel } root (workersOfGen mtc mnt depth) depth.toNat
        (boundaryPoll { keys := k.keys, history := l, cancelAt := cancel } depth.toNat st)).tt (depth.toNat + 1) root) :
    IterPost (iterBody { keys := k.keys, history := l, cancelAt := cancel } root (Wee.hash k.keys root) (workersOfGen mtc mnt depth) depth.toNat st)
      (Searcher.analyze_iterative.iteration (stateOf root) ⟨eval.EVALUATORS⟩ ⟨cancel⟩ (zobristOf k) hist (Wee.hash k.keys root) mtc mnt ls depth ic) := by
  unfold Searcher.analyze_iterative.iteration iterBody
  -- the boundary poll: `st1`, `ic1` are the states after it
  obtain ⟨ic1, hpoll, hrep1, hp1, hb1⟩ := boundary_poll_eq k.keys l cancel depth ls ic st hrep hnf
  rw [im_bind, hpoll]
  generalize boundaryPoll { keys := k.keys, history := l, cancelAt := cancel } depth.toNat st = st1 at *
  simp only []
  by_cases hfin : st1.finished = true
  · simp only [hfin, if_true, im_pure]
    exact ⟨hfin, hp1.trans hnp, hrep1⟩
  · simp only [hfin, if_false, Bool.false_eq_true]
    have hst1f : st1.finished = false := by cases h : st1.finished <;> simp_all
    have hst1p : st1.panic = none := hp1.trans hnp
    have hbest1 : ∀ m, st1.bestMv = some m → WFMove m := by rw [hb1]; exact hbest
    clear hpoll hfin hp1 hb1 hbest hrep hnf hnp
    unfold SPrim.range_map_collect
    simp only [bind_assoc, pure_bind]
    rw [im_andThen]
    generalize hW' : (UInt64.toNat _ - UInt64.toNat 0) = W'
    have hW : W' = workersOfGen mtc mnt depth := by
      rw [← hW']; cases mtc <;> simp [workersOfGen]
    subst hW
    clear hW'
    have hWb : workersOfGen mtc mnt depth < 2 ^ 64 := by unfold workersOfGen; exact UInt64.toNat_lt _
    generalize workersOfGen mtc mnt depth = W at *
    -- the seeds: one draw from the loop's generator per worker, in order (`ic2`, `L`)
    refine iterPost_andThen (P := fun L ic' => ic' = { ic1 with rng := (drawSeeds W ic1.rng).2 } ∧
        All2 (TDR (stateOf root) depth.toNat st1.bestMv) L ((List.range' (0 : UInt64).toNat W).zip (drawSeeds W ic1.rng).1)) ?_
      fun L ic2 ⟨hic2, hL⟩ => ?_
    · refine range_mapM_seeds (stateOf root) depth.toNat st1.bestMv _ ?_ W 0 ic1 ?_
      · intro i c
        simp only [im_rng_gen_bind, im_liftP_bind]
        cases hadd : UInt64.checked_add (SPrim.usize_saturating_sub depth (i % 2)) 1 with
        | none => trivial
        | some d =>
          simp only [im_pure]
          refine ⟨by first | rfl | trivial, by first | rfl | trivial, by first | rfl | trivial, ?_, ?_⟩
          · show d.toNat = _
            rw [UInt64.checked_add_eq_some.1 hadd, usize_saturating_sub_toNat, UInt64.toNat_mod]; rfl
          · show (if (i == 0) = true then ls.2.2 else none) = _
            rw [hrep1.bestMv, u64_beq_iff]
            simp
      · show (0 : UInt64).toNat + W < 2 ^ 64
        simpa using hWb
    rw [im_andThen]
    have hic2' : accessOf ic2.transpositions = st1.tt ∧ ic2.polls = st1.polls ∧ AccessWF ic2.transpositions := by
      rw [hic2]; exact ⟨hrep1.tt, hrep1.polls, hrep1.wf⟩
    -- the workers, one after the other: the model's `runWorkers` (`ic3`, `res`); each worker is `analyze_recursive_runWorker`
    refine iterPost_andThen (P := WorkersPost (runWorkers { keys := k.keys, history := l, cancelAt := cancel } root depth.toNat st1.bestMv
        ((List.range' (0 : UInt64).toNat W).zip (drawSeeds W ic1.rng).1) { tt := st1.tt, polls := st1.polls, evals := [], sumNodes := 0 })
        { tt := st1.tt, polls := st1.polls, evals := [], sumNodes := 0 } ic2) ?_ fun res ic3 hwk => ?_
    · refine par_map_runWorkers _ root depth.toNat st1.bestMv _ ?_ L _ hL ic2 _ rfl rfl hic2'.1 hic2'.2.1 hic2'.2.2
      intro td p c htd hwf
      obtain ⟨t1, t2, t3, t4⟩ := htd
      have hm := Evaluation.mate_in_ply_eq 0 (by decide)
      cases hmp : Evaluation.mate_in_ply 0 with
      | none => simp only [im_liftP_bind]; exact True.intro
      | some pm =>
        have hpm : pm.toInt = Ev.mateInPly 0 := by rw [hmp] at hm; simpa using hm
        cases hng : Evaluation.neg pm with
        | none => simp only [hng, im_liftP_bind]; exact True.intro
        | some nm =>
          have hnm : nm.toInt = - Ev.mateInPly 0 := by rw [Evaluation.neg_eq_some.1 hng, hpm]
          simp only [hng, im_liftP_bind]
          rw [im_bind]
          unfold IM.call_worker
          have hbw : ∀ m, (if p.1 == 0 then st1.bestMv else none) = some m → WFMove m := by
            intro m hmv; split at hmv
            · exact hbest1 m hmv
            · cases hmv
          have hr := Searcher.analyze_recursive_runWorker k ht he hist l hh cancel (SPrim.analyze_fuel td.f_search_depth) root ok
            td.f_search_depth (by rw [t3]; omega) nm pm hpm hnm (if p.1 == 0 then st1.bestMv else none) hbw #[]
            { nodes_searched := 0, rng := td.f_rng, transpositions := c.transpositions, polls := c.polls }
            (accessOf c.transpositions) (Rng.seedFromU64 p.2) c.polls ⟨rfl, t1, rfl, rfl, hwf⟩
          rw [t3] at hr
          rw [t2, t4]
          generalize Searcher.analyze_recursive _ _ _ _ _ _ _ _ _ _ _ _ _ _ = out at hr ⊢
          generalize runWorker _ _ _ _ _ _ _ = mo at hr ⊢
          exact hr.elim (fun _ _ => trivial) (fun _ _ => trivial)
            (fun c' st' e2 => ⟨st', rfl, e2.tt, e2.polls, e2.wf, rfl, rfl⟩)
            (fun v w c' st' e2 e3 => ⟨st', by rw [← (e2 : v.1.toInt = w)], e3.nodes, e3.tt, e3.polls, e3.wf, rfl, rfl⟩)
    have hw_eq : runWorkers { keys := k.keys, history := l, cancelAt := cancel } root depth.toNat st1.bestMv
        ((List.range' (0 : UInt64).toNat W).zip (drawSeeds W ic1.rng).1) { tt := st1.tt, polls := st1.polls, evals := [], sumNodes := 0 }
        = workersOut { keys := k.keys, history := l, cancelAt := cancel } root W depth.toNat st1 := by
      unfold workersOut; rw [hrep1.rng, List.range_eq_range']; rfl
    rw [hw_eq] at hwk
    clear hw_eq hL
    have hrng2 : ic2.rng = (drawSeeds W st1.rng).2 := by rw [hic2, hrep1.rng]
    have hev2 : ic2.events = ic1.events := by rw [hic2]
    cases res with
    | Err =>
      -- a worker was interrupted: `break`, after the report of the root entry's line if that entry improves on `best_eval`
      obtain ⟨hint, hpan, hc⟩ := hwk
      rw [SearchCtl.iterStep_interrupt hpan hint]
      simp only [SResult.map, im_read_tt_bind]
      generalize workersOut { keys := k.keys, history := l, cancelAt := cancel } root W depth.toNat st1 = w at *
      have hev3 : ic3.events.map eventOf = st1.events := by rw [hc.events, hev2]; exact hrep1.events
      refine iterPost_liftP_bind (fun fr hfr => ?_)
      have hfm := TranspositionTableAccess.find_some _ _ hc.wf fr hfr
      rw [hc.tt] at hfm
      rw [← hfm]
      cases fr with
      | none => exact ⟨rfl, hst1p, hc.iterRep hrng2 (by exact hev3) (by exact hrep1.nodes) (by exact hrep1.bestEval) (by exact hrep1.bestMv)⟩
      | some x =>
        have hgt := ev_gt (a := x.f_evaluation) rfl hrep1.bestEval
        simp only [Option.map_some, entryOf, hgt]
        by_cases c : x.f_evaluation.toInt > st1.bestEval
        · simp only [c, decide_true, if_true, im_read_tt_bind]
          obtain ⟨items, hit, hmap⟩ := TranspositionTableAccess.iter_moves_walkLine k ht he ic3.transpositions hc.wf depth (by omega)
            root (by rw [hc.tt]; exact hwalk)
          rw [hc.tt] at hmap
          rw [hit, im_liftP_bind]
          simp only [hmap]
          have hemp : (walkLine k.keys w.tt (depth.toNat + 1) root).toArray.isEmpty = (walkLine k.keys w.tt (depth.toNat + 1) root).isEmpty := by
            cases walkLine k.keys w.tt (depth.toNat + 1) root <;> rfl
          rw [hemp]
          by_cases cl : (walkLine k.keys w.tt (depth.toNat + 1) root).isEmpty = true
          · simp only [cl, Bool.not_true, Bool.false_eq_true, if_false, if_true, im_pure]
            exact ⟨rfl, hst1p, hc.iterRep hrng2 (by exact hev3) (by exact hrep1.nodes) (by exact hrep1.bestEval) (by exact hrep1.bestMv)⟩
          · simp only [cl, Bool.not_false, Bool.false_eq_true, if_false, if_true, im_emit_bind, im_pure]
            refine ⟨rfl, hst1p, hc.iterRep hrng2 ?_ (by exact hrep1.nodes) (by exact hrep1.bestEval) (by exact hrep1.bestMv)⟩
            show (ic3.events ++ [_]).map eventOf = _
            rw [List.map_append, hev3]
            rfl
        · simp only [c, decide_false, if_false, Bool.false_eq_true, im_pure]
          exact ⟨rfl, hst1p, hc.iterRep hrng2 (by exact hev3) (by exact hrep1.nodes) (by exact hrep1.bestEval) (by exact hrep1.bestMv)⟩
    | Ok rs =>
      -- all workers returned: node total, maximum of the evaluations, `Progress`, then the walked line and `BestMove`
      obtain ⟨hint, hpan, w3, w4, hc⟩ := hwk
      rw [SearchCtl.iterStep_complete hpan hint]
      simp only [SResult.map]
      generalize workersOut { keys := k.keys, history := l, cancelAt := cancel } root W depth.toNat st1 = w at *
      have hev3 : ic3.events.map eventOf = st1.events := by rw [hc.events, hev2]; exact hrep1.events
      simp only [List.nil_append] at w3
      simp only [Nat.zero_add] at w4
      refine iterPost_liftP_bind (fun sum hsum => ?_)
      have hsum' := usize_sum_eq_some.1 hsum
      refine iterPost_liftP_bind (fun n2 hn2 => ?_)
      have hn2' := UInt64.checked_add_eq_some.1 hn2
      refine iterPost_liftP_bind (fun be hbe => ?_)
      obtain ⟨e0, es0, hes, hbest⟩ := iter_max_some hbe
      have hw3 : w.evals = e0.toInt :: es0.map Int32.toInt := by
        rw [w3, ← List.map_cons, ← hes, List.map_map]; rfl
      rw [hw3]
      simp only []
      refine iterPost_liftP_bind (fun d1 hd1 => ?_)
      have hd1' := UInt64.checked_add_eq_some.1 hd1
      rw [im_read_tt_bind]
      refine iterPost_liftP_bind (fun sat hsat => ?_)
      rw [im_emit_bind, im_read_tt_bind]
      obtain ⟨items, hit, hmap⟩ := TranspositionTableAccess.iter_moves_walkLine k ht he ic3.transpositions hc.wf depth (by omega) root
        (by rw [hc.tt]; exact hwalk)
      rw [hc.tt] at hmap
      show IterPost _ ((IM.liftP (iter_collect TranspositionTableMoveIterator.next (depth.toNat + 2)
        (TranspositionTableAccess.iter_moves ic3.transpositions (zobristOf k) (stateOf root) depth)) >>= _) _)
      rw [hit, im_liftP_bind]
      simp only [hmap]
      have hnodes : n2.toNat = st1.nodes + w.sumNodes := by
        rw [hn2', hsum', w4, hrep1.nodes]
        simp [List.map_map, Function.comp_def]
      have hdep : d1.toUInt32.toNat = depth.toNat + 1 := by
        rw [UInt64.toNat_toUInt32, hd1']
        have : (1 : UInt64).toNat = 1 := rfl
        rw [this, Nat.mod_eq_of_lt (by omega)]
      have hev4 : (ic3.events ++ [StatusEvent.Progress d1.toUInt32 n2 sat]).map eventOf
          = st1.events ++ [Event.progress (depth.toNat + 1) (st1.nodes + w.sumNodes)] := by
        rw [List.map_append, hev3]
        simp only [List.map_cons, List.map_nil, eventOf, hdep, hnodes]
      generalize hline : walkLine k.keys w.tt (depth.toNat + 1) root = line at *
      have hemp : line.toArray.isEmpty = line.isEmpty := by cases line <;> rfl
      have hhead : line.toArray[0]? = line.head? := by cases line <;> rfl
      rw [hemp, hhead]
      by_cases cl : line.isEmpty = true
      · simp only [cl, if_true, im_pure]
        have hh : line.head? = none := by cases line with | nil => rfl | cons a b => cases cl
        rw [hh]
        exact ⟨hst1f, hst1p, hc.iterRep hrng2 (by exact hev4) (by exact hnodes) (by exact hbest) (by exact rfl), fun m hm => nomatch hm⟩
      · simp only [cl, if_false, Bool.false_eq_true]
        refine iterPost_liftP_bind (fun t19 ht19 => ?_)
        have ht : t19 = true := by
          cases hf : List.foldlM (fun (game_state : State) (mv : Move) => do
              let r ← State.by_performing_move game_state mv
              unwrap r) (stateOf root) line with
          | none => rw [hf] at ht19; cases ht19
          | some g => rw [hf] at ht19; cases ht19; rfl
        subst ht
        refine iterPost_liftP_bind (fun u _ => ?_)
        rw [im_emit_bind]
        rw [ev_ge hbest Evaluation.consts_eq.2.1]
        have hev5 : (ic3.events ++ [StatusEvent.Progress d1.toUInt32 n2 sat] ++ [StatusEvent.BestMove be line.toArray]).map eventOf
            = st1.events ++ [Event.progress (depth.toNat + 1) (st1.nodes + w.sumNodes)] ++
              [Event.best be.toInt line] := by
          rw [List.map_append, hev4]
          simp only [List.map_cons, List.map_nil, eventOf]
        rw [hbest] at hev5
        have hwfm : ∀ m, line.head? = some m → WFMove m := by
          intro m hm
          rw [← hline] at hm
          exact walkLine_head_wf k.keys w.tt depth.toNat root hwalk m hm
        by_cases cf : be.toInt ≥ Ev.posInf <;> rw [hbest] at cf
        · simp only [cf, decide_true, if_true, im_pure]
          exact ⟨rfl, hst1p, hc.iterRep hrng2 (by exact hev5) (by exact hnodes) (by exact hbest) (by exact rfl)⟩
        · simp only [cf, decide_false, if_false, Bool.false_eq_true, im_pure]
          exact ⟨rfl, hst1p, hc.iterRep hrng2 (by exact hev5) (by exact hnodes) (by exact hbest) (by exact rfl), hwfm⟩

/-! ## the loop -/

/-- what a run of the generated loop promises about the model's final state -/
def LoopPost (st' : IterSt) (out : Except SearchStop (Early LS LS) × IterCells) : Prop :=
  WhenReturns out fun e ic' => st'.panic = none ∧ IterRep ic' (match e with | .cont ls' => ls' | .ret ls' => ls') st'

/-- **the loop `for depth in i..` of `analyze_iterative` refines the model's `iterLoop`**, for any invariant `Inv` of the model's
states that provides the side condition of the line walk -/
theorem for_range_iterLoop (k : KeyTable) (ht : k.turn.size = 2) (he : k.epFile.size = 8)
    (hist : StateHistory) (l : List UInt64) (hh : HistRep hist l) (cancel : Option Nat)
    (root : Wee.State) (ok : StateOK root) (mtc : Option UInt64) (mnt : UInt64)
    (Inv : Nat → IterSt → Prop)
    (hstep : ∀ d st, Inv d st → st.finished = false → st.panic = none →
      Inv (d + 1) (iterBody { keys := k.keys, history := l, cancelAt := cancel } root (Wee.hash k.keys root) (workersOfGen mtc mnt d.toUInt64) d st))
    (hwalk : ∀ d st, Inv d st → st.finished = false → st.panic = none →
      WalkOK k.keys (workersOut { keys := k.keys, history := l, cancelAt := cancel } root (workersOfGen mtc mnt d.toUInt64) d
        (boundaryPoll { keys := k.keys, history := l, cancelAt := cancel } d st)).tt (d + 1) root) :
    ∀ (n : Nat) (i : UInt64) (ls : LS) (ic : IterCells) (st : IterSt), i.toNat + n + 90 < 2 ^ 31 → IterRep ic ls st →
      st.finished = false → st.panic = none → (∀ m, st.bestMv = some m → WFMove m) → Inv i.toNat st →
      LoopPost (iterLoop { keys := k.keys, history := l, cancelAt := cancel } root (Wee.hash k.keys root)
          (fun d => workersOfGen mtc mnt d.toUInt64) n i.toNat st)
        (SPrim.for_range_early (m := IM) (Searcher.analyze_iterative.iteration (stateOf root) ⟨eval.EVALUATORS⟩ ⟨cancel⟩ (zobristOf k) hist
          (Wee.hash k.keys root) mtc mnt) n i ls ic) := by
  intro n
  induction n with
  | zero =>
    intro i ls ic st _ hrep _ hnp _ _
    simp only [SPrim.for_range_early, iterLoop, im_pure]
    exact ⟨hnp, hrep⟩
  | succ n ih =>
    intro i ls ic st hb hrep hnf hnp hbest hinv
    have hiu : i.toNat.toUInt64 = i := by simp
    rw [iterLoop_succ_body _ _ _ _ _ _ _ hnf]
    simp only [SPrim.for_range_early]
    rw [im_bind]
    have h1 := Searcher.analyze_iterative.iteration_refines k ht he hist l hh cancel root ok mtc mnt i (by omega) ls ic st hrep hnf hnp hbest
      (by have := hwalk i.toNat st hinv hnf hnp; rw [hiu] at this; exact this)
    have hinv' := hstep i.toNat st hinv hnf hnp
    rw [hiu] at hinv' ⊢
    generalize iterBody _ root _ _ i.toNat st = st' at h1 hinv' ⊢
    generalize Searcher.analyze_iterative.iteration _ _ _ _ _ _ _ _ ls i ic = out at h1 ⊢
    obtain ⟨o, ic'⟩ := out
    cases o with
    | error e => cases e <;> first | exact h1.elim | exact True.intro
    | ok e =>
      cases e with
      | ret ls' =>
        obtain ⟨hf, hp, hr⟩ := h1
        simp only [im_pure]
        rw [iterLoop_finished _ _ _ _ _ _ _ hf]
        exact ⟨hp, hr⟩
      | cont ls' =>
        obtain ⟨hf, hp, hr, hbw⟩ := h1
        simp only []
        have hi1 : (i + 1).toNat = i.toNat + 1 := by
          rw [UInt64.toNat_add, Nat.mod_eq_of_lt (by simp; omega)]; rfl
        have := ih (i + 1) ls' ic' st' (by omega) hr hf hp hbw (by rw [hi1]; exact hinv')
        rw [hi1] at this
        exact this

/-- **the `for` statement of `Searcher::analyze_iterative` refines the model's `iterLoop`** (from depth 0, `max_depth` iterations
at most): whenever the translated loop returns, the model's final loop state is the one represented by the final cells and loop
state (generator, table, polls, the emitted events through `eventOf`, node total, best evaluation, best move), with no panic
recorded. -/
theorem Searcher.analyze_iterative.loop_refines (k : KeyTable) (ht : k.turn.size = 2) (he : k.epFile.size = 8)
    (hist : StateHistory) (l : List UInt64) (hh : HistRep hist l) (cancel : Option Nat)
    (root : Wee.State) (ok : StateOK root) (mtc : Option UInt64) (mnt : UInt64)
    (Inv : Nat → IterSt → Prop)
    (hstep : ∀ d st, Inv d st → st.finished = false → st.panic = none →
      Inv (d + 1) (iterBody { keys := k.keys, history := l, cancelAt := cancel } root (Wee.hash k.keys root) (workersOfGen mtc mnt d.toUInt64) d st))
    (hwalk : ∀ d st, Inv d st → st.finished = false → st.panic = none →
      WalkOK k.keys (workersOut { keys := k.keys, history := l, cancelAt := cancel } root (workersOfGen mtc mnt d.toUInt64) d
        (boundaryPoll { keys := k.keys, history := l, cancelAt := cancel } d st)).tt (d + 1) root)
    (maxD : UInt64) (hmd : maxD.toNat + 90 < 2 ^ 31) (ls : LS) (ic : IterCells) (st : IterSt) (hrep : IterRep ic ls st)
    (hnf : st.finished = false) (hnp : st.panic = none) (hbest : ∀ m, st.bestMv = some m → WFMove m) (hinv : Inv 0 st) :
    match Searcher.analyze_iterative.loop (stateOf root) ⟨eval.EVALUATORS⟩ ⟨cancel⟩ (zobristOf k) hist (Wee.hash k.keys root) mtc mnt maxD ls ic with
    | (.ok ls', ic') =>
      (iterLoop { keys := k.keys, history := l, cancelAt := cancel } root (Wee.hash k.keys root)
        (fun d => workersOfGen mtc mnt d.toUInt64) maxD.toNat 0 st).panic = none ∧
      IterRep ic' ls' (iterLoop { keys := k.keys, history := l, cancelAt := cancel } root (Wee.hash k.keys root)
        (fun d => workersOfGen mtc mnt d.toUInt64) maxD.toNat 0 st)
    | (.error .interrupt, _) => False
    | (.error _, _) => True := by
  unfold Searcher.analyze_iterative.loop
  rw [im_bind]
  have h := for_range_iterLoop k ht he hist l hh cancel root ok mtc mnt Inv hstep hwalk maxD.toNat 0 ls ic st
    (by show (0 : UInt64).toNat + maxD.toNat + 90 < 2 ^ 31; simp; omega) hrep hnf hnp hbest hinv
  have h0 : maxD.toNat - (0 : UInt64).toNat = maxD.toNat := by simp
  have h00 : (0 : UInt64).toNat = 0 := rfl
  rw [h0]
  rw [h00] at h
  generalize iterLoop _ root _ _ maxD.toNat 0 st = st' at h ⊢
  generalize SPrim.for_range_early (m := IM) _ maxD.toNat 0 ls ic = out at h ⊢
  obtain ⟨o, ic'⟩ := out
  cases o with
  | error e => cases e <;> first | exact h.elim | exact True.intro
  | ok e => cases e <;> exact h

/-- the same from the start of a search: fresh loop state `(0, NEG_INF, None)`, no event yet, the poll counter at 0 — against
the model's `iterLoop` from `SearchCtl.iterInit` (the loop of `iterate`) -/
theorem Searcher.analyze_iterative.loop_refines_init (k : KeyTable) (ht : k.turn.size = 2) (he : k.epFile.size = 8)
    (hist : StateHistory) (l : List UInt64) (hh : HistRep hist l) (cancel : Option Nat)
    (root : Wee.State) (ok : StateOK root) (mtc : Option UInt64) (mnt : UInt64)
    (Inv : Nat → IterSt → Prop)
    (hstep : ∀ d st, Inv d st → st.finished = false → st.panic = none →
      Inv (d + 1) (iterBody { keys := k.keys, history := l, cancelAt := cancel } root (Wee.hash k.keys root) (workersOfGen mtc mnt d.toUInt64) d st))
    (hwalk : ∀ d st, Inv d st → st.finished = false → st.panic = none →
      WalkOK k.keys (workersOut { keys := k.keys, history := l, cancelAt := cancel } root (workersOfGen mtc mnt d.toUInt64) d
        (boundaryPoll { keys := k.keys, history := l, cancelAt := cancel } d st)).tt (d + 1) root)
    (maxD : UInt64) (hmd : maxD.toNat + 90 < 2 ^ 31) (rng0 : Rng.ChaCha8) (a : TranspositionTableAccess) (wf : AccessWF a)
    (hinv : Inv 0 (iterInit rng0 { keys := k, tt := accessOf a, history := [] })) :
    match Searcher.analyze_iterative.loop (stateOf root) ⟨eval.EVALUATORS⟩ ⟨cancel⟩ (zobristOf k) hist (Wee.hash k.keys root) mtc mnt maxD
        ((0 : UInt64), Evaluation.NEG_INF, none) { rng := rng0, transpositions := a, polls := 0, events := [] } with
    | (.ok ls', ic') =>
      (iterLoop { keys := k.keys, history := l, cancelAt := cancel } root (Wee.hash k.keys root)
        (fun d => workersOfGen mtc mnt d.toUInt64) maxD.toNat 0 (iterInit rng0 { keys := k, tt := accessOf a, history := [] })).panic = none ∧
      IterRep ic' ls' (iterLoop { keys := k.keys, history := l, cancelAt := cancel } root (Wee.hash k.keys root)
        (fun d => workersOfGen mtc mnt d.toUInt64) maxD.toNat 0 (iterInit rng0 { keys := k, tt := accessOf a, history := [] }))
    | (.error .interrupt, _) => False
    | (.error _, _) => True :=
  Searcher.analyze_iterative.loop_refines k ht he hist l hh cancel root ok mtc mnt Inv hstep hwalk maxD hmd _ _ _
    ⟨rfl, rfl, wf, rfl, rfl, rfl, Evaluation.consts_eq.2.2.1, rfl⟩ rfl rfl (by intro m h; cases h) hinv

end GenFns
end Wee
