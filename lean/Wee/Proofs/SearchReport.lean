import Wee.Proofs.AnySchedule
/-!
# The evaluation range (part D of property C03)

`M0 = mate_in_ply(0)` is the half-width of the root window.  Static evaluations at plies `1 ≤ d < 2^31` are strictly inside
it, whatever the state (`evaluate_inside_root`: the heuristic sum is clamped), hence so is every value quiescence returns
(`quiesce_bound`) and — fail-hard alpha-beta at the reading `Bounds.inside` of "lower / upper bound" — every value a
non-root call of `analyze_recursive` returns or stores (`searchNodeE_inside`), for a worker among others that store only
such values (rely/guarantee).  So the table handed back by any outcome of the search satisfies `EvalIn` again
(`searchS_evalIn`).  (`Search.RngOnly` with `rngOnly_mapM`, and `runM_except`, serve nothing here: they are kept for their
statements.)
-/
namespace Wee.Search
open Wee
open Wee.C10 (DisjointBoard)

/-- `mate_in_ply(0)`, the half-width of the root window -/
def M0 : Int := Ev.mateInPly 0

theorem M0_pos : 0 < M0 := by decide
theorem _root_.Wee.M0_eq : M0 = 11000 := by decide

/-- static evaluations, at a depth `1 ≤ depth < 2^31`, of positions of the region are strictly inside the root
window `(-mate_in_ply(0), mate_in_ply(0))`.  (At depth 0 a mate scores exactly `±mate_in_ply(0)`; from
`2^31` on `ply as i32` wraps and the mate bonus grows again.) -/
def EvalBelowMate (R : State → Prop) : Prop :=
  ∀ s, R s → ∀ (p : Color) (depth : Nat) (v : Int), 1 ≤ depth → depth < 2^31 → evaluate s p depth = some v →
    -M0 < v ∧ v < M0

/-- a mate score at a ply `1 ≤ d < 2^31` is at most `mate_in_ply(1) = 10900` -/
theorem _root_.Wee.mateInPly_le {d : Nat} (h1 : 1 ≤ d) (h2 : d < 2^31) : 10000 ≤ Ev.mateInPly d ∧ Ev.mateInPly d ≤ 10900 := by
  rw [C05.mateInPly_eq, C05.plyAsI32_small h2]
  constructor
  · show (10000 : Int) ≤ 10000 + _; omega
  · show (10000 : Int) + _ ≤ 10900; omega

/-- a static evaluation at a ply `1 ≤ d < 2^31` is strictly inside the root window, whatever the state: a mate score is at
most `mate_in_ply(1) = 10900`, a draw is 0, the heuristic sum is clamped to `[-9999, 9999]` -/
theorem _root_.Wee.evaluate_inside_root {s : State} {p : Color} {d : Nat} {v : Int} (h1 : 1 ≤ d) (h2 : d < 2^31)
    (hev : evaluate s p d = some v) : -M0 < v ∧ v < M0 := by
  have hm := mateInPly_le h1 h2
  have hc := clampHeuristic_range (evalHeuristic (Variation.of s) p)
  rw [M0_eq]
  rcases evaluate_values hev with h | h | h | h <;> rw [h] <;> constructor <;> eomega

/-! ## quiescence: values stay strictly inside the window -/

theorem quiesce_bound (fuel : Nat) (s : State) (depth : Nat) (α β : Int) (hd : 1 ≤ depth)
    (hf : depth + fuel < 2^31) (h1 : -M0 ≤ α) (h2 : α < M0) (h3 : -M0 < β) (h4 : β ≤ M0) (v : Int)
    (hv : quiesce evaluate fuel s depth α β = .ok v) : -M0 < v ∧ v < M0 := by
  refine SearchCtl.QRule.ok (Allowed := fun _ => True)
    (F := fun fuel _ d α β => (1 ≤ d ∧ d + fuel < 2^31) ∧ -M0 ≤ α ∧ α < M0 ∧ -M0 < β ∧ β ≤ M0)
    (Q := fun _ _ _ _ v => -M0 < v ∧ v < M0) (I := fun _ _ _ _ a => -M0 < a ∧ a < M0)
    ⟨fun _ => trivial, fun _ _ => trivial, fun _ _ => trivial, ?_, ?_, ?_, ?_, fun _ h => h⟩
    ⟨⟨hd, hf⟩, h1, h2, h3, h4⟩ hv
  · intro fuel s d α β ms e hF _ hev _
    exact evaluate_inside_root hF.1.1 (by omega) hev
  · intro fuel s d α β ms e hF _ hev _
    have := evaluate_inside_root hF.1.1 (by omega) hev
    refine ⟨fun hge => ⟨hF.2.2.2.1, by eomega⟩, fun _ => ?_⟩
    by_cases hlt : α < e
    · rw [if_pos hlt]; exact this
    · rw [if_neg hlt]; exact ⟨by eomega, hF.2.2.1⟩
  · intro fuel s d α β ms a r hF _ ha _ _
    exact ⟨⟨by omega, by omega⟩, by eomega, by eomega, by eomega, by eomega⟩
  · intro fuel s d α β ms a r v hF _ ha _ hc
    refine ⟨fun hge => ⟨hF.2.2.2.1, by eomega⟩, fun hge => ?_⟩
    by_cases hgt : -v > a
    · rw [if_pos hgt]; exact ⟨by eomega, by eomega⟩
    · rw [if_neg hgt]; exact ha

/-! ## runs that only advance the generator; `Inside` -/

/-- `x` ends normally and changes nothing but the rng -/
def RngOnly {α} (Q : α → Prop) (x : M α) : Prop :=
  ∀ st, ∃ v r, runM x st = (.ok v, { st with rng := r }) ∧ Q v

theorem rngOnly_mapM {β γ : Type} {Q : β → Prop} (g : γ → M β) :
    ∀ (xs : List γ), (∀ x ∈ xs, RngOnly Q (g x)) → RngOnly (fun ys => ∀ y ∈ ys, Q y) (xs.mapM g) := by
  intro xs
  induction xs with
  | nil => intro _; rw [List.mapM_nil]; exact SearchCtl.RngOnly.pure _ (fun y hy => by cases hy)
  | cons x xs ih =>
    intro h
    rw [List.mapM_cons]
    refine SearchCtl.RngOnly.bind (h x List.mem_cons_self) (fun b hb => ?_)
    refine SearchCtl.RngOnly.bind (ih (fun x' hx' => h x' (List.mem_cons_of_mem _ hx'))) (fun bs hbs => ?_)
    refine SearchCtl.RngOnly.pure _ (fun y hy => ?_)
    rcases List.mem_cons.1 hy with rfl | hy
    · exact hb
    · exact hbs y hy

theorem runM_except {st : St} (q : Except Stop Eval) :
    runM (match q with | .ok v => (pure v : M Eval) | .error e => throw e) st = (q, st) := by
  cases q <;> rfl

/-- strictly inside the root window -/
def Inside (v : Int) : Prop := -M0 < v ∧ v < M0

open Wee.SearchCtl

/-! ## the evaluation range of stored entries -/

/-- every evaluation stored anywhere in the table lies strictly inside the root window -/
def EvalIn (tt : TT.Access) : Prop := tt.All (fun e => Inside e.eval)

theorem EvalIn.new (nT nB : Nat) : EvalIn (TT.Access.new nT nB) := TT.Access.All.new _ nT nB

theorem EvalIn.find {tt : TT.Access} (h : EvalIn tt) {k : Nat} {e : TT.Entry} (hf : tt.find k = some e) :
    Inside e.eval := TT.Access.All.find h hf

theorem EvalIn.insert {tt : TT.Access} (h : EvalIn tt) (k : Nat) (e : TT.Entry) (he : Inside e.eval) :
    EvalIn (tt.insert k e) := TT.Access.All.insert h k e he

theorem find_insert_isSome {tt : TT.Access} (hwf : TTWf tt) (k : Nat) (e : TT.Entry) :
    ((tt.insert k e).find k).isSome = true := by
  obtain ⟨nT, nB, hT, hB, hinv⟩ := hwf
  rw [hinv.find_insert_self (by decide) hT hB]
  rfl

/-- the invariant of the worker for the evaluation range: stored evaluations strictly inside the root window, in a table of
the shape of a reachable table (every insert keeps the shape; with it a stored entry is found again) -/
def EvalWf (tt : TT.Access) : Prop := EvalIn tt ∧ TTWf tt

/-- a search window inside the root window: what every call of `analyze_recursive` is given -/
def WinOK (al be : Int) : Prop := -M0 ≤ al ∧ al < M0 ∧ -M0 < be ∧ be ≤ M0

theorem winOK_root : WinOK (- Ev.mateInPly 0) (Ev.mateInPly 0) := by
  have := M0_pos
  unfold M0 at this
  unfold WinOK M0
  omega

theorem ext_le_one (a : NodeArgs) : (if a.curExt < Gen.extensionCap then extensionOf a.s else 0) ≤ 1 := by
  unfold extensionOf
  split
  · split <;> omega
  · omega

/-- the arguments of a child call: its window is inside the root window, its plies stay below the bound, and it is not
the root call (each level adds one ply and at most one extension) -/
theorem childArgs_ok {a : NodeArgs} (next : State) {al' : Eval} {rem : Nat} (hb1 : -M0 < a.beta) (hb2 : a.beta ≤ M0)
    (h1 : -M0 ≤ al') (h2 : al' < M0) (hd : a.curDepth + 2 * (rem + 1) + 70 < 2^31) :
    WinOK (childArgs a next al').alpha (childArgs a next al').beta ∧
    (childArgs a next al').curDepth + 2 * rem + 70 < 2^31 ∧ 1 ≤ (childArgs a next al').curDepth := by
  have hx := ext_le_one a
  refine ⟨?_, ?_, ?_⟩
  · show WinOK (-a.beta) (-al')
    unfold WinOK
    eomega
  · show a.curDepth + 1 + (if a.curExt < Gen.extensionCap then extensionOf a.s else 0) + 2 * rem + 70 < 2^31
    omega
  · show 1 ≤ a.curDepth + 1 + (if a.curExt < Gen.extensionCap then extensionOf a.s else 0)
    omega

end Wee.Search

/-! `analyze_recursive` keeps `EvalIn`, for a worker in an environment: it relies on the other workers to store only values
strictly inside the window and guarantees the same of its own inserts. -/
namespace Wee.Env
open Wee Wee.Search
open Wee.SearchCtl (Walk InBuffer childArgs entryOf tick bufferOf)

/-- the admissible inserts of the evaluation range -/
def InsIn (_ : Nat) (e : TT.Entry) : Prop := Inside e.eval

theorem evalIn_applyInserts {env : Env} (hrely : ∀ j, ∀ p ∈ env.script j, InsIn p.1 p.2) (tt : TT.Access)
    (h : EvalIn tt) (j : Nat) : EvalIn (applyInserts tt (env.script j)) :=
  applyInserts_inv (P := EvalIn) (Adm := InsIn) (fun _ k e h he => h.insert k e he) _ tt h (hrely j)

/-- **"strictly inside the root window" as a reading of `Bounds`**: a lower bound is a value below `M0` (by a move: of a
position with a legal move), an upper bound a value above `-M0` — or, for the root call, of a position without legal
moves (at depth 0 a mate scores exactly `-M0`).  With a window inside `[-M0, M0]` the fail-hard contract then
says that the value is strictly inside. -/
def _root_.Wee.C06.Bounds.inside (root : Prop) (s : State) : C06.Bounds s where
  Low r := r < M0
  LowM r m := r < M0 ∧ ∃ c ∈ legalMoves s, c.1 = m
  Up r := -M0 < r ∨ (root ∧ legalMoves s = [])
  SLow _ v := v < M0
  SUp _ v := -M0 < v
  lowM_low := fun h => h.1
  low_of_succ := fun hc hu hb => ⟨by eomega, _, hc, rfl⟩
  up_of_succs := fun {r} hne h => by
    cases hl : legalMoves s with
    | nil => exact absurd hl hne
    | cons c _ =>
      have := h c (by rw [hl]; exact List.mem_cons_self)
      exact .inl (by eomega)
  slow_mono := fun h hv => by eomega
  low_mono := fun h hv => by eomega
  up_mono := fun h hv => h.imp (fun h => by eomega) id

/-- the contract under `Bounds.inside`, for a non-root call with a window inside `[-M0, M0]` -/
theorem inside_of_val {root : Prop} {s : State} {al be r : Eval} (hroot : ¬ root) (hw : WinOK al be)
    (h : (C06.Bounds.inside root s).Val al be r) : Inside r := by
  obtain ⟨w1, w2, w3, w4⟩ := hw
  constructor
  · by_cases hlt : r < be
    · exact (h.2 hlt).resolve_right fun h' => hroot h'.1
    · eomega
  · by_cases hlt : al < r
    · exact h.1 hlt
    · eomega

/-- the windows of a node whose own window is inside `[-M0, M0]` and open, when the table holds values strictly
inside only -/
theorem window_inside (ctx : Ctx) {a : NodeArgs} (hw : WinOK a.alpha a.beta) (hab : a.alpha < a.beta) :
    Window ctx a (fun st => EvalWf st.tt) (fun al be => WinOK al be ∧ al < be) := by
  refine ⟨fun found al be ⟨st, hst, hf⟩ hpr => ?_, fun be al v h h1 h2 => ?_⟩
  · obtain ⟨w1, w2, w3, w4⟩ := hw
    rcases C06.probe_window hpr with ⟨rfl, rfl, _⟩ | ⟨e, rfl, _, _, hlt, hk⟩
    · exact ⟨⟨w1, w2, w3, w4⟩, hab⟩
    · obtain ⟨e1, e2⟩ := hst.1.find hf
      refine ⟨?_, hlt⟩
      unfold WinOK
      rcases hk with ⟨_, rfl, rfl⟩ | ⟨_, rfl, rfl⟩ <;> eomega
  · obtain ⟨⟨w1, w2, w3, w4⟩, _⟩ := h
    exact ⟨⟨by eomega, by eomega, w3, w4⟩, h2⟩

/-- `searchNodeE_inside` in the worker's logic; every node counts a node.  A run of a node is a `NodeOut` whose children
return values strictly inside, and `NodeOut.ab` at `Bounds.inside` is the rest -/
theorem searchNodeE_insideP {R : State → Prop} (hR : Region R) (env : Env)
    (hrely : ∀ j, ∀ p ∈ env.script j, InsIn p.1 p.2) (ctx : Ctx) :
    ∀ (rem : Nat) (a : NodeArgs), R a.s → WinOK a.alpha a.beta → a.alpha < a.beta →
      a.curDepth + 2 * rem + 70 < 2^31 → (∀ m, a.prioritized = some m → LegalIn a.s m) → ∀ k,
      HoldsP (Spec.inv (fun st => EvalWf st.tt) InsIn) (fun st => EvalWf st.tt ∧ k ≤ st.nodes) (searchNodeE env ctx rem a)
        (fun r st' => (EvalWf st'.tt ∧ k < st'.nodes) ∧ (1 ≤ a.curDepth → Inside r)) := by
  refine fun rem a ha hw hab hd hprio => searchNodeE_induct
    (Pre := fun rem a => R a.s ∧ WinOK a.alpha a.beta ∧ a.alpha < a.beta ∧ a.curDepth + 2 * rem + 70 < 2^31 ∧
      ∀ m, a.prioritized = some m → LegalIn a.s m)
    (T := fun _ a x => ∀ k, HoldsP (Spec.inv (fun st => EvalWf st.tt) InsIn) (fun st => EvalWf st.tt ∧ k ≤ st.nodes) x
      (fun r st' => (EvalWf st'.tt ∧ k < st'.nodes) ∧ (1 ≤ a.curDepth → Inside r)))
    (fun rem a rec ⟨ha, hw, hab, hd, hprio⟩ _ hrec n => ?_) rem a ⟨ha, hw, hab, hd, hprio⟩
  obtain ⟨hl, hdj⟩ := hR.good _ ha
  have hms := C02.legalMoves?_eq a.s hl hdj
  have hst : Stable env (fun st => EvalWf st.tt) := fun st j h => ⟨evalIn_applyInserts hrely st.tt h.1 j,
    applyInserts_inv (P := TTWf) (Adm := fun _ _ => True) (fun _ k e h _ => h.insert k e) _ st.tt h.2 fun _ _ => trivial⟩
  have hW := window_inside ctx hw hab
  let B := C06.Bounds.inside (a.curDepth = 0) a.s
  have hstatic : legalMoves a.s = [] → ∀ e, evaluate a.s a.s.turn a.curDepth = some e → ∀ α β, B.Val α β e := by
    intro hnil e he α β
    refine ⟨fun _ => ?_, fun _ => ?_⟩
    · have := C06.static_lt he
      show e < M0
      rw [M0_eq]; eomega
    · by_cases h0 : a.curDepth = 0
      · exact .inr ⟨h0, hnil⟩
      · exact .inl (evaluate_inside_root (by omega) (by omega) he).1
  -- an entry of this node, as `TailOut.ab` and `TailOut.some_entry` describe it, holds a value strictly inside
  have hentry : ∀ {ps buf al be r e}, pseudoLegalMoves a.s = some ps → (∀ mv, mv ∈ buf ↔ InBuffer a ps mv) →
      WinOK al be ∧ al < be → C06.TailOut a (B.Child be) buf al be r (some e) → Inside e.eval := by
    intro ps buf al be r e hps hbuf hwn hout
    obtain ⟨k, m, rfl, hlow, _⟩ := (hout.ab B hms hps hprio hbuf hwn.2 fun hn e he => hstatic hn e he _ _).2 e rfl
    obtain ⟨w1, _, w3, _⟩ := hwn.1
    refine ⟨?_, hlow.1⟩
    show -M0 < r
    rcases hout.some_entry rfl with ⟨_, _, rfl⟩ | ⟨_, _, hlt⟩
    · exact w3
    · eomega
  refine holdsP_conseq (nodeE_outP (P := fun st => EvalWf st.tt) (Q := fun _ _ st => EvalWf st.tt)
    (C := fun β => B.Child β) hst (fun _ h => h) hst (fun _ h => h) ctx a rec (.ofAll fun _ => trivial) hW
    (SearchCtl.tick_post ctx trivial (fun _ h => h) fun _ _ h => h) (fun _ _ h => h)
    (fun _ => ⟨?_, fun _ => ?_, fun _ => ?_⟩) n) (fun _ h => h) ?_
  · intro child hc ps hps alpha beta mv hmv m next ht α k hwn
    obtain ⟨r, rfl, hch⟩ := hrec child hc
    have hr := C06.buffer_legal hms hps hprio hmv ht
    obtain ⟨⟨w1, w2, w3, w4⟩, hlt⟩ := hwn
    obtain ⟨hwin, hdep, hone⟩ := childArgs_ok (a := { a with alpha := alpha, beta := beta }) (rem := r) next w3 w4
      w1 w2 hd
    exact holdsP_conseq (hch _ ⟨hR.closed _ ha _ hr, hwin, by show -beta < -α; eomega, hdep,
        fun _ hm => nomatch (show Option.none = some _ from hm)⟩ k)
      (fun _ h => h) fun v st' h => ⟨h.1, hr, fun _ => (h.2 hone).1, fun _ => (h.2 hone).2⟩
  · intro beta m next α v hwn hC hb
    obtain ⟨⟨_, _, w3, _⟩, hlt⟩ := hwn
    have := (B.low_of_succ hC.1 (hC.2.1 (by eomega)) hb).1
    exact ⟨w3, this⟩
  · intro ps alpha beta buf r e st hps hbuf hwn hout hp
    have := hentry hps hbuf hwn hout
    exact ⟨⟨hp.1.insert _ _ this, hp.2.insert _ _⟩, this⟩
  · rintro r st' ⟨hn, found, stored, ⟨st0, hp0, hf⟩, hout, _, h1, h2⟩
    refine ⟨⟨?_, hn⟩, fun hdeep => ?_⟩
    · cases stored with
      | none => exact h1 rfl
      | some e => exact h2 e rfl
    · have hval := (hout.ab B hms hprio hab (fun _ _ => ⟨fun _ => M0_pos, fun _ => .inl (by have := M0_pos; omega)⟩)
        (fun e he _ => ⟨fun _ => .inl (hp0.1.find (hf.trans he)).1, fun _ => (hp0.1.find (hf.trans he)).2⟩)
        (fun _ α β v hpr hq => ?_) hstatic).1
      · exact inside_of_val (by omega) hw hval
      · obtain ⟨⟨w1, w2, w3, w4⟩, _⟩ := hW.probe found α β ⟨st0, hp0, hf⟩ hpr
        have := quiesce_bound _ a.s a.curDepth α β hdeep (by
          have := popcount_le a.s.pieces.occ
          unfold quiesceFuel
          omega) w1 w2 w3 w4 _ hq
        exact ⟨fun _ => this.2, fun _ => .inl this.1⟩

/-- relying on the other workers to store only values strictly inside the window, the worker keeps `EvalIn`, stores only
such values itself, and returns such a value from every non-root call -/
theorem searchNodeE_inside {R : State → Prop} (hR : Region R) (env : Env)
    (hrely : ∀ j, ∀ p ∈ env.script j, InsIn p.1 p.2) (ctx : Ctx) :
    ∀ (rem : Nat) (a : NodeArgs) (n : Nat) (st : St), R a.s → WinOK a.alpha a.beta → a.alpha < a.beta →
      a.curDepth + 2 * rem + 70 < 2^31 → (∀ m, a.prioritized = some m → LegalIn a.s m) → EvalWf st.tt →
      EvalIn (searchNodeE env ctx rem a n st).2.1.tt ∧ LogOK InsIn (searchNodeE env ctx rem a n st).2.2 ∧
      ∀ v, (searchNodeE env ctx rem a n st).1 = .ok v → 1 ≤ a.curDepth → Inside v := by
  intro rem a n st ha hw hab hd hprio hst
  have h := searchNodeE_insideP hR env hrely ctx rem a ha hw hab hd hprio st.nodes n st ⟨hst, Nat.le_refl _⟩
  generalize searchNodeE env ctx rem a n st = out at h ⊢
  obtain ⟨r | r, st', l⟩ := out
  · cases r with
    | interrupt => exact ⟨h.2.1.1, h.2.2, fun _ h' => nomatch h'⟩
    | panic w => exact ⟨h.2.1.1, h.2.2, fun _ h' => nomatch h'⟩
  · exact ⟨h.1.1.1.1, h.2, fun v hv => by cases hv; exact h.1.2⟩

/-! ## the evaluation range under arbitrary schedules -/

/-- one worker (rely ⇒ guarantee) -/
theorem runWorkerE_evalIn {R : State → Prop} (hR : Region R) (env : Env)
    (hrely : ∀ j, ∀ p ∈ env.script j, InsIn p.1 p.2) (ctx : Ctx) (root : State) (hroot : R root) (w : Worker)
    (hsd : 2 * w.searchDepth + 70 < 2^31) (hbest : ∀ m, w.best = some m → LegalIn root m) (tt : TT.Access)
    (htt : EvalWf tt) :
    EvalIn (runWorkerE env ctx root w tt).2.1.tt ∧ LogOK InsIn (runWorkerE env ctx root w tt).2.2 := by
  rw [runWorkerE_eq]
  have h := searchNodeE_inside hR env hrely ctx w.searchDepth (rootArgsE root w) 0
    { tt, rng := w.rng, nodes := 0, polls := w.polls } hroot winOK_root
    (show - Ev.mateInPly 0 < Ev.mateInPly 0 by decide) (by show 0 + 2 * w.searchDepth + 70 < 2^31; omega) hbest htt
  exact ⟨h.1, h.2.1⟩

/-- one iteration under any schedule keeps `EvalIn` (given the loop invariant of C03 for the remembered best move) -/
theorem stepS_evalIn {R : State → Prop} (hR : Region R) (ctx : Ctx) (root : State)
    (hroot : R root) (rootHash : UInt64) (workers depth : Nat) (hd : 2 * (depth + 1) + 70 < 2^31) (st st' : IterSt)
    (hbest : ∀ m, st.bestMv = some m → LegalIn root m) (h : EvalIn st.tt) (hwf : TTWf st.tt)
    (hs : StepS ctx root rootHash workers depth st st') : EvalIn st'.tt := by
  obtain ⟨w, rfl, hw, _⟩ := stepS_rule (ctx := ctx) (root := root) (depth := depth) (Adm := InsIn) (Q := fun _ => True)
    (fun _ k e h he => h.insert k e he) h (fun w hsd hb env hadm =>
      ⟨(runWorkerE_evalIn hR env hadm ctx root hroot w (by omega)
        (hb.elim (fun e => e ▸ hbest) fun e => e ▸ fun m hm => nomatch hm) st.tt ⟨h, hwf⟩).2, trivial⟩) hs
  rw [finishStep_tt]
  split
  · exact h
  · exact hw

theorem searchS_evalIn {R : State → Prop} (hR : Region R) (root : State) (hroot : R root)
    (art : Artifact) (hcf : CollisionFree art.keys.keys R) (htt : TInv art.keys.keys R art.tt) (hin : EvalIn art.tt)
    (rng0 : Rng.ChaCha8) (maxDepth : Option Nat) (workersOf : Nat → Nat) (cancelAt : Option Nat) (fuelDepth : Nat)
    (hlim : maxDepth.getD fuelDepth ≤ 1000000000) (out : Outcome)
    (hout : SearchS root rng0 maxDepth art workersOf cancelAt fuelDepth out) : EvalIn out.artifact.tt := by
  have hle := iterLimit_le root maxDepth fuelDepth
  obtain ⟨st, h, _, hart, _⟩ := searchS_rule (P := fun st => IterInv art.keys.keys R root st ∧ EvalIn st.tt)
    ⟨⟨htt, fun m hm => (by cases hm), fun ev line hm => (by cases hm)⟩, hin⟩
    (fun depth st p h => ⟨(show IterInv _ _ root { st with polls := p } from ⟨h.1.tt, h.1.best, h.1.events⟩).boundaryPoll _ depth,
      by rw [boundaryPoll_tt]; exact h.2⟩)
    (fun depth st st' hd h hs =>
      ⟨stepS_inv_region hR (iterCtx root art cancelAt) hcf root hroot _ _ depth st st' h.1 hs,
       stepS_evalIn hR (iterCtx root art cancelAt) root hroot _ _ depth (by omega) st st' h.1.best h.2 h.1.tt.1 hs⟩)
    hout
  rw [hart]
  exact h.2

end Wee.Env
