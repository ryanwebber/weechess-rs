import Wee.Proofs.ReadsFrom
/-!
# The history side: the sequential schedule is an execution

The history in which the workers run one after the other (`sequentialHistory`): each worker's operations form a `block`,
nobody else writes while it runs.  A worker whose operations form a block of a history sees the empty environment after
its first operation, where it reads the table the blocks before it left (`runWorkerE_shift`, an instance of
`searchNodeE_srel`; `runWorkerE_block`).  Hence the sequential history is an `Interleaving` of the workers run in the
empty environment, each on the table its predecessors left (`seqTable`, `sequentialHistory_append`, `seqTable_eq`,
`sequential_whole`, `sequential_interleaving`).
-/
namespace Wee.Env
open Wee Wee.Search
open Wee.SearchCtl (Walk InBuffer childArgs entryOf tick Post)

/-- the two computations are the same function of the state when started with at least `n0` earlier operations -/
def EqFrom (n0 : Nat) {α : Type} (x x' : ME α) : Prop := ∀ n, n0 ≤ n → ∀ st, x n st = x' n st

theorem eqFrom_structRel {n0 : Nat} {env env' : Env} (h : ∀ j, n0 ≤ j → env.script j = env'.script j) :
    StructRel (fun {α} => EqFrom n0 (α := α)) env env' where
  refl := fun _ _ _ _ => rfl
  bind := by
    intro α β x x' f f' hx hf n hn st
    rw [bind_run, bind_run, hx n hn st]
    rcases x' n st with ⟨r, st1, l1⟩
    cases r with
    | error e => rfl
    | ok a => simp only; rw [hf a (n + l1.length) (by omega) st1]
  find := fun k n hn st => by rw [findE_run, findE_run, h n hn]
  insert := fun k e n hn st => by rw [insertE_run, insertE_run, h n hn]

/-- the environment that has delivered its batch 0 already -/
def _root_.Wee.Search.Env.dropFirst (env : Env) : Env := ⟨fun j => if j = 0 then [] else env.script j⟩

theorem root_tick (ctx : Ctx) (tt : TT.Access) (rng : Rng.ChaCha8) (polls : Nat) :
    tick ctx { tt, rng, nodes := 0, polls } = (.ok (), { tt, rng, nodes := 1, polls }) := by
  rw [SearchCtl.tick_eq, if_neg (show ¬ (0 + 1) % Gen.pollInterval = 0 by decide)]

/-- what the root call does up to and including its probe -/
theorem root_run (env : Env) (ctx : Ctx) (root : State) (w : Worker) (rec : Option (NodeArgs → ME Eval))
    (tt : TT.Access) :
    nodeBodyE env ctx rec (rootArgsE root w) 0 { tt, rng := w.rng, nodes := 0, polls := w.polls } =
      match probeK env ctx (rootArgsE root w) (Wee.hash ctx.keys root) rec
          ((applyInserts tt (env.script 0)).find (Wee.hash ctx.keys root).toNat) 1
          { tt := applyInserts tt (env.script 0), rng := w.rng, nodes := 1, polls := w.polls } with
      | (r, st2, l2) =>
        (r, st2, TOp.find (Wee.hash ctx.keys root).toNat
          ((applyInserts tt (env.script 0)).find (Wee.hash ctx.keys root).toNat) :: l2) := by
  rw [nodeBodyE_run, root_tick]
  simp only
  rw [if_neg (by simp [rootArgsE])]
  rw [probeE_run]
  rfl

/-- a worker always probes the root: its log is not empty -/
theorem runWorkerE_log_ne_nil (env : Env) (ctx : Ctx) (root : State) (w : Worker) (tt : TT.Access) :
    (runWorkerE env ctx root w tt).2.2 ≠ [] := by
  rw [runWorkerE_eq]
  cases w.searchDepth with
  | zero => rw [searchNodeE_zero, root_run]; exact List.cons_ne_nil _ _
  | succ n => rw [searchNodeE_succ, root_run]; exact List.cons_ne_nil _ _

/-- **batch 0 can be delivered in advance**: running in `env` from `tt` is running in `env` without its first batch
from the table that has already received it -/
theorem runWorkerE_shift (env : Env) (ctx : Ctx) (root : State) (w : Worker) (tt : TT.Access) :
    runWorkerE env ctx root w tt = runWorkerE env.dropFirst ctx root w (applyInserts tt (env.script 0)) := by
  have hS := (eqFrom_structRel (n0 := 1) (env := env) (env' := env.dropFirst) (fun j hj => by
    show env.script j = if j = 0 then [] else env.script j
    rw [if_neg (by omega)])).toQuiet
  have h0 : env.dropFirst.script 0 = [] := rfl
  rw [runWorkerE_eq, runWorkerE_eq]
  cases w.searchDepth with
  | zero =>
    rw [searchNodeE_zero, searchNodeE_zero, root_run, root_run, h0, applyInserts_nil]
    rw [probeK_srel hS ctx (rootArgsE root w) _ Option.none Option.none trivial _ 1 (Nat.le_refl _)]
  | succ n =>
    rw [searchNodeE_succ, searchNodeE_succ, root_run, root_run, h0, applyInserts_nil]
    rw [probeK_srel hS ctx (rootArgsE root w) _ (some _) (some _) (searchNodeE_srel hS ctx n) _ 1 (Nat.le_refl _)]

/-- a worker whose environment delivers something only before its first operation (and after its last) runs as in the
empty environment on the table that has received that first batch -/
theorem runWorkerE_seq (env : Env) (ctx : Ctx) (root : State) (w : Worker) (tt : TT.Access)
    (hmid : ∀ j, 1 ≤ j → j < (runWorkerE Env.empty ctx root w (applyInserts tt (env.script 0))).2.2.length →
      env.script j = []) :
    runWorkerE env ctx root w tt = runWorkerE Env.empty ctx root w (applyInserts tt (env.script 0)) := by
  rw [runWorkerE_shift]
  have hagree : ∀ j, j < (runWorkerE Env.empty ctx root w (applyInserts tt (env.script 0))).2.2.length →
      Env.empty.script j = env.dropFirst.script j := by
    intro j hj
    show [] = if j = 0 then [] else env.script j
    by_cases h0 : j = 0
    · rw [if_pos h0]
    · rw [if_neg h0, hmid j (by omega) hj]
  have h := searchNodeE_causal hagree ctx w.searchDepth (rootArgsE root w) 0
    { tt := applyInserts tt (env.script 0), rng := w.rng, nodes := 0, polls := w.polls }
  exact (h.1 (by rw [Nat.zero_add]; exact Nat.le_refl _)).symm

/-- all inserts of a history, oldest first -/
def insertsOf : History → List (Nat × TT.Entry)
  | [] => []
  | (_, .find _ _) :: rest => insertsOf rest
  | (_, .insert k e) :: rest => (k, e) :: insertsOf rest

theorem applyInserts_cons (tt : TT.Access) (p : Nat × TT.Entry) (b : List (Nat × TT.Entry)) :
    applyInserts tt (p :: b) = applyInserts (tt.insert p.1 p.2) b := rfl

theorem table_eq_applyInserts : ∀ (H : History) (tt : TT.Access), History.table tt H = applyInserts tt (insertsOf H) := by
  intro H
  induction H with
  | nil => intro tt; rfl
  | cons p rest ih =>
    intro tt
    obtain ⟨j, op⟩ := p
    rw [table_cons]
    cases op with
    | find k r => rw [insertsOf]; exact ih tt
    | insert k e => rw [insertsOf, applyInserts_cons]; exact ih _

theorem table_append (tt : TT.Access) (H1 H2 : History) :
    History.table tt (H1 ++ H2) = History.table (History.table tt H1) H2 := by
  unfold History.table
  rw [List.foldl_append]

/-- the operations of one worker as a piece of history -/
def block (i : Nat) (l : List TOp) : History := l.map fun op => (i, op)

/-- put a list of inserts in front of the first batch -/
def consBatch (b : List (Nat × TT.Entry)) : List (List (Nat × TT.Entry)) → List (List (Nat × TT.Entry))
  | c :: cs => (b ++ c) :: cs
  | [] => [b]

theorem consBatch_ne_nil (b : List (Nat × TT.Entry)) (cs : List (List (Nat × TT.Entry))) : consBatch b cs ≠ [] := by
  cases cs <;> simp [consBatch]

theorem proj_block (i : Nat) (l : List TOp) : History.proj (block i l) i = l := by
  induction l with
  | nil => rfl
  | cons op l ih =>
    show History.proj ((i, op) :: block i l) i = _
    rw [proj_cons_own, ih]

def NoOwn (i : Nat) (P : History) : Prop := ∀ p ∈ P, p.1 ≠ i

theorem NoOwn.tail {i : Nat} {p : Nat × TOp} {P : History} (h : NoOwn i (p :: P)) : NoOwn i P :=
  fun q hq => h q (List.mem_cons_of_mem _ hq)

theorem NoOwn.head {i j : Nat} {op : TOp} {P : History} (h : NoOwn i ((j, op) :: P)) : (j == i) = false := by
  simpa using h (j, op) List.mem_cons_self

theorem proj_noOwn (i : Nat) : ∀ (P : History), NoOwn i P → History.proj P i = [] := by
  intro P
  induction P with
  | nil => intro _; rfl
  | cons p rest ih =>
    intro hP
    obtain ⟨j, op⟩ := p
    rw [proj_cons_other hP.head]
    exact ih hP.tail

theorem insertsOf_cons (j : Nat) (op : TOp) (P : History) : insertsOf ((j, op) :: P) = inserted op ++ insertsOf P := by
  cases op <;> rfl

/-- foreign operations in front: their inserts join batch 0 -/
theorem batchAt_noOwn_append (i : Nat) (Y : History) : ∀ (P : History), NoOwn i P → ∀ k,
    batchAt i (P ++ Y) k = if k = 0 then insertsOf P ++ batchAt i Y 0 else batchAt i Y k := by
  intro P
  induction P with
  | nil => intro _ k; split <;> simp_all [insertsOf]
  | cons p rest ih =>
    obtain ⟨j, op⟩ := p
    intro hP k
    rw [List.cons_append, batchAt_cons_other hP.head, ih hP.tail, ih hP.tail, insertsOf_cons]
    split <;> simp

/-- own operations in front: one empty batch each -/
theorem batchAt_block_lt (i : Nat) (Y : History) : ∀ (l : List TOp) (k : Nat), k < l.length →
    batchAt i (block i l ++ Y) k = [] := by
  intro l
  induction l with
  | nil => intro k hk; cases hk
  | cons op l ih =>
    intro k hk
    show batchAt i ((i, op) :: (block i l ++ Y)) k = _
    rw [batchAt_cons_own]
    split
    · rfl
    · exact ih _ (by simp at hk; omega)

/-- the environment of worker `i` in `P ++ (its own operations) ++ Q` -/
theorem envOf_seq (i : Nat) (P Q : History) (l : List TOp) (hP : NoOwn i P) (hl : l ≠ []) :
    (envOf (P ++ (block i l ++ Q)) i).script 0 = insertsOf P ∧
    ∀ j, 1 ≤ j → j < l.length → (envOf (P ++ (block i l ++ Q)) i).script j = [] := by
  refine ⟨?_, fun j h1 h2 => ?_⟩
  · rw [script_eq, batchAt_noOwn_append i _ P hP, if_pos rfl, batchAt_block_lt _ _ _ _ (List.length_pos_iff.2 hl),
      List.append_nil]
  · rw [script_eq, batchAt_noOwn_append i _ P hP, if_neg (by omega), batchAt_block_lt _ _ _ _ h2]

theorem sequentialHistory_ids (ctx : Ctx) (root : State) : ∀ (ws : List Worker) (tt : TT.Access) (i : Nat),
    ∀ p ∈ sequentialHistory ctx root tt i ws, i ≤ p.1 ∧ p.1 < i + ws.length := by
  intro ws
  induction ws with
  | nil => intro tt i p hp; cases hp
  | cons w rest ih =>
    intro tt i p hp
    rw [sequentialHistory] at hp
    rcases List.mem_append.1 hp with h | h
    · obtain ⟨op, _, rfl⟩ := List.mem_map.1 h
      exact ⟨Nat.le_refl _, by simp⟩
    · have := ih _ (i + 1) p h
      rw [List.length_cons]
      omega

/-- replaying a log in the empty environment just applies its inserts -/
theorem replay_empty_table : ∀ (l : List TOp) (n : Nat) (tt tt' : TT.Access) (i : Nat),
    Replay Env.empty n tt l tt' → tt' = History.table tt (block i l) := by
  intro l
  induction l with
  | nil => intro n tt tt' i h; exact h
  | cons op l ih =>
    intro n tt tt' i h
    show tt' = History.table tt ((i, op) :: block i l)
    rw [table_cons]
    cases op with
    | find k r => exact ih (n + 1) _ tt' i h.2
    | insert k e => exact ih (n + 1) _ tt' i h

/-- the table on which the `idx`-th worker of the sequential schedule starts -/
def seqTable (ctx : Ctx) (root : State) : TT.Access → List Worker → Nat → TT.Access
  | tt, [], _ => tt
  | tt, _ :: _, 0 => tt
  | tt, w :: rest, k + 1 => seqTable ctx root (runWorkerE Env.empty ctx root w tt).2.1.tt rest k

/-- **a worker whose operations form one block of the history** runs as in the empty environment on the table the
operations before the block leave -/
theorem runWorkerE_block (ctx : Ctx) (root : State) (w : Worker) (tt : TT.Access) (i : Nat) (P Q : History)
    (hP : NoOwn i P) :
    runWorkerE (envOf (P ++ (block i (runWorkerE Env.empty ctx root w (History.table tt P)).2.2 ++ Q)) i) ctx root w tt =
      runWorkerE Env.empty ctx root w (History.table tt P) := by
  obtain ⟨e0, emid⟩ := envOf_seq i P Q _ hP (runWorkerE_log_ne_nil Env.empty ctx root w (History.table tt P))
  have h := runWorkerE_seq (envOf (P ++ (block i (runWorkerE Env.empty ctx root w (History.table tt P)).2.2 ++ Q)) i)
    ctx root w tt
  rw [e0, ← table_eq_applyInserts] at h
  exact h emid

theorem table_block_run (ctx : Ctx) (root : State) (w : Worker) (tt : TT.Access) (i : Nat) :
    History.table tt (block i (runWorkerE Env.empty ctx root w tt).2.2) = (runWorkerE Env.empty ctx root w tt).2.1.tt :=
  (replay_empty_table _ _ _ _ i (runWorkerE_replay Env.empty ctx root w tt)).symm

theorem sequentialHistory_append (ctx : Ctx) (root : State) : ∀ (ws1 ws2 : List Worker) (tt : TT.Access) (i : Nat),
    sequentialHistory ctx root tt i (ws1 ++ ws2) = sequentialHistory ctx root tt i ws1 ++
      sequentialHistory ctx root (History.table tt (sequentialHistory ctx root tt i ws1)) (i + ws1.length) ws2 := by
  intro ws1
  induction ws1 with
  | nil => intro ws2 tt i; rfl
  | cons w ws1 ih =>
    intro ws2 tt i
    rw [List.cons_append, sequentialHistory, sequentialHistory, ih, List.append_assoc, table_append]
    show _ = block i _ ++ (_ ++ sequentialHistory ctx root (History.table (History.table tt (block i _)) _) _ ws2)
    rw [table_block_run, List.length_cons, Nat.add_right_comm, Nat.add_assoc]
    rfl

theorem seqTable_eq (ctx : Ctx) (root : State) : ∀ (ws : List Worker) (tt : TT.Access) (k i0 : Nat),
    seqTable ctx root tt ws k = History.table tt (sequentialHistory ctx root tt i0 (ws.take k)) := by
  intro ws
  induction ws with
  | nil => intro tt k i0; cases k <;> rfl
  | cons w ws ih =>
    intro tt k i0
    cases k with
    | zero => rfl
    | succ k =>
      rw [seqTable, List.take_succ_cons, sequentialHistory, table_append, ih _ k (i0 + 1)]
      show _ = History.table (History.table tt (block i0 _)) _
      rw [table_block_run]

/-- in the sequential schedule every worker's run is its run in the empty environment on the table the previous
workers left, and its log is its part of the history -/
theorem sequential_whole (ctx : Ctx) (root : State) (tt : TT.Access) (ws : List Worker) (i : Nat) (hi : i < ws.length) :
    runWorkerE (envOf (sequentialHistory ctx root tt 0 ws) i) ctx root ws[i] tt =
      runWorkerE Env.empty ctx root ws[i] (seqTable ctx root tt ws i) ∧
    (runWorkerE Env.empty ctx root ws[i] (seqTable ctx root tt ws i)).2.2 =
      (sequentialHistory ctx root tt 0 ws).proj i := by
  have hlen : (ws.take i).length = i := List.length_take_of_le (Nat.le_of_lt hi)
  have hP : NoOwn i (sequentialHistory ctx root tt 0 (ws.take i)) := fun p hp => by
    have := (sequentialHistory_ids ctx root _ tt 0 p hp).2; omega
  have hsplit : sequentialHistory ctx root tt 0 ws = sequentialHistory ctx root tt 0 (ws.take i) ++
      (block i (runWorkerE Env.empty ctx root ws[i] (seqTable ctx root tt ws i)).2.2 ++
        sequentialHistory ctx root (runWorkerE Env.empty ctx root ws[i] (seqTable ctx root tt ws i)).2.1.tt (i + 1)
          (ws.drop (i + 1))) := by
    conv => lhs; rw [← List.take_append_drop i ws, List.drop_eq_getElem_cons hi]
    rw [sequentialHistory_append, hlen, Nat.zero_add, sequentialHistory, ← seqTable_eq]
    rfl
  rw [hsplit, seqTable_eq ctx root ws tt i 0]
  refine ⟨runWorkerE_block ctx root ws[i] tt i _ _ hP, ?_⟩
  rw [proj_append, proj_append, proj_noOwn i _ hP, proj_block,
    proj_noOwn i _ fun p hp => by have := (sequentialHistory_ids ctx root _ _ _ p hp).1; omega]
  simp

/-- **the sequential schedule is an execution.**  Running the workers one after the other, each on the table the
previous ones left (what `runWorkers` does as long as nobody is interrupted or panics), is one of the interleavings. -/
theorem sequential_interleaving (ctx : Ctx) (root : State) (tt : TT.Access) (ws : List Worker) :
    Interleaving ctx root tt ws (sequentialHistory ctx root tt 0 ws) := by
  refine ⟨fun p hp => ?_, fun i hi => ?_⟩
  · have := (sequentialHistory_ids ctx root ws tt 0 p hp).2
    omega
  · rw [(sequential_whole ctx root tt ws i hi).1]
    exact (sequential_whole ctx root tt ws i hi).2

end Wee.Env
