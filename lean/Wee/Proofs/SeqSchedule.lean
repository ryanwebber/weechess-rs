import Wee.Proofs.SeqHistory
import Wee.Proofs.AnySchedule
/-!
# The model side: the sequential model is one of the schedules

What the model's `runWorkers` returns cannot be told by `finishStep` (`SameJoin`: the same panic; without one the same
interrupt flag, table and poll count; the same values and node count when nobody was interrupted) from the join of the
sequential execution (`Wee/Proofs/SeqHistory.lean`) of the workers it starts — a prefix of the iteration's workers
(`runWorkers_schedule`).  So an iteration of the sequential model is a `StepS`, its loop a `LoopS`, `iterate` a `SearchS` (`iterStep_stepS`, `iterLoop_loopS`,
`iterate_searchS`).  Hence the sequential theorems are the any-schedule ones (`Wee/Proofs/AnySchedule.lean`) at that
schedule: `iterate_inv`, `iterate_safe` here, the others where they are stated (`Wee/Props/C03.lean`, `C04.lean`, `C06.lean`).
-/
namespace Wee.Env
open Wee.Search

/-- the runs of the workers one after the other in the empty environment, each on the table the previous one left -/
def seqOuts (ctx : Ctx) (root : State) : TT.Access → List Worker → List (Except Stop Eval × St × List TOp)
  | _, [] => []
  | tt, w :: rest => runWorkerE Env.empty ctx root w tt :: seqOuts ctx root (runWorkerE Env.empty ctx root w tt).2.1.tt rest

theorem seqOuts_eq (ctx : Ctx) (root : State) : ∀ (ws : List Worker) (tt : TT.Access),
    ((List.range ws.length).filterMap fun i =>
      ws[i]?.map fun w => runWorkerE Env.empty ctx root w (seqTable ctx root tt ws i)) = seqOuts ctx root tt ws := by
  intro ws
  induction ws with
  | nil => intro tt; rfl
  | cons w rest ih =>
    intro tt
    rw [List.length_cons, List.range_succ_eq_map, List.filterMap_cons]
    simp only [List.getElem?_cons_zero, Option.map_some]
    rw [List.filterMap_map, seqOuts]
    congr 1
    rw [← ih (runWorkerE Env.empty ctx root w tt).2.1.tt]
    apply filterMap_congr
    intro i _
    simp only [Function.comp, List.getElem?_cons_succ]
    rfl

/-- the runs `joinOf` joins in the sequential schedule are the sequential runs -/
theorem joinOuts_sequential (ctx : Ctx) (root : State) (tt : TT.Access) (ws : List Worker) :
    ((List.range ws.length).filterMap fun i =>
      ws[i]?.map fun w => runWorkerE (envOf (sequentialHistory ctx root tt 0 ws) i) ctx root w tt) =
      seqOuts ctx root tt ws := by
  rw [← seqOuts_eq]
  apply filterMap_congr
  intro i hi
  have hlt : i < ws.length := List.mem_range.1 hi
  rw [List.getElem?_eq_getElem hlt]
  simp only [Option.map_some]
  rw [(sequential_whole ctx root tt ws i hlt).1]

/-- a component of the state after the last of a list of runs (`d` if there is none) -/
def lastOf {γ : Type} (f : St → γ) (d : γ) (outs : List (Except Stop Eval × St × List TOp)) : γ :=
  (outs.getLast?.map fun o => f o.2.1).getD d

theorem lastOf_cons {γ : Type} (f : St → γ) (d : γ) (o : Except Stop Eval × St × List TOp)
    (os : List (Except Stop Eval × St × List TOp)) : lastOf f d (o :: os) = lastOf f (f o.2.1) os := by
  unfold lastOf
  cases os with
  | nil => rfl
  | cons o' os' =>
    rw [List.getLast?_cons_cons]
    cases h : (o' :: os').getLast? with
    | none => simp at h
    | some x => rfl

/-- the shared table after the sequential schedule is the table the last worker left -/
theorem table_sequential (ctx : Ctx) (root : State) : ∀ (ws : List Worker) (tt : TT.Access) (i : Nat),
    History.table tt (sequentialHistory ctx root tt i ws) = lastOf (·.tt) tt (seqOuts ctx root tt ws) := by
  intro ws
  induction ws with
  | nil => intro tt i; rfl
  | cons w rest ih =>
    intro tt i
    rw [sequentialHistory, seqOuts, lastOf_cons, table_append]
    rw [show List.map (fun op => (i, op)) _ = block i _ from rfl, table_block_run]
    exact ih _ (i + 1)

/-- the workers the sequential model actually runs on the `(index, seed)` pairs `ps` from table `tt` with `polls` polls
so far: up to and including the first that does not return a value -/
def seqStarted (ctx : Ctx) (root : State) (depth : Nat) (bestMv : Option Move) :
    List (Nat × UInt64) → TT.Access → Nat → List Worker
  | [], _, _ => []
  | (i, seed) :: rest, tt, polls =>
    Worker.ofIteration depth bestMv i seed polls ::
      (match (runWorkerE Env.empty ctx root (Worker.ofIteration depth bestMv i seed polls) tt).1 with
       | .ok _ => seqStarted ctx root depth bestMv rest
           (runWorkerE Env.empty ctx root (Worker.ofIteration depth bestMv i seed polls) tt).2.1.tt
           (runWorkerE Env.empty ctx root (Worker.ofIteration depth bestMv i seed polls) tt).2.1.polls
       | .error _ => [])

def panicOf (o : Except Stop Eval × St × List TOp) : Option String :=
  match o.1 with | .error (.panic why) => some why | _ => Option.none
def isInterrupt (o : Except Stop Eval × St × List TOp) : Bool :=
  match o.1 with | .error .interrupt => true | _ => false
def okOf (o : Except Stop Eval × St × List TOp) : Option Eval :=
  match o.1 with | .ok e => some e | _ => Option.none

/-- the sequential runs `outs`, joined the way `runWorkers` accumulates them onto `acc` -/
def joinRuns (acc : WorkersOut) (outs : List (Except Stop Eval × St × List TOp)) : WorkersOut :=
  { tt := lastOf (·.tt) acc.tt outs, polls := lastOf (·.polls) acc.polls outs,
    evals := acc.evals ++ outs.filterMap okOf, sumNodes := acc.sumNodes + (outs.map fun o => o.2.1.nodes).sum,
    interrupted := outs.any isInterrupt, panic := outs.findSome? panicOf }

/-- `finishStep` cannot tell `w` from `w'`: the same panic, and without one the same interrupt flag, table and poll
count, and for a completed iteration the same values and node count -/
def SameJoin (w w' : WorkersOut) : Prop :=
  w.panic = w'.panic ∧ (w.panic = Option.none → w.interrupted = w'.interrupted ∧ w.tt = w'.tt ∧ w.polls = w'.polls ∧
    (w.interrupted = false → w.evals = w'.evals ∧ w.sumNodes = w'.sumNodes))

/-- a run that returned a value, joined first -/
theorem joinRuns_cons_ok (acc : WorkersOut) (e : Eval) (st : St) (l : List TOp)
    (os : List (Except Stop Eval × St × List TOp)) :
    joinRuns acc ((.ok e, st, l) :: os) = joinRuns (acc.join (.ok e, st)) os := by
  unfold joinRuns WorkersOut.join
  simp only [lastOf_cons, List.filterMap_cons, okOf, List.map_cons, List.sum_cons, List.any_cons, isInterrupt,
    Bool.false_or, List.findSome?_cons, panicOf, List.append_assoc, List.singleton_append, Nat.add_assoc]

/-- what `runWorkers` returns, in terms of the sequential runs of the workers it starts -/
theorem runWorkers_seq (ctx : Ctx) (root : State) (depth : Nat) (bestMv : Option Move) :
    ∀ (ps : List (Nat × UInt64)) (acc : WorkersOut), acc.interrupted = false → acc.panic = Option.none →
      SameJoin (runWorkers ctx root depth bestMv ps acc)
        (joinRuns acc (seqOuts ctx root acc.tt (seqStarted ctx root depth bestMv ps acc.tt acc.polls))) := by
  intro ps
  induction ps with
  | nil =>
    intro acc hi hp
    exact ⟨hp, fun _ => ⟨hi, rfl, rfl, fun _ => ⟨(List.append_nil _).symm, rfl⟩⟩⟩
  | cons p rest ih =>
    obtain ⟨i, seed⟩ := p
    intro acc hi hp
    rw [runWorkers_cons, if_neg (by rw [WorkersOut.stopped, hi, hp]; exact Bool.false_ne_true), seqStarted, seqOuts]
    have hrun : workerRun ctx root depth bestMv (i, seed) acc = _ :=
      (runWorkerE_empty ctx root (Worker.ofIteration depth bestMv i seed acc.polls) acc.tt).symm
    rw [hrun]
    generalize runWorkerE Env.empty ctx root (Worker.ofIteration depth bestMv i seed acc.polls) acc.tt = o
    obtain ⟨r, st', l⟩ := o
    cases r with
    | ok e =>
      simp only []
      rw [joinRuns_cons_ok]
      exact ih (acc.join (.ok e, st')) hi hp
    | error err =>
      rw [runWorkers_stopped _ _ _ _ _ _ (acc.join_stopped err st')]
      cases err with
      | interrupt => exact ⟨hp, fun _ => ⟨rfl, rfl, rfl, fun h => nomatch h⟩⟩
      | panic why => exact ⟨rfl, fun h => nomatch h⟩

/-- `finishStep` looks at the joined results only through these fields -/
theorem finishStep_congr (ctx : Ctx) (root : State) (rootHash : UInt64) (depth : Nat) (rng : Rng.ChaCha8)
    (w w' : WorkersOut) (st : IterSt) (h : SameJoin w w') :
    finishStep ctx root rootHash depth rng w st = finishStep ctx root rootHash depth rng w' st := by
  obtain ⟨hp, h⟩ := h
  unfold finishStep
  rw [← hp]
  cases hpn : w.panic with
  | some why => rfl
  | none =>
    obtain ⟨hi, htt, hpl, hrest⟩ := h hpn
    simp only
    rw [← hi, ← htt, ← hpl]
    cases hint : w.interrupted with
    | true => rfl
    | false =>
      obtain ⟨hev, hsn⟩ := hrest hint
      rw [← hev, ← hsn]

theorem drawSeeds_length : ∀ (n : Nat) (r : Rng.ChaCha8), (drawSeeds n r).1.length = n := by
  intro n
  induction n with
  | zero => intro r; rfl
  | succ n ih =>
    intro r
    rw [drawSeeds]
    rcases Rng.nextU64 r with ⟨v, r'⟩
    simp only
    have := ih r'
    generalize drawSeeds n r' = d at this ⊢
    obtain ⟨vs, r''⟩ := d
    simp only at this ⊢
    rw [List.length_cons, this]

/-- the workers the sequential model starts are, position by position, the iteration's workers with some poll offsets, and
no more than there are `(index, seed)` pairs -/
theorem seqStarted_spec (ctx : Ctx) (root : State) (depth : Nat) (bestMv : Option Move) :
    ∀ (ps : List (Nat × UInt64)) (tt : TT.Access) (polls : Nat),
      (seqStarted ctx root depth bestMv ps tt polls).length ≤ ps.length ∧
      ∀ k (h : k < (seqStarted ctx root depth bestMv ps tt polls).length) (h' : k < ps.length),
        ∃ q, (seqStarted ctx root depth bestMv ps tt polls)[k] = Worker.ofIteration depth bestMv ps[k].1 ps[k].2 q := by
  intro ps
  induction ps with
  | nil => intro tt polls; exact ⟨Nat.le_refl _, fun k h => nomatch h⟩
  | cons p rest ih =>
    obtain ⟨i, seed⟩ := p
    intro tt polls
    rw [seqStarted]
    cases (runWorkerE Env.empty ctx root (Worker.ofIteration depth bestMv i seed polls) tt).1 with
    | error e =>
      simp only
      refine ⟨by simp, fun k h h' => ?_⟩
      have hk : k = 0 := by simpa using h
      subst hk
      exact ⟨polls, rfl⟩
    | ok v =>
      simp only
      obtain ⟨h1, h2⟩ := ih (runWorkerE Env.empty ctx root (Worker.ofIteration depth bestMv i seed polls) tt).2.1.tt
        (runWorkerE Env.empty ctx root (Worker.ofIteration depth bestMv i seed polls) tt).2.1.polls
      refine ⟨by simp only [List.length_cons]; omega, fun k h h' => ?_⟩
      cases k with
      | zero => exact ⟨polls, rfl⟩
      | succ k =>
        simp only [List.getElem_cons_succ]
        exact h2 k (by simpa using h) (by simpa using h')

/-- if every worker the sequential model starts returns a value, it starts all of them -/
theorem seqStarted_all (ctx : Ctx) (root : State) (depth : Nat) (bestMv : Option Move) :
    ∀ (ps : List (Nat × UInt64)) (tt : TT.Access) (polls : Nat),
      (seqOuts ctx root tt (seqStarted ctx root depth bestMv ps tt polls)).any isInterrupt = false →
      (seqOuts ctx root tt (seqStarted ctx root depth bestMv ps tt polls)).findSome? panicOf = Option.none →
      (seqStarted ctx root depth bestMv ps tt polls).length = ps.length := by
  intro ps
  induction ps with
  | nil => intro tt polls _ _; rfl
  | cons p rest ih =>
    obtain ⟨i, seed⟩ := p
    intro tt polls hi hp
    rw [seqStarted] at hi hp ⊢
    rw [seqOuts] at hi hp
    generalize ho : runWorkerE Env.empty ctx root (Worker.ofIteration depth bestMv i seed polls) tt = o at hi hp ⊢
    obtain ⟨r, st', l⟩ := o
    cases r with
    | error e =>
      exfalso
      cases e with
      | interrupt => simp [isInterrupt] at hi
      | panic why => simp [panicOf] at hp
    | ok v =>
      simp only at hi hp ⊢
      rw [List.any_cons] at hi
      rw [List.findSome?_cons] at hp
      simp only [isInterrupt, panicOf, Bool.false_or] at hi hp
      rw [List.length_cons, List.length_cons, ih st'.tt st'.polls hi hp]

/-- the join of the sequential schedule is the join of the sequential runs -/
theorem joinOf_sequential (ctx : Ctx) (root : State) (tt : TT.Access) (ws : List Worker) (polls : Nat) :
    joinOf ctx root tt ws (sequentialHistory ctx root tt 0 ws) (lastOf (·.polls) polls (seqOuts ctx root tt ws)) =
      joinRuns { tt := tt, polls := polls, evals := [], sumNodes := 0 } (seqOuts ctx root tt ws) := by
  unfold joinOf joinRuns
  dsimp only
  rw [joinOuts_sequential, table_sequential, Nat.zero_add]
  rfl

/-- **the workers of an iteration, run one after the other as `runWorkers` does, are one of the schedules**: what
`runWorkers` returns cannot be told (`SameJoin`) from the joined results of the workers it starts, in the interleaving that
runs them one after the other -/
theorem runWorkers_schedule (ctx : Ctx) (root : State) (workers depth : Nat) (st : IterSt) :
    ∃ (pollsOf : Nat → Nat) (started : List Worker) (H : History) (polls' : Nat),
      started.Sublist (workersOfIteration depth st.bestMv (drawSeeds workers st.rng).1 pollsOf) ∧
      ((joinOf ctx root st.tt started H polls').interrupted = false →
        (joinOf ctx root st.tt started H polls').panic = Option.none →
        started = workersOfIteration depth st.bestMv (drawSeeds workers st.rng).1 pollsOf) ∧
      Interleaving ctx root st.tt started H ∧
      SameJoin (runWorkers ctx root depth st.bestMv ((List.range workers).zip (drawSeeds workers st.rng).1)
        { tt := st.tt, polls := st.polls, evals := [], sumNodes := 0 }) (joinOf ctx root st.tt started H polls') := by
  generalize hps : (List.range workers).zip (drawSeeds workers st.rng).1 = ps
  generalize hstarted : seqStarted ctx root depth st.bestMv ps st.tt st.polls = started
  have hlen : (drawSeeds workers st.rng).1.length = workers := drawSeeds_length workers st.rng
  have hpslen : ps.length = workers := by rw [← hps, List.length_zip, List.length_range, hlen, Nat.min_self]
  obtain ⟨hsl, hsk⟩ := seqStarted_spec ctx root depth st.bestMv ps st.tt st.polls
  rw [hstarted] at hsl hsk
  -- the poll offsets the sequential model gives the workers it starts
  let pollsOf : Nat → Nat := fun k => (started[k]?.map (·.polls)).getD 0
  have hall : workersOfIteration depth st.bestMv (drawSeeds workers st.rng).1 pollsOf =
      ps.map fun p => Worker.ofIteration depth st.bestMv p.1 p.2 (pollsOf p.1) := by
    unfold workersOfIteration
    rw [hlen, hps]
  have hpsk : ∀ k (h : k < ps.length), ps[k].1 = k := by
    intro k h
    subst hps
    simp
  have htake : started = (workersOfIteration depth st.bestMv (drawSeeds workers st.rng).1 pollsOf).take started.length := by
    rw [hall]
    apply List.ext_getElem
    · rw [List.length_take, List.length_map]; omega
    · intro k h1 h2
      obtain ⟨q, hq⟩ := hsk k h1 (by omega)
      rw [List.getElem_take, List.getElem_map, hpsk k (by omega)]
      have hp : pollsOf k = started[k].polls := by
        show (started[k]?.map (·.polls)).getD 0 = _
        rw [List.getElem?_eq_getElem h1]; rfl
      rw [hp, hq, hpsk k (by omega)]
      rfl
  refine ⟨pollsOf, started, sequentialHistory ctx root st.tt 0 started,
    lastOf (·.polls) st.polls (seqOuts ctx root st.tt started), ?_, ?_, sequential_interleaving ctx root st.tt started, ?_⟩
  · rw [htake]; exact List.take_sublist _ _
  · intro hi hp
    rw [joinOf_sequential] at hi hp
    have hi' : (seqOuts ctx root st.tt started).any isInterrupt = false := hi
    have hp' : (seqOuts ctx root st.tt started).findSome? panicOf = Option.none := hp
    rw [← hstarted] at hi' hp'
    have hfull := seqStarted_all ctx root depth st.bestMv ps st.tt st.polls hi' hp'
    rw [hstarted] at hfull
    rw [htake, hfull, hall, List.take_of_length_le (by rw [List.length_map]; exact Nat.le_refl _)]
  · rw [joinOf_sequential, ← hstarted]
    exact runWorkers_seq ctx root depth st.bestMv ps
      { tt := st.tt, polls := st.polls, evals := [], sumNodes := 0 } rfl rfl

/-- **one iteration of the sequential model is one of the schedules**: `iterStep` is a `StepS` step, with the
workers run one after the other as the interleaving -/
theorem iterStep_stepS (ctx : Ctx) (root : State) (rootHash : UInt64) (workers depth : Nat) (st : IterSt) :
    StepS ctx root rootHash workers depth st (iterStep ctx root rootHash workers depth st) := by
  obtain ⟨pollsOf, started, H, polls', h1, h2, h3, h4⟩ := runWorkers_schedule ctx root workers depth st
  exact ⟨pollsOf, started, H, polls', h1, h2, h3, by
    rw [iterStep_eq_finishStep]; exact finishStep_congr ctx root rootHash depth _ _ _ st h4⟩

theorem iterLoop_loopS (ctx : Ctx) (root : State) (rootHash : UInt64) (workersOf : Nat → Nat) :
    ∀ (n depth : Nat) (st : IterSt),
      LoopS ctx root rootHash workersOf n depth st (iterLoop ctx root rootHash workersOf n depth st) := by
  intro n
  induction n with
  | zero => intro depth st; exact LoopS.done depth st
  | succ n ih =>
    intro depth st
    rw [iterLoop_succ]
    by_cases hf : st.finished = true
    · rw [if_pos hf]; exact LoopS.finished n depth st hf
    · rw [if_neg hf]
      -- the sequential model reads the flag at the boundary at poll number `st.polls`
      by_cases hb : (boundaryPoll ctx depth st).finished = true
      · rw [if_pos hb]; exact LoopS.stopped n depth st st.polls (by simpa using hf) hb
      · rw [if_neg hb]
        exact LoopS.step n depth st _ _ st.polls (by simpa using hf) (by simpa using hb)
          (iterStep_stepS ctx root rootHash _ depth (boundaryPoll ctx depth st)) (ih _ _)

/-- **the sequential model's search is one of the outcomes of the search under arbitrary schedules** -/
theorem iterate_searchS (root : State) (rng0 : Rng.ChaCha8) (maxDepth : Option Nat) (art : Artifact)
    (workersOf : Nat → Nat) (cancelAt : Option Nat) (fuelDepth : Nat) :
    SearchS root rng0 maxDepth art workersOf cancelAt fuelDepth
      (iterate root rng0 maxDepth art workersOf cancelAt fuelDepth) :=
  ⟨_, iterLoop_loopS _ root _ workersOf _ 0 _, rfl⟩

end Wee.Env

namespace Wee.Search

/-- C03 for `iterate`, region form: `searchS_inv_region` at `iterate_searchS` (same keys, `TInv` of the table handed back,
every reported line non-empty and legal) -/
theorem iterate_inv {R : State → Prop} (hR : Region R) (root : State) (hroot : R root) (art : Artifact)
    (hcf : CollisionFree art.keys.keys R) (htt : TInv art.keys.keys R art.tt)
    (rng0 : Rng.ChaCha8) (maxDepth : Option Nat) (workersOf : Nat → Nat) (cancelAt : Option Nat) (fuelDepth : Nat) :
    (iterate root rng0 maxDepth art workersOf cancelAt fuelDepth).artifact.keys = art.keys ∧
    TInv art.keys.keys R (iterate root rng0 maxDepth art workersOf cancelAt fuelDepth).artifact.tt ∧
    ∀ ev line, Event.best ev line ∈ (iterate root rng0 maxDepth art workersOf cancelAt fuelDepth).events →
      line ≠ [] ∧ LineLegal root line :=
  Env.searchS_inv_region hR root hroot art hcf htt rng0 maxDepth workersOf cancelAt fuelDepth _
    (Env.iterate_searchS root rng0 maxDepth art workersOf cancelAt fuelDepth)

end Wee.Search

namespace Wee.SearchCtl
open Wee.Search

/-- C04 for `iterate`: `searchS_safe` at `iterate_searchS` (no panic, the three table properties handed back) -/
theorem iterate_safe (root : State) (rng0 : Rng.ChaCha8) (maxDepth : Option Nat) (art : Artifact)
    (workersOf : Nat → Nat) (cancelAt : Option Nat) (fuelDepth : Nat) (nT nB : Nat) (hT : 0 < nT) (hB : 0 < nB)
    (hg : Good root) (hd : art.tt.All DepthOK)
    (ha : TT.AInv Gen.bucketSize nT nB art.tt) (hp : PrioritizedOK art root) :
    (iterate root rng0 maxDepth art workersOf cancelAt fuelDepth).panic = Option.none ∧
    (iterate root rng0 maxDepth art workersOf cancelAt fuelDepth).artifact.tt.All DepthOK ∧
    TT.AInv Gen.bucketSize nT nB (iterate root rng0 maxDepth art workersOf cancelAt fuelDepth).artifact.tt ∧
    PrioritizedOK (iterate root rng0 maxDepth art workersOf cancelAt fuelDepth).artifact root :=
  Env.searchS_safe root rng0 maxDepth art workersOf cancelAt fuelDepth nT nB hT hB hg hd ha hp _
    (Env.iterate_searchS root rng0 maxDepth art workersOf cancelAt fuelDepth)

end Wee.SearchCtl
