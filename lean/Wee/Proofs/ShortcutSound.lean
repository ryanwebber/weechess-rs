import Wee.Props.C09
import Wee.Proofs.AttackLemmas
import Wee.Proofs.MoveBits
import Wee.Proofs.ApplyLemmas
import Wee.Proofs.ApplyGen
import Wee.Proofs.EvalLemmas
import Wee.Proofs.ListLemmas
import Wee.Proofs.MoveGenPieces
/-!
# Soundness of the evaluator's `king_has_move` shortcut when the side to move is not in check (C05)

The step of the king onto a free neighbour square outside `colored_attacks(!turn)` is generated, performed and kept by
`try_as_legal_move`.  The idea: the step changes the occupancy on two squares `k`, `t`, and a ray newly reaches a square only
if it already reached `k` or `t` (`attacksFrom_unblock` of the rules, lifted to `AttackGenerator::compute` through
`C09_compute`); so a king that is not attacked shields no square from any slider.
-/
namespace Wee

/-! ## moving a blocker: what `AttackGenerator::compute` can newly reach -/

/-- bitboard form, through C09: `AttackGenerator::compute` under the two occupancies -/
theorem attacksOf_unblock (occ occ' : UInt64) (k t : Nat)
    (hag : ∀ n, n ≠ k → n ≠ t → test occ' n = test occ n) (c : Color) (p : Piece) (hp : p ≠ .none)
    (q x : Nat) (hq : q < 64) (hx : x < 64) (hk : k < 64) (ht : t < 64)
    (h : test (attacksOf c p q occ') x = true) :
    test (attacksOf c p q occ) x = true ∨ test (attacksOf c p q occ) k = true ∨ test (attacksOf c p q occ) t = true := by
  obtain ⟨kind, hkind⟩ := C10.absKind_some p hp
  rw [C09_compute c p kind hkind q x hq hx] at h
  rw [C09_compute c p kind hkind q x hq hx, C09_compute c p kind hkind q k hq hk, C09_compute c p kind hkind q t hq ht]
  simp only [List.contains_iff_mem] at h ⊢
  exact attacksFrom_unblock _ _ k t hag _ kind q x h

/-! ## the placement after a quiet king step -/

/-- `map[us,King].set(k,false); map[us,King].set(t,true)` -/
def kingStepMap (m : PieceMap) (us : Color) (k t : Nat) : PieceMap :=
  (m.assign us .king k false).assign us .king t true

theorem kingStepMap_king (m : PieceMap) (us : Color) (k t : Nat) :
    (kingStepMap m us k t).get us .king = setBit (clearBit (m.get us .king) k) t := by
  unfold kingStepMap PieceMap.assign
  simp only [assignBit, if_true, Bool.false_eq_true, if_false]
  rw [get_set_same _ _ _ (by decide), get_set_same _ _ _ (by decide)]

theorem kingStepMap_other (m : PieceMap) (us : Color) (k t : Nat) (c : Color) (p : Piece)
    (h : us ≠ c ∨ Piece.king ≠ p) : (kingStepMap m us k t).get c p = m.get c p := by
  unfold kingStepMap PieceMap.assign
  rw [get_set_other _ _ _ _ _ _ h, get_set_other _ _ _ _ _ _ h]

theorem kingStepMap_colorOcc_opp (m : PieceMap) (us : Color) (k t : Nat) :
    (kingStepMap m us k t).colorOcc us.opp = m.colorOcc us.opp := by
  unfold PieceMap.colorOcc
  congr 1
  funext acc p
  rw [kingStepMap_other _ _ _ _ _ _ (.inl (C02.opp_ne us).symm)]

/-- off `k` and `t` the occupancy is unchanged -/
theorem kingStepMap_occ (m : PieceMap) (us : Color) (k t : Nat) (hk : k < 64) (ht : t < 64)
    (n : Nat) (hnk : n ≠ k) (hnt : n ≠ t) :
    test (kingStepMap m us k t).occ n = test m.occ n := by
  have key : ∀ c p, test ((kingStepMap m us k t).get c p) n = test (m.get c p) n := by
    intro c p
    by_cases h : us = c ∧ Piece.king = p
    · obtain ⟨rfl, rfl⟩ := h
      rw [kingStepMap_king, test_setBit _ _ _ ht, test_clearBit _ _ _ hk]
      simp [Ne.symm hnk, Ne.symm hnt]
    · rw [kingStepMap_other _ _ _ _ _ _ (by
        by_cases h1 : us = c
        · right; intro h2; exact h ⟨h1, h2⟩
        · left; exact h1)]
  rw [Bool.eq_iff_iff, C10.test_occ, C10.test_occ]
  simp only [key]

theorem test_colorOcc_occ (m : PieceMap) (c : Color) (n : Nat) (h : test (m.colorOcc c) n = true) :
    test m.occ n = true := by
  unfold PieceMap.occ
  rw [test_or]
  cases c <;> simp [h]

/-- **what the opponent attacks after a quiet king step** `k → t`: only squares it attacked before,
unless it already attacked `k` or `t`.  Hypotheses: `t` is empty and no enemy piece stands on `k`. -/
theorem coloredAttacks_after_kingStep (m : PieceMap) (us : Color) (k t : Nat) (hk : k < 64) (ht : t < 64)
    (hno : ¬ test (m.colorOcc us.opp) k = true) (hvac : ¬ test m.occ t = true) (x : Nat) (hx : x < 64)
    (h : test (coloredAttacks (kingStepMap m us k t) us.opp) x = true) :
    test (coloredAttacks m us.opp) x = true ∨ test (coloredAttacks m us.opp) k = true ∨
      test (coloredAttacks m us.opp) t = true := by
  rw [C10.test_coloredAttacks _ _ _ hx] at h
  obtain ⟨⟨p, hp, q, hq, hatt⟩, hown⟩ := h
  rw [kingStepMap_other _ _ _ _ _ _ (.inl (C02.opp_ne us).symm)] at hq
  rw [kingStepMap_colorOcc_opp] at hown
  have hpn : p ≠ Piece.none := (C10.mem_pieceAll p).1 hp
  have hq64 : q < 64 := ((mem_bitsOf _ _).1 hq).1
  rcases attacksOf_unblock m.occ (kingStepMap m us k t).occ k t
      (fun n hnk hnt => kingStepMap_occ m us k t hk ht n hnk hnt) us.opp p hpn q x hq64 hx hk ht hatt with r | r | r
  · left; rw [C10.test_coloredAttacks _ _ _ hx]; exact ⟨⟨p, hp, q, hq, r⟩, hown⟩
  · right; left; rw [C10.test_coloredAttacks _ _ _ hk]; exact ⟨⟨p, hp, q, hq, r⟩, hno⟩
  · right; right; rw [C10.test_coloredAttacks _ _ _ ht]
    exact ⟨⟨p, hp, q, hq, r⟩, fun hc => hvac (test_colorOcc_occ m _ t hc)⟩

open Move in
section
/-! ## `by_performing_move` on a quiet king step -/

/-- the attributes of the quiet king step (`C20_get_byMoving`), and its two raw codes -/
theorem kingStep_attrs (c : Color) (k t : Nat) (hk : k < 64) (ht : t < 64) :
    attrs (byMoving c .king k t) =
      { color := c, piece := some .king, origin := k, dest := t, capture := Option.none, promotion := Option.none,
        enPassant := false, doublePawn := false, castleQ := false, castleK := false } ∧
    captureCode (byMoving c .king k t) = 0 ∧ promotionCode (byMoving c .king k t) = 0 := by
  refine ⟨C20_get_byMoving c .king k t hk ht, ?_, ?_⟩
  · rw [byMoving_eq_mk c .king k t hk ht]
    exact captureCode_mk _ _ _ _ _ _ _ _ _ hk ht
  · rw [byMoving_eq_mk c .king k t hk ht]
    exact promotionCode_mk _ _ _ _ _ _ _ _ _ hk ht

theorem performMove_kingStep (s : State) (k t : Nat) (hk : k < 64) (ht : t < 64) :
    ∃ next, performMove s (byMoving s.turn .king k t) = some (.ok next) ∧
      next.pieces = kingStepMap s.pieces s.turn k t ∧ next.turn = s.turn.opp := by
  obtain ⟨ha, a4, a5⟩ := kingStep_attrs s.turn k t hk ht
  have a1 : piece? (byMoving s.turn .king k t) = some .king := congrArg Attrs.piece ha
  have a2 : origin (byMoving s.turn .king k t) = k := congrArg Attrs.origin ha
  have a3 : dest (byMoving s.turn .king k t) = t := congrArg Attrs.dest ha
  have a6 : isEnPassant (byMoving s.turn .king k t) = false := congrArg Attrs.enPassant ha
  have hcap : capture (byMoving s.turn .king k t) = Option.none := congrArg Attrs.capture ha
  have hpro : promotion (byMoving s.turn .king k t) = Option.none := congrArg Attrs.promotion ha
  have hcs : castleSide (byMoving s.turn .king k t) = Option.none := by
    unfold castleSide
    rw [show castleQ (byMoving s.turn .king k t) = false from congrArg Attrs.castleQ ha,
      show castleK (byMoving s.turn .king k t) = false from congrArg Attrs.castleK ha]
    rfl
  rw [C02.performMove_eq s _ .king a1 ⟨.inl a4, .inl a5⟩]
  unfold C02.capStep
  rw [a6, hcap]
  refine ⟨_, rfl, ?_, rfl⟩
  simp only [C02.finish, C02.finalMap, C02.promoStep, C02.castleStep, C02.baseMap, hpro, hcs, a2, a3, kingStepMap]

end

/-! ## the shortcut is sound when the side to move is not in check -/

/-- the quiet king step is among the pseudo-legal moves -/
theorem kingStep_mem_pseudo (s : State) (ps : List Move) (hps : pseudoLegalMoves s = some ps) (k t : Nat)
    (hkk : test (s.pieces.get s.turn .king) k = true) (ht : t < 64)
    (hatt : test (kingAttacks k) t = true) (hvac : ¬ test s.pieces.occ t = true)
    (hsafe : ¬ test (coloredAttacks s.pieces s.turn.opp) t = true) :
    Move.byMoving s.turn .king k t ∈ ps := by
  rw [pseudoLegalMoves_eq, Option.map_eq_some_iff] at hps
  obtain ⟨pm, _, rfl⟩ := hps
  have hk64 : k < 64 := test_lt _ _ hkk
  have hmem : Move.byMoving s.turn .king k t ∈ kingMoves (Helper.of s) := by
    rw [kingMoves_eq]
    apply List.mem_append_left
    unfold kingStepList
    rw [List.mem_flatMap]
    refine ⟨k, (mem_bitsOf _ _).2 ⟨hk64, hkk⟩, (mem_expandMoves _ _ _ _ _).2 ⟨t, ht, ?_, ?_⟩⟩
    · rw [helper_opp, helper_vac, helper_oppAtt, test_and, test_and, test_or, hatt, test_not _ _ ht, test_not _ _ ht]
      simpa using ⟨Or.inr (by simpa using hvac), by simpa using hsafe⟩
    · rw [helper_s, helper_us, capturedAt_none _ _ (C10.pieceAt_none_of_vac _ _ hvac)]
  simp only [List.mem_append]
  left; left; left; right; exact hmem

/-- **Soundness of the `king_has_move` shortcut off check.**  On a placement where no square holds
two pieces: if the side to move is not in check and its king (the first one, `first_square()`) has
a neighbour square that is empty and outside `colored_attacks(!turn)`, then
`compute_legal_moves` does not return the empty list — the step onto that square survives
`try_as_legal_move`, because a king that is not attacked shields no square from any slider. -/
theorem shortcut_sound_no_check (s : State) (hd : C10.DisjointBoard s.pieces)
    (hchk : s.isCheck = false) (hkhm : kingHasMove s = some true) : legalMoves? s ≠ some [] := by
  intro hno
  -- the king square
  unfold kingHasMove at hkhm
  cases hf : firstOne (s.pieces.get s.turn .king) with
  | none => rw [hf] at hkhm; cases hkhm
  | some k =>
    rw [hf] at hkhm
    simp only [Option.some.injEq] at hkhm
    have hkk : test (s.pieces.get s.turn .king) k = true := ((firstOne_eq_some _ _).1 hf).1
    have hk64 : k < 64 := test_lt _ _ hkk
    -- the free, unattacked neighbour
    obtain ⟨t, ht64, htt⟩ := (bbAny_iff _).1 hkhm
    rw [test_and, test_and, test_not _ _ ht64, test_not _ _ ht64] at htt
    simp only [Bool.and_eq_true, Bool.not_eq_true'] at htt
    obtain ⟨⟨hatt, hvac⟩, hsafe⟩ := htt
    have hvac' : ¬ test s.pieces.occ t = true := by simp [hvac]
    have hsafe' : ¬ test (coloredAttacks s.pieces s.turn.opp) t = true := by simp [hsafe]
    -- not in check: no king square is attacked
    have hnc : ∀ x, x < 64 → test (s.pieces.get s.turn .king) x = true →
        ¬ test (coloredAttacks s.pieces s.turn.opp) x = true := by
      intro x hx h1 h2
      have hc : s.isCheck = true := (C10.isCheckB_iff _ _).2 ⟨x, hx, h1, h2⟩
      rw [hchk] at hc; cases hc
    -- no enemy piece on the king square
    have hno_enemy : ¬ test (s.pieces.colorOcc s.turn.opp) k = true := by
      intro h
      obtain ⟨p, _, hp⟩ := (C10.test_colorOcc _ _ _).1 h
      exact (C02.opp_ne s.turn).symm (hd.unique hkk hp).1
    -- the king step is among the pseudo-legal moves, and the generator did not accept it
    obtain ⟨ps, hps, rs, hrs, hno⟩ := legalMoves?_eq_some.1 hno
    have hmem := kingStep_mem_pseudo s ps hps k t hkk ht64 hatt hvac' hsafe'
    obtain ⟨r, hfr, hr⟩ := (mapM_option_mem _ ps rs hrs).1 _ hmem
    have hrn : r = Option.none := by
      cases r with
      | none => rfl
      | some v =>
        have : v ∈ rs.filterMap id := List.mem_filterMap.2 ⟨some v, hr, rfl⟩
        rw [hno] at this; cases this
    subst hrn
    -- the move is performed and leaves no king attacked
    obtain ⟨next, hpm, hnp, hnt⟩ := performMove_kingStep s k t hk64 ht64
    rw [tryAsLegal_of_ok hpm] at hfr
    by_cases hbad : bbNone (next.pieces.get s.turn .king &&& coloredAttacks next.pieces next.turn) = true
    · rw [if_pos hbad] at hfr; cases hfr
    · have hne : next.pieces.get s.turn .king &&& coloredAttacks next.pieces next.turn ≠ 0 := by
        simpa [bbNone] using hbad
      obtain ⟨x, hx64, hx⟩ := (ne_zero_iff _).1 hne
      rw [test_and, hnp, hnt, kingStepMap_king, test_setBit _ _ _ ht64, test_clearBit _ _ _ hk64] at hx
      simp only [Bool.and_eq_true, Bool.or_eq_true, Bool.not_eq_true', decide_eq_true_eq,
        decide_eq_false_iff_not] at hx
      obtain ⟨hking, hattx⟩ := hx
      rcases coloredAttacks_after_kingStep s.pieces s.turn k t hk64 ht64 hno_enemy hvac' x hx64 hattx
        with r | r | r
      · rcases hking with ⟨hkx, _⟩ | rfl
        · exact hnc x hx64 hkx r
        · exact hsafe' r
      · exact hnc k hk64 hkk r
      · exact hsafe' r

end Wee
