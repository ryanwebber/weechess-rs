import Wee.Proofs.BitLemmas
import Wee.Proofs.MagicCheck
import Wee.Proofs.Step
/-!
# Lifting lemmas for sliding attacks (C09)

* `test_walk` : the bitboard ray walk `walk` (defined in `MagicCheck.lean`) has exactly the bits of the
  independent `Spec.slideDir`;
* `walk_congr`, `walk_and_mask` : the walk looks only at ray squares that have a successor, so masking the
  occupancy with a relevance mask that covers those squares does not change it;
* `deposit_extract`, `extract_lt`, `exists_blockersFromIndex` : every subset of a mask is
  `blockersFromIndex b mask` for some `b < 2 ^ popcount mask`;
* `lookup_eq_ref` : the generic lifting step from an exhaustive check over indices to all occupancies, and its
  instances `rookAttacks_eq_walk`, `bishopAttacks_eq_walk`;
* `shift_image` : not about sliders — a bit of a one-step shift of a board comes from a bit of the board one coordinate
  step away (used by `C09_shift_step`).
-/
namespace Wee

/-! ## the walk and the specification list -/

theorem test_walk (occ : UInt64) (df dr : Int) : ∀ (fuel sq t : Nat),
    test (walk occ df dr fuel sq) t = (Spec.slideDir (fun n => test occ n) df dr fuel sq).contains t := by
  intro fuel
  induction fuel with
  | zero => intro sq t; simp [walk, Spec.slideDir]
  | succ f ih =>
    intro sq t
    unfold walk Spec.slideDir
    rw [← offset_eq_step]
    cases hoff : offset sq df dr with
    | none => simp
    | some n =>
      have hn : n < 64 := offset_lt hoff
      simp only
      by_cases ho : test occ n = true
      · rw [if_pos ho, if_pos ho, test_bit n t hn]
        simp [eq_comm]
      · rw [if_neg ho, if_neg ho, test_or, test_bit n t hn, ih n t]
        simp [eq_comm]

/-! ## the walk ignores squares off the ray and the last square of the ray -/

theorem walk_of_offset_none (occ : UInt64) (df dr : Int) (fuel n : Nat)
    (h : offset n df dr = Option.none) : walk occ df dr fuel n = 0 := by
  cases fuel with
  | zero => rfl
  | succ f => simp [walk, h]

/-- the walk only looks at ray squares that have a successor -/
theorem walk_congr (occ occ' : UInt64) (df dr : Int) :
    ∀ (fuel sq : Nat),
      (∀ n ∈ rayList df dr fuel sq, (offset n df dr).isSome → test occ n = test occ' n) →
      walk occ df dr fuel sq = walk occ' df dr fuel sq := by
  intro fuel
  induction fuel with
  | zero => intro sq _; rfl
  | succ f ih =>
    intro sq h
    unfold walk
    cases hoff : offset sq df dr with
    | none => rfl
    | some n =>
      simp only
      have hmem : n ∈ rayList df dr (f+1) sq := by simp [rayList, hoff]
      have htail : ∀ m ∈ rayList df dr f n, (offset m df dr).isSome → test occ m = test occ' m := by
        intro m hm; exact h m (by simp [rayList, hoff, hm])
      cases hn : offset n df dr with
      | none =>
        rw [walk_of_offset_none occ df dr f n hn, walk_of_offset_none occ' df dr f n hn]
        simp
      | some k =>
        have : test occ n = test occ' n := h n hmem (by simp [hn])
        rw [this, ih n htail]

/-- `mask` contains every square of the ray that has a successor (i.e. all but the last) -/
def maskCovers (mask : UInt64) (df dr : Int) (sq : Nat) : Bool :=
  (rayList df dr 8 sq).all fun n => !(offset n df dr).isSome || test mask n

/-- masking the occupancy with `mask` does not change the walk when a part of `mask` covers the ray -/
theorem walk_and_mask (occ mask part : UInt64) (df dr : Int) (sq : Nat)
    (hm : ∀ n, test part n = true → test mask n = true) (h : maskCovers part df dr sq = true) :
    walk (occ &&& mask) df dr 8 sq = walk occ df dr 8 sq := by
  apply walk_congr
  intro n hn hsome
  rw [maskCovers, List.all_eq_true] at h
  have := h n hn
  rw [hsome] at this
  rw [test_and, hm n (by simpa using this), Bool.and_true]

/-! ## deposit / extract (`compute_blockers_from_index` and its inverse) -/

/-- the index whose `deposit` is `s &&& mask` (software `pext`) -/
def extract (s mask : UInt64) : Nat → Nat → Nat
  | 0, _ => 0
  | fuel+1, b =>
    if test mask b then (if test s b then 1 else 0) + 2 * extract s mask fuel (b+1)
    else extract s mask fuel (b+1)

/-- number of mask bits in `[b, b+fuel)` -/
def pc (mask : UInt64) : Nat → Nat → Nat
  | 0, _ => 0
  | fuel+1, b => (if test mask b then 1 else 0) + pc mask fuel (b+1)

theorem pc_eq (mask : UInt64) : ∀ fuel b,
    pc mask fuel b = ((List.range' b fuel).filter (test mask)).length := by
  intro fuel
  induction fuel with
  | zero => intro b; simp [pc]
  | succ f ih =>
    intro b
    rw [pc, ih (b+1), List.range'_succ, List.filter_cons]
    by_cases hm : test mask b = true
    · rw [if_pos hm, if_pos hm, List.length_cons]; omega
    · rw [if_neg hm, if_neg hm]; omega

theorem pc_eq_popcount (mask : UInt64) : pc mask 64 0 = popcount mask := by
  rw [pc_eq, popcount, bitsOf, List.range_eq_range']

theorem extract_lt (s mask : UInt64) : ∀ fuel b, extract s mask fuel b < 2 ^ pc mask fuel b := by
  intro fuel
  induction fuel with
  | zero => intro b; simp [extract, pc]
  | succ f ih =>
    intro b
    unfold extract pc
    have := ih (b+1)
    split
    · rw [Nat.add_comm 1, Nat.pow_succ]; split <;> omega
    · simpa using this

theorem test_deposit_extract (s mask : UInt64) :
    ∀ fuel b n, b + fuel ≤ 64 →
      test (deposit (extract s mask fuel b) mask fuel b) n
        = (decide (b ≤ n ∧ n < b + fuel) && (test s n && test mask n)) := by
  intro fuel
  induction fuel with
  | zero =>
    intro b n _
    simp only [deposit, test_zero]
    simp
    intro h1 h2; omega
  | succ f ih =>
    intro b n hb
    -- off the first square the window `[b, b + f + 1)` is the window of the rest
    have hwin : b ≠ n → decide (b ≤ n ∧ n < b + (f + 1)) = decide (b + 1 ≤ n ∧ n < b + 1 + f) :=
      fun _ => decide_eq_decide.2 (by omega)
    by_cases hm : test mask b = true
    · rw [extract, if_pos hm, deposit, if_pos hm, test_or]
      have e1 : ((if test s b = true then 1 else 0) + 2 * extract s mask f (b+1)) / 2
          = extract s mask f (b+1) := by
        split <;> omega
      rw [e1, ih (b+1) n (by omega)]
      by_cases hs : test s b = true
      · have e2 : ((if test s b = true then 1 else 0) + 2 * extract s mask f (b+1)) % 2 = 1 := by
          rw [if_pos hs]; omega
        rw [if_pos e2, test_bit b n (by omega)]
        by_cases hbn : b = n
        · subst hbn; simp [hs, hm]
        · simp [hbn, hwin hbn]
      · have e2 : ¬ ((if test s b = true then 1 else 0) + 2 * extract s mask f (b+1)) % 2 = 1 := by
          rw [if_neg hs]; omega
        rw [if_neg e2, test_zero, Bool.false_or]
        by_cases hbn : b = n
        · subst hbn
          have hs' : test s b = false := by simpa using hs
          simp [hs']
        · simp [hwin hbn]
    · rw [extract, if_neg hm, deposit, if_neg hm, ih (b+1) n (by omega)]
      by_cases hbn : b = n
      · subst hbn
        have hm' : test mask b = false := by simpa using hm
        simp [hm']
      · simp [hwin hbn]

/-- `pdep (pext s mask) mask = s & mask` -/
theorem deposit_extract (s mask : UInt64) :
    blockersFromIndex (extract s mask 64 0) mask = s &&& mask := by
  apply ext
  intro n hn
  rw [blockersFromIndex, test_deposit_extract s mask 64 0 n (by omega), test_and]
  simp [hn]

/-- every subset of the mask is enumerated by `compute_blockers_from_index` below `2^popcount` -/
theorem exists_blockersFromIndex (s mask : UInt64) :
    ∃ b, b < 2 ^ popcount mask ∧ blockersFromIndex b mask = s &&& mask :=
  ⟨extract s mask 64 0, pc_eq_popcount mask ▸ extract_lt s mask 64 0, deposit_extract s mask⟩

/-! ## from the exhaustive index check to every occupancy -/

/-- If for every index `b < 2^bits` the table holds `ref (blockersFromIndex b mask)` at an in-range slot,
`popcount mask ≤ bits`, and `ref` does not depend on bits outside `mask`, then the look-up with an
arbitrary occupancy is in range and returns `ref occ`. -/
theorem lookup_eq_ref (table size : Nat) (ref : UInt64 → UInt64) (mask magic : UInt64) (bits : Nat)
    (hpc : popcount mask ≤ bits)
    (hloop : checkLoop table size ref mask magic bits (2 ^ bits) 0 = true)
    (href : ∀ occ, ref (occ &&& mask) = ref occ) (occ : UInt64) :
    magicIndex (occ &&& mask) magic bits < size ∧
    tget table (magicIndex (occ &&& mask) magic bits) = ref occ := by
  obtain ⟨b, hb, hdep⟩ := exists_blockersFromIndex occ mask
  have hb' : b < 0 + 2 ^ bits :=
    Nat.lt_of_lt_of_le hb (by rw [Nat.zero_add]; exact Nat.pow_le_pow_right (by omega) hpc)
  have := checkLoop_sound table size ref mask magic bits (2 ^ bits) 0 hloop b (Nat.zero_le _) hb'
  rw [hdep, href] at this
  exact this

/-! ## rook and bishop instances -/

theorem test_rookWalk (sq : Nat) (occ : UInt64) (t : Nat) :
    test (rookWalk sq occ) t = (Spec.slide (fun n => test occ n) Spec.rookDirs sq).contains t := by
  simp [rookWalk, test_or, test_walk, Spec.slide, Spec.rookDirs, Bool.or_assoc]

theorem test_bishopWalk (sq : Nat) (occ : UInt64) (t : Nat) :
    test (bishopWalk sq occ) t = (Spec.slide (fun n => test occ n) Spec.bishopDirs sq).contains t := by
  simp [bishopWalk, test_or, test_walk, Spec.slide, Spec.bishopDirs, Bool.or_assoc]

theorem slide_append (occ : Nat → Bool) (d1 d2 : List (Int × Int)) (sq : Nat) :
    Spec.slide occ (d1 ++ d2) sq = Spec.slide occ d1 sq ++ Spec.slide occ d2 sq := by
  simp [Spec.slide]

/-- each part of `compute_rook_slide_masks` keeps every square of its ray except the last one -/
theorem rookParts_cover : ∀ sq : Fin 64,
    ((rookParts sq).all fun p => maskCovers p.1 p.2.1 p.2.2 sq) = true := by
  decide +kernel

/-- each part of `compute_bishop_slide_masks` keeps every square of its ray except the last one -/
theorem bishopParts_cover : ∀ sq : Fin 64,
    ((bishopParts sq).all fun p => maskCovers p.1 p.2.1 p.2.2 sq) = true := by
  decide +kernel

theorem rookWalk_and_mask (sq : Nat) (hsq : sq < 64) (occ : UInt64) :
    rookWalk sq (occ &&& rookMask sq) = rookWalk sq occ := by
  have h := rookParts_cover ⟨sq, hsq⟩
  simp only [rookParts, List.all_cons, List.all_nil, Bool.and_true, Bool.and_eq_true] at h
  obtain ⟨h1, h2, h3, h4⟩ := h
  have hm : ∀ part, part ∈ (rookParts sq).map (·.1) → ∀ n, test part n = true → test (rookMask sq) n = true := by
    simp only [rookParts, List.map_cons, List.map_nil, List.mem_cons, List.not_mem_nil, or_false]
    rintro part (rfl | rfl | rfl | rfl) n h <;> simp only [rookMask, test_or, h, Bool.or_true, Bool.true_or]
  rw [rookWalk, rookWalk,
    walk_and_mask _ _ _ _ _ _ (hm _ (by simp [rookParts])) h1, walk_and_mask _ _ _ _ _ _ (hm _ (by simp [rookParts])) h2,
    walk_and_mask _ _ _ _ _ _ (hm _ (by simp [rookParts])) h3, walk_and_mask _ _ _ _ _ _ (hm _ (by simp [rookParts])) h4]

theorem bishopWalk_and_mask (sq : Nat) (hsq : sq < 64) (occ : UInt64) :
    bishopWalk sq (occ &&& bishopMask sq) = bishopWalk sq occ := by
  have h := bishopParts_cover ⟨sq, hsq⟩
  simp only [bishopParts, List.all_cons, List.all_nil, Bool.and_true, Bool.and_eq_true] at h
  obtain ⟨h1, h2, h3, h4⟩ := h
  have hm : ∀ part, part ∈ (bishopParts sq).map (·.1) → ∀ n, test part n = true → test (bishopMask sq) n = true := by
    simp only [bishopParts, List.map_cons, List.map_nil, List.mem_cons, List.not_mem_nil, or_false]
    rintro part (rfl | rfl | rfl | rfl) n h <;> simp only [bishopMask, test_or, h, Bool.or_true, Bool.true_or]
  rw [bishopWalk, bishopWalk,
    walk_and_mask _ _ _ _ _ _ (hm _ (by simp [bishopParts])) h1, walk_and_mask _ _ _ _ _ _ (hm _ (by simp [bishopParts])) h2,
    walk_and_mask _ _ _ _ _ _ (hm _ (by simp [bishopParts])) h3, walk_and_mask _ _ _ _ _ _ (hm _ (by simp [bishopParts])) h4]

/-- lifting: if the exhaustive check of square `sq` succeeded, the magic look-up is in range and equals
the ray walk for EVERY occupancy -/
theorem rookAttacks_eq_walk (sq : Nat) (hsq : sq < 64)
    (hchk : checkRook sq (Gen.rookMagics.getD sq 0) (Gen.rookBitsTab.getD sq 0) = true) (occ : UInt64) :
    magicIndex (occ &&& rookMask sq) (Gen.rookMagics.getD sq 0) (Gen.rookBitsTab.getD sq 0) < Gen.rookTableSize ∧
    rookAttacks sq occ = rookWalk sq occ := by
  simp only [checkRook, Bool.and_eq_true, decide_eq_true_eq] at hchk
  obtain ⟨⟨_, hpc⟩, hloop⟩ := hchk
  rw [rookAttacks, rookLookup, rookTables_getD sq hsq]
  exact lookup_eq_ref _ _ _ _ _ _ hpc hloop (rookWalk_and_mask sq hsq) occ

theorem bishopAttacks_eq_walk (sq : Nat) (hsq : sq < 64)
    (hchk : checkBishop sq (Gen.bishopMagics.getD sq 0) (Gen.bishopBitsTab.getD sq 0) = true) (occ : UInt64) :
    magicIndex (occ &&& bishopMask sq) (Gen.bishopMagics.getD sq 0) (Gen.bishopBitsTab.getD sq 0) < Gen.bishopTableSize ∧
    bishopAttacks sq occ = bishopWalk sq occ := by
  simp only [checkBishop, Bool.and_eq_true, decide_eq_true_eq] at hchk
  obtain ⟨⟨_, hpc⟩, hloop⟩ := hchk
  rw [bishopAttacks, bishopLookup, bishopTables_getD sq hsq]
  exact lookup_eq_ref _ _ _ _ _ _ hpc hloop (bishopWalk_and_mask sq hsq) occ

/-! ## a one-step shift as the image under a coordinate step -/

/-- when `u` is the one square from which the step `(df, dr)` leads to `t`, and only if `c` -/
theorem shift_image (b : UInt64) (t u : Nat) (c : Prop) [Decidable c] (df dr : Int)
    (hstep : ∀ s, s < 64 → (Spec.step s df dr = some t ↔ c ∧ s = u)) :
    (decide c && test b u) = true ↔ ∃ s, test b s = true ∧ Spec.step s df dr = some t := by
  rw [Bool.and_eq_true, decide_eq_true_eq]
  constructor
  · intro ⟨hc, hb⟩
    exact ⟨u, hb, (hstep u (test_lt b u hb)).2 ⟨hc, rfl⟩⟩
  · intro ⟨s, hb, hs⟩
    obtain ⟨hc, rfl⟩ := (hstep s (test_lt b s hb)).1 hs
    exact ⟨hc, hb⟩

end Wee
