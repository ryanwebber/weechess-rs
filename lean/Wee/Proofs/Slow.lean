import Wee.Proofs.Slide
/-!
# `compute_*_attacks_unoptimized` equals the ray walk

`rookSlow_eq_walk` / `bishopSlow_eq_walk` : the transcription of `compute_rook_attacks_unoptimized` (rays +
`first_one`/`last_one` cut) equals the four ray walks, for every square and every blocker set.  One ray:
`cut_eq_walkL`, an induction along the list of ray squares, from two facts about the ray that are
evaluated for the 64 squares (`rayGeom`).  Four rays: the rays from one square are disjoint, and a cut
removes only squares of its own ray.
-/
namespace Wee

/-! ## cutting a ray behind the nearest blocker

`compute_*_attacks_unoptimized` takes the whole ray and removes `RAYS[dir][b]`, where `b` is the blocker
with the least (rays that go up in square index) or greatest (rays that go down) index.  That is the
ray walk because along a ray the square index is monotone (`ordered`) and the ray from a ray square is
the rest of the ray (`cutsOK`). -/

/-- every square of the list comes before all later ones: smaller if `up`, greater otherwise -/
def ordered (up : Bool) : List Nat → Bool
  | [] => true
  | n :: rest => rest.all (fun m => if up then decide (n < m) else decide (m < n)) && ordered up rest

/-- `c n` is the bitboard of the squares after `n`, for every `n` in the list -/
def cutsOK (c : Nat → UInt64) : List Nat → Bool
  | [] => true
  | n :: rest => c n == orBits rest && cutsOK c rest

/-- `sel` picks the blocker that comes first in the order `le` (`first_one` with `≤`, `last_one` with `≥`);
then the list minus what comes after that blocker is the walk along the list -/
theorem cut_eq_walkL (sel : UInt64 → Option Nat) (le : Nat → Nat → Prop) (hrefl : ∀ a, le a a)
    (hsome : ∀ y b, sel y = some b ↔ test y b = true ∧ ∀ m, test y m = true → le b m)
    (c : Nat → UInt64) (bl : UInt64) :
    ∀ R : List Nat, (∀ n ∈ R, n < 64) → R.Pairwise (fun a b => le a b ∧ a ≠ b) → cutsOK c R = true →
      orBits R &&& ~~~(match sel (orBits R &&& bl) with | some b => c b | Option.none => 0) = walkL bl R ∧
      (match sel (orBits R &&& bl) with | some b => c b | Option.none => 0) &&& ~~~orBits R = 0 := by
  intro R
  induction R with
  | nil =>
    intro _ _ _
    cases h : sel (orBits [] &&& bl) with
    | none => constructor <;> apply ext <;> intro t ht <;> simp [orBits, walkL, test_zero]
    | some b => exact absurd ((hsome _ _).1 h).1 (by simp [orBits, test_zero])
  | cons n rest ih =>
    intro hlt hord hcut
    have hn : n < 64 := hlt n List.mem_cons_self
    have hrest : ∀ m ∈ rest, m < 64 := fun m hm => hlt m (List.mem_cons_of_mem _ hm)
    rw [List.pairwise_cons] at hord
    obtain ⟨hfirst, hord⟩ := hord
    simp only [cutsOK, Bool.and_eq_true, beq_iff_eq] at hcut
    obtain ⟨hcn, hcut⟩ := hcut
    have hnot : n ∉ rest := fun hm => (hfirst n hm).2 rfl
    obtain ⟨ih1, ih2⟩ := ih hrest hord hcut
    by_cases hb : test bl n = true
    · -- `n` is a blocker, and the first one: what is cut is the rest of the list
      have hs : sel (orBits (n :: rest) &&& bl) = some n := by
        rw [hsome]
        constructor
        · rw [test_and, test_orBits _ hlt, hb]; simp
        · intro m hm
          rw [test_and, test_orBits _ hlt, Bool.and_eq_true, decide_eq_true_eq] at hm
          cases hm.1 with
          | head => exact hrefl _
          | tail _ h => exact (hfirst m h).1
      rw [hs, walkL, if_pos hb]
      simp only [hcn]
      constructor
      · apply ext; intro t ht
        rw [test_and, test_not _ _ ht, orBits, test_or, test_bit n t hn, test_orBits _ hrest]
        by_cases htr : t ∈ rest
        · have : n ≠ t := fun e => hnot (e ▸ htr)
          simp [htr, this]
        · simp [htr]
      · apply ext; intro t ht
        rw [test_and, test_not _ _ ht, orBits, test_or, test_orBits _ hrest, test_zero]
        cases decide (t ∈ rest) <;> simp
    · -- `n` is free: the nearest blocker is that of the rest, and what is cut lies in the rest
      have hb' : test bl n = false := by simpa using hb
      have he : orBits (n :: rest) &&& bl = orBits rest &&& bl := by
        apply ext; intro t ht
        rw [test_and, test_and, orBits, test_or, test_bit n t hn]
        by_cases e : n = t
        · subst e; simp [hb']
        · simp [e]
      rw [he, walkL, if_neg hb]
      generalize (match sel (orBits rest &&& bl) with | some b => c b | Option.none => 0) = cut at ih1 ih2 ⊢
      have hsub : ∀ t, t < 64 → test cut t = true → t ∈ rest := by
        intro t ht h
        have := congrArg (fun x => test x t) ih2
        simp only [test_and, test_not _ _ ht, test_orBits _ hrest, test_zero, h] at this
        simpa using this
      constructor
      · rw [← ih1]
        apply ext; intro t ht
        simp only [test_and, test_or, test_not _ _ ht, orBits, test_bit n t hn]
        by_cases e : n = t
        · subst e
          have : test cut n = false := by
            cases h : test cut n
            · rfl
            · exact absurd (hsub n hn h) hnot
          simp [this]
        · simp [e]
      · apply ext; intro t ht
        simp only [test_and, test_or, test_not _ _ ht, orBits, test_zero, test_orBits _ hrest]
        cases h : test cut t
        · rfl
        · simp [hsub t ht h]

theorem pairwise_of_ordered (up : Bool) : ∀ R : List Nat, ordered up R = true →
    R.Pairwise (fun a b => (if up then a ≤ b else b ≤ a) ∧ a ≠ b) := by
  intro R
  induction R with
  | nil => intro _; exact List.Pairwise.nil
  | cons n rest ih =>
    intro h
    simp only [ordered, Bool.and_eq_true, List.all_eq_true] at h
    refine List.Pairwise.cons (fun m hm => ?_) (ih h.2)
    have := h.1 m hm
    cases up <;> simp at this ⊢ <;> omega

/-- what one direction of `compute_*_attacks_unoptimized` removes from the ray: the ray behind the nearest
blocker (`first_one` for rays going up in square index, `last_one` for rays going down) -/
def cutOf (d : Dir) (up : Bool) (sq : Nat) (blockers : UInt64) : UInt64 :=
  match (if up then firstOne (ray d sq &&& blockers) else lastOne (ray d sq &&& blockers)) with
  | some b => ray d b
  | Option.none => 0

theorem and_not_zero (x : UInt64) : x &&& ~~~(0 : UInt64) = x := by
  apply ext; intro n hn
  rw [test_and, test_not _ _ hn, test_zero]; simp

theorem cutRay_eq (d : Dir) (up : Bool) (sq : Nat) (bl acc : UInt64) :
    cutRay d up sq bl acc = (acc ||| ray d sq) &&& ~~~(cutOf d up sq bl) := by
  unfold cutRay cutOf
  simp only
  cases (if up = true then firstOne (ray d sq &&& bl) else lastOne (ray d sq &&& bl)) with
  | none => simp only; rw [and_not_zero]
  | some b => rfl

/-- the two facts about the ray `d = (df, dr)` from `sq` that `cut_eq_walkL` needs, in evaluable form -/
def rayGeom (d : Dir) (df dr : Int) (up : Bool) (sq : Nat) : Bool :=
  cutsOK (ray d) (rayList df dr 8 sq) && ordered up (rayList df dr 8 sq)

/-- one direction of the slow computation, for EVERY blocker set -/
theorem cutRay_walk (d : Dir) (df dr : Int) (up : Bool) (sq : Nat)
    (hray : ray d sq = rayFrom df dr 8 sq) (h : rayGeom d df dr up sq = true) (bl : UInt64) :
    ray d sq &&& ~~~(cutOf d up sq bl) = walk bl df dr 8 sq ∧
    cutOf d up sq bl &&& ~~~(ray d sq) = 0 := by
  simp only [rayGeom, Bool.and_eq_true] at h
  unfold cutOf
  rw [walk_eq_walkL, hray, rayFrom_eq_orBits]
  cases up
  · exact cut_eq_walkL lastOne (fun a b => b ≤ a) Nat.le_refl lastOne_eq_some (ray d) bl _
      (mem_rayList_lt df dr 8 sq) (pairwise_of_ordered false _ h.2) h.1
  · exact cut_eq_walkL firstOne (fun a b => a ≤ b) Nat.le_refl firstOne_eq_some (ray d) bl _
      (mem_rayList_lt df dr 8 sq) (pairwise_of_ordered true _ h.2) h.1

/-! ## assembling the directions

`compute_*_attacks_unoptimized` adds one ray after the other and cuts each; a cut lies in its own ray, and
the rays from one square are disjoint, so it removes nothing that was added before. -/

theorem cutRay_disjoint (d : Dir) (up : Bool) (sq : Nat) (bl acc W : UInt64)
    (h : ray d sq &&& ~~~(cutOf d up sq bl) = W ∧ cutOf d up sq bl &&& ~~~(ray d sq) = 0)
    (hd : ∀ t, test acc t = true → test (ray d sq) t = false) : cutRay d up sq bl acc = acc ||| W := by
  rw [cutRay_eq, ← h.1]
  apply ext
  intro t ht
  have hc := congrArg (fun x => test x t) h.2
  simp only [test_and, test_not _ _ ht, test_zero] at hc
  simp only [test_and, test_or, test_not _ _ ht]
  cases ha : test acc t
  · simp
  · rw [hd t ha] at hc ⊢
    simpa using hc

/-- the squares of the ray that `cutRay d` adds -/
def raySquares (sq : Nat) (p : Dir × Bool) : List Nat := rayList p.1.off.1 p.1.off.2 8 sq

/-- `List.Nodup`, in a form that is cheap to evaluate -/
def distinct : List Nat → Bool
  | [] => true
  | n :: rest => !rest.contains n && distinct rest

theorem nodup_of_distinct : ∀ l : List Nat, distinct l = true → l.Nodup
  | [], _ => List.nodup_nil
  | n :: rest, h => by
    simp only [distinct, Bool.and_eq_true, Bool.not_eq_true', List.contains_eq_mem, decide_eq_false_iff_not] at h
    exact List.nodup_cons.2 ⟨h.1, nodup_of_distinct rest h.2⟩

/-- the rays of the directions `ds` from `sq` make the cut a walk and are pairwise disjoint -/
def cutsGeom (ds : List (Dir × Bool)) (sq : Nat) : Bool :=
  (ds.all fun p => rayGeom p.1 p.1.off.1 p.1.off.2 p.2 sq) && distinct (ds.flatMap (raySquares sq))

theorem foldl_cutRay (sq : Nat) (bl : UInt64) : ∀ (ds : List (Dir × Bool)) (acc : UInt64) (prev : List Nat),
    (∀ p ∈ ds, rayGeom p.1 p.1.off.1 p.1.off.2 p.2 sq = true) →
    (∀ t, test acc t = true → t ∈ prev) → (prev ++ ds.flatMap (raySquares sq)).Nodup →
    ds.foldl (fun a p => cutRay p.1 p.2 sq bl a) acc
      = ds.foldl (fun a p => a ||| walk bl p.1.off.1 p.1.off.2 8 sq) acc
  | [], _, _, _, _, _ => rfl
  | p :: ds, acc, prev, hg, hacc, hnd => by
    have hw := cutRay_walk p.1 _ _ p.2 sq rfl (hg p List.mem_cons_self) bl
    have hray : ∀ t, test (ray p.1 sq) t = decide (t ∈ raySquares sq p) := by
      rw [show ray p.1 sq = rayFrom p.1.off.1 p.1.off.2 8 sq from rfl, rayFrom_eq_orBits]
      exact test_orBits _ (mem_rayList_lt _ _ 8 sq)
    rw [List.flatMap_cons, ← List.append_assoc] at hnd
    rw [List.foldl_cons, List.foldl_cons, cutRay_disjoint _ _ _ _ _ _ hw]
    · refine foldl_cutRay sq bl ds _ (prev ++ raySquares sq p) (fun q hq => hg q (List.mem_cons_of_mem _ hq))
        (fun t ht => ?_) hnd
      rw [test_or, Bool.or_eq_true] at ht
      rcases ht with h | h
      · exact List.mem_append_left _ (hacc t h)
      · rw [← hw.1, test_and, Bool.and_eq_true, hray] at h
        exact List.mem_append_right _ (of_decide_eq_true h.1)
    · intro t ht
      rw [hray, decide_eq_false_iff_not]
      exact fun h => (List.nodup_append.1 (List.nodup_append.1 hnd).1).2.2 t (hacc t ht) t h rfl

/-- the order of `compute_rook_attacks_unoptimized` / `compute_bishop_attacks_unoptimized` -/
def rookCuts : List (Dir × Bool) := [(.n, true), (.s, false), (.w, false), (.e, true)]
def bishopCuts : List (Dir × Bool) := [(.nw, true), (.sw, false), (.ne, true), (.se, false)]

theorem cuts_geom : ∀ sq : Fin 64, (cutsGeom rookCuts sq && cutsGeom bishopCuts sq) = true := by
  decide +kernel

theorem slow_eq_walk (ds : List (Dir × Bool)) (sq : Nat) (h : cutsGeom ds sq = true) (bl : UInt64) :
    ds.foldl (fun a p => cutRay p.1 p.2 sq bl a) 0
      = ds.foldl (fun a p => a ||| walk bl p.1.off.1 p.1.off.2 8 sq) 0 := by
  rw [cutsGeom, Bool.and_eq_true, List.all_eq_true] at h
  exact foldl_cutRay sq bl ds 0 [] h.1 (fun t ht => by rw [test_zero] at ht; cases ht) (nodup_of_distinct _ h.2)

/-- `compute_rook_attacks_unoptimized(sq, blockers)` is the union of the four ray walks, for every
blocker set -/
theorem rookSlow_eq_walk (sq : Nat) (hsq : sq < 64) (bl : UInt64) : rookSlow sq bl = rookWalk sq bl := by
  have h := cuts_geom ⟨sq, hsq⟩
  rw [Bool.and_eq_true] at h
  rw [show rookSlow sq bl = rookCuts.foldl (fun a p => cutRay p.1 p.2 sq bl a) 0 from rfl,
    slow_eq_walk rookCuts sq h.1 bl]
  show 0 ||| walk bl 0 1 8 sq ||| walk bl 0 (-1) 8 sq ||| walk bl (-1) 0 8 sq ||| walk bl 1 0 8 sq = _
  apply ext
  intro t _
  simp only [rookWalk, test_or, test_zero, Bool.false_or, Bool.or_assoc, Bool.or_comm, Bool.or_left_comm]

/-- `compute_bishop_attacks_unoptimized(sq, blockers)` is the union of the four diagonal ray walks -/
theorem bishopSlow_eq_walk (sq : Nat) (hsq : sq < 64) (bl : UInt64) : bishopSlow sq bl = bishopWalk sq bl := by
  have h := cuts_geom ⟨sq, hsq⟩
  rw [Bool.and_eq_true] at h
  rw [show bishopSlow sq bl = bishopCuts.foldl (fun a p => cutRay p.1 p.2 sq bl a) 0 from rfl,
    slow_eq_walk bishopCuts sq h.2 bl]
  show 0 ||| walk bl (-1) 1 8 sq ||| walk bl (-1) (-1) 8 sq ||| walk bl 1 1 8 sq ||| walk bl 1 (-1) 8 sq = _
  apply ext
  intro t _
  simp only [bishopWalk, test_or, test_zero, Bool.false_or, Bool.or_assoc, Bool.or_comm, Bool.or_left_comm]

end Wee
