import Wee.Model.San
/-!
# Squares, files and ranks as characters

The characters `fileChar f`, `rankChar r` of `Display for File / Rank` and the two-character name `sqName` of a square,
against the reader `Square::try_from(&str)` (`parseSquare`).  What the sixteen characters are is evaluated
(`fileChar_facts`, `rankChar_facts`); `parseSquare` on a file letter and a rank digit is one evaluated table of 64
entries (`parseSquare_table`), reached from range hypotheses by comparing characters through their code points.
-/
namespace Wee

/-- a fact about `Char` in general; the name is that of its first user (the FEN lemmas) -/
theorem FenL.char_le_iff (a b : Char) : a ≤ b ↔ a.toNat ≤ b.toNat := by
  rw [Char.le_def, UInt32.le_iff_toNat_le]; rfl

/-- a fact about `Char` in general; the name is that of its first user (the regex lemmas) -/
theorem Spec.char_eq_iff_toNat (a b : Char) : a = b ↔ a.toNat = b.toNat := by
  constructor
  · rintro rfl; rfl
  · intro h; exact Char.ext (UInt32.toNat_inj.1 h)

theorem rankChar_facts : ∀ r < 8,
    (rankChar r).isUpper = false ∧ (rankChar r).isDigit = true ∧ ('1' ≤ rankChar r ∧ rankChar r ≤ '8') ∧
    (rankChar r).toNat - '1'.toNat = r ∧ rankChar r ≠ '#' ∧ rankChar r ≠ '+' ∧ rankChar r ≠ '=' ∧
    (rankChar r).isLower = false ∧ rankChar r ≠ 'x' := by decide

theorem fileChar_facts : ∀ f < 8,
    (fileChar f).isUpper = false ∧ (fileChar f).isDigit = false ∧ (fileChar f).isLower = true ∧
    ('a' ≤ fileChar f ∧ fileChar f ≤ 'h') ∧ (fileChar f).toNat - 'a'.toNat = f ∧ fileChar f ≠ 'x' := by decide

/-! ## `Square::try_from(&str)` on a file letter and a rank digit -/

theorem parseSquare_table : ∀ f ∈ ['a','b','c','d','e','f','g','h'], ∀ r ∈ ['1','2','3','4','5','6','7','8'],
    parseSquare [f, r] = some (mkSq (r.toNat - '1'.toNat) (f.toNat - 'a'.toNat)) := by decide +kernel

theorem parseSquare_of_ranges (f r : Char) (hf1 : 'a' ≤ f) (hf2 : f ≤ 'h') (hr1 : '1' ≤ r) (hr2 : r ≤ '8') :
    parseSquare [f, r] = some (mkSq (r.toNat - '1'.toNat) (f.toNat - 'a'.toNat)) := by
  apply parseSquare_table
  · simp only [FenL.char_le_iff, Char.reduceToNat] at hf1 hf2
    simp only [List.mem_cons, List.not_mem_nil, or_false, Spec.char_eq_iff_toNat, Char.reduceToNat]
    omega
  · simp only [FenL.char_le_iff, Char.reduceToNat] at hr1 hr2
    simp only [List.mem_cons, List.not_mem_nil, or_false, Spec.char_eq_iff_toNat, Char.reduceToNat]
    omega

theorem parseSquare_sqName (o : Nat) (h : o < 64) : parseSquare (sqName o).toList = some o := by
  obtain ⟨-, -, -, ⟨hf1, hf2⟩, hf3, -⟩ := fileChar_facts (fileOf o) (by unfold fileOf; omega)
  obtain ⟨-, -, ⟨hr1, hr2⟩, hr3, -⟩ := rankChar_facts (rankOf o) (by unfold rankOf; omega)
  rw [sqName, String.toList_ofList, parseSquare_of_ranges _ _ hf1 hf2 hr1 hr2, hf3, hr3]
  congr 1; unfold mkSq rankOf fileOf; omega

theorem sqName_utf8ByteSize : ∀ o < 64, (sqName o).utf8ByteSize = 2 := by decide +kernel

end Wee
