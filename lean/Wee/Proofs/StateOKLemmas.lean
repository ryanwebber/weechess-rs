import Wee.Proofs.GenMovesBridge
import Wee.Proofs.ApplyGen
import Wee.Proofs.GenTotal
/-!
# `StateOK` (what the Rust `State` type can hold) holds of what the FEN reader returns and is kept by the moves

Used by the bridges of the search, the opening book and the UCI resolver: the positions they reach from a representable
position by legal moves and by queries are representable.  The en-passant clause is `FromFen` of `Proofs/GenTotal.lean`.
-/
namespace Wee.GenFns

theorem performMove_stateOK (s : Wee.State) (mv : Wee.Move) (next : Wee.State) (ok : StateOK s)
    (h : performMove s mv = some (.ok next)) : StateOK next := by
  obtain ⟨p, _, _, hh, hf⟩ := performMove_scalars h
  refine ⟨fromFen_of_performMove s mv next h, ?_, ?_⟩
  · rw [hh]
    split
    · decide
    · exact clockSucc_lt ok.half
  · rw [hf]
    split
    · exact clockSucc_lt ok.full
    · exact ok.full

/-- a legal move is a well-formed pseudo-legal move that `performMove` applies -/
theorem legalMoves?_mem (s : Wee.State) (L : List (Wee.Move × Wee.State)) (h : legalMoves? s = some L)
    (r : Wee.Move × Wee.State) (hr : r ∈ L) : WFMove r.1 ∧ performMove s r.1 = some (.ok r.2) := by
  obtain ⟨hpm, ps, hps, hmv⟩ := C02.mem_legalMoves? h hr
  exact ⟨pseudoLegalMoves_wf s ps hps r.1 hmv, hpm⟩

theorem legalMoves?_stateOK (s : Wee.State) (ok : StateOK s) (L : List (Wee.Move × Wee.State)) (h : legalMoves? s = some L)
    (r : Wee.Move × Wee.State) (hr : r ∈ L) : StateOK r.2 :=
  performMove_stateOK s r.1 r.2 ok (legalMoves?_mem s L h r hr).2

/-- an accepted query leads to a representable position -/
theorem performQuery_stateOK (s : Wee.State) (ok : StateOK s) (q : Wee.MoveQuery) (s' : Wee.State)
    (h : performQuery s q = some (.ok s')) : StateOK s' := by
  obtain ⟨ms, r, hms, _, hr, _, rfl⟩ := C02.performQuery_ok_inv h
  exact performMove_stateOK s _ _ ok (C02.mem_legalMoves? hms hr).1

theorem performQueries_stateOK (qs : List Wee.MoveQuery) : ∀ (s : Wee.State), StateOK s → ∀ s', performQueries s qs = some (.ok s') →
    StateOK s' :=
  fun s ok s' => C02.performQueries_inv (I := StateOK) (fun s q s' hI hq => performQuery_stateOK s hI q s' hq) qs s s' ok

theorem parseUsize_lt (cs : List Char) (v : Nat) (h : parseUsize cs = some v) : v < 2 ^ 64 :=
  ((FenL.parseUsize_iff cs v).1 h).2.2.2

/-- a position read from a FEN text is representable (en-passant square on the board, counters fit a `usize`) -/
theorem parseFenChars_stateOK (checked : Bool) (cs : List Char) (st : Wee.State) (h : parseFenChars checked cs = .ok st) :
    StateOK st := by
  obtain ⟨_, _, _, ep, _, _, _, _, _, _, hm, fm, _, _, _, _, _, hh, hf, rfl⟩ := parseFenChars_eq_ok h
  exact ⟨fromFen_of_parseChars checked cs _ h, parseUsize_lt _ _ hh, parseUsize_lt _ _ hf⟩

/-- the start position has no en-passant square and small counters (`startState` is rewritten to the literal first: a mention
of it next to its defining `match` makes the kernel run the FEN reader again) -/
theorem startState_ok : StateOK startState := by
  rw [startState_eq]
  exact ⟨fun t ht => (by cases ht), (by decide), (by decide)⟩

end Wee.GenFns
