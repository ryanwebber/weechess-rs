import Wee.Model.Types
import Wee.Spec.Chess
/-!
# The coordinate step

`Square::offset` of the model is `Spec.step` of the rules (`offset_eq_step`); the rest is the arithmetic of one step on files,
ranks and square numbers, up to the pawn's advance (`step_one_ne16`, `step_two_16`); at the end the facts about colours that
the generator's proofs share (`capDf`, `Spec.fwd_opp`, `Spec.kingHome_cases`).  Nothing here mentions bitboards.
-/
namespace Wee

/-! ## `Square::offset` is the specification's coordinate step -/

theorem offset_eq_step (sq : Nat) (df dr : Int) : offset sq df dr = Spec.step sq df dr := by
  have hf : fileOf sq = sq % 8 := rfl
  have hr : rankOf sq = sq / 8 := rfl
  simp only [offset, Spec.step]
  rw [hf, hr]
  by_cases h : ((sq % 8 : Nat) : Int) + df < 0 ∨ ((sq % 8 : Nat) : Int) + df > 7 ∨
      ((sq / 8 : Nat) : Int) + dr < 0 ∨ ((sq / 8 : Nat) : Int) + dr > 7
  · rw [if_pos h, if_neg (by omega)]
  · rw [if_neg h, if_pos (by omega)]

theorem step_eq_some (s t : Nat) (df dr : Int) :
    Spec.step s df dr = some t ↔
      (0 ≤ ((s % 8 : Nat) : Int) + df ∧ ((s % 8 : Nat) : Int) + df ≤ 7 ∧
       0 ≤ ((s / 8 : Nat) : Int) + dr ∧ ((s / 8 : Nat) : Int) + dr ≤ 7) ∧
      t = (((s / 8 : Nat) : Int) + dr).toNat * 8 + (((s % 8 : Nat) : Int) + df).toNat := by
  simp only [Spec.step]
  by_cases hc : 0 ≤ ((s % 8 : Nat) : Int) + df ∧ ((s % 8 : Nat) : Int) + df ≤ 7 ∧
      0 ≤ ((s / 8 : Nat) : Int) + dr ∧ ((s / 8 : Nat) : Int) + dr ≤ 7
  · rw [if_pos hc]
    constructor
    · intro h; injection h with h; exact ⟨hc, h.symm⟩
    · intro ⟨_, h⟩; rw [h]
  · rw [if_neg hc]
    constructor
    · intro h; cases h
    · intro ⟨h, _⟩; exact absurd h hc

theorem step_iff (s t : Nat) (df dr : Int) :
    Spec.step s df dr = some t ↔
      t < 64 ∧ ((t % 8 : Nat) : Int) = (s % 8 : Nat) + df ∧ ((t / 8 : Nat) : Int) = (s / 8 : Nat) + dr := by
  rw [step_eq_some]
  omega

/-! ## steps: where they lead, that they can be undone -/

theorem step_lt {s : Nat} {df dr : Int} {t : Nat} (h : Spec.step s df dr = some t) : t < 64 :=
  ((step_iff s t df dr).1 h).1

theorem offset_lt {sq : Nat} {df dr : Int} {n : Nat} (h : offset sq df dr = some n) : n < 64 :=
  step_lt (offset_eq_step sq df dr ▸ h)

theorem fwd_cases (c : Spec.Color) : c.fwd = 1 ∨ c.fwd = -1 := by cases c <;> simp [Spec.Color.fwd]

theorem step_rev {o t : Nat} {df dr : Int} (ho : o < 64) (h : Spec.step o df dr = some t) :
    Spec.step t (-df) (-dr) = some o := by
  rw [step_iff] at h ⊢
  omega

theorem step_rev_iff {o t : Nat} {df dr : Int} (ho : o < 64) (ht : t < 64) :
    Spec.step t (-df) (-dr) = some o ↔ Spec.step o df dr = some t := by
  constructor
  · intro h; have := step_rev ht h; simpa using this
  · exact step_rev ho

theorem step_src_inj {o o' t : Nat} {df dr : Int} (h : Spec.step o df dr = some t)
    (h' : Spec.step o' df dr = some t) : o = o' := by
  rw [step_iff] at h h'
  omega

theorem step_dir_inj {s t : Nat} {df dr df' dr' : Int} (h : Spec.step s df dr = some t)
    (h' : Spec.step s df' dr' = some t) : df = df' ∧ dr = dr' := by
  rw [step_iff] at h h'
  omega

theorem step_comp (o t : Nat) (df dr : Int) :
    (∃ m, Spec.step o 0 dr = some m ∧ Spec.step m df 0 = some t) ↔ Spec.step o df dr = some t := by
  simp only [step_iff]
  constructor
  · rintro ⟨m, h1, h2⟩
    omega
  · intro h
    exact ⟨t / 8 * 8 + o % 8, by omega, by omega⟩

theorem step_src_lt0 {m t : Nat} {df : Int} (h : Spec.step m df 0 = some t) : m < 64 := by
  rw [step_iff] at h; omega

/-! ### one step on ranks, files and square numbers; a pawn's single and double advance -/

theorem step_coords {o t : Nat} {df dr : Int} (h : Spec.step o df dr = some t) :
    ((t / 8 : Nat) : Int) = ((o / 8 : Nat) : Int) + dr ∧ ((t % 8 : Nat) : Int) = ((o % 8 : Nat) : Int) + df :=
  let ⟨_, hf, hr⟩ := (step_iff o t df dr).1 h
  ⟨hr, hf⟩

theorem step_sq {o t : Nat} {df dr : Int} (h : Spec.step o df dr = some t) : (t : Int) = o + 8 * dr + df := by
  have := step_coords h
  omega

theorem step_file_eq {o t : Nat} {dr : Int} (h : Spec.step o 0 dr = some t) : t % 8 = o % 8 := by
  have := (step_coords h).2
  omega

theorem step_file_ne {o t : Nat} {df dr : Int} (hdf : df = 1 ∨ df = -1) (h : Spec.step o df dr = some t) :
    ¬ t % 8 = o % 8 := by
  have := (step_coords h).2
  omega

/-- **one rank** up or down, on the file or to a neighbouring one, is never sixteen squares -/
theorem step_one_ne16 {o t : Nat} {df dr : Int} (hdr : dr = 1 ∨ dr = -1) (hdf : df = 0 ∨ df = 1 ∨ df = -1)
    (h : Spec.step o df dr = some t) : ¬ t = o + 16 ∧ ¬ o = t + 16 := by
  have := step_sq h
  omega

/-- **two ranks** along the file are sixteen squares -/
theorem step_two_16 {o t1 t2 : Nat} {dr : Int} (h1 : Spec.step o 0 dr = some t1) (h2 : Spec.step t1 0 dr = some t2) :
    (t2 : Int) = o + 16 * dr := by
  have := step_sq h1
  have := step_sq h2
  omega

theorem home_not_last {o t1 t2 : Nat} (c : Spec.Color) (hr : o / 8 = Spec.homeRank c)
    (h1 : Spec.step o 0 c.fwd = some t1) (h2 : Spec.step t1 0 c.fwd = some t2) : ¬ t2 / 8 = Spec.lastRank c := by
  have := (step_coords h1).1
  have := (step_coords h2).1
  cases c <;> simp only [Spec.homeRank, Spec.lastRank, Spec.Color.fwd] at * <;> omega

/-! ### colours: the side of a pawn capture, the opposite colour, the king's home -/

/-- file direction of a capture towards the east / west side -/
def capDf (east : Bool) : Int := if east then 1 else -1

theorem capDf_cases (east : Bool) : capDf east = 1 ∨ capDf east = -1 := by cases east <;> simp [capDf]

theorem Spec.opp_opp (c : Spec.Color) : c.opp.opp = c := by cases c <;> rfl

theorem Spec.fwd_opp (c : Spec.Color) : c.opp.fwd = -c.fwd := by cases c <;> rfl

theorem specColor_opp_ne (c : Spec.Color) : c.opp ≠ c := by cases c <;> simp [Spec.Color.opp]

theorem Spec.kingHome_cases (c : Spec.Color) : Spec.kingHome c = 4 ∨ Spec.kingHome c = 60 := by
  cases c <;> simp [Spec.kingHome]

end Wee
