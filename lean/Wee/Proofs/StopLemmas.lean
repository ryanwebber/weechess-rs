import Wee.Proofs.Polls
import Wee.Proofs.MoveGenFast
/-!
# What is searched after `Stop` (lemmas for `Wee/Props/C04Stop.lean`, the Stop contract after the repair of F11)

On top of the polls (`Wee/Proofs/Polls.lean`):

1. a ghost count of the nodes searched (`workersWork`, `iterWork`, `loopWork`: the sum of the workers' own counters,
   including the interrupted worker's, which `IterSt.nodes` does not include) and its bound once Stop is visible;
2. the witness of F11 (`namespace F11`): the K-vs-K root whose only legal move leads to a recorded position, executed
   symbolically for every iteration depth, generator state and cancellation instant (`w_worker`; `w_iterStep` keeps the
   loop-state invariant `WInv`).
-/
namespace Wee.SearchCtl
open Wee.Search

/-! ## 1. a ghost count of the nodes searched

`IterSt.nodes` (the `nodes_searched` of `analyze_iterative`) only adds up the counters of iterations that completed.
To bound what is searched after Stop we count every worker's own counter, the interrupted worker's included. -/

/-- the nodes counted by the workers `l` of one iteration, run one after the other as `runWorkers` runs them -/
def workersWork (ctx : Ctx) (root : State) (depth : Nat) (bestMv : Option Move) :
    List (Nat × UInt64) → WorkersOut → Nat
  | [], _ => 0
  | (i, seed) :: rest, acc =>
    if acc.interrupted || acc.panic.isSome then 0 else
    let out := runWorker ctx root ((depth - i % 2) + 1) (if i == 0 then bestMv else Option.none) acc.tt
      (Rng.seedFromU64 seed) acc.polls
    out.2.nodes + match out.1 with
      | .ok e => workersWork ctx root depth bestMv rest
          { acc with tt := out.2.tt, polls := out.2.polls, evals := acc.evals ++ [e], sumNodes := acc.sumNodes + out.2.nodes }
      | .error _ => 0

/-- the nodes counted in iteration `depth` started from the loop state `st` -/
def iterWork (ctx : Ctx) (root : State) (workers depth : Nat) (st : IterSt) : Nat :=
  workersWork ctx root depth st.bestMv ((List.range workers).zip (drawSeeds workers st.rng).1)
    { tt := st.tt, polls := st.polls, evals := [], sumNodes := 0 }

/-- the nodes counted by all workers of all iterations `iterLoop` runs from `st` (same control flow as `iterLoop`) -/
def loopWork (ctx : Ctx) (root : State) (rootHash : UInt64) (workersOf : Nat → Nat) : Nat → Nat → IterSt → Nat
  | 0, _, _ => 0
  | n+1, depth, st =>
    if st.finished then 0
    else
      let st := boundaryPoll ctx depth st
      if st.finished then 0
      else iterWork ctx root (workersOf depth) depth st +
        loopWork ctx root rootHash workersOf n (depth + 1) (iterStep ctx root rootHash (workersOf depth) depth st)

theorem workersWork_stopped (ctx : Ctx) (root : State) (depth : Nat) (bestMv : Option Move)
    (l : List (Nat × UInt64)) (acc : WorkersOut) (h : (acc.interrupted || acc.panic.isSome) = true) :
    workersWork ctx root depth bestMv l acc = 0 := by
  cases l with
  | nil => rfl
  | cons x rest => obtain ⟨i, seed⟩ := x; rw [workersWork, if_pos h]

/-- the ghost count, one unfolding: the worker's own counter, then the rest on the joined results -/
theorem workersWork_cons (ctx : Ctx) (root : State) (depth : Nat) (bestMv : Option Move) (p : Nat × UInt64)
    (rest : List (Nat × UInt64)) (acc : WorkersOut) :
    workersWork ctx root depth bestMv (p :: rest) acc =
      if acc.stopped then 0
      else (workerRun ctx root depth bestMv p acc).2.nodes +
        workersWork ctx root depth bestMv rest (acc.join (workerRun ctx root depth bestMv p acc)) := by
  obtain ⟨i, seed⟩ := p
  rw [workersWork]
  by_cases hc : acc.stopped = true
  · rw [if_pos hc, if_pos hc]
  rw [if_neg hc, if_neg hc]
  unfold workerRun
  dsimp only
  generalize runWorker ctx root _ _ acc.tt _ acc.polls = out
  obtain ⟨r, st⟩ := out
  cases r with
  | ok e => rfl
  | error e => rw [workersWork_stopped _ _ _ _ _ _ (acc.join_stopped _ _)]

/-- the ghost count is the model's own count whenever the model counts at all (all workers returned normally) -/
theorem workersWork_eq_sumNodes (ctx : Ctx) (root : State) (depth : Nat) (bestMv : Option Move) :
    ∀ (l : List (Nat × UInt64)) (acc : WorkersOut),
      (runWorkers ctx root depth bestMv l acc).interrupted = false →
      (runWorkers ctx root depth bestMv l acc).panic = Option.none →
      (runWorkers ctx root depth bestMv l acc).sumNodes = acc.sumNodes + workersWork ctx root depth bestMv l acc := by
  intro l
  induction l with
  | nil => intro acc _ _; rfl
  | cons p rest ih =>
    intro acc hi hp
    rw [runWorkers_cons] at hi hp ⊢
    rw [workersWork_cons]
    by_cases hc : acc.stopped = true
    · rw [if_pos hc, if_pos hc]; rfl
    · rw [if_neg hc] at hi hp ⊢
      rw [if_neg hc, ih _ hi hp]
      -- a worker that let the rest run returned normally: its counter was added
      generalize workerRun ctx root depth bestMv p acc = out at hi hp ⊢
      obtain ⟨r, st⟩ := out
      cases r with
      | ok e => exact Nat.add_assoc ..
      | error e =>
        rw [runWorkers_stopped _ _ _ _ _ _ (acc.join_stopped e st)] at hi hp
        have := acc.join_stopped e st
        rw [WorkersOut.stopped, hi, hp] at this
        cases this

/-- the work of a list of workers splits at any worker boundary -/
theorem workersWork_append (ctx : Ctx) (root : State) (depth : Nat) (bestMv : Option Move) :
    ∀ (l1 l2 : List (Nat × UInt64)) (acc : WorkersOut),
      workersWork ctx root depth bestMv (l1 ++ l2) acc =
        workersWork ctx root depth bestMv l1 acc +
          workersWork ctx root depth bestMv l2 (runWorkers ctx root depth bestMv l1 acc) := by
  intro l1
  induction l1 with
  | nil => intro l2 acc; simp [workersWork, runWorkers]
  | cons p rest ih =>
    intro l2 acc
    rw [List.cons_append, workersWork_cons, workersWork_cons, runWorkers_cons]
    by_cases hc : acc.stopped = true
    · rw [if_pos hc, if_pos hc, if_pos hc, workersWork_stopped _ _ _ _ _ _ hc]
    · rw [if_neg hc, if_neg hc, if_neg hc, ih, Nat.add_assoc]

/-- **once Stop is visible, every worker still to be run counts at most one poll interval** (`runWorker_stop_bound`), and
Stop stays visible -/
theorem workersWork_stop_bound (ctx : Ctx) (k : Nat) (hk : ctx.cancelAt = some k) (root : State) (depth : Nat)
    (bestMv : Option Move) :
    ∀ (l : List (Nat × UInt64)) (acc : WorkersOut), k ≤ acc.polls →
      workersWork ctx root depth bestMv l acc ≤ l.length * Gen.pollInterval := by
  intro l
  induction l with
  | nil => intro acc _; exact Nat.le_refl _
  | cons p rest ih =>
    intro acc hp
    rw [workersWork_cons, List.length_cons, Nat.succ_mul]
    by_cases hc : acc.stopped = true
    · rw [if_pos hc]; exact Nat.zero_le _
    · rw [if_neg hc]
      have hn : (workerRun ctx root depth bestMv p acc).2.nodes ≤ Gen.pollInterval := by
        rcases runWorker_stop_bound ctx k hk root _ _ acc.tt _ acc.polls hp with h | h
        · exact Nat.le_of_eq h.2
        · exact Nat.le_of_lt h.2
      have hm : acc.polls ≤ (workerRun ctx root depth bestMv p acc).2.polls := runWorker_polls_mono ..
      generalize workerRun ctx root depth bestMv p acc = out at hn hm ⊢
      have := ih (acc.join out) (by
        rcases acc.join_cases out with ⟨_, e, _⟩ | ⟨_, e, _⟩ <;> rw [e]
        · exact Nat.le_trans hp hm
        · exact hp)
      omega

/-- at an iteration boundary after the first iteration, with Stop visible, nothing more is searched -/
theorem loopWork_stop (ctx : Ctx) (k : Nat) (hk : ctx.cancelAt = some k) (root : State) (rootHash : UInt64)
    (workersOf : Nat → Nat) (n depth : Nat) (hd : 0 < depth) (st : IterSt) (hp : k ≤ st.polls) :
    loopWork ctx root rootHash workersOf n depth st = 0 := by
  cases n with
  | zero => rfl
  | succ n =>
    rw [loopWork]
    split
    · rfl
    · rw [boundaryPoll_stops ctx k hk depth hd st hp]; rfl

theorem loopWork_finished (ctx : Ctx) (root : State) (rootHash : UInt64) (workersOf : Nat → Nat) (n depth : Nat)
    (st : IterSt) (h : st.finished = true) : loopWork ctx root rootHash workersOf n depth st = 0 := by
  cases n with
  | zero => rfl
  | succ n => rw [loopWork, if_pos h]

theorem runWorkers_append (ctx : Ctx) (root : State) (depth : Nat) (bestMv : Option Move) :
    ∀ (l1 l2 : List (Nat × UInt64)) (acc : WorkersOut),
      runWorkers ctx root depth bestMv (l1 ++ l2) acc =
        runWorkers ctx root depth bestMv l2 (runWorkers ctx root depth bestMv l1 acc) := by
  intro l1
  induction l1 with
  | nil => intro l2 acc; rfl
  | cons p rest ih =>
    intro l2 acc
    rw [List.cons_append, runWorkers_cons, runWorkers_cons]
    by_cases hc : acc.stopped = true
    · rw [if_pos hc, if_pos hc, runWorkers_stopped _ _ _ _ _ _ hc]
    · rw [if_neg hc, if_neg hc]; exact ih _ _

/-- an iteration ends the loop (panic) or hands on the poll count of its workers -/
theorem iterStep_finished_or_polls (ctx : Ctx) (root : State) (rootHash : UInt64) (workers depth : Nat) (st : IterSt) :
    (iterStep ctx root rootHash workers depth st).finished = true ∨
    (iterStep ctx root rootHash workers depth st).polls = (workersOut ctx root workers depth st).polls := by
  cases hp : (workersOut ctx root workers depth st).panic with
  | some why => rw [iterStep_panic hp]; exact .inl rfl
  | none => rw [iterStep_eq, finishStep_polls, hp]; exact .inr rfl

end Wee.SearchCtl

/-! ## 2. the witness of F11: `8/8/8/8/8/8/8/K1k5 w`, the successor `8/8/8/8/8/8/K7/2k5 b` recorded

White's only legal move is Ka2 (the generator's pseudo-legal list is already `[Ka2]`: b1 and b2 are next to the black
king).  With the successor's key in the history the child node returns the draw score at once (C17), so the first
iteration is 2 nodes and every later one 3 (the previous best move is tried first and then again from the sorted list).
Toy keys: the hash is the side to move (root ↦ 0, successor ↦ 1); a 1 × 1 table. -/

namespace Wee.SearchCtl.F11
open Wee.Search

def wRoot : State :=
  { pieces := { wk := 0x1, bk := 0x4 }
    turn := .white, castleW := .noRights, castleB := .noRights, ep := Option.none, halfmove := 0, fullmove := 1 }
def wSucc : State :=
  { pieces := { wk := 0x100, bk := 0x4 }
    turn := .black, castleW := .noRights, castleB := .noRights, ep := Option.none, halfmove := 1, fullmove := 1 }
def wMove : Move := Move.byMoving .white .king 0 8
def wKeys : KeyTable := { turn := #[0, 1], piece := #[], castle := #[], epFile := #[] }

theorem w_pseudo : pseudoLegalMoves wRoot = some [wMove] := by rw [pseudoLegalMoves_fast]; decide +kernel
theorem w_try : tryAsLegal wRoot wMove = some (some (wMove, wSucc)) := by rw [tryAsLegal_fast]; decide +kernel
theorem w_legal : legalMoves wRoot = [(wMove, wSucc)] := by rw [legalMoves_fast]; decide +kernel
theorem w_hash_root : Wee.hash wKeys.keys wRoot = 0 := by rw [hash_fast]; decide +kernel
theorem w_hash_succ : Wee.hash wKeys.keys wSucc = 1 := by rw [hash_fast]; decide +kernel
theorem w_check : wRoot.isCheck = false := by rw [isCheck_fast]; decide +kernel
theorem w_perform : performMove wRoot wMove.toNat.toUInt32 = some (.ok wSucc) := by
  have key : (match performMove wRoot wMove.toNat.toUInt32 with
      | some (.ok n) => decide (n = wSucc) | _ => false) = true := by decide +kernel
  cases h : performMove wRoot wMove.toNat.toUInt32 with
  | none => rw [h] at key; cases key
  | some r =>
    cases r with
    | error e => rw [h] at key; cases key
    | ok n => rw [h] at key; simp only [decide_eq_true_eq] at key; rw [key]

def wEntry (d : Nat) : TT.Entry := { kind := kindExact, mv := wMove.toNat, depth := 0, maxDepth := d, eval := 0 }
def wTT : Nat → TT.Access
  | 0 => TT.Access.new 1 1
  | d + 1 => (TT.Access.new 1 1).insert 0 (wEntry (d + 1))

theorem wTT_insert (d : Nat) : (wTT d).insert 0 (wEntry (d + 1)) = wTT (d + 1) := by
  cases d <;> rfl
theorem wTT_find_root (d : Nat) : (wTT (d + 1)).find 0 = some (wEntry (d + 1)) := rfl
theorem wTT_find_root0 : (wTT 0).find 0 = Option.none := rfl
theorem wTT_find_succ (d : Nat) : (wTT d).find 1 = Option.none := by
  cases d with
  | zero => rfl
  | succ d =>
    simp [wTT, TT.Access.new, TT.Access.insert, TT.Access.find, TT.Table.find, TT.Table.insert, TT.insertB, TT.scan,
      TT.findB, TT.Table.withBucketCount, Gen.bucketSize, List.replicate]

/-- the context `iterate` searches with when the successor's key is in the incoming history -/
def wCtx (cancelAt : Option Nat) : Ctx :=
  { keys := wKeys.keys, history := [Wee.hash wKeys.keys wRoot, Wee.hash wKeys.keys wSucc], cancelAt }

theorem sort_single (x : Move) (key : Move → M Eval) (st : St) :
    (sortByCachedKey [x] key).run.run st = (.ok [x], st) := by
  unfold sortByCachedKey
  rw [if_pos (by show 1 < 2; decide)]
  rfl

/-- a child of the root: the successor is recorded, the node returns the draw score at once -/
theorem w_child (c : Option Nat) (rem : Nat) (a : NodeArgs) (hd : a.curDepth = 0)
    (alpha : Eval) (st : St) (hn : (st.nodes + 1) % Gen.pollInterval ≠ 0) :
    (searchNode (wCtx c) rem (childArgs a wSucc alpha)).run.run st = (.ok 0, { st with nodes := st.nodes + 1 }) := by
  rw [searchNode_recorded (wCtx c) rem _ st ?_ ?_, if_neg hn]
  · unfold childArgs; simp only [hd]; omega
  · show (wCtx c).history.contains (Wee.hash wKeys.keys wSucc) = true
    simp [wCtx]

/-- one move of the root's buffer in the witness search: the child returns the draw score, which raises `alpha` if
`alpha < 0` -/
theorem w_cons (c : Option Nat) (rem : Nat) (a : NodeArgs) (hs : a.s = wRoot) (hd : a.curDepth = 0)
    (hβ : a.beta = Ev.mateInPly 0) (h : UInt64) (rest : List Move) (alpha : Eval) (best : Option Move) (kind : Nat)
    (st : St) (hn : (st.nodes + 1) % Gen.pollInterval ≠ 0) :
    (childLoop (wCtx c) (searchNode (wCtx c) rem) a h (wMove :: rest) alpha best kind).run.run st =
      if (0 : Eval) > alpha then
        (childLoop (wCtx c) (searchNode (wCtx c) rem) a h rest 0 (some wMove) kindExact).run.run
          { st with nodes := st.nodes + 1 }
      else (childLoop (wCtx c) (searchNode (wCtx c) rem) a h rest alpha best kind).run.run
          { st with nodes := st.nodes + 1 } := by
  rw [childLoop_cons_run, hs, w_try]
  simp only []
  rw [w_child c rem a hd _ st hn]
  simp only []
  rw [hβ, if_neg (by decide)]
  rfl

/-- the worker of iteration `d`, executed step by step at the root: the node is counted (no poll); the root's key is
recorded but `current_depth = 0`; the probe leaves the full window (no entry in the first iteration, later the entry
of the previous iteration, which is one too shallow); the generator gives `[Ka2]`, so the buffer is `[Ka2]` or — with
the previous best move — `[Ka2, Ka2]`; each child returns the draw score (`w_cons`) and the exact entry is stored -/
theorem w_worker (c : Option Nat) (d : Nat) (rng : Rng.ChaCha8) (polls : Nat) :
    runWorker (wCtx c) wRoot (d + 1) (if d = 0 then Option.none else some wMove) (wTT d) rng polls =
      (.ok 0, { tt := wTT (d + 1), rng := rng, nodes := if d = 0 then 2 else 3, polls := polls }) := by
  rw [runWorker_eq, searchNode_succ, nodeM_run, tick_eq, if_neg (by show (0 + 1) % Gen.pollInterval ≠ 0; decide)]
  simp only []
  have hh : Wee.hash (wCtx c).keys (rootArgs wRoot (d + 1) (if d = 0 then Option.none else some wMove)).s = 0 := w_hash_root
  rw [hh]
  have hc : (decide ((rootArgs wRoot (d + 1) (if d = 0 then Option.none else some wMove)).curDepth > 0) &&
      (wCtx c).history.contains 0) = false := by simp [rootArgs]
  rw [hc]
  simp only [Bool.false_eq_true, if_false]
  have hprobe : probe (rootArgs wRoot (d + 1) (if d = 0 then Option.none else some wMove))
      ((wTT d).find (0 : UInt64).toNat) = .window (- Ev.mateInPly 0) (Ev.mateInPly 0) := by
    cases d with
    | zero => rfl
    | succ d =>
      show probe _ ((wTT (d + 1)).find 0) = _
      rw [wTT_find_root]
      unfold probe rootArgs wEntry
      simp
  simp only [hprobe]
  rw [expandM_run]
  have hp : pseudoLegalMoves (rootArgs wRoot (d + 1) (if d = 0 then Option.none else some wMove)).s = some [wMove] := w_pseudo
  rw [hp]
  simp only []
  rw [sort_single]
  simp only []
  cases d with
  | zero =>
    have hb : (bufferOf (rootArgs wRoot (0 + 1) (if 0 = 0 then Option.none else some wMove)).prioritized [wMove]).reverse =
        [wMove] := rfl
    rw [hb, w_cons c 0 _ rfl rfl rfl _ _ _ _ _ _ (by show (0 + 1 + 1) % Gen.pollInterval ≠ 0; decide), if_pos (by decide),
      childLoop_nil_run]
    simp only []
    rw [if_neg (by decide)]
    rfl
  | succ d =>
    have hb : (bufferOf (rootArgs wRoot (d + 1 + 1) (if d + 1 = 0 then Option.none else some wMove)).prioritized [wMove]).reverse =
        [wMove, wMove] := rfl
    rw [hb, w_cons c (d + 1) _ rfl rfl rfl _ _ _ _ _ _ (by show (0 + 1 + 1) % Gen.pollInterval ≠ 0; decide),
      if_pos (by decide), w_cons c (d + 1) _ rfl rfl rfl _ _ _ _ _ _ (by show (0 + 1 + 1 + 1) % Gen.pollInterval ≠ 0; decide),
      if_neg (by decide), childLoop_nil_run]
    simp only []
    rw [if_neg (by decide)]
    have he : entryOf (rootArgs wRoot (d + 1 + 1) (if d + 1 = 0 then Option.none else some wMove)) kindExact wMove 0 =
        wEntry (d + 1 + 1) := rfl
    rw [he]
    show (Except.ok 0, ({ tt := (wTT (d + 1)).insert 0 (wEntry (d + 1 + 1)), rng := rng, nodes := 3, polls := polls } : St)) = _
    rw [wTT_insert, if_neg (by omega)]

theorem w_walk (d n : Nat) : walkLine wKeys.keys (wTT (d + 1)) (n + 1) wRoot = [wMove] := by
  rw [walkLine, w_hash_root]
  show (match (wTT (d + 1)).find 0 with
    | Option.none => []
    | some e => match performMove wRoot e.mv.toUInt32 with
      | some (.ok next) => e.mv.toUInt32 :: walkLine wKeys.keys (wTT (d + 1)) n next
      | _ => []) = [wMove]
  rw [wTT_find_root]
  simp only []
  have hmv : (wEntry (d + 1)).mv = wMove.toNat := rfl
  rw [hmv, w_perform]
  simp only []
  have hm : wMove.toNat.toUInt32 = wMove := by decide
  rw [hm]
  cases n with
  | zero => rfl
  | succ n =>
    rw [walkLine, w_hash_succ]
    show wMove :: (match (wTT (d + 1)).find 1 with
      | Option.none => []
      | some e => _) = [wMove]
    rw [wTT_find_succ]

/-- number of `Progress` events: one per completed iteration -/
def progressCount (evs : List Event) : Nat := (evs.filter fun e => match e with | .progress _ _ => true | _ => false).length

theorem progressCount_append (a b : List Event) : progressCount (a ++ b) = progressCount a + progressCount b := by
  unfold progressCount; rw [List.filter_append, List.length_append]

/-- the loop state at the top of iteration `d` of the witness search — for the loop before the repair (`F11.iterLoopOld`
in `Wee/Props/C04Stop.lean`) and for the repaired `iterLoop` — as long as no read of the flag has ended it: `d`
iterations completed, no poll has happened, the table holds the root's entry of the previous iteration -/
structure WInv (d : Nat) (st : IterSt) : Prop where
  tt : st.tt = wTT d
  best : st.bestMv = if d = 0 then Option.none else some wMove
  panic : st.panic = Option.none
  polls : st.polls = 0
  fin : st.finished = false
  prog : progressCount st.events = d
  nodes : st.nodes = if d = 0 then 0 else 3 * d - 1

/-- the one worker of iteration `d` of the witness search: it returns the draw score after 2 nodes in the first iteration
and 3 in every later one, without reaching a poll -/
theorem w_workerRun (c : Option Nat) (d : Nat) (st : IterSt) (h : WInv d st) (v : UInt64) :
    workerRun (wCtx c) wRoot d st.bestMv (0, v) { tt := st.tt, polls := st.polls, evals := [], sumNodes := 0 } =
      (.ok 0, { tt := wTT (d + 1), rng := Rng.seedFromU64 v, nodes := if d = 0 then 2 else 3, polls := 0 }) := by
  unfold workerRun
  simp only [Nat.zero_mod, Nat.sub_zero, beq_self_eq_true, ↓reduceIte]
  rw [h.tt, h.best, h.polls, w_worker]

/-- the joined results of iteration `d` of the witness search -/
theorem w_workersOut (c : Option Nat) (d : Nat) (st : IterSt) (h : WInv d st) :
    workersOut (wCtx c) wRoot 1 d st =
      { tt := wTT (d + 1), polls := 0, evals := [0], sumNodes := 0 + if d = 0 then 2 else 3 } := by
  rw [workersOut_one, h.tt, h.best, h.polls, w_worker]
  rfl

/-- **one iteration of the witness search** (one worker, any cancellation instant `c`, any generator state): it
completes, reports and is not the last -/
theorem w_iterStep (c : Option Nat) (rootHash : UInt64) (d : Nat) (st : IterSt) (h : WInv d st) :
    WInv (d + 1) (iterStep (wCtx c) wRoot rootHash 1 d st) := by
  have hw := w_workersOut c d st h
  rw [iterStep_complete (by rw [hw]) (by rw [hw]), hw]
  dsimp only
  rw [show walkLine (wCtx c).keys (wTT (d + 1)) (d + 1) wRoot = [wMove] from w_walk d d]
  refine ⟨rfl, by rw [if_neg (Nat.succ_ne_zero d)]; rfl, h.panic, rfl, ?_, ?_, ?_⟩
  · show decide ((0 : Eval) ≥ Ev.posInf) = false
    decide
  · show progressCount (st.events ++ [_] ++ [_]) = d + 1
    rw [progressCount_append, progressCount_append, h.prog]
    rfl
  · show st.nodes + (0 + if d = 0 then 2 else 3) = _
    rw [h.nodes]
    rcases Nat.eq_zero_or_pos d with h0 | hpos
    · subst h0; simp
    · rw [if_neg (by omega), if_neg (by omega), if_neg (by omega)]; omega

end Wee.SearchCtl.F11
