import Wee.Proofs.Slow
/-!
# Soundness of the one-pass table check: `rookFits sq m b = true → checkRook sq m b = true`

* `sweep_sound` : after a successful `sweep`, every pair (blocker set, attack set) that is the union of
  one row per ray table sits in the table at the magic index of the blocker set (`Holds`);
* `buildTable_get` : if the values that the fold of `compute_*_magic_table` writes agree with a fixed
  table `g` at the slots it writes them to, the built table agrees with `g` at every such slot — so
  "later writes win" does not matter once the sweep has shown that colliding writes are equal;
* `leaf_parts` : the blocker sets `occ &&& mask` with their ray walks are such unions.
-/
namespace Wee
open Fast (tget_tset blockersFromIndex_eq_depositL magicIndex_eq)

/-! ## `place` and `sweep` -/

theorem tget_toNat (t i : Nat) : (tget t i).toNat = (t >>> (64 * i)) % 2 ^ 64 := by
  simp [tget, Nat.toUInt64]

/-- slots that are filled stay as they are -/
def Keeps (t t' : Nat) : Prop := ∀ j, tget t j ≠ 0 → tget t' j = tget t j

theorem Keeps.trans {t t₁ t' : Nat} (h : Keeps t t₁) (h' : Keeps t₁ t') : Keeps t t' := by
  intro j hj
  rw [h' j (by rw [h j hj]; exact hj), h j hj]

theorem place_some {size : Nat} {v : UInt64} {t i t' : Nat} (h : place size v.toNat t i = some t') :
    Keeps t t' ∧ i < size ∧ v ≠ 0 ∧ tget t' i = v := by
  unfold place at h
  cases hc : (Nat.blt i size && !Nat.beq v.toNat 0) with
  | false => rw [hc] at h; cases h
  | true =>
    rw [hc, cond_true, ← tget_toNat] at h
    simp only [Bool.and_eq_true, Nat.blt_eq, Bool.not_eq_true'] at hc
    have hv : v ≠ 0 := by
      intro e
      rw [e] at hc
      exact absurd hc.2 (by decide)
    have key : (tget t i = v ∧ t' = t) ∨ (tget t i = 0 ∧ t' = tset t i v) := by
      cases h1 : Nat.beq (tget t i).toNat v.toNat
      · rw [h1, cond_false] at h
        cases h2 : Nat.beq (tget t i).toNat 0
        · rw [h2] at h; cases h
        · rw [h2, cond_true] at h
          have e0 : tget t i = 0 := UInt64.toNat_inj.1 (Nat.eq_of_beq_eq_true h2)
          injection h with h
          refine Or.inr ⟨e0, ?_⟩
          rw [← h, tset, e0]
          simp
      · rw [h1, cond_true] at h
        injection h with h
        exact Or.inl ⟨UInt64.toNat_inj.1 (Nat.eq_of_beq_eq_true h1), h.symm⟩
    rcases key with ⟨e, rfl⟩ | ⟨e, rfl⟩
    · exact ⟨fun j _ => rfl, hc.1, hv, e⟩
    · refine ⟨fun j hj => ?_, hc.1, hv, ?_⟩
      · rw [tget_tset, if_neg]
        intro eji
        exact hj (eji ▸ e)
      · rw [tget_tset, if_pos rfl]

/-- `(s', v')` arises from `(s, v)` by adding one row of each table -/
def Leaf : List (List (Nat × Nat)) → Nat → Nat → Nat → Nat → Prop
  | [], s, v, s', v' => s' = s ∧ v' = v
  | r :: rs, s, v, s', v' => ∃ p ∈ r, Leaf rs (s ||| p.1) (v ||| p.2) s' v'

/-- the slot of blocker set `s` lies in the table and holds `v` -/
def Holds (magic sh size t s v : Nat) : Prop :=
  (s * magic % 2 ^ 64) >>> sh < size ∧ v ≠ 0 ∧ (tget t ((s * magic % 2 ^ 64) >>> sh)).toNat = v

theorem Holds.keeps {magic sh size t t' s v : Nat} (h : Holds magic sh size t s v) (hk : Keeps t t') :
    Holds magic sh size t' s v := by
  refine ⟨h.1, h.2.1, ?_⟩
  rw [hk _ (fun e => h.2.1 (by rw [← h.2.2, e]; rfl))]
  exact h.2.2

/-- what a row establishes (`Q`) survives the later rows if it survives `Keeps` -/
theorem forRows_sound {f : Nat → Nat → Nat → Option Nat} {Q : Nat × Nat → Nat → Prop}
    (hQ : ∀ p t t', Q p t → Keeps t t' → Q p t') :
    ∀ (r : List (Nat × Nat)) (t t' : Nat), (∀ p ∈ r, ∀ t t', f p.1 p.2 t = some t' → Keeps t t' ∧ Q p t') →
      forRows f r t = some t' → Keeps t t' ∧ ∀ p ∈ r, Q p t' := by
  intro r
  induction r with
  | nil =>
    intro t t' _ h
    injection h with h
    subst h
    exact ⟨fun j _ => rfl, fun p hp => nomatch hp⟩
  | cons p r ih =>
    intro t t' hf h
    obtain ⟨x, w⟩ := p
    rw [forRows] at h
    cases h1 : f x w t with
    | none => rw [h1] at h; cases h
    | some t₁ =>
      rw [h1] at h
      obtain ⟨k1, q1⟩ := hf (x, w) List.mem_cons_self t t₁ h1
      obtain ⟨k2, q2⟩ := ih t₁ t' (fun p hp => hf p (List.mem_cons_of_mem _ hp)) h
      refine ⟨k1.trans k2, fun p hp => ?_⟩
      cases hp with
      | head => exact hQ _ _ _ q1 k2
      | tail _ hp => exact q2 p hp

theorem sweep_sound {magic sh size : Nat} : ∀ (rays : List (List (Nat × Nat))) (s v t t' : Nat),
    (∀ r ∈ rays, ∀ p ∈ r, p.2 < 2 ^ 64) → v < 2 ^ 64 → sweep magic sh size rays s v t = some t' →
    Keeps t t' ∧ ∀ s' v', Leaf rays s v s' v' → Holds magic sh size t' s' v' := by
  intro rays
  induction rays with
  | nil =>
    intro s v t t' _ hv h
    rw [sweep, ← toNat_toUInt64 v hv] at h
    obtain ⟨hk, hi, h0, hg⟩ := place_some h
    refine ⟨hk, fun s' v' hl => ?_⟩
    obtain ⟨rfl, rfl⟩ := hl
    refine ⟨hi, fun e => h0 (UInt64.toNat_inj.1 (by rw [toNat_toUInt64 _ hv, e]; rfl)), ?_⟩
    rw [hg, toNat_toUInt64 _ hv]
  | cons r rs ih =>
    intro s v t t' hb hv h
    rw [sweep] at h
    obtain ⟨hk, hl⟩ := forRows_sound
      (Q := fun p t' => ∀ s' v', Leaf rs (s ||| p.1) (v ||| p.2) s' v' → Holds magic sh size t' s' v')
      (fun p t t' q k s' v' hl => (q s' v' hl).keeps k) r t t'
      (fun p hp t t' h1 => ih _ _ _ _ (fun r' hr' => hb r' (List.mem_cons_of_mem _ hr'))
        (Nat.or_lt_two_pow hv (hb r List.mem_cons_self p hp)) h1) h
    exact ⟨hk, fun s' v' ⟨p, hp, hleaf⟩ => hl p hp s' v' hleaf⟩

/-! ## the fold of `compute_*_magic_table` against a table that is known to be consistent -/

/-- If every value the fold writes equals `g` at the slot it is written to, then the built table agrees
with `g` at every slot where the initial table did, and at every slot written. -/
theorem buildTable_get (slow : UInt64 → UInt64) (mask magic : UInt64) (bits : Nat) (g : Nat → UInt64) :
    ∀ n b t, (∀ b', b ≤ b' → b' < b + n →
        slow (blockersFromIndex b' mask) = g (magicIndex (blockersFromIndex b' mask) magic bits)) →
      (∀ i, tget t i = g i → tget (buildTable slow mask magic bits n b t) i = g i) ∧
      ∀ b', b ≤ b' → b' < b + n →
        tget (buildTable slow mask magic bits n b t) (magicIndex (blockersFromIndex b' mask) magic bits)
          = g (magicIndex (blockersFromIndex b' mask) magic bits) := by
  intro n
  induction n with
  | zero => intro b t _; exact ⟨fun i h => h, fun b' h1 h2 => by omega⟩
  | succ n ih =>
    intro b t h
    obtain ⟨keep, written⟩ := ih (b + 1)
      (tset t (magicIndex (blockersFromIndex b mask) magic bits) (slow (blockersFromIndex b mask)))
      (fun b' h1 h2 => h b' (by omega) (by omega))
    have hb := h b (Nat.le_refl b) (by omega)
    refine ⟨fun i hi => ?_, fun b' h1 h2 => ?_⟩
    · apply keep
      rw [tget_tset]
      split
      · next e => rw [e, hb]
      · exact hi
    · by_cases e : b' = b
      · subst e
        apply keep
        rw [tget_tset, if_pos rfl, hb]
      · exact written b' (by omega) (by omega)

theorem checkLoop_complete (table size : Nat) (ref : UInt64 → UInt64) (mask magic : UInt64) (bits : Nat) :
    ∀ n b₀, (∀ b, b₀ ≤ b → b < b₀ + n →
        magicIndex (blockersFromIndex b mask) magic bits < size ∧
        tget table (magicIndex (blockersFromIndex b mask) magic bits) = ref (blockersFromIndex b mask)) →
      checkLoop table size ref mask magic bits n b₀ = true := by
  intro n
  induction n with
  | zero => intro _ _; rfl
  | succ n ih =>
    intro b₀ h
    simp only [checkLoop, Bool.and_eq_true, decide_eq_true_eq, beq_iff_eq]
    exact ⟨h b₀ (Nat.le_refl _) (by omega), ih (b₀ + 1) (fun b h1 h2 => h b (by omega) (by omega))⟩

/-! ## the ray tables contain every blocker set of the mask -/

theorem mem_rayRows (L R : List Nat) (p : Nat × Nat) : ∀ n i₀, p ∈ rayRows L R n i₀ ↔
    ∃ i, i₀ ≤ i ∧ i < i₀ + n ∧ p = ((Fast.depositL i L).toNat, (walkL (Fast.depositL i L) R).toNat) := by
  intro n
  induction n with
  | zero =>
    intro i₀
    simp only [rayRows, List.not_mem_nil, false_iff]
    rintro ⟨i, h1, h2, _⟩
    omega
  | succ n ih =>
    intro i₀
    rw [rayRows, List.mem_cons, ih]
    constructor
    · rintro (h | ⟨i, h1, h2, h3⟩)
      · exact ⟨i₀, Nat.le_refl _, by omega, h⟩
      · exact ⟨i, by omega, by omega, h3⟩
    · rintro ⟨i, h1, h2, h3⟩
      by_cases e : i = i₀
      · exact Or.inl (e ▸ h3)
      · exact Or.inr ⟨i, by omega, by omega, h3⟩

/-- the row of the blockers `occ` on the part `m` of the mask, when `m` covers the ray -/
theorem mem_tabOf (m occ : UInt64) (df dr : Int) (sq : Nat) (hc : maskCovers m df dr sq = true) :
    ((occ &&& m).toNat, (walk occ df dr 8 sq).toNat) ∈ tabOf m df dr sq := by
  obtain ⟨b, hb, hdep⟩ := exists_blockersFromIndex occ m
  refine (mem_rayRows _ _ _ _ _).2 ⟨b, Nat.zero_le _, by omega, ?_⟩
  rw [← blockersFromIndex_eq_depositL, hdep, ← walk_eq_walkL, walk_and_mask _ _ _ _ _ _ (fun _ h => h) hc]

theorem leaf_parts (sq : Nat) (occ : UInt64) : ∀ (parts : List (UInt64 × Int × Int)) (s v : Nat),
    (parts.all fun p => maskCovers p.1 p.2.1 p.2.2 sq) = true →
    Leaf (tabsOf sq parts) s v
      (parts.foldl (fun a p => a ||| (occ &&& p.1).toNat) s)
      (parts.foldl (fun a p => a ||| (walk occ p.2.1 p.2.2 8 sq).toNat) v) := by
  intro parts
  induction parts with
  | nil => intro s v _; exact ⟨rfl, rfl⟩
  | cons p rest ih =>
    intro s v h
    rw [List.all_cons, Bool.and_eq_true] at h
    exact ⟨_, mem_tabOf p.1 occ p.2.1 p.2.2 sq h.1, ih _ _ h.2⟩

theorem tabsOf_lt (sq : Nat) (parts : List (UInt64 × Int × Int)) :
    ∀ r ∈ tabsOf sq parts, ∀ p ∈ r, p.2 < 2 ^ 64 := by
  intro r hr p hp
  obtain ⟨q, _, rfl⟩ := List.mem_map.1 hr
  obtain ⟨i, _, _, rfl⟩ := (mem_rayRows _ _ p _ _).1 hp
  exact UInt64.toNat_lt _

theorem test_deposit (mask : UInt64) : ∀ fuel idx b t, b + fuel ≤ 64 →
    test (deposit idx mask fuel b) t = true → test mask t = true := by
  intro fuel
  induction fuel with
  | zero => intro idx b t _ h; rw [deposit, test_zero] at h; cases h
  | succ f ih =>
    intro idx b t hb h
    rw [deposit] at h
    split at h
    · next hm =>
      rw [test_or, Bool.or_eq_true] at h
      rcases h with h | h
      · split at h
        · rw [test_bit b t (by omega)] at h
          exact of_decide_eq_true h ▸ hm
        · rw [test_zero] at h; cases h
      · exact ih _ _ _ (by omega) h
    · exact ih _ _ _ (by omega) h

/-- `compute_blockers_from_index` yields subsets of the mask -/
theorem blockersFromIndex_and_mask (b : Nat) (mask : UInt64) :
    blockersFromIndex b mask &&& mask = blockersFromIndex b mask := by
  apply ext
  intro n _
  rw [test_and]
  cases h : test (blockersFromIndex b mask) n
  · rfl
  · rw [test_deposit mask 64 b 0 n (Nat.le_refl _) h]; rfl

/-! ## rook and bishop -/

theorem and_parts (occ a b c d m : UInt64)
    (hm : ∀ n, test m n = (test a n || test b n || test c n || test d n)) :
    occ &&& a ||| occ &&& b ||| occ &&& c ||| occ &&& d = occ &&& m := by
  apply ext
  intro n _
  simp only [test_and, test_or, hm]
  cases test occ n <;> simp

/-- the direct check of the table built by the fold, from a successful sweep over the ray tables of the
parts `parts` of `mask` -/
theorem checkLoop_of_fits (sq : Nat) (parts : List (UInt64 × Int × Int)) (slow ref : UInt64 → UInt64)
    (mask magic : UInt64) (bits size : Nat) (h0 : 0 < bits) (h12 : bits ≤ 12) (hslow : ∀ x, slow x = ref x)
    (hcover : (parts.all fun p => maskCovers p.1 p.2.1 p.2.2 sq) = true)
    (hmask : ∀ occ : UInt64, parts.foldl (fun a p => a ||| (occ &&& p.1).toNat) 0 = (occ &&& mask).toNat)
    (href : ∀ occ : UInt64,
      parts.foldl (fun a p => a ||| (walk occ p.2.1 p.2.2 8 sq).toNat) 0 = (ref occ).toNat)
    (hs : (sweep magic.toNat (64 - bits) size (tabsOf sq parts) 0 0 0).isSome = true) :
    checkLoop (buildTable slow mask magic bits (2 ^ bits) 0 0) size ref mask magic bits (2 ^ bits) 0 = true := by
  obtain ⟨t', hsweep⟩ := Option.isSome_iff_exists.1 hs
  have hold : ∀ b, magicIndex (blockersFromIndex b mask) magic bits < size ∧
      tget t' (magicIndex (blockersFromIndex b mask) magic bits) = ref (blockersFromIndex b mask) := by
    intro b
    have hleaf := leaf_parts sq (blockersFromIndex b mask) parts 0 0 hcover
    rw [hmask, href, blockersFromIndex_and_mask] at hleaf
    obtain ⟨hi, _, hg⟩ :=
      (sweep_sound _ 0 0 0 t' (tabsOf_lt sq parts) (Nat.pow_pos (by decide)) hsweep).2 _ _ hleaf
    rw [← magicIndex_eq _ _ h0 (by omega)] at hi hg
    exact ⟨hi, UInt64.toNat_inj.1 hg⟩
  -- the fold writes `slow = ref` of a blocker set to its slot, where `t'` holds the same value
  apply checkLoop_complete
  intro b h1 h2
  refine ⟨(hold b).1, ?_⟩
  rw [(buildTable_get slow mask magic bits (tget t') _ _ _
    (fun b' _ _ => by rw [hslow, (hold b').2])).2 b h1 h2]
  exact (hold b).2

theorem rookFits_sound (sq : Nat) (hsq : sq < 64) (magic : UInt64) (bits : Nat)
    (h : rookFits sq magic bits = true) : checkRook sq magic bits = true := by
  simp only [rookFits, Bool.and_eq_true, decide_eq_true_eq] at h
  obtain ⟨⟨⟨h0, h12⟩, hpc⟩, hs⟩ := h
  simp only [checkRook, rookTableOf, Bool.and_eq_true, decide_eq_true_eq]
  refine ⟨⟨h12, hpc⟩, checkLoop_of_fits sq (rookParts sq) _ _ _ _ _ _ h0 h12 (rookSlow_eq_walk sq hsq)
    (rookParts_cover ⟨sq, hsq⟩) (fun occ => ?_) (fun occ => ?_) hs⟩
  · simp only [rookParts, List.foldl_cons, List.foldl_nil]
    rw [Nat.zero_or, ← UInt64.toNat_or, ← UInt64.toNat_or, ← UInt64.toNat_or,
      and_parts _ _ _ _ _ (rookMask sq) fun n => by
        simp only [rookMask, test_or, Bool.or_assoc, Bool.or_comm, Bool.or_left_comm]]
  · simp only [rookParts, List.foldl_cons, List.foldl_nil]
    rw [Nat.zero_or, ← UInt64.toNat_or, ← UInt64.toNat_or, ← UInt64.toNat_or, rookWalk]

theorem bishopFits_sound (sq : Nat) (hsq : sq < 64) (magic : UInt64) (bits : Nat)
    (h : bishopFits sq magic bits = true) : checkBishop sq magic bits = true := by
  simp only [bishopFits, Bool.and_eq_true, decide_eq_true_eq] at h
  obtain ⟨⟨⟨h0, h12⟩, hpc⟩, hs⟩ := h
  simp only [checkBishop, bishopTableOf, Bool.and_eq_true, decide_eq_true_eq]
  refine ⟨⟨h12, hpc⟩, checkLoop_of_fits sq (bishopParts sq) _ _ _ _ _ _ h0 h12 (bishopSlow_eq_walk sq hsq)
    (bishopParts_cover ⟨sq, hsq⟩) (fun occ => ?_) (fun occ => ?_) hs⟩
  · simp only [bishopParts, List.foldl_cons, List.foldl_nil]
    rw [Nat.zero_or, ← UInt64.toNat_or, ← UInt64.toNat_or, ← UInt64.toNat_or,
      and_parts _ _ _ _ _ (bishopMask sq) fun n => by
        simp only [bishopMask, test_or, Bool.or_assoc, Bool.or_comm, Bool.or_left_comm]]
  · simp only [bishopParts, List.foldl_cons, List.foldl_nil]
    rw [Nat.zero_or, ← UInt64.toNat_or, ← UInt64.toNat_or, ← UInt64.toNat_or, bishopWalk]

end Wee
