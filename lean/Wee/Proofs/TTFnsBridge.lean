import Wee.Gen.TTFns
import Wee.Proofs.TTLemmas
import Wee.Proofs.CoreFnsBridge
import Wee.Model.Search
/-!
# Bridge, stage 3c: the search memory translated from `searcher.rs` (`Wee/Gen/TTFns.lean`) = the hand model (`Wee/Model/TT.lean`)

Representation: a Rust-side value is mapped to the model value it denotes (`entryOf`, `slotOf`, `bucketOf`, `tableOf`, `accessOf`:
`u64`/`usize` keys and counters become `Nat`, arrays become lists); every theorem says: the generated function does not panic on the
stated domain and its result denotes the result of the model function on the denoted arguments.

Three parts are not of that shape.  The counters and the table operations are also stated on whatever the function returns,
without the no-overflow hypotheses: "returns `r` iff" equivalences (`usize_sum_eq_some`, `TranspositionTableAccess.entries_eq_some`,
`max_entries_eq_some`) and "when it returns" forms (`saturation_inv`, `insert_some`, `find_some`).  `StateHistory` is tied to the
model's history list by the relation `HistRep` (`StateHistory.increment_rep`, `StateHistory.lookup_isSome`).  The line iterator
`iter_moves` / `TranspositionTableMoveIterator::next` is tied to `Search.walkLine` through its collected items
(`TranspositionTableAccess.iter_moves_walkLine`, under `WalkOK`).
-/
namespace Wee.GenFns
open Wee

/-! ## representation -/

/-- `EvaluationKind` → the model's kind code (`Search.kindExact/kindUpper/kindLower`) -/
def kindOf : EvaluationKind → Nat
  | .Exact => 0
  | .UpperBound => 1
  | .LowerBound => 2

/-- the model entry a Rust entry denotes: the same five fields as numbers -/
def entryOf (e : TranspositionEntry) : TT.Entry :=
  { kind := kindOf e.f_kind, mv := e.f_performed_move.toNat, depth := e.f_depth.toNat, maxDepth := e.f_max_depth.toNat,
    eval := e.f_evaluation.toInt }

/-- the model slot a Rust slot denotes: empty, or a key with its entry -/
def slotOf : Option (UInt64 × TranspositionEntry) → TT.Slot
  | none => none
  | some (k, e) => some (k.toNat, entryOf e)

/-- the model bucket a Rust bucket denotes: its slots in order -/
def bucketOf (b : TranspositionBucket) : List TT.Slot := b.f_entries.toList.map slotOf

/-- the model table a Rust table denotes: its buckets in order and the `used_slots` counter -/
def tableOf (t : TranspositionTable) : TT.Table :=
  { buckets := t.f_buckets.toList.map bucketOf, used := t.f_used_slots.toNat }

/-- the model access layer a Rust access layer denotes: its sub-tables in order -/
def accessOf (a : TranspositionTableAccess) : TT.Access := { tables := a.f_tables.toList.map tableOf }

theorem u64_beq_iff (a b : UInt64) : (a == b) = decide (a.toNat = b.toNat) := by
  by_cases h : a = b
  · subst h; simp
  · have : a.toNat ≠ b.toNat := fun h' => h (UInt64.toNat_inj.mp h')
    simp [h, this]

/-! ## `TranspositionInsertionResult`, `TranspositionBucket` -/

theorem TranspositionBucket.BUCKET_SIZE_eq : TranspositionBucket.BUCKET_SIZE.toNat = Gen.bucketSize := by decide

theorem TranspositionBucket.empty_eq : bucketOf TranspositionBucket.empty = List.replicate Gen.bucketSize none := by
  simp [bucketOf, TranspositionBucket.empty, TranspositionBucket.BUCKET_SIZE_eq, slotOf]

theorem findSome_slotOf (h : UInt64) (f : Option (UInt64 × TranspositionEntry) → Option TranspositionEntry)
    (hf : ∀ x, f x = match x with | none => none | some (k, e) => if k == h then some e else none)
    (l : List (Option (UInt64 × TranspositionEntry))) :
    (List.findSome? f l).map entryOf = TT.findB (l.map slotOf) h.toNat := by
  induction l with
  | nil => simp [TT.findB]
  | cons x rest ih =>
    rw [List.findSome?_cons, hf x]
    cases x with
    | none => simpa [slotOf, TT.findB] using ih
    | some p =>
      obtain ⟨k, e⟩ := p
      by_cases hk : k = h
      · subst hk; simp [slotOf, TT.findB]
      · have : k.toNat ≠ h.toNat := fun h' => hk (UInt64.toNat_inj.mp h')
        simpa [slotOf, TT.findB, hk, this] using ih

theorem TranspositionBucket.find_eq (b : TranspositionBucket) (h : UInt64) :
    (TranspositionBucket.find b h).map entryOf = TT.findB (bucketOf b) h.toNat := by
  unfold TranspositionBucket.find bucketOf
  apply findSome_slotOf
  intro x
  rcases x with _ | ⟨k, e⟩ <;> simp

/-- the list-level reading of the `iter_mut` loop of `insert_or_replace` -/
def scanL (h : UInt64) (e : TranspositionEntry) :
    List (Option (UInt64 × TranspositionEntry)) → Option (List (Option (UInt64 × TranspositionEntry)) × Bool)
  | [] => none
  | none :: rest => some (some (h, e) :: rest, true)
  | some (k, x) :: rest =>
    if k == h then some (some (h, e) :: rest, false)
    else match scanL h e rest with
      | some (r, i) => some (some (k, x) :: r, i)
      | none => none

theorem scanL_slotOf (h : UInt64) (e : TranspositionEntry) (l : List (Option (UInt64 × TranspositionEntry))) :
    (scanL h e l).map (fun p => (p.1.map slotOf, p.2)) = TT.scan (l.map slotOf) h.toNat (entryOf e) := by
  induction l with
  | nil => simp [scanL, TT.scan]
  | cons x rest ih =>
    cases x with
    | none => simp [scanL, TT.scan, slotOf]
    | some p =>
      obtain ⟨k, x⟩ := p
      by_cases hk : k = h
      · subst hk; simp [scanL, TT.scan, slotOf]
      · have hn : k.toNat ≠ h.toNat := fun h' => hk (UInt64.toNat_inj.mp h')
        simp only [scanL, List.map_cons, slotOf, TT.scan, hn, if_false, beq_iff_eq, hk]
        rw [← ih]
        cases scanL h e rest <;> simp [slotOf]

def insResOf : Bool → TranspositionInsertionResult
  | true => .Inserted
  | false => .Swapped

/-- the loop of `insert_or_replace` for ANY body `f` that reads slot `n`, writes `Some((hash, entry))` there and returns
`Inserted` when it is empty / `Swapped` when it holds the same key, and continues otherwise -/
theorem for_early_scanL (h : UInt64) (e : TranspositionEntry)
    (f : TranspositionBucket → Nat → Panics (Early (TranspositionInsertionResult × TranspositionBucket) TranspositionBucket))
    (hf : ∀ (l : List (Option (UInt64 × TranspositionEntry))) (n : Nat) (x : Option (UInt64 × TranspositionEntry)),
      l[n]? = some x →
      f ⟨l.toArray⟩ n = match x with
        | none => some (Early.ret (.Inserted, ⟨(l.set n (some (h, e))).toArray⟩))
        | some (k, _) => if k == h then some (Early.ret (.Swapped, ⟨(l.set n (some (h, e))).toArray⟩))
                         else some (Early.cont ⟨l.toArray⟩))
    (l pre : List (Option (UInt64 × TranspositionEntry))) :
    TTPrim.for_early f (List.range' pre.length l.length) ⟨(pre ++ l).toArray⟩ =
      match scanL h e l with
      | some (r, ins) => some (Early.ret (insResOf ins, ⟨(pre ++ r).toArray⟩))
      | none => some (Early.cont ⟨(pre ++ l).toArray⟩) := by
  induction l generalizing pre with
  | nil => simp [TTPrim.for_early, scanL]
  | cons x rest ih =>
    have hx : (pre ++ x :: rest)[pre.length]? = some x := by simp
    rw [List.length_cons, List.range'_succ, TTPrim.for_early, hf _ _ _ hx]
    have hset : (pre ++ x :: rest).set pre.length (some (h, e)) = pre ++ some (h, e) :: rest := by simp
    cases x with
    | none => simp [scanL, insResOf, hset]
    | some p =>
      obtain ⟨k, y⟩ := p
      by_cases hk : (k == h) = true
      · simp [scanL, insResOf, hset, hk]
      · simp only [hk, if_false, Bool.false_eq_true, scanL]
        have := ih (pre ++ [some (k, y)])
        simp only [List.length_append, List.length_cons, List.length_nil, List.append_assoc, List.cons_append, List.nil_append] at this
        rw [this]
        cases scanL h e rest with
        | none => rfl
        | some p => rfl

theorem len_toNat {α : Type} (a : Array α) (h : a.size < 2 ^ 64) : (TTPrim.len a).toNat = a.size := by
  simp [TTPrim.len, Nat.toUInt64, UInt64.toNat_ofNat', Nat.mod_eq_of_lt h]

theorem len_eq_zero_iff {α : Type} (a : Array α) (h : a.size < 2 ^ 64) : TTPrim.len a = 0 ↔ a.size = 0 := by
  rw [← UInt64.toNat_inj, len_toNat a h]; simp

/-- `a % b` with `b = v.len()` -/
theorem checked_rem_len {α : Type} (x : UInt64) (a : Array α) (h0 : 0 < a.size) (h : a.size < 2 ^ 64) :
    ∃ r, TTPrim.checked_rem x (TTPrim.len a) = some r ∧ r.toNat = x.toNat % a.size := by
  have hne : TTPrim.len a ≠ 0 := fun hz => by
    have := (len_eq_zero_iff a h).mp hz; omega
  refine ⟨x % TTPrim.len a, by simp [TTPrim.checked_rem, hne], ?_⟩
  rw [UInt64.toNat_mod, len_toNat a h]

theorem for_early_scanL0 (h : UInt64) (e : TranspositionEntry)
    (f : TranspositionBucket → Nat → Panics (Early (TranspositionInsertionResult × TranspositionBucket) TranspositionBucket))
    (l : List (Option (UInt64 × TranspositionEntry)))
    (hf : ∀ (l : List (Option (UInt64 × TranspositionEntry))) (n : Nat) (x : Option (UInt64 × TranspositionEntry)),
      l[n]? = some x →
      f ⟨l.toArray⟩ n = match x with
        | none => some (Early.ret (.Inserted, ⟨(l.set n (some (h, e))).toArray⟩))
        | some (k, _) => if k == h then some (Early.ret (.Swapped, ⟨(l.set n (some (h, e))).toArray⟩))
                         else some (Early.cont ⟨l.toArray⟩)) :
    TTPrim.for_early f (List.range l.length) ⟨l.toArray⟩ =
      match scanL h e l with
      | some (r, ins) => some (Early.ret (insResOf ins, ⟨r.toArray⟩))
      | none => some (Early.cont ⟨l.toArray⟩) := by
  have := for_early_scanL h e f hf l []
  simpa [List.range_eq_range'] using this

theorem inserted_resOf (b : Bool) : (insResOf b).inserted = b := by cases b <;> rfl

/-- `TranspositionBucket::insert_or_replace` = `TT.insertB` (any non-empty bucket; the Rust type fixes 8 slots) -/
theorem TranspositionBucket.insert_or_replace_eq (b : TranspositionBucket) (h : UInt64) (e : TranspositionEntry)
    (h0 : 0 < b.f_entries.size) (hsz : b.f_entries.size < 2 ^ 64) :
    ∃ r b', TranspositionBucket.insert_or_replace b h e = some (r, b') ∧
      (bucketOf b', r.inserted) = TT.insertB (bucketOf b) h.toNat (entryOf e) := by
  obtain ⟨⟨l⟩⟩ := b
  simp only [List.size_toArray] at h0 hsz
  unfold TranspositionBucket.insert_or_replace
  simp only [List.size_toArray]
  rw [for_early_scanL0 h e]
  · have hs := scanL_slotOf h e l
    unfold TT.insertB
    simp only [bucketOf]
    rw [← hs]
    cases hsc : scanL h e l with
    | some p =>
      obtain ⟨r, ins⟩ := p
      exact ⟨insResOf ins, ⟨r.toArray⟩, by simp [bind, pure], by simp [inserted_resOf]⟩
    | none =>
      obtain ⟨ix, hix, hixn⟩ := checked_rem_len (h ^^^ UInt32.toUInt64 (Move.as_raw e.f_performed_move)) l.toArray
        (by simpa using h0) (by simpa using hsz)
      have hlt : ix.toNat < l.length := by
        rw [hixn]; simp only [List.size_toArray]; exact Nat.mod_lt _ h0
      refine ⟨.Replaced, ⟨(l.set ix.toNat (some (h, e))).toArray⟩, ?_, ?_⟩
      · simp [bind, pure, hix, ArrayMap.set, hlt]
      · simp only [Option.map_none, List.length_map, Prod.mk.injEq]
        refine ⟨?_, rfl⟩
        rw [List.map_set, hixn]
        simp [slotOf, entryOf, Move.as_raw]
  · intro l n x hx
    simp only [TTPrim.iter_mut_get, List.getElem?_toArray, hx, Option.bind_some, bind, pure]
    rcases x with _ | ⟨k, y⟩
    · simp
    · by_cases hk : (k == h) = true <;> simp [hk]

/-! ## `TranspositionTable` -/

/-- what the Rust types guarantee about a bucket: `[_; BUCKET_SIZE]` -/
def BucketWF (b : TranspositionBucket) : Prop := b.f_entries.size = Gen.bucketSize

/-- a table that `hash % buckets.len()` does not panic on, whose size fits a `usize` -/
structure TableWF (t : TranspositionTable) : Prop where
  pos : 0 < t.f_buckets.size
  lt : t.f_buckets.size * Gen.bucketSize < 2 ^ 64
  buckets : ∀ b ∈ t.f_buckets.toList, BucketWF b

theorem TableWF.size_lt {t : TranspositionTable} (w : TableWF t) : t.f_buckets.size < 2 ^ 64 := by
  have := w.lt; simp only [Gen.bucketSize] at this; omega

theorem bucketOf_length (b : TranspositionBucket) : (bucketOf b).length = b.f_entries.size := by simp [bucketOf]

theorem TranspositionBucket.empty_wf : BucketWF TranspositionBucket.empty := by
  simp [BucketWF, TranspositionBucket.empty, TranspositionBucket.BUCKET_SIZE_eq]

theorem TranspositionTable.with_bucket_count_eq (n : UInt64) :
    tableOf (TranspositionTable.with_bucket_count n) = TT.Table.withBucketCount n.toNat := by
  simp [tableOf, TranspositionTable.with_bucket_count, TT.Table.withBucketCount, TranspositionBucket.empty_eq]

theorem TranspositionTable.with_bucket_count_wf (n : UInt64) (h0 : 0 < n.toNat) (h : n.toNat * Gen.bucketSize < 2 ^ 64) :
    TableWF (TranspositionTable.with_bucket_count n) := by
  refine ⟨by simpa [TranspositionTable.with_bucket_count] using h0, by simpa [TranspositionTable.with_bucket_count] using h, ?_⟩
  intro b hb
  simp only [TranspositionTable.with_bucket_count, Array.toList_replicate, List.mem_replicate] at hb
  rw [hb.2]; exact TranspositionBucket.empty_wf

/-- `TranspositionTable::with_memory`: `size_in_bytes / size_of::<TranspositionBucket>()` buckets, the size being 320 -/
theorem TranspositionTable.with_memory_eq (n : UInt64) :
    TranspositionTable.with_memory n = some (TranspositionTable.with_bucket_count (n / 320)) ∧
    (TranspositionTable.with_memory n).map tableOf = some (TT.Table.withBucketCount (n.toNat / 320)) := by
  have h1 : TranspositionTable.with_memory n = some (TranspositionTable.with_bucket_count (n / 320)) := by
    simp [TranspositionTable.with_memory, TTPrim.checked_div, bind, pure]
  refine ⟨h1, ?_⟩
  rw [h1, Option.map_some, TranspositionTable.with_bucket_count_eq, UInt64.toNat_div]
  rfl

theorem index_some {α : Type} (a : Array α) (i : UInt64) (h : i.toNat < a.size) :
    ArrayMap.index a i = some a[i.toNat] := by
  simp [ArrayMap.index_eq_some, h]

theorem TranspositionTable.find_eq (t : TranspositionTable) (h : UInt64) (w : TableWF t) :
    ∃ r, TranspositionTable.find t h = some r ∧ r.map entryOf = (tableOf t).find h.toNat := by
  obtain ⟨ix, hix, hixn⟩ := checked_rem_len h t.f_buckets w.pos w.size_lt
  have hlt : ix.toNat < t.f_buckets.size := by rw [hixn]; exact Nat.mod_lt _ w.pos
  refine ⟨TranspositionBucket.find t.f_buckets[ix.toNat] h, ?_, ?_⟩
  · simp [TranspositionTable.find, hix, index_some _ _ hlt, bind, pure]
  · rw [TranspositionBucket.find_eq]
    simp only [TT.Table.find, tableOf, List.length_map, Array.length_toList]
    rw [← hixn, getD_map_toList' bucketOf t.f_buckets _ _ hlt]

theorem TranspositionTable.entries_eq (t : TranspositionTable) :
    (TranspositionTable.entries t).toNat = (tableOf t).entries := rfl

theorem TranspositionTable.max_entries_eq (t : TranspositionTable) (w : TableWF t) :
    ∃ r, TranspositionTable.max_entries t = some r ∧ r.toNat = (tableOf t).maxEntries := by
  have hl := len_toNat t.f_buckets w.size_lt
  have hlt := w.lt
  refine ⟨TTPrim.len t.f_buckets * TranspositionBucket.BUCKET_SIZE, ?_, ?_⟩
  · simp [TranspositionTable.max_entries, UInt64.checked_mul, hl, TranspositionBucket.BUCKET_SIZE_eq, hlt]
  · rw [UInt64.toNat_mul, hl, TranspositionBucket.BUCKET_SIZE_eq, Nat.mod_eq_of_lt hlt]
    simp [TT.Table.maxEntries, tableOf]

theorem TranspositionTable.insert_eq (t : TranspositionTable) (h : UInt64) (e : TranspositionEntry) (w : TableWF t)
    (hused : t.f_used_slots.toNat + 1 < 2 ^ 64) :
    ∃ t', TranspositionTable.insert t h e = some t' ∧ tableOf t' = (tableOf t).insert h.toNat (entryOf e) ∧ TableWF t' := by
  obtain ⟨ix, hix, hixn⟩ := checked_rem_len h t.f_buckets w.pos w.size_lt
  have hlt : ix.toNat < t.f_buckets.size := by rw [hixn]; exact Nat.mod_lt _ w.pos
  have hbw : BucketWF t.f_buckets[ix.toNat] := w.buckets _ (by simp)
  obtain ⟨r, b', hb, hb'⟩ := TranspositionBucket.insert_or_replace_eq t.f_buckets[ix.toNat] h e
    (by rw [hbw]; decide) (by rw [hbw]; decide)
  have hget : (List.map bucketOf t.f_buckets.toList).getD ix.toNat [] = bucketOf t.f_buckets[ix.toNat] :=
    getD_map_toList' bucketOf t.f_buckets _ _ hlt
  have h1 : (TT.insertB (bucketOf t.f_buckets[ix.toNat]) h.toNat (entryOf e)).1 = bucketOf b' := (congrArg Prod.fst hb').symm
  have h2 : (TT.insertB (bucketOf t.f_buckets[ix.toNat]) h.toNat (entryOf e)).2 = r.inserted := (congrArg Prod.snd hb').symm
  have hmodel : (tableOf t).insert h.toNat (entryOf e) =
      { buckets := (t.f_buckets.toList.map bucketOf).set ix.toNat (bucketOf b'),
        used := if r.inserted then t.f_used_slots.toNat + 1 else t.f_used_slots.toNat } := by
    simp only [TT.Table.insert, tableOf, List.length_map, Array.length_toList, ← hixn, hget, h1, h2]
  have hwf : ∀ u : UInt64, TableWF { f_buckets := t.f_buckets.setIfInBounds ix.toNat b', f_used_slots := u } := by
    intro u
    refine ⟨by simpa using w.pos, by simpa using w.lt, ?_⟩
    intro b hbm
    simp only [Array.toList_setIfInBounds] at hbm
    rcases List.mem_or_eq_of_mem_set hbm with hm | rfl
    · exact w.buckets b hm
    · have := congrArg List.length (congrArg Prod.fst hb')
      simp only [bucketOf_length] at this
      unfold BucketWF; rw [this]
      rw [TT.insertB_length, bucketOf_length]; exact hbw
  by_cases hins : r.inserted = true
  · refine ⟨{ f_buckets := t.f_buckets.setIfInBounds ix.toNat b', f_used_slots := t.f_used_slots + 1 }, ?_, ?_, hwf _⟩
    · simp [TranspositionTable.insert, hix, index_some _ _ hlt, hb, ArrayMap.set, hlt, hins, UInt64.checked_add, hused, bind, pure]
    · rw [hmodel]
      simp [tableOf, hins, UInt64.toNat_add, Nat.mod_eq_of_lt hused]
  · refine ⟨{ f_buckets := t.f_buckets.setIfInBounds ix.toNat b', f_used_slots := t.f_used_slots }, ?_, ?_, hwf _⟩
    · simp [TranspositionTable.insert, hix, index_some _ _ hlt, hb, ArrayMap.set, hlt, hins, bind, pure]
    · rw [hmodel]
      simp [tableOf, hins]

/-! ## `TranspositionTableAccess`

`self.tables[i].write().unwrap().insert(..)` / `.read().unwrap().find(..)` are read as the ATOMIC application of the sub-table
operation (trusted reading of `RwLock`, see the header of `tools/rs2lean_tt.py`); the generated `insert` returns the new access
layer. -/

/-- an access layer that `hash % tables.len()` does not panic on, with every sub-table `TableWF` -/
structure AccessWF (a : TranspositionTableAccess) : Prop where
  pos : 0 < a.f_tables.size
  lt : a.f_tables.size < 2 ^ 64
  tables : ∀ t ∈ a.f_tables.toList, TableWF t

/-- `TranspositionTableAccess::with_tables` (the `assert!` does not fire for a non-empty vector) -/
theorem TranspositionTableAccess.with_tables_eq (ts : Array TranspositionTable) (h0 : 0 < ts.size) (hlt : ts.size < 2 ^ 64) :
    TranspositionTableAccess.with_tables ts = some ⟨ts⟩ := by
  have : (0 : UInt64) < TTPrim.len ts := by
    rw [UInt64.lt_iff_toNat_lt, len_toNat ts hlt]; simpa using h0
  simp [TranspositionTableAccess.with_tables, TTPrim.assert, this, bind, pure]

/-- `with_tables` panics on an empty vector (`assert!(tables.len() > 0)`) -/
theorem TranspositionTableAccess.with_tables_empty : TranspositionTableAccess.with_tables #[] = none := by
  simp [TranspositionTableAccess.with_tables, TTPrim.assert, TTPrim.len, bind]

/-- the access layer built from `n` tables of `m` buckets denotes `TT.Access.new n m` -/
theorem accessOf_replicate (n : Nat) (m : UInt64) :
    accessOf ⟨Array.replicate n (TranspositionTable.with_bucket_count m)⟩ = TT.Access.new n m.toNat := by
  simp [accessOf, TT.Access.new, TranspositionTable.with_bucket_count_eq]

/-- … and is well formed -/
theorem accessWF_replicate (n : Nat) (m : UInt64) (hn : 0 < n) (hn' : n < 2 ^ 64) (hm : 0 < m.toNat)
    (hm' : m.toNat * Gen.bucketSize < 2 ^ 64) :
    AccessWF ⟨Array.replicate n (TranspositionTable.with_bucket_count m)⟩ := by
  refine ⟨by simpa using hn, by simpa using hn', ?_⟩
  intro t ht
  simp only [Array.toList_replicate, List.mem_replicate] at ht
  rw [ht.2]
  exact TranspositionTable.with_bucket_count_wf m hm hm'

theorem TranspositionTableAccess.find_eq (a : TranspositionTableAccess) (h : UInt64) (w : AccessWF a) :
    ∃ r, TranspositionTableAccess.find a h = some r ∧ r.map entryOf = (accessOf a).find h.toNat := by
  obtain ⟨ix, hix, hixn⟩ := checked_rem_len h a.f_tables w.pos w.lt
  have hlt : ix.toNat < a.f_tables.size := by rw [hixn]; exact Nat.mod_lt _ w.pos
  obtain ⟨r, hr, hr'⟩ := TranspositionTable.find_eq a.f_tables[ix.toNat] h (w.tables _ (by simp))
  refine ⟨r, ?_, ?_⟩
  · simp [TranspositionTableAccess.find, hix, index_some _ _ hlt, hr, bind]
  · rw [hr']
    simp only [TT.Access.find, accessOf, List.length_map, Array.length_toList, ← hixn]
    rw [getD_map_toList' tableOf a.f_tables _ _ hlt]

theorem TranspositionTableAccess.insert_eq (a : TranspositionTableAccess) (h : UInt64) (e : TranspositionEntry) (w : AccessWF a)
    (hused : ∀ t ∈ a.f_tables.toList, t.f_used_slots.toNat + 1 < 2 ^ 64) :
    ∃ a', TranspositionTableAccess.insert a h e = some a' ∧ accessOf a' = (accessOf a).insert h.toNat (entryOf e) ∧ AccessWF a' := by
  obtain ⟨ix, hix, hixn⟩ := checked_rem_len h a.f_tables w.pos w.lt
  have hlt : ix.toNat < a.f_tables.size := by rw [hixn]; exact Nat.mod_lt _ w.pos
  obtain ⟨t', ht, ht', htw⟩ := TranspositionTable.insert_eq a.f_tables[ix.toNat] h e (w.tables _ (by simp)) (hused _ (by simp))
  refine ⟨⟨a.f_tables.setIfInBounds ix.toNat t'⟩, ?_, ?_, ?_⟩
  · simp [TranspositionTableAccess.insert, hix, index_some _ _ hlt, ht, ArrayMap.set, hlt, bind, pure]
  · simp only [TT.Access.insert, accessOf, List.length_map, Array.length_toList, ← hixn, Array.toList_setIfInBounds, List.map_set]
    rw [getD_map_toList' tableOf a.f_tables _ _ hlt, ht']
  · refine ⟨by simpa using w.pos, by simpa using w.lt, ?_⟩
    intro t hm
    simp only [Array.toList_setIfInBounds] at hm
    rcases List.mem_or_eq_of_mem_set hm with hm | rfl
    · exact w.tables t hm
    · exact htw

/-- the checked fold of `iter.sum()`, in the pattern of the checked primitives (`Wee/Proofs/Returns.lean`): it returns `r` iff `r`
is the sum -/
theorem usize_sum_go_eq_some (xs : List UInt64) : ∀ {acc r : UInt64},
    xs.foldlM (fun acc x => UInt64.checked_add acc x) acc = some r ↔ r.toNat = acc.toNat + (xs.map UInt64.toNat).sum := by
  induction xs with
  | nil => intro acc r; simp [← UInt64.toNat_inj, eq_comm]
  | cons x xs ih =>
    intro acc r
    rw [List.foldlM_cons, List.map_cons, List.sum_cons, ← Nat.add_assoc]
    cases ha : UInt64.checked_add acc x with
    | some a => rw [← UInt64.checked_add_eq_some.1 ha]; exact ih
    | none =>
      refine ⟨(fun h => by cases h), fun h => ?_⟩
      have hlt := r.toNat_lt
      have : (acc + x).toNat = acc.toNat + x.toNat := by rw [UInt64.toNat_add, Nat.mod_eq_of_lt (by omega)]
      rw [UInt64.checked_add_eq_some.2 this] at ha
      cases ha

/-- `iter.sum()` on `usize` returns `r` iff `r` is the sum -/
theorem usize_sum_eq_some {xs : List UInt64} {r : UInt64} : TTPrim.usize_sum xs = some r ↔ r.toNat = (xs.map UInt64.toNat).sum := by
  unfold TTPrim.usize_sum; rw [usize_sum_go_eq_some]; simp

/-- `TranspositionTableAccess::entries` returns `r` iff `r` is the model's count -/
theorem TranspositionTableAccess.entries_eq_some (a : TranspositionTableAccess) {r : UInt64} :
    TranspositionTableAccess.entries a = some r ↔ r.toNat = (accessOf a).entries := by
  have hs : (accessOf a).entries = ((a.f_tables.toList.map fun t => TranspositionTable.entries t).map UInt64.toNat).sum := by
    simp [TT.Access.entries, accessOf, List.map_map, Function.comp_def, TranspositionTable.entries, TT.Table.entries, tableOf]
  rw [hs, ← usize_sum_eq_some]
  exact Iff.rfl

/-- a `usize` that holds a number below `2^64` exists -/
theorem exists_of_fits {n : Nat} (h : n < 2 ^ 64) : ∃ r : UInt64, r.toNat = n :=
  ⟨.ofNat n, by simpa using Nat.mod_eq_of_lt h⟩

/-- `TranspositionTableAccess::entries` = `TT.Access.entries` (as long as the sum fits a `usize`) -/
theorem TranspositionTableAccess.entries_eq (a : TranspositionTableAccess) (h : (accessOf a).entries < 2 ^ 64) :
    ∃ r, TranspositionTableAccess.entries a = some r ∧ r.toNat = (accessOf a).entries := by
  obtain ⟨r, hr⟩ := exists_of_fits h
  exact ⟨r, (TranspositionTableAccess.entries_eq_some a).2 hr, hr⟩

theorem mapM_max_entries (ts : List TranspositionTable) (w : ∀ t ∈ ts, TableWF t) :
    ∃ rs, ts.mapM (fun t => TranspositionTable.max_entries t) = some rs ∧
      rs.map UInt64.toNat = ts.map (fun t => (tableOf t).maxEntries) := by
  induction ts with
  | nil => exact ⟨[], rfl, rfl⟩
  | cons t rest ih =>
    obtain ⟨r, hr, hr'⟩ := TranspositionTable.max_entries_eq t (w t (by simp))
    obtain ⟨rs, hrs, hrs'⟩ := ih (fun t ht => w t (by simp [ht]))
    exact ⟨r :: rs, by simp [List.mapM_cons, hr, hrs, bind, pure], by simp [hr', hrs']⟩

/-- `TranspositionTableAccess::max_entries` returns `r` iff `r` is the model's capacity -/
theorem TranspositionTableAccess.max_entries_eq_some (a : TranspositionTableAccess) (w : AccessWF a) {r : UInt64} :
    TranspositionTableAccess.max_entries a = some r ↔ r.toNat = (accessOf a).maxEntries := by
  obtain ⟨rs, hrs, hrs'⟩ := mapM_max_entries a.f_tables.toList w.tables
  have hs : (accessOf a).maxEntries = (rs.map UInt64.toNat).sum := by
    rw [hrs']; simp [TT.Access.maxEntries, accessOf, List.map_map, Function.comp_def]
  rw [hs, ← usize_sum_eq_some]
  unfold TranspositionTableAccess.max_entries
  rw [hrs, some_bind']

/-- `TranspositionTableAccess::max_entries` = `TT.Access.maxEntries` (as long as the sum fits a `usize`) -/
theorem TranspositionTableAccess.max_entries_eq (a : TranspositionTableAccess) (w : AccessWF a)
    (h : (accessOf a).maxEntries < 2 ^ 64) :
    ∃ r, TranspositionTableAccess.max_entries a = some r ∧ r.toNat = (accessOf a).maxEntries := by
  obtain ⟨r, hr⟩ := exists_of_fits h
  exact ⟨r, (TranspositionTableAccess.max_entries_eq_some a w).2 hr, hr⟩

/-- `TranspositionTableAccess::saturation`: the binary32 quotient of the two counters (both converted with `as f32`) -/
theorem TranspositionTableAccess.saturation_eq (a : TranspositionTableAccess) (w : AccessWF a)
    (he : (accessOf a).entries < 2 ^ 64) (hm : (accessOf a).maxEntries < 2 ^ 64)
    (hne : Wee.F32.ofInt ((accessOf a).maxEntries : Int) ≠ 0) :
    TranspositionTableAccess.saturation a =
      some (Wee.F32.div (Wee.F32.ofInt ((accessOf a).entries : Int)) (Wee.F32.ofInt ((accessOf a).maxEntries : Int))) := by
  obtain ⟨r1, h1, h1'⟩ := TranspositionTableAccess.entries_eq a he
  obtain ⟨r2, h2, h2'⟩ := TranspositionTableAccess.max_entries_eq a w hm
  simp [TranspositionTableAccess.saturation, h1, h2, h1', h2', TTPrim.f32_checked_div, hne, bind]

/-- when `saturation` returns, its value is the f32 quotient of the model's counts -/
theorem TranspositionTableAccess.saturation_inv (a : TranspositionTableAccess) (w : AccessWF a) (v : Rat)
    (h : TranspositionTableAccess.saturation a = some v) :
    v = Wee.F32.div (Wee.F32.ofInt ((accessOf a).entries : Int)) (Wee.F32.ofInt ((accessOf a).maxEntries : Int)) := by
  unfold TranspositionTableAccess.saturation at h
  cases h1 : TranspositionTableAccess.entries a with
  | none => rw [h1] at h; cases h
  | some r1 =>
    cases h2 : TranspositionTableAccess.max_entries a with
    | none => rw [h1, h2] at h; cases h
    | some r2 =>
      have e1 := (TranspositionTableAccess.entries_eq_some a).1 h1
      have e2 := (TranspositionTableAccess.max_entries_eq_some a w).1 h2
      rw [h1, h2] at h
      simp only [some_bind', TTPrim.f32_checked_div, e1, e2] at h
      by_cases hz : Wee.F32.ofInt (Int.ofNat (accessOf a).maxEntries) = 0
      · rw [if_pos hz] at h; cases h
      · rw [if_neg hz] at h
        simpa [pure] using h.symm

/-! ## the table operations, "when they return" (no hypothesis on the `used_slots` counter) -/

/-- when `TranspositionTable::insert` returns, the new table denotes the model's `insert` and is again `TableWF` -/
theorem TranspositionTable.insert_some (t t' : TranspositionTable) (h : UInt64) (e : TranspositionEntry) (w : TableWF t)
    (hs : TranspositionTable.insert t h e = some t') :
    tableOf t' = (tableOf t).insert h.toNat (entryOf e) ∧ TableWF t' := by
  by_cases hused : t.f_used_slots.toNat + 1 < 2 ^ 64
  · obtain ⟨t2, h2, h3, h4⟩ := TranspositionTable.insert_eq t h e w hused
    rw [hs] at h2; cases h2; exact ⟨h3, h4⟩
  · -- the counter is at its maximum: run the same insert on a copy with the counter reset
    obtain ⟨ix, hix, hixn⟩ := checked_rem_len h t.f_buckets w.pos w.size_lt
    have hlt : ix.toNat < t.f_buckets.size := by rw [hixn]; exact Nat.mod_lt _ w.pos
    have hbw : BucketWF t.f_buckets[ix.toNat] := w.buckets _ (by simp)
    obtain ⟨r, b', hb, hb'⟩ := TranspositionBucket.insert_or_replace_eq t.f_buckets[ix.toNat] h e
      (by rw [hbw]; decide) (by rw [hbw]; decide)
    by_cases hins : r.inserted = true
    · exfalso
      simp [TranspositionTable.insert, hix, index_some _ _ hlt, hb, ArrayMap.set, hlt, hins, UInt64.checked_add, hused, some_bind', Option.pure_def] at hs
    · let t0 : TranspositionTable := { t with f_used_slots := 0 }
      have w0 : TableWF t0 := ⟨w.pos, w.lt, w.buckets⟩
      obtain ⟨t2, h2, h3, h4⟩ := TranspositionTable.insert_eq t0 h e w0 (by show (0 : UInt64).toNat + 1 < 2 ^ 64; decide)
      have e1 : t' = { f_buckets := t.f_buckets.setIfInBounds ix.toNat b', f_used_slots := t.f_used_slots } := by
        simp [TranspositionTable.insert, hix, index_some _ _ hlt, hb, ArrayMap.set, hlt, hins, some_bind', Option.pure_def] at hs
        exact hs.symm
      have e2 : t2 = { f_buckets := t.f_buckets.setIfInBounds ix.toNat b', f_used_slots := 0 } := by
        simp [TranspositionTable.insert, t0, hix, index_some _ _ hlt, hb, ArrayMap.set, hlt, hins, some_bind', Option.pure_def] at h2
        exact h2.symm
      have hget : (List.map bucketOf t.f_buckets.toList).getD ix.toNat [] = bucketOf t.f_buckets[ix.toNat] :=
        getD_map_toList' bucketOf t.f_buckets _ _ hlt
      have h1 : (TT.insertB (bucketOf t.f_buckets[ix.toNat]) h.toNat (entryOf e)).1 = bucketOf b' := (congrArg Prod.fst hb').symm
      have h2' : (TT.insertB (bucketOf t.f_buckets[ix.toNat]) h.toNat (entryOf e)).2 = r.inserted := (congrArg Prod.snd hb').symm
      refine ⟨?_, ?_⟩
      · subst e1
        simp only [TT.Table.insert, tableOf, List.length_map, Array.length_toList, ← hixn, hget, h1, h2']
        simp [hins]
      · subst e1; subst e2
        exact ⟨h4.pos, h4.lt, h4.buckets⟩

/-- when `TranspositionTableAccess::insert` returns, the new access layer denotes the model's `insert` and is again `AccessWF` -/
theorem TranspositionTableAccess.insert_some (a a' : TranspositionTableAccess) (h : UInt64) (e : TranspositionEntry) (w : AccessWF a)
    (hs : TranspositionTableAccess.insert a h e = some a') :
    accessOf a' = (accessOf a).insert h.toNat (entryOf e) ∧ AccessWF a' := by
  obtain ⟨ix, hix, hixn⟩ := checked_rem_len h a.f_tables w.pos w.lt
  have hlt : ix.toNat < a.f_tables.size := by rw [hixn]; exact Nat.mod_lt _ w.pos
  cases ht : TranspositionTable.insert a.f_tables[ix.toNat] h e with
  | none => simp [TranspositionTableAccess.insert, hix, index_some _ _ hlt, ht, some_bind', Option.pure_def] at hs
  | some t' =>
    obtain ⟨ht', htw⟩ := TranspositionTable.insert_some a.f_tables[ix.toNat] t' h e (w.tables _ (by simp)) ht
    have e1 : a' = ⟨a.f_tables.setIfInBounds ix.toNat t'⟩ := by
      simp [TranspositionTableAccess.insert, hix, index_some _ _ hlt, ht, ArrayMap.set, hlt, some_bind', Option.pure_def] at hs
      exact hs.symm
    subst e1
    refine ⟨?_, ?_⟩
    · simp only [TT.Access.insert, accessOf, List.length_map, Array.length_toList, ← hixn, Array.toList_setIfInBounds, List.map_set]
      rw [getD_map_toList' tableOf a.f_tables _ _ hlt, ht']
    · refine ⟨by simpa using w.pos, by simpa using w.lt, ?_⟩
      intro t hm
      simp only [Array.toList_setIfInBounds] at hm
      rcases List.mem_or_eq_of_mem_set hm with hm | rfl
      · exact w.tables t hm
      · exact htw

/-- when `TranspositionTableAccess::find` returns, its answer denotes the model's `find` -/
theorem TranspositionTableAccess.find_some (a : TranspositionTableAccess) (h : UInt64) (w : AccessWF a) (r : Option TranspositionEntry)
    (hs : TranspositionTableAccess.find a h = some r) : r.map entryOf = (accessOf a).find h.toNat := by
  obtain ⟨r', h1, h2⟩ := TranspositionTableAccess.find_eq a h w
  rw [hs] at h1; cases h1; exact h2

/-! ## `StateHistory` (repetition history of C17)

`HashMap<Hash, usize>` is the abstract finite map `TTPrim.HashMap` (trusted mapping, header of the tool).  The model keeps the list of
recorded keys (`Search.Ctx.history`, newest first) and consults it as a set (`history.contains hash`); the Rust map holds the
multiplicity of every key of that list. -/

/-- the map holds, for every key, its number of occurrences in the model's list (absent when 0) -/
def HistRep (h : StateHistory) (l : List UInt64) : Prop :=
  ∀ k, (StateHistory.lookup h k).map UInt64.toNat = if l.count k = 0 then none else some (l.count k)

theorem StateHistory.new_rep : HistRep StateHistory.new [] := by
  intro k; simp [StateHistory.lookup, StateHistory.new, TTPrim.HashMap.get, TTPrim.HashMap.new]

/-- `StateHistory::lookup(..).is_some()` = membership in the model's history list -/
theorem StateHistory.lookup_isSome {h : StateHistory} {l : List UInt64} (r : HistRep h l) (k : UInt64) :
    (StateHistory.lookup h k).isSome = l.contains k := by
  have := r k
  by_cases hc : l.count k = 0
  · rw [hc] at this
    have hn : StateHistory.lookup h k = none := by simpa using this
    have : k ∉ l := List.count_eq_zero.mp hc
    simp [hn, this]
  · have hm : k ∈ l := by
      apply Classical.byContradiction; intro hm; exact hc (List.count_eq_zero.mpr hm)
    simp only [hc, if_false] at this
    cases hl : StateHistory.lookup h k with
    | none => simp [hl] at this
    | some v => simp [hm]

/-- `StateHistory::increment` = consing the key onto the model's history list (no overflow below 2^64 recorded positions) -/
theorem StateHistory.increment_rep {h : StateHistory} {l : List UInt64} (r : HistRep h l) (k : UInt64)
    (hlen : l.length + 1 < 2 ^ 64) :
    ∃ h', StateHistory.increment h k = some h' ∧ HistRep h' (k :: l) := by
  have hcnt : l.count k ≤ l.length := List.count_le_length
  have hk := r k
  simp only [StateHistory.lookup] at hk
  have hcur : (Option.getD (TTPrim.HashMap.get h.f_states k) (0 : UInt64)).toNat = l.count k := by
    by_cases hc : l.count k = 0
    · rw [hc] at hk ⊢
      have : TTPrim.HashMap.get h.f_states k = none := by simpa using hk
      simp [this]
    · simp only [hc, if_false] at hk
      cases hl : TTPrim.HashMap.get h.f_states k with
      | none => simp [hl] at hk
      | some v => simpa [hl] using hk
  have hno : (Option.getD (TTPrim.HashMap.get h.f_states k) (0 : UInt64)).toNat + (1 : UInt64).toNat < 2 ^ 64 := by
    rw [hcur]; simp; omega
  refine ⟨_, by simp only [StateHistory.increment, UInt64.checked_add, hno, if_true, bind, pure, Option.bind_some]; rfl, ?_⟩
  intro k'
  by_cases hkk : k' = k
  · subst hkk
    simp only [StateHistory.lookup, TTPrim.HashMap.get, TTPrim.HashMap.insert, if_true, Option.map_some,
      List.count_cons_self, Nat.succ_ne_zero, if_false, Option.some.injEq]
    simp only [TTPrim.HashMap.get] at hcur hno
    rw [UInt64.toNat_add, Nat.mod_eq_of_lt hno, hcur]; rfl
  · have := r k'
    have hne : (k == k') = false := by simp [Ne.symm hkk]
    simpa [StateHistory.lookup, TTPrim.HashMap.get, TTPrim.HashMap.insert, hkk, List.count_cons, hne] using this

/-! ## `TranspositionTableAccess::iter_moves` / `TranspositionTableMoveIterator::next` = `Search.walkLine`

The iterator is consumed by `.map(|r| r.0).collect()` in `analyze_iterative`; its collected items are
`iter_collect TranspositionTableMoveIterator.next fuel (iter_moves ..)` (the reading of `for x in it` of stage 2: call the TRANSLATED
`next` until it answers `None`).  `State::by_performing_move` and `ZobristHasher::hash` are the translated functions of stage 2; their
bridges (`State.by_performing_move_eq`, `ZobristHasher.hash_keyTable`) need states a Rust `State` can hold and well-formed move
words, which is what `WalkOK` states along the walk. -/

/-- the iterator value for model-side data -/
def itOf (k : KeyTable) (a : TranspositionTableAccess) (d i : UInt64) (s : Wee.State) : TranspositionTableMoveIterator :=
  { f_access := a, f_hasher := zobristOf k, f_max_depth := d, f_current_index := i, f_current_game_state := stateOf s }

theorem TranspositionTableAccess.iter_moves_eq (k : KeyTable) (a : TranspositionTableAccess) (d : UInt64) (s : Wee.State) :
    TranspositionTableAccess.iter_moves a (zobristOf k) (stateOf s) d = itOf k a d 0 s := rfl

/-- side conditions of the stage-2 bridges along the walk: every visited state is one a Rust `State` can hold, every stored move
that is followed is a well-formed move word (real piece, capture / promotion codes ≤ 6) on which the model's `performMove` does
not report the `unwrap` panic -/
def WalkOK (keys : Keys) (tt : TT.Access) : Nat → Wee.State → Prop
  | 0, _ => True
  | n+1, s => (∀ t, s.ep = some t → t < 64) ∧ s.halfmove < 2 ^ 64 ∧ s.fullmove < 2 ^ 64 ∧
      match tt.find (Wee.hash keys s).toNat with
      | none => True
      | some e => (∃ p, Wee.Move.piece? e.mv.toUInt32 = some p ∧ p ≠ Piece.none) ∧
          Wee.Move.captureCode e.mv.toUInt32 ≤ 6 ∧ Wee.Move.promotionCode e.mv.toUInt32 ≤ 6 ∧
          match performMove s e.mv.toUInt32 with
          | some (.ok nx) => WalkOK keys tt n nx
          | some (.error _) => True
          | none => False

/-- one step of `WalkOK`: the state is one a Rust `State` can hold; a stored move is a well-formed move word that `performMove`
applies without the `unwrap` panic, and from the state it leads to the walk goes on -/
theorem WalkOK.step {keys : Keys} {tt : TT.Access} {n : Nat} {s : Wee.State} (h : WalkOK keys tt (n + 1) s) :
    StateOK s ∧ ∀ e, tt.find (Wee.hash keys s).toNat = some e → WFMove e.mv.toUInt32 ∧
      match performMove s e.mv.toUInt32 with
      | some (.ok nx) => WalkOK keys tt n nx
      | some (.error _) => True
      | none => False := by
  obtain ⟨hep, hh, hf, hrest⟩ := h
  refine ⟨⟨hep, hh, hf⟩, fun e he => ?_⟩
  rw [he] at hrest
  obtain ⟨⟨p, hv, hp⟩, hc, hpr, hperf⟩ := hrest
  exact ⟨⟨p, hv, hp, hc, hpr⟩, hperf⟩

theorem entryOf_mv (e : TranspositionEntry) : (entryOf e).mv.toUInt32 = e.f_performed_move := by
  simp [entryOf]

/-- `TranspositionTableMoveIterator::next` before the depth is exhausted, given what the table answers for the current
position: the stored move is applied, the index advances -/
theorem next_itOf (k : KeyTable) (a : TranspositionTableAccess) (d i : UInt64) (s : Wee.State)
    (r : Option TranspositionEntry) (hle : ¬ d < i)
    (hhash : ZobristHasher.hash (zobristOf k) (stateOf s) = some (Wee.hash k.keys s))
    (hr : TranspositionTableAccess.find a (Wee.hash k.keys s) = some r) :
    TranspositionTableMoveIterator.next (itOf k a d i s) =
      match r with
      | none => some (none, itOf k a d i s)
      | some ent => (State.by_performing_move (stateOf s) ent.f_performed_move).bind fun o =>
          match o with
          | none => some (none, itOf k a d i s)
          | some nx => (UInt64.checked_add i 1).bind fun j =>
              some (some (ent.f_performed_move, nx), { itOf k a d i s with f_current_index := j, f_current_game_state := nx }) := by
  simp only [TranspositionTableMoveIterator.next, itOf, hle, decide_false, hhash, hr, bind, pure, Option.bind_some]
  cases r with
  | none => rfl
  | some ent =>
    simp only [Bool.false_eq_true, if_false]
    cases State.by_performing_move (stateOf s) ent.f_performed_move with
    | none => rfl
    | some o =>
      cases o with
      | none => rfl
      | some nx => cases UInt64.checked_add i 1 <;> rfl

/-- the moves collected from the iterator are the model's `walkLine` (at most `max_depth + 1` of them) -/
theorem iter_collect_walkLine (k : KeyTable) (ht : k.turn.size = 2) (he : k.epFile.size = 8)
    (a : TranspositionTableAccess) (w : AccessWF a) (d : UInt64) (hd : d.toNat + 1 < 2 ^ 64) :
    ∀ (n : Nat) (i : UInt64) (s : Wee.State), i.toNat + n = d.toNat + 1 → WalkOK k.keys (accessOf a) n s →
      ∃ items, iter_collect TranspositionTableMoveIterator.next (n + 1) (itOf k a d i s) = some items ∧
        items.map Prod.fst = Search.walkLine k.keys (accessOf a) n s := by
  intro n
  induction n with
  | zero =>
    intro i s hi _
    have hgt : d < i := by rw [UInt64.lt_iff_toNat_lt]; omega
    refine ⟨[], ?_, by simp [Search.walkLine]⟩
    simp [iter_collect, TranspositionTableMoveIterator.next, itOf, hgt, pure]
  | succ n ih =>
    intro i s hi hok
    obtain ⟨ok, hstep⟩ := hok.step
    have hle : ¬ d < i := by rw [UInt64.lt_iff_toNat_lt]; omega
    obtain ⟨r, hr, hr'⟩ := TranspositionTableAccess.find_eq a (Wee.hash k.keys s) w
    have hnext := next_itOf k a d i s r hle (ZobristHasher.hash_keyTable k ht he s ok.ep) hr
    cases r with
    | none =>
      have hfn : (accessOf a).find (Wee.hash k.keys s).toNat = none := by simpa using hr'.symm
      refine ⟨[], ?_, by simp [Search.walkLine, hfn]⟩
      simp [iter_collect, hnext]
    | some ent =>
      have hfs : (accessOf a).find (Wee.hash k.keys s).toNat = some (entryOf ent) := by simpa using hr'.symm
      obtain ⟨wf, hperf⟩ := hstep _ hfs
      rw [entryOf_mv] at wf hperf
      have hbpm := State.by_performing_move_of_wf s ent.f_performed_move ok wf
      simp only [hbpm] at hnext
      cases hpm : performMove s ent.f_performed_move with
      | none => simp [hpm] at hperf
      | some res =>
        cases res with
        | error err =>
          refine ⟨[], ?_, by simp [Search.walkLine, hfs, entryOf_mv, hpm]⟩
          simp [iter_collect, hnext, hpm, resultOf]
        | ok nx =>
          simp only [hpm] at hperf
          have h1 : (i + 1).toNat = i.toNat + (1 : UInt64).toNat := by
            rw [UInt64.toNat_add, Nat.mod_eq_of_lt (by simp; omega)]
          have hadd := UInt64.checked_add_eq_some.2 h1
          have hi' : (i + 1).toNat + n = d.toNat + 1 := by rw [h1]; simp; omega
          obtain ⟨items, hit, hmap⟩ := ih (i + 1) nx hi' hperf
          refine ⟨(ent.f_performed_move, stateOf nx) :: items, ?_, by simp [Search.walkLine, hfs, entryOf_mv, hpm, hmap]⟩
          have hself : ({ itOf k a d i s with f_current_index := i + 1, f_current_game_state := stateOf nx } :
              TranspositionTableMoveIterator) = itOf k a d (i + 1) nx := rfl
          rw [iter_collect, hnext]
          simp only [hpm, resultOf, Option.bind_some, hadd, hself, hit]

/-- `transpositions.iter_moves(&hasher, &state, depth).map(|r| r.0).collect()` = `walkLine keys tt (depth + 1) state` -/
theorem TranspositionTableAccess.iter_moves_walkLine (k : KeyTable) (ht : k.turn.size = 2) (he : k.epFile.size = 8)
    (a : TranspositionTableAccess) (w : AccessWF a) (d : UInt64) (hd : d.toNat + 1 < 2 ^ 64) (s : Wee.State)
    (hok : WalkOK k.keys (accessOf a) (d.toNat + 1) s) :
    ∃ items, iter_collect TranspositionTableMoveIterator.next (d.toNat + 2)
        (TranspositionTableAccess.iter_moves a (zobristOf k) (stateOf s) d) = some items ∧
      items.map Prod.fst = Search.walkLine k.keys (accessOf a) (d.toNat + 1) s := by
  rw [TranspositionTableAccess.iter_moves_eq]
  exact iter_collect_walkLine k ht he a w d hd (d.toNat + 1) 0 s (by simp) hok

end Wee.GenFns
