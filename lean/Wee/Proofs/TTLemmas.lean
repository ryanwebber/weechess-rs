import Wee.Model.TT
import Wee.Proofs.ListLemmas
/-!
# Transposition table lemmas (bucket, table and access level) for property C15

Everything at bucket level is generic in the bucket length (`≥ 1` where needed); the table and access
level invariants carry the bucket length `L` as a parameter and are instantiated at `Gen.bucketSize`.

Bucket: every `insertB` overwrites one slot, `A ++ s :: B` becomes `A ++ some (k, e) :: B` (`insertB_eq`, from
`scan_cases`), where `s` is the first empty slot, the slot of `k`, or the slot at `(k ^^^ mv) % length` of a full bucket
without `k`.  `keys` and `findB` distribute over `++`, which gives what overwriting one slot does to them and to the
invariant.  Table and access level (`TInv`, `AInv`) carry this through `List.set` at one position: an insert changes
one bucket, and the `find`-after-`insert` lemmas and the counters follow.
-/
namespace Wee.TT

/-! ## Bucket level -/

/-- keys stored in a bucket, left to right -/
def keys : List Slot → List Nat
  | [] => []
  | none :: rest => keys rest
  | some (k, _) :: rest => k :: keys rest

/-- occupied slots form a prefix (recursive form) -/
def Prefix : List Slot → Prop
  | [] => True
  | none :: rest => rest.all (· == none) = true
  | some _ :: rest => Prefix rest

/-- bucket invariant: occupied prefix and no key stored twice -/
def Inv (b : List Slot) : Prop := Prefix b ∧ (keys b).Nodup

/-- every slot occupied -/
def Full (b : List Slot) : Prop := ∀ s ∈ b, s ≠ none

theorem keys_eq_filterMap (b : List Slot) : keys b = b.filterMap (·.map Prod.fst) := by
  induction b with
  | nil => rfl
  | cons s rest ih => rcases s with _ | ⟨k, e⟩ <;> simp [keys, ih]

theorem keys_append (A B : List Slot) : keys (A ++ B) = keys A ++ keys B := by
  simp [keys_eq_filterMap]

theorem findB_append (A B : List Slot) (k : Nat) :
    findB (A ++ B) k = (findB A k).or (findB B k) := by
  induction A with
  | nil => rfl
  | cons s A ih =>
    rcases s with _ | ⟨k', x⟩
    · exact ih
    · by_cases h : k' = k <;> simp [findB, h, ih]

theorem findB_eq_none_iff {b : List Slot} {k : Nat} : findB b k = none ↔ k ∉ keys b := by
  induction b with
  | nil => simp [findB, keys]
  | cons s b ih =>
    rcases s with _ | ⟨k', x⟩
    · simpa [findB, keys] using ih
    · by_cases h : k' = k
      · simp [findB, keys, h]
      · simp [findB, keys, h, ih, Ne.symm h]

theorem findB_none_of_not_mem {b : List Slot} {k : Nat} (h : k ∉ keys b) : findB b k = none :=
  findB_eq_none_iff.2 h

theorem mem_keys_of_findB {b : List Slot} {k : Nat} {e : Entry} (h : findB b k = some e) :
    k ∈ keys b := by
  apply Classical.byContradiction
  intro hn
  rw [findB_none_of_not_mem hn] at h
  cases h

/-- a found entry is stored in the bucket -/
theorem mem_of_findB {b : List Slot} {k : Nat} {e : Entry} (h : findB b k = some e) : some (k, e) ∈ b := by
  induction b with
  | nil => cases h
  | cons s rest ih =>
    cases s with
    | none => exact List.mem_cons_of_mem _ (ih (by simpa [findB] using h))
    | some p =>
      obtain ⟨k', e'⟩ := p
      by_cases hk : k' = k
      · subst hk
        simp [findB] at h
        subst h
        exact List.mem_cons_self
      · simp only [findB, if_neg hk] at h
        exact List.mem_cons_of_mem _ (ih h)

theorem findB_some_of_mem {b : List Slot} {k : Nat} (h : k ∈ keys b) :
    ∃ e, findB b k = some e :=
  Option.ne_none_iff_exists'.1 fun hn => findB_eq_none_iff.1 hn h

theorem keys_all_none {b : List Slot} (h : b.all (· == none) = true) : keys b = [] := by
  rw [keys_eq_filterMap, List.filterMap_eq_nil_iff]
  intro s hs
  have := List.all_eq_true.1 h s hs
  simp at this; simp [this]

theorem prefix_all_none {b : List Slot} (h : b.all (· == none) = true) : Prefix b := by
  cases b with
  | nil => trivial
  | cons s t =>
    simp at h
    obtain ⟨h1, h2⟩ := h
    subst h1
    show t.all (· == none) = true
    simpa using h2

theorem Full.prefix_append {A : List Slot} (hf : Full A) (X : List Slot) : Prefix (A ++ X) ↔ Prefix X := by
  induction A with
  | nil => rfl
  | cons s A ih =>
    cases s with
    | none => exact absurd rfl (hf none (by simp))
    | some p => exact ih (fun s hs => hf s (List.mem_cons_of_mem _ hs))

theorem Full.prefix {b : List Slot} (hf : Full b) : Prefix b := by
  have := (hf.prefix_append []).2 trivial
  rwa [List.append_nil] at this

theorem keys_length_le (b : List Slot) : (keys b).length ≤ b.length := by
  rw [keys_eq_filterMap]; exact List.length_filterMap_le _ _

theorem keys_length_eq_countP (b : List Slot) :
    (keys b).length = b.countP (fun s => s.isSome) := by
  rw [keys_eq_filterMap, List.length_filterMap_eq_countP]; simp

theorem Full.keys_length {b : List Slot} (hf : Full b) : (keys b).length = b.length := by
  rw [keys_length_eq_countP, List.countP_eq_length]
  exact fun s hs => Option.isSome_iff_ne_none.2 (hf s hs)

theorem mem_keys_of_mem {b : List Slot} {k : Nat} {x : Entry} (h : some (k, x) ∈ b) :
    k ∈ keys b := by
  rw [keys_eq_filterMap]; exact List.mem_filterMap.2 ⟨_, h, rfl⟩

/-! ### one slot overwritten: `A ++ s :: B` becomes `A ++ some (k, e) :: B` -/

/-- the inserted key is found with the new entry -/
theorem findB_upd_self {A B : List Slot} {k : Nat} (e : Entry) (h : k ∉ keys A) :
    findB (A ++ some (k, e) :: B) k = some e := by
  rw [findB_append, findB_eq_none_iff.2 h]; simp [findB]

/-- a key that the overwritten slot did not hold is found as before -/
theorem findB_upd_frame {A B : List Slot} {s : Slot} {k k' : Nat} (e : Entry) (hk : k' ≠ k)
    (hs : ∀ x, s ≠ some (k', x)) :
    findB (A ++ some (k, e) :: B) k' = findB (A ++ s :: B) k' := by
  rw [findB_append, findB_append]; congr 1
  rcases s with _ | ⟨k0, x⟩
  · simp [findB, Ne.symm hk]
  · have : k0 ≠ k' := fun h => hs x (by rw [h])
    simp [findB, Ne.symm hk, this]

/-- the key of the overwritten slot, if another one, is not found any more -/
theorem findB_upd_displaced {A B : List Slot} {k k' : Nat} {x : Entry} (e : Entry)
    (hnd : (keys (A ++ some (k', x) :: B)).Nodup) (hk : k' ≠ k) :
    findB (A ++ some (k, e) :: B) k' = none := by
  have := (List.perm_middle.nodup_iff.1 (by simpa [keys_append, keys] using hnd))
  rw [findB_eq_none_iff]
  simpa [keys_append, keys, hk] using (List.nodup_cons.1 this).1

/-- the scan either fails, on a full bucket without `k`, or overwrites the first slot `s` that is empty or holds `k` -/
theorem scan_cases (b : List Slot) (k : Nat) (e : Entry) :
    (scan b k e = none ∧ Full b ∧ k ∉ keys b) ∨
    ∃ A s B, b = A ++ s :: B ∧ scan b k e = some (A ++ some (k, e) :: B, s.isNone) ∧ Full A ∧ k ∉ keys A ∧
      (s = none ∨ ∃ x, s = some (k, x)) := by
  induction b with
  | nil => exact .inl ⟨rfl, nofun, nofun⟩
  | cons s b ih =>
    rcases s with _ | ⟨k0, x⟩
    · exact .inr ⟨[], none, b, rfl, rfl, nofun, nofun, .inl rfl⟩
    · by_cases hk : k0 = k
      · exact .inr ⟨[], _, b, rfl, by simp [scan, hk], nofun, nofun, .inr ⟨x, by rw [hk]⟩⟩
      · have hc : ∀ {A : List Slot}, Full A → Full (some (k0, x) :: A) := fun hf t ht => by
          rcases List.mem_cons.1 ht with rfl | ht
          · simp
          · exact hf t ht
        rcases ih with ⟨hs, hf, hn⟩ | ⟨A, s, B, rfl, hs, hf, hn, ho⟩
        · exact .inl ⟨by simp [scan, hk, hs], hc hf, by simp [keys, Ne.symm hk, hn]⟩
        · exact .inr ⟨some (k0, x) :: A, s, B, rfl, by simp [scan, hk, hs], hc hf,
            by simp [keys, Ne.symm hk, hn], ho⟩

/-- the written slot is the only one that can hold `k` -/
theorem not_mem_keys_right {A B : List Slot} {s : Slot} {k : Nat} (hinv : Inv (A ++ s :: B)) (hf : Full A)
    (ho : s = none ∨ (∃ x, s = some (k, x)) ∨ k ∉ keys (A ++ s :: B)) : k ∉ keys B := by
  rcases ho with rfl | ⟨x, rfl⟩ | h
  · rw [keys_all_none ((hf.prefix_append _).1 hinv.1)]; nofun
  · have := hinv.2
    rw [keys_append, keys, List.perm_middle.nodup_iff] at this
    exact fun h => (List.nodup_cons.1 this).1 (List.mem_append_right _ h)
  · exact fun hB => h (by rw [keys_append]; rcases s with _ | ⟨k0, x⟩ <;> simp [keys, hB])

theorem inv_upd {A B : List Slot} {s : Slot} {k : Nat} (e : Entry) (hinv : Inv (A ++ s :: B)) (hf : Full A)
    (hA : k ∉ keys A) (hB : k ∉ keys B) : Inv (A ++ some (k, e) :: B) := by
  refine ⟨(hf.prefix_append _).2 ?_, ?_⟩
  · have := (hf.prefix_append _).1 hinv.1
    cases s with
    | none => exact prefix_all_none (b := B) this
    | some p => exact this
  · have := hinv.2
    rw [keys_append, keys, List.perm_middle.nodup_iff, List.nodup_cons]
    refine ⟨by simp [hA, hB], ?_⟩
    rcases s with _ | ⟨k0, x⟩
    · simpa [keys_append, keys] using this
    · rw [keys_append, keys, List.perm_middle.nodup_iff] at this
      exact (List.nodup_cons.1 this).2

/-- scan success: result invariant, find of the inserted key, and exact frame for the other keys (no user here:
`insertB_spec` goes through `insertB_eq`) -/
theorem scan_spec (b : List Slot) (k : Nat) (e : Entry) (hinv : Inv b) :
    ∀ r i, scan b k e = some (r, i) →
      Inv r ∧ r.length = b.length ∧ findB r k = some e ∧
      (∀ k', k' ≠ k → findB r k' = findB b k') ∧
      (i = true → k ∉ keys b ∧ (keys r).length = (keys b).length + 1) ∧
      (i = false → (keys r).length = (keys b).length) := by
  intro r i h
  rcases scan_cases b k e with ⟨hs, -⟩ | ⟨A, s, B, rfl, hs, hf, hA, ho⟩
  · rw [hs] at h; cases h
  rw [hs] at h
  obtain ⟨rfl, rfl⟩ := Prod.mk.inj (Option.some.inj h)
  have hB := not_mem_keys_right hinv hf (ho.imp_right .inl)
  refine ⟨inv_upd e hinv hf hA hB, by simp, findB_upd_self e hA,
    fun k' hk' => findB_upd_frame e hk' ?_, ?_, ?_⟩ <;> rcases ho with rfl | ⟨y, rfl⟩
  · nofun
  · intro x hs; cases hs; exact hk' rfl
  · intro _; simp [keys_append, keys, hA, hB, Nat.add_assoc]
  · nofun
  · nofun
  · intro _; simp [keys_append, keys]

/-! ### readable forms of the two clauses of `Inv` (`Prefix`, no key twice) -/

theorem eq_replicate_of_all_none {b : List Slot} (h : b.all (· == none) = true) :
    b = List.replicate b.length none := by
  rw [List.eq_replicate_iff]
  refine ⟨rfl, ?_⟩
  intro s hs
  have := List.all_eq_true.1 h s hs
  simpa using this

/-- `Prefix` says: some occupied slots followed only by empty slots -/
theorem Prefix.exists_eq {b : List Slot} (h : Prefix b) :
    ∃ (l : List (Nat × Entry)) (n : Nat), b = l.map some ++ List.replicate n none := by
  induction b with
  | nil => exact ⟨[], 0, rfl⟩
  | cons s rest ih =>
    cases s with
    | none =>
      have hall : rest.all (· == none) = true := h
      refine ⟨[], rest.length + 1, ?_⟩
      rw [List.replicate_succ, ← eq_replicate_of_all_none hall]
      rfl
    | some p =>
      obtain ⟨l, n, hl⟩ := ih h
      exact ⟨p :: l, n, by rw [hl]; rfl⟩

theorem Prefix.of_eq (l : List (Nat × Entry)) (n : Nat) :
    Prefix (l.map some ++ List.replicate n none) := by
  induction l with
  | nil => exact prefix_all_none (by simp)
  | cons p l ih => exact ih

/-- no key is stored in two different slots -/
theorem nodup_keys_index {b : List Slot} (h : (keys b).Nodup) :
    ∀ (i j k : Nat) (x y : Entry),
      b[i]? = some (some (k, x)) → b[j]? = some (some (k, y)) → i = j := by
  rw [keys_eq_filterMap, List.Nodup, List.pairwise_filterMap, List.pairwise_iff_getElem] at h
  intro i j k x y hi hj
  obtain ⟨hi', hi⟩ := List.getElem?_eq_some_iff.1 hi
  obtain ⟨hj', hj⟩ := List.getElem?_eq_some_iff.1 hj
  rcases Nat.lt_trichotomy i j with hlt | rfl | hlt
  · exact absurd rfl (h i j hi' hj' hlt k (by simp [hi]) k (by simp [hj]))
  · rfl
  · exact absurd rfl (h j i hj' hi' hlt k (by simp [hj]) k (by simp [hi]))

/-! ### `insertB` -/

theorem insertB_of_scan {b : List Slot} {k : Nat} {e : Entry} {r : List Slot × Bool}
    (h : scan b k e = some r) : insertB b k e = r := by
  simp [insertB, h]

theorem insertB_of_none {b : List Slot} {k : Nat} {e : Entry} (h : scan b k e = none) :
    insertB b k e = (b.set ((k ^^^ e.mv) % b.length) (some (k, e)), false) := by
  simp [insertB, h]

/-- `insert_or_replace` keeps the number of slots, of any bucket -/
theorem insertB_length (b : List Slot) (k : Nat) (e : Entry) : (insertB b k e).1.length = b.length := by
  rcases scan_cases b k e with ⟨hs, -⟩ | ⟨A, s, B, rfl, hs, -⟩
  · rw [insertB_of_none hs]; simp
  · rw [insertB_of_scan hs]; simp

/-- `insert_or_replace` overwrites exactly one slot `s` with `(k, e)`.  The slots before it are occupied by other
keys, and `s` is the first empty slot, or the slot of `k`, or (full bucket without `k`) the slot at the replacement
index. -/
theorem insertB_eq (b : List Slot) (hlen : 0 < b.length) (k : Nat) (e : Entry) :
    ∃ A s B, b = A ++ s :: B ∧ insertB b k e = (A ++ some (k, e) :: B, s.isNone) ∧ Full A ∧ k ∉ keys A ∧
      (s = none ∨ (∃ x, s = some (k, x)) ∨
        Full b ∧ k ∉ keys b ∧ A.length = (k ^^^ e.mv) % b.length) := by
  rcases scan_cases b k e with ⟨hs, hf, hk⟩ | ⟨A, s, B, rfl, hs, hf, hn, ho⟩
  · have hi : (k ^^^ e.mv) % b.length < b.length := Nat.mod_lt _ hlen
    refine ⟨b.take ((k ^^^ e.mv) % b.length), b[(k ^^^ e.mv) % b.length], b.drop ((k ^^^ e.mv) % b.length + 1),
      by simp, ?_, fun t ht => hf t (List.mem_of_mem_take ht), fun h => ?_, .inr (.inr ⟨hf, hk, by simp; omega⟩)⟩
    · rw [insertB_of_none hs, List.set_eq_take_append_cons_drop, if_pos hi]
      cases hb : b[(k ^^^ e.mv) % b.length] with
      | none => exact absurd hb (hf _ (List.getElem_mem hi))
      | some _ => rfl
    · rw [← List.take_append_drop ((k ^^^ e.mv) % b.length) b, keys_append] at hk
      exact hk (List.mem_append_left _ h)
  · exact ⟨A, s, B, rfl, insertB_of_scan hs, hf, hn, ho.imp_right .inl⟩

/-- the slots after an insert are the old ones and the inserted one -/
theorem mem_insertB (b : List Slot) (k : Nat) (e : Entry) :
    ∀ s ∈ (insertB b k e).1, s ∈ b ∨ s = some (k, e) := by
  cases b with
  | nil => nofun
  | cons s0 b0 =>
    obtain ⟨A, s, B, hb, hr, -⟩ := insertB_eq (s0 :: b0) (Nat.succ_pos _) k e
    rw [hr, hb]
    intro t ht
    simp only [List.mem_append, List.mem_cons] at ht ⊢
    rcases ht with h | h | h <;> simp [h]

/-- the invariant is kept, the inserted key is found with the new entry, every other key is either found unchanged or
not at all, the number of occupied slots grows by one exactly when the result is `Inserted`, and no key other than
the inserted one appears -/
theorem insertB_spec (b : List Slot) (hlen : 0 < b.length) (hinv : Inv b) (k : Nat) (e : Entry) :
    Inv (insertB b k e).1 ∧ (insertB b k e).1.length = b.length ∧
    findB (insertB b k e).1 k = some e ∧
    (∀ k', k' ≠ k →
      findB (insertB b k e).1 k' = none ∨ findB (insertB b k e).1 k' = findB b k') ∧
    (keys (insertB b k e).1).length = (keys b).length + (if (insertB b k e).2 then 1 else 0) ∧
    (∀ k', k' ∈ keys (insertB b k e).1 → k' = k ∨ k' ∈ keys b) := by
  obtain ⟨A, s, B, rfl, hr, hf, hA, ho⟩ := insertB_eq b hlen k e
  have hB := not_mem_keys_right hinv hf (ho.imp_right (.imp_right (·.2.1)))
  rw [hr]
  refine ⟨inv_upd e hinv hf hA hB, by simp, findB_upd_self e hA, fun k' hk' => ?_, ?_, fun k' => ?_⟩
  · by_cases hs : ∃ x, s = some (k', x)
    · obtain ⟨x, rfl⟩ := hs
      exact .inl (findB_upd_displaced e hinv.2 hk')
    · exact .inr (findB_upd_frame e hk' (fun x h => hs ⟨x, h⟩))
  · rcases s with _ | ⟨k0, x⟩ <;> simp [keys_append, keys] <;> omega
  · rcases s with _ | ⟨k0, x⟩ <;> simp only [keys_append, keys, List.mem_append, List.mem_cons] <;>
      rintro (h | h | h) <;> simp [h]

/-- exact frame: a key different from the inserted one keeps its entry unless the scan failed
(bucket full, inserted key absent) and the replacement index is its slot -/
theorem insertB_frame (b : List Slot) (hlen : 0 < b.length) (k : Nat) (e : Entry)
    (k' : Nat) (hk' : k' ≠ k)
    (hnd : Full b → k ∉ keys b → ∀ x, b[(k ^^^ e.mv) % b.length]? ≠ some (some (k', x))) :
    findB (insertB b k e).1 k' = findB b k' := by
  obtain ⟨A, s, B, rfl, hr, hf, hA, ho⟩ := insertB_eq b hlen k e
  rw [hr]
  refine findB_upd_frame e hk' fun x hs => ?_
  rcases ho with rfl | ⟨y, rfl⟩ | ⟨hF, hK, hl⟩
  · cases hs
  · cases hs; exact hk' rfl
  · exact hnd hF hK x (by rw [← hl, hs]; simp)

theorem insertB_displaced (b : List Slot) (hlen : 0 < b.length) (hinv : Inv b) (k : Nat)
    (e : Entry) (k' : Nat) (x : Entry) (hF : Full b) (hK : k ∉ keys b)
    (hx : b[(k ^^^ e.mv) % b.length]? = some (some (k', x))) :
    findB (insertB b k e).1 k' = none := by
  obtain ⟨A, s, B, rfl, hr, hf, hA, ho⟩ := insertB_eq b hlen k e
  rw [hr]
  rcases ho with rfl | ⟨y, rfl⟩ | ⟨_, _, hl⟩
  · exact absurd rfl (hF none (by simp))
  · exact absurd (mem_keys_of_mem (x := y) (by simp)) hK
  · rw [← hl] at hx
    obtain rfl : s = some (k', x) := by simpa using hx
    exact findB_upd_displaced e hinv.2 fun h => hK (h ▸ mem_keys_of_mem (x := x) (by simp))

/-! ## Generic list helpers -/

theorem getD_replicate {α : Type} (n i : Nat) (v d : α) (h : i < n) :
    (List.replicate n v).getD i d = v := by
  simp [List.getD_eq_getElem?_getD, h]

/-- a property of the entries of a list, indexed by position, survives `set` -/
theorem getD_set_of {α : Type} {P : Nat → α → Prop} {l : List α} {d : α} {i : Nat} {v : α}
    (hi : i < l.length) (hv : P i v) {j : Nat} (hj : P j (l.getD j d)) : P j ((l.set i v).getD j d) := by
  by_cases h : i = j
  · subst h; rwa [getD_set_self _ _ _ _ hi]
  · rwa [getD_set_ne _ _ _ h]

theorem sum_map_le {α : Type} (f : α → Nat) (c : Nat) (l : List α) (h : ∀ x ∈ l, f x ≤ c) :
    (l.map f).sum ≤ l.length * c := by
  induction l with
  | nil => simp
  | cons a t ih =>
    have h1 := h a (by simp)
    have h2 := ih (fun x hx => h x (List.mem_cons_of_mem _ hx))
    simp [Nat.succ_mul]
    omega

theorem forall_mem_of_getD {α : Type} {P : α → Prop} (l : List α) (d : α)
    (h : ∀ i, i < l.length → P (l.getD i d)) : ∀ x ∈ l, P x := by
  intro x hx
  obtain ⟨i, hi, rfl⟩ := List.getElem_of_mem hx
  have := h i hi
  simpa [List.getD_eq_getElem?_getD, hi] using this

/-! ## Table level -/

theorem Table.insert_eq (t : Table) (k : Nat) (e : Entry) :
    t.insert k e =
      { buckets := t.buckets.set (k % t.buckets.length)
          (insertB (t.buckets.getD (k % t.buckets.length) []) k e).1,
        used := if (insertB (t.buckets.getD (k % t.buckets.length) []) k e).2
          then t.used + 1 else t.used } := rfl

/-- invariant of sub-table number `ti` of an access layer with `nT` tables of `nB` buckets of
length `L` -/
structure TInv (L nT nB ti : Nat) (t : Table) : Prop where
  len : t.buckets.length = nB
  blen : ∀ j, j < nB → (t.buckets.getD j []).length = L
  inv : ∀ j, j < nB → Inv (t.buckets.getD j [])
  route : ∀ j, j < nB → ∀ k, k ∈ keys (t.buckets.getD j []) → k % nT = ti ∧ k % nB = j
  used : t.used = (t.buckets.map fun b => (keys b).length).sum

theorem TInv.insert {L nT nB ti : Nat} {t : Table} (h : TInv L nT nB ti t) (hL : 0 < L)
    (hB : 0 < nB) (k : Nat) (e : Entry) (hk : k % nT = ti) :
    TInv L nT nB ti (t.insert k e) := by
  rw [Table.insert_eq, h.len]
  have hi : k % nB < nB := Nat.mod_lt _ hB
  have hil : k % nB < t.buckets.length := by rw [h.len]; exact hi
  obtain ⟨s1, s2, -, -, s5, s6⟩ :=
    insertB_spec _ (by rw [h.blen _ hi]; exact hL) (h.inv _ hi) k e
  refine ⟨by simp [h.len], fun j hj => ?_, fun j hj => ?_, fun j hj => ?_, ?_⟩
  · exact getD_set_of (P := fun _ b => b.length = L) hil (s2.trans (h.blen _ hi)) (h.blen j hj)
  · exact getD_set_of (P := fun _ b => Inv b) hil s1 (h.inv j hj)
  · refine getD_set_of (P := fun j b => ∀ k ∈ keys b, k % nT = ti ∧ k % nB = j) hil ?_ (h.route j hj)
    intro k' hm
    rcases s6 k' hm with rfl | hm'
    · exact ⟨hk, rfl⟩
    · exact h.route _ hi k' hm'
  · show (if _ then t.used + 1 else t.used) = _
    rw [sum_map_set _ [] hil s5, ← h.used]
    split <;> rfl

theorem Table.find_eq (t : Table) (k : Nat) :
    t.find k = findB (t.buckets.getD (k % t.buckets.length) []) k := rfl

/-! ## Access level -/

theorem Access.insert_eq (a : Access) (k : Nat) (e : Entry) :
    a.insert k e =
      { tables := a.tables.set (k % a.tables.length)
          ((a.tables.getD (k % a.tables.length) default).insert k e) } := rfl

/-- the bucket `j` of sub-table `i` -/
def Access.bucketAt (a : Access) (i j : Nat) : List Slot :=
  (a.tables.getD i default).buckets.getD j []

/-- reachable-state invariant of the access layer: `nT` sub-tables, each satisfying `TInv` -/
structure AInv (L nT nB : Nat) (a : Access) : Prop where
  len : a.tables.length = nT
  tinv : ∀ i, i < nT → TInv L nT nB i (a.tables.getD i default)

theorem keys_replicate_none (n : Nat) : keys (List.replicate n none) = [] :=
  keys_all_none (by simp)

theorem AInv.new (nT nB : Nat) : AInv Gen.bucketSize nT nB (Access.new nT nB) := by
  refine ⟨by simp [Access.new], ?_⟩
  intro i hi
  have ht : (Access.new nT nB).tables.getD i default = Table.withBucketCount nB := by
    simp only [Access.new, getD_replicate _ _ _ _ hi]
  rw [ht]
  refine ⟨by simp [Table.withBucketCount], ?_, ?_, ?_, ?_⟩
  · intro j hj; simp only [Table.withBucketCount, getD_replicate _ _ _ _ hj, List.length_replicate]
  · intro j hj
    simp only [Table.withBucketCount, getD_replicate _ _ _ _ hj]
    refine ⟨prefix_all_none (by simp), ?_⟩
    rw [keys_replicate_none]; exact List.nodup_nil
  · intro j hj k hm
    simp only [Table.withBucketCount, getD_replicate _ _ _ _ hj, keys_replicate_none] at hm
    cases hm
  · simp [Table.withBucketCount, keys_replicate_none]

theorem AInv.insert {L nT nB : Nat} {a : Access} (h : AInv L nT nB a) (hL : 0 < L) (hT : 0 < nT)
    (hB : 0 < nB) (k : Nat) (e : Entry) : AInv L nT nB (a.insert k e) := by
  rw [Access.insert_eq, h.len]
  have hi : k % nT < nT := Nat.mod_lt _ hT
  exact ⟨by simp [h.len], fun i hi' => getD_set_of (P := TInv L nT nB) (by rw [h.len]; exact hi)
    ((h.tinv _ hi).insert hL hB k e rfl) (h.tinv i hi')⟩

theorem AInv.find_eq {L nT nB : Nat} {a : Access} (h : AInv L nT nB a) (hT : 0 < nT) (k : Nat) :
    a.find k = findB (a.bucketAt (k % nT) (k % nB)) k := by
  unfold Access.find Access.bucketAt
  rw [Table.find_eq, h.len, (h.tinv _ (Nat.mod_lt _ hT)).len]

theorem AInv.bucketAt_insert {L nT nB : Nat} {a : Access} (h : AInv L nT nB a) (hT : 0 < nT)
    (hB : 0 < nB) (k : Nat) (e : Entry) (i j : Nat) :
    (a.insert k e).bucketAt i j =
      if i = k % nT ∧ j = k % nB then (insertB (a.bucketAt i j) k e).1 else a.bucketAt i j := by
  have hi : k % nT < nT := Nat.mod_lt _ hT
  have hil : k % nT < a.tables.length := by rw [h.len]; exact hi
  have hj : k % nB < nB := Nat.mod_lt _ hB
  have hlen := (h.tinv _ hi).len
  unfold Access.bucketAt
  rw [Access.insert_eq, h.len]
  by_cases hii : k % nT = i
  · subst hii
    simp only [getD_set_self _ _ _ _ hil, Table.insert_eq, hlen, true_and]
    by_cases hjj : k % nB = j
    · subst hjj
      rw [getD_set_self _ _ _ _ (by rw [hlen]; exact hj)]
      simp
    · rw [getD_set_ne _ _ _ hjj]
      simp [Ne.symm hjj]
  · simp only [getD_set_ne _ _ _ hii]
    simp [Ne.symm hii]

theorem AInv.bucket_inv {L nT nB : Nat} {a : Access} (h : AInv L nT nB a) {i j : Nat}
    (hi : i < nT) (hj : j < nB) : Inv (a.bucketAt i j) ∧ (a.bucketAt i j).length = L :=
  ⟨(h.tinv i hi).inv j hj, (h.tinv i hi).blen j hj⟩

/-- a key is found right after its insertion, with the inserted entry -/
theorem AInv.find_insert_self {L nT nB : Nat} {a : Access} (h : AInv L nT nB a) (hL : 0 < L)
    (hT : 0 < nT) (hB : 0 < nB) (k : Nat) (e : Entry) : (a.insert k e).find k = some e := by
  rw [(h.insert hL hT hB k e).find_eq hT, h.bucketAt_insert hT hB, if_pos ⟨rfl, rfl⟩]
  obtain ⟨hinv, hlen⟩ := h.bucket_inv (Nat.mod_lt k hT) (Nat.mod_lt k hB)
  exact (insertB_spec _ (by omega) hinv k e).2.2.1

/-- an insert never makes another key return anything but its previous entry (or nothing) -/
theorem AInv.find_insert_other {L nT nB : Nat} {a : Access} (h : AInv L nT nB a) (hL : 0 < L)
    (hT : 0 < nT) (hB : 0 < nB) (k : Nat) (e : Entry) (k' : Nat) (hne : k' ≠ k) :
    (a.insert k e).find k' = none ∨ (a.insert k e).find k' = a.find k' := by
  rw [(h.insert hL hT hB k e).find_eq hT, h.find_eq hT, h.bucketAt_insert hT hB]
  split
  · rename_i hij
    rw [hij.1, hij.2]
    obtain ⟨hinv, hlen⟩ := h.bucket_inv (Nat.mod_lt k hT) (Nat.mod_lt k hB)
    exact (insertB_spec _ (by omega) hinv k e).2.2.2.1 k' hne
  · exact Or.inr rfl

/-- what a `find` after an insert can return: under the inserted key the inserted entry, under any other key what
was found there before -/
theorem AInv.find_insert_some {L nT nB : Nat} {a : Access} (h : AInv L nT nB a) (hL : 0 < L) (hT : 0 < nT)
    (hB : 0 < nB) {k k' : Nat} {e x : Entry} (hf : (a.insert k e).find k' = some x) :
    (k' = k ∧ x = e) ∨ (k' ≠ k ∧ a.find k' = some x) := by
  by_cases hk : k' = k
  · subst hk
    rw [h.find_insert_self hL hT hB] at hf
    exact Or.inl ⟨rfl, (Option.some.inj hf).symm⟩
  · rcases h.find_insert_other hL hT hB k e k' hk with h1 | h1
    · rw [h1] at hf; cases hf
    · rw [h1] at hf; exact Or.inr ⟨hk, hf⟩

/-- exact frame: `k'` keeps its entry unless the insert of `(k, e)` goes to the same bucket, finds
it full without `k`, and the replacement index is the slot of `k'` -/
theorem AInv.find_insert_frame {L nT nB : Nat} {a : Access} (h : AInv L nT nB a) (hL : 0 < L)
    (hT : 0 < nT) (hB : 0 < nB) (k : Nat) (e : Entry) (k' : Nat) (hne : k' ≠ k)
    (hnd : k % nT = k' % nT → k % nB = k' % nB → Full (a.bucketAt (k' % nT) (k' % nB)) →
      k ∉ keys (a.bucketAt (k' % nT) (k' % nB)) →
      ∀ x, (a.bucketAt (k' % nT) (k' % nB))[(k ^^^ e.mv) % L]? ≠ some (some (k', x))) :
    (a.insert k e).find k' = a.find k' := by
  rw [(h.insert hL hT hB k e).find_eq hT, h.find_eq hT, h.bucketAt_insert hT hB]
  split
  · rename_i hij
    obtain ⟨hinv, hlen⟩ := h.bucket_inv (Nat.mod_lt k' hT) (Nat.mod_lt k' hB)
    refine insertB_frame _ (by omega) k e k' hne fun hf hk => ?_
    rw [hlen]
    exact hnd hij.1.symm hij.2.symm hf hk
  · rfl

theorem AInv.find_insert_displaced {L nT nB : Nat} {a : Access} (h : AInv L nT nB a)
    (hL : 0 < L) (hT : 0 < nT) (hB : 0 < nB) (k : Nat) (e : Entry) (k' : Nat) (x : Entry)
    (h1 : k % nT = k' % nT) (h2 : k % nB = k' % nB)
    (hf : Full (a.bucketAt (k' % nT) (k' % nB)))
    (hk : k ∉ keys (a.bucketAt (k' % nT) (k' % nB)))
    (hx : (a.bucketAt (k' % nT) (k' % nB))[(k ^^^ e.mv) % L]? = some (some (k', x))) :
    (a.insert k e).find k' = none := by
  rw [(h.insert hL hT hB k e).find_eq hT, h.bucketAt_insert hT hB, if_pos ⟨h1.symm, h2.symm⟩]
  obtain ⟨hinv, hlen⟩ := h.bucket_inv (Nat.mod_lt k' hT) (Nat.mod_lt k' hB)
  exact insertB_displaced _ (by omega) hinv k e k' x hf hk (by rw [hlen]; exact hx)

/-- inserts never touch the finds of another bucket (no user here: the frame in use is `AInv.find_insert_frame`) -/
theorem AInv.find_insert_other_bucket {L nT nB : Nat} {a : Access} (h : AInv L nT nB a)
    (hL : 0 < L) (hT : 0 < nT) (hB : 0 < nB) (k : Nat) (e : Entry) (k' : Nat)
    (hne : ¬ (k' % nT = k % nT ∧ k' % nB = k % nB)) :
    (a.insert k e).find k' = a.find k' := by
  rw [(h.insert hL hT hB k e).find_eq hT, h.find_eq hT, h.bucketAt_insert hT hB, if_neg hne]

/-- a key is found exactly when it is stored in the bucket it routes to -/
theorem AInv.find_eq_none_iff {L nT nB : Nat} {a : Access} (h : AInv L nT nB a) (hT : 0 < nT)
    (k : Nat) : a.find k = none ↔ k ∉ keys (a.bucketAt (k % nT) (k % nB)) := by
  rw [h.find_eq hT]; exact findB_eq_none_iff

theorem findB_replicate_none (n k : Nat) : findB (List.replicate n none) k = none :=
  findB_none_of_not_mem (by simp [keys_replicate_none])

theorem Access.new_find {nT nB : Nat} (hT : 0 < nT) (hB : 0 < nB) (k : Nat) :
    (Access.new nT nB).find k = none := by
  rw [(AInv.new nT nB).find_eq hT]
  unfold Access.bucketAt
  simp only [Access.new, Table.withBucketCount, getD_replicate _ _ _ _ (Nat.mod_lt k hT),
    getD_replicate _ _ _ _ (Nat.mod_lt k hB)]
  exact findB_replicate_none _ _

/-- a find on one sub-table is not affected by an insert into another sub-table -/
theorem Access.find_insert_of_ne_table (a : Access) (k1 k2 : Nat) (e1 : Entry)
    (hne : k1 % a.tables.length ≠ k2 % a.tables.length) :
    (a.insert k1 e1).find k2 = a.find k2 := by
  simp only [Access.insert_eq, Access.find, List.length_set]
  rw [getD_set_ne _ _ _ hne]

/-! ### counting -/

theorem AInv.tinv_mem {L nT nB : Nat} {a : Access} (h : AInv L nT nB a) :
    ∀ t ∈ a.tables, ∃ i, TInv L nT nB i t :=
  forall_mem_of_getD a.tables default fun i hi => ⟨i, h.tinv i (h.len ▸ hi)⟩

theorem AInv.entries_eq {L nT nB : Nat} {a : Access} (h : AInv L nT nB a) :
    a.entries =
      (a.tables.map fun t => (t.buckets.map fun b => b.countP (fun s => s.isSome)).sum).sum := by
  unfold Access.entries
  congr 1
  apply List.map_congr_left
  intro t ht
  obtain ⟨i, hti⟩ := h.tinv_mem t ht
  rw [Table.entries, hti.used]
  congr 1
  exact List.map_congr_left fun b _ => keys_length_eq_countP b

theorem AInv.maxEntries_eq {L nT nB : Nat} {a : Access} (h : AInv L nT nB a) :
    a.maxEntries = nT * nB * Gen.bucketSize := by
  unfold Access.maxEntries
  have : a.tables.map Table.maxEntries = List.replicate nT (nB * Gen.bucketSize) := by
    rw [List.eq_replicate_iff]
    refine ⟨by simp [h.len], ?_⟩
    intro m hm
    obtain ⟨t, ht, rfl⟩ := List.mem_map.1 hm
    obtain ⟨i, hti⟩ := h.tinv_mem t ht
    rw [Table.maxEntries, hti.len]
  rw [this, List.sum_replicate_nat, Nat.mul_assoc]

theorem AInv.entries_le {L nT nB : Nat} {a : Access} (h : AInv L nT nB a) :
    a.entries ≤ nT * nB * L := by
  unfold Access.entries
  have := sum_map_le Table.entries (nB * L) a.tables (by
    intro t ht
    obtain ⟨i, hti⟩ := h.tinv_mem t ht
    rw [Table.entries, hti.used, ← hti.len]
    apply sum_map_le
    refine forall_mem_of_getD _ [] fun j hj => ?_
    rw [hti.len] at hj
    rw [← hti.blen j hj]
    exact keys_length_le _)
  rw [h.len, ← Nat.mul_assoc] at this
  exact this

/-! ### inserts into different sub-tables commute (a find and such an insert: `Access.find_insert_of_ne_table`) -/

theorem Access.insert_comm (a : Access) (k1 k2 : Nat) (e1 e2 : Entry)
    (hne : k1 % a.tables.length ≠ k2 % a.tables.length) :
    (a.insert k1 e1).insert k2 e2 = (a.insert k2 e2).insert k1 e1 := by
  simp only [Access.insert_eq, List.length_set]
  rw [getD_set_ne _ _ _ hne, getD_set_ne _ _ _ (Ne.symm hne), List.set_comm _ _ hne]

/-! ## a property of every stored entry (no well-formedness of the table needed) -/

/-- every entry stored anywhere in the access layer satisfies `P` -/
def Access.All (P : Entry → Prop) (a : Access) : Prop :=
  ∀ t ∈ a.tables, ∀ b ∈ t.buckets, ∀ k e, some (k, e) ∈ b → P e

theorem Access.All.find {P : Entry → Prop} {a : Access} (h : a.All P) {k : Nat} {e : Entry}
    (hf : a.find k = some e) : P e := by
  unfold Access.find Table.find at hf
  have hm := mem_of_findB hf
  rcases mem_getD_or a.tables (k % a.tables.length) default with ht | ht
  · rcases mem_getD_or (a.tables.getD (k % a.tables.length) default).buckets
      (k % (a.tables.getD (k % a.tables.length) default).buckets.length) [] with hb | hb
    · exact h _ ht _ hb k e hm
    · rw [hb] at hm; cases hm
  · rw [ht] at hm
    change some (k, e) ∈ ([] : List (List Slot)).getD _ [] at hm
    simp at hm

theorem Access.All.insert {P : Entry → Prop} {a : Access} (h : a.All P) (k : Nat) (e : Entry) (he : P e) :
    (a.insert k e).All P := by
  intro t ht b hb k' e' hm
  unfold Access.insert at ht
  rcases List.mem_or_eq_of_mem_set ht with ht | ht
  · exact h t ht b hb k' e' hm
  · subst ht
    unfold Table.insert at hb
    simp only [] at hb
    rcases List.mem_or_eq_of_mem_set hb with hb | hb
    · rcases mem_getD_or a.tables (k % a.tables.length) default with ht' | ht'
      · exact h _ ht' b hb k' e' hm
      · rw [ht'] at hb; cases hb
    · subst hb
      rcases mem_insertB _ k e _ hm with h1 | h1
      · rcases mem_getD_or a.tables (k % a.tables.length) default with ht' | ht'
        · rcases mem_getD_or (a.tables.getD (k % a.tables.length) default).buckets
            (k % (a.tables.getD (k % a.tables.length) default).buckets.length) [] with hb' | hb'
          · exact h _ ht' _ hb' k' e' h1
          · rw [hb'] at h1; cases h1
        · rw [ht'] at h1
          change some (k', e') ∈ ([] : List (List Slot)).getD _ [] at h1
          simp at h1
      · cases h1; exact he

theorem Access.All.new (P : Entry → Prop) (nT nB : Nat) : (Access.new nT nB).All P := by
  intro t ht b hb k e hm
  simp only [Access.new, List.mem_replicate] at ht
  obtain ⟨_, rfl⟩ := ht
  simp only [Table.withBucketCount, List.mem_replicate] at hb
  obtain ⟨_, rfl⟩ := hb
  simp at hm

end Wee.TT
