import Wee.Gen.UciFns
import Wee.Proofs.TextFnsBridge
import Wee.Proofs.SanLemmas
import Wee.Proofs.UciLemmas
/-!
# Bridge, part 2: `MoveQuery`, SAN and the coordinate notation translated from the Rust source = the hand model

`MoveQuery`'s setters and `MoveQuery::test` (`MoveQuery.test_eq`); the SAN scanner against the stages `SanP.scan` of
`Proofs/SanLemmas.lean` (`San.try_from_notation_eq`: one lemma per stanza of the source, the four rank and file stanzas being
instances of `coord_stanza`), the queries it returns fit `MoveQuery.test_eq` (`parseSanChars_queryOk`), hence `San.test_eq`; the
LAN writers for one move and for a line (`Lan.into_notation_eq`, `Lan.into_notation_slice_eq`); the `filter_map` closure of
`uci.rs` that reads a coordinate move (`uci.parse_move_token_eq`); and the text primitives of the command loop
(`str.split_ascii_whitespace_eq`, `i32.from_str_radix10_eq`, `usize.from_str_radix10_eq`, against the session model's readers
as `Proofs/UciLemmas.lean` has them).  Right-hand sides: the functions of `Wee/Model/San.lean` and
`Move.lan` that C12 is about.  The `TRes` lemmas are at the head of `TextFnsBridge.lean`, the `for_loop` lemmas in its writer section; the last section
here bridges primitives of the prelude of `Gen/UciFns` (stage 4c), which this file imports for them.
-/
namespace Wee.GenFns

/-! ## `MoveQuery` constructors and setters -/

theorem MoveQuery.new_eq : MoveQuery.new = .ok ⟨none, none, none, none, none, none, none, none⟩ := by rfl
theorem MoveQuery.set_piece_eq (q : MoveQuery) (p : Piece) : MoveQuery.set_piece q p = .ok { q with f_piece := some p } := by rfl
theorem MoveQuery.set_promotion_eq (q : MoveQuery) (p : Piece) :
    MoveQuery.set_promotion q p = .ok { q with f_promotion := some p } := by rfl
theorem MoveQuery.set_castle_eq (q : MoveQuery) (sd : Side) : MoveQuery.set_castle q sd = .ok { q with f_castle := some sd } := by rfl
theorem MoveQuery.set_is_capture_eq (q : MoveQuery) (b : Bool) :
    MoveQuery.set_is_capture q b = .ok { q with f_is_capture := some b } := by rfl
theorem MoveQuery.set_origin_rank_eq (q : MoveQuery) (r : Rank) :
    MoveQuery.set_origin_rank q r = .ok { q with f_origin_rank := some r } := by rfl
theorem MoveQuery.set_origin_file_eq (q : MoveQuery) (r : File) :
    MoveQuery.set_origin_file q r = .ok { q with f_origin_file := some r } := by rfl
theorem MoveQuery.set_destination_rank_eq (q : MoveQuery) (r : Rank) :
    MoveQuery.set_destination_rank q r = .ok { q with f_dest_rank := some r } := by rfl
theorem MoveQuery.set_destination_file_eq (q : MoveQuery) (r : File) :
    MoveQuery.set_destination_file q r = .ok { q with f_dest_file := some r } := by rfl
theorem MoveQuery.by_castling_eq (sd : Side) :
    MoveQuery.by_castling sd = .ok ⟨none, none, none, none, none, none, some sd, none⟩ := by rfl

/-! ## `MoveQuery::test` -/

/-- the Rust-side `MoveQuery` of a model query (`Rank` / `File` are `u8`) -/
def mqOf (q : Wee.MoveQuery) : MoveQuery :=
  { f_piece := q.piece, f_origin_rank := q.originRank.map Nat.toUInt8, f_origin_file := q.originFile.map Nat.toUInt8,
    f_dest_rank := q.destRank.map Nat.toUInt8, f_dest_file := q.destFile.map Nat.toUInt8, f_promotion := q.promotion,
    f_castle := q.castle, f_is_capture := q.isCapture }

/-- ranks and files of a query fit a `u8` (the SAN scanner only produces values `< 8`) -/
structure QueryOk (q : Wee.MoveQuery) : Prop where
  originRank : ∀ r, q.originRank = some r → r < 256
  originFile : ∀ r, q.originFile = some r → r < 256
  destRank : ∀ r, q.destRank = some r → r < 256
  destFile : ∀ r, q.destFile = some r → r < 256

/-- a move word whose accessors do not panic: the three piece codes are `Piece` discriminants (every generated move) -/
structure MoveOk (m : UInt32) : Prop where
  piece : ∃ p, Wee.Move.piece? m = some p
  capture : Wee.Move.captureCode m ≤ 6
  promotion : Wee.Move.promotionCode m ≤ 6

theorem moveOk_of_wf (m : UInt32) (h : WFMove m) : MoveOk m := by
  obtain ⟨p, h1, _, h3, h4⟩ := h
  exact ⟨⟨p, h1⟩, h3, h4⟩

theorem mapT_ok {α β : Type} (o : Option α) (f : α → TRes β) (g : α → β) (h : ∀ a, o = some a → f a = .ok (g a)) :
    Option.mapT o f = .ok (o.map g) := by
  cases o with
  | none => rfl
  | some a => simp only [Option.mapT, h a rfl]; rfl

theorem mapT_pure {α β : Type} (o : Option α) (g : α → β) :
    Option.mapT o (fun a => TRes.ok (g a)) = .ok (o.map g) :=
  mapT_ok o _ g fun _ _ => rfl

/-- `if !b { return false; }` in front of a block that returns `v` -/
theorem not_guard (b v : Bool) : (if (!b) = true then TRes.ok false else TRes.ok v) = TRes.ok (b && v) := by
  cases b <;> rfl

theorem coord_map (o : Option Nat) (ho : ∀ r, o = some r → r < 256) (x : Nat) (hx : x < 256) :
    (o.map Nat.toUInt8).map (fun r => r == x.toUInt8) = o.map (fun r => r == x) := by
  cases o with
  | none => rfl
  | some r =>
    have hr := ho r rfl
    simp only [Option.map_some, Option.some.injEq]
    by_cases h : r = x
    · subst h; simp
    · have : r.toUInt8 ≠ x.toUInt8 := by
        intro e
        apply h
        have := congrArg UInt8.toNat e
        rwa [nat_toUInt8_toNat _ hr, nat_toUInt8_toNat _ hx] at this
      rw [beq_eq_false_iff_ne.2 this, beq_eq_false_iff_ne.2 h]

theorem rank_toUInt8 (o : Nat) (h : o < 64) : Square.rank o.toUInt8 = (rankOf o).toUInt8 := by
  apply UInt8.toNat_inj.1
  rw [Square.rank_toNat, nat_toUInt8_toNat _ (by omega), nat_toUInt8_toNat _ (by have := rankOf_lt h; omega)]

theorem file_toUInt8 (o : Nat) (h : o < 64) : Square.file o.toUInt8 = (fileOf o).toUInt8 := by
  apply UInt8.toNat_inj.1
  rw [Square.file_toNat, nat_toUInt8_toNat _ (by omega), nat_toUInt8_toNat _ (by have := fileOf_lt o; omega)]

/-- **`MoveQuery::test`** (`moves.rs`): on a move word whose accessors do not panic, the eight `if !self.x.map(..).unwrap_or(true)
{ return false; }` stanzas translated from the source are the model's conjunction `MoveQuery.test`; no panic -/
theorem MoveQuery.test_eq (q : Wee.MoveQuery) (hq : QueryOk q) (m : UInt32) (hm : MoveOk m) :
    MoveQuery.test (mqOf q) m = .ok (q.test m) := by
  obtain ⟨p, hp⟩ := hm.piece
  have hpiece : Move.piece m = some p := by rw [Move.piece_eq, hp]
  have hpiece' : Wee.Move.piece m = p := Wee.Move.piece_of_piece? hp
  have ho := Wee.Move.origin_lt m
  have hd := Wee.Move.dest_lt m
  unfold MoveQuery.test Wee.MoveQuery.test
  simp only [hpiece, hpiece', Move.origin_eq, Move.destination_eq, Move.promotion_of_le6 m hm.promotion, Move.is_capture_of_le6 m hm.capture,
    Move.is_castle_eq, TRes.ofPanics_some, TRes.ok_bind, mapT_pure, rank_toUInt8 _ ho, file_toUInt8 _ ho,
    rank_toUInt8 _ hd, file_toUInt8 _ hd, mqOf,
    coord_map _ hq.originRank _ (show rankOf (Wee.Move.origin m) < 256 by have := rankOf_lt ho; omega),
    coord_map _ hq.originFile _ (show fileOf (Wee.Move.origin m) < 256 by have := fileOf_lt (Wee.Move.origin m); omega),
    coord_map _ hq.destRank _ (show rankOf (Wee.Move.dest m) < 256 by have := rankOf_lt hd; omega),
    coord_map _ hq.destFile _ (show fileOf (Wee.Move.dest m) < 256 by have := fileOf_lt (Wee.Move.dest m); omega),
    TRes.pure_eq, not_guard, Bool.and_true, Bool.and_assoc]


/-! ## `San::try_from_notation` -/

/-- cursor and query of the SAN scanner -/
abbrev SanSt := List Char × Wee.MoveQuery

/-- a rank or file stanza: a character of the class `guard` must be one of the eight letters from `lo` on, and sets a
coordinate (`upd`: which one) to its distance from `lo`; `SanP.stDigit` is `sanCoord Char.isDigit 49`, `SanP.stLower` is
`sanCoord Char.isLower 97` -/
def sanCoord (guard : Char → Bool) (lo : Nat) (upd : Wee.MoveQuery → Nat → Wee.MoveQuery) (it : List Char)
    (q : Wee.MoveQuery) : Option SanSt :=
  match it with
  | c :: r =>
    if guard c then
      if Char.ofNat (lo + 0) ≤ c ∧ c ≤ Char.ofNat (lo + 7) then some (r, upd q (c.toNat - (Char.ofNat (lo + 0)).toNat))
      else Option.none
    else some (it, q)
  | [] => some (it, q)

/-- run a model stanza (`none` = `Err(())`), continue on the Rust side -/
def TRes.bindOpt {α β : Type} (x : Option α) (k : α → TRes β) : TRes β :=
  match x with
  | some a => k a
  | Option.none => .err

/-- a Rust-side block that runs the model stanza `x` and then agrees with the rest `k'` of the model's chain agrees with
the chain from `x` on -/
theorem TRes.bindOpt_okOr {β γ : Type} {x : Option SanSt} {k : SanSt → TRes γ} {k' : List Char → Wee.MoveQuery → Option β}
    (f : β → γ) (h : ∀ it q, k (it, q) = TRes.okOr ((k' it q).map f)) :
    TRes.bindOpt x k = TRes.okOr ((match x with
      | Option.none => Option.none
      | some (it, q) => k' it q).map f) := by
  cases x with
  | none => rfl
  | some a => exact h a.1 a.2

theorem promoPiece_none (c : Char) (h1 : c ≠ 'Q') (h2 : c ≠ 'R') (h3 : c ≠ 'B') (h4 : c ≠ 'N') :
    SanP.promoOf c = Option.none := by
  unfold SanP.promoOf
  split <;> first | rfl | (exfalso; simp_all)

theorem pieceLetter_none (c : Char) (h1 : c ≠ 'K') (h2 : c ≠ 'Q') (h3 : c ≠ 'R') (h4 : c ≠ 'B') (h5 : c ≠ 'N')
    (h6 : c ≠ 'P') : SanP.pieceOf c = Option.none := by
  unfold SanP.pieceOf
  split <;> first | rfl | (exfalso; simp_all)

theorem mark_stanza {β : Type} (iter : List Char) (K : List Char → TRes β) :
    (
      (do
          if (((List.head? iter) == (Option.some '#')) || ((List.head? iter) == (Option.some '+'))) then (do
              let iter := List.tail iter
              pure iter)
          else (do
              pure iter)) >>= K) = K (SanP.stMark iter) := by
  cases iter with
  | nil => rfl
  | cons c r =>
    by_cases h1 : c = '#'
    · subst h1; rfl
    by_cases h2 : c = '+'
    · subst h2; rfl
    rw [SanP.stMark_skip c r h1 h2]
    simp [h1, h2, TRes.pure_eq]

theorem eq_stanza {β : Type} (r : List Char) (query : MoveQuery) (K : List Char × MoveQuery → TRes β) :
    ((if ((List.head? r) == (Option.some '=')) then (do
          let iter := List.tail r
          pure (iter, query))
      else (do
          pure (r, query))) >>= K) = K (SanP.stEq r, query) := by
  cases r with
  | nil => rfl
  | cons d r' =>
    by_cases hd : d = '='
    · subst hd; rfl
    rw [SanP.stEq_skip d r' hd]
    simp [hd, TRes.pure_eq]

theorem promo_stanza {β : Type} (iter : List Char) (q : Wee.MoveQuery) (query : MoveQuery) (hq : query = mqOf q)
    (K : List Char × MoveQuery → TRes β) :
    (
      (do
          match (List.head? iter) with
          | Option.some c => (do
              if (Char.isUpper c) then (do
                  let iter := List.tail iter
                  let query ← (do
                      if (c == 'Q') then (do
                          let t_4 ← MoveQuery.set_promotion query Piece.queen
                          let query := t_4
                          pure query)
                      else (if (c == 'R') then (do
                          let t_5 ← MoveQuery.set_promotion query Piece.rook
                          let query := t_5
                          pure query)
                      else (if (c == 'B') then (do
                          let t_6 ← MoveQuery.set_promotion query Piece.bishop
                          let query := t_6
                          pure query)
                      else (if (c == 'N') then (do
                          let t_7 ← MoveQuery.set_promotion query Piece.knight
                          let query := t_7
                          pure query)
                      else (do
                          TRes.err)))))
                  if ((List.head? iter) == (Option.some '=')) then (do
                      let iter := List.tail iter
                      pure (iter, query))
                  else (do
                      pure (iter, query)))
              else (do
                  pure (iter, query)))
          | Option.none => (do
              pure (iter, query))) >>= K) = TRes.bindOpt (SanP.stPromo iter q) (fun st => K (st.1, mqOf st.2)) := by
  subst hq
  cases iter with
  | nil => rfl
  | cons c r =>
    simp only [List.head?_cons, List.tail_cons]
    by_cases hu : c.isUpper = true
    · by_cases h1 : c = 'Q'
      · subst h1; exact eq_stanza r _ K
      by_cases h2 : c = 'R'
      · subst h2; exact eq_stanza r _ K
      by_cases h3 : c = 'B'
      · subst h3; exact eq_stanza r _ K
      by_cases h4 : c = 'N'
      · subst h4; exact eq_stanza r _ K
      unfold SanP.stPromo
      simp only [hu, if_true, promoPiece_none c h1 h2 h3 h4, beq_iff_eq, h1, h2, h3, h4, if_false]
      rfl
    · unfold SanP.stPromo
      simp only [hu]
      rfl

theorem char_toNat_ofNat (n : Nat) (h : n < 55296) : (Char.ofNat n).toNat = n := by
  unfold Char.ofNat
  rw [dif_pos (Or.inl h)]
  exact UInt32.toNat_ofNatLT ..

theorem beq_ofNat (c : Char) (n : Nat) (h : n < 55296) : (c == Char.ofNat n) = decide (c.toNat = n) := by
  rw [Bool.eq_iff_iff, beq_iff_eq, decide_eq_true_iff, Spec.char_eq_iff_toNat, char_toNat_ofNat n h]

/-- `if c == lo+i { a i } else if c == lo+i+1 { a (i+1) } … else { z }` with `n` arms: the shape of a `match` on
consecutive letters -/
def letterArms {γ : Type} (c : Char) (lo : Nat) (a : Nat → γ) (z : γ) : Nat → Nat → γ
  | _, 0 => z
  | i, n + 1 => if c == Char.ofNat (lo + i) then a i else letterArms c lo a z (i + 1) n

theorem letterArms_eq {γ : Type} (c : Char) (lo : Nat) (a : Nat → γ) (z : γ) (n : Nat) :
    ∀ i, lo + i + n ≤ 55296 →
      letterArms c lo a z i n = if lo + i ≤ c.toNat ∧ c.toNat < lo + i + n then a (c.toNat - lo) else z := by
  induction n with
  | zero => intro i _; rw [letterArms, if_neg (by omega)]
  | succ n ih =>
    intro i h
    rw [letterArms, beq_ofNat c _ (by omega), ih (i + 1) (by omega)]
    by_cases hc : c.toNat = lo + i
    · rw [decide_eq_true hc, if_pos rfl, if_pos (by omega), hc, Nat.add_sub_cancel_left]
    · rw [decide_eq_false hc, if_neg Bool.false_ne_true]
      by_cases hr : lo + (i + 1) ≤ c.toNat ∧ c.toNat < lo + (i + 1) + n
      · rw [if_pos hr, if_pos (by omega)]
      · rw [if_neg hr, if_neg (by omega)]

theorem coord_stanza {β : Type} (guard : Char → Bool) (lo : Nat) (hlo : lo + 7 < 55296)
    (set : MoveQuery → UInt8 → TRes MoveQuery) (upd : Wee.MoveQuery → Nat → Wee.MoveQuery)
    (hset : ∀ q n, n < 8 → set (mqOf q) n.toUInt8 = .ok (mqOf (upd q n)))
    (iter : List Char) (q : Wee.MoveQuery) (K : List Char × MoveQuery → TRes β) :
    ((do
        match List.head? iter with
        | Option.some r => (do
            if guard r then (do
                let iter := List.tail iter
                if (r == Char.ofNat (lo + 0)) then (do
                    let t ← set (mqOf q) 0
                    pure (iter, t))
                else (if (r == Char.ofNat (lo + 1)) then (do
                    let t ← set (mqOf q) 1
                    pure (iter, t))
                else (if (r == Char.ofNat (lo + 2)) then (do
                    let t ← set (mqOf q) 2
                    pure (iter, t))
                else (if (r == Char.ofNat (lo + 3)) then (do
                    let t ← set (mqOf q) 3
                    pure (iter, t))
                else (if (r == Char.ofNat (lo + 4)) then (do
                    let t ← set (mqOf q) 4
                    pure (iter, t))
                else (if (r == Char.ofNat (lo + 5)) then (do
                    let t ← set (mqOf q) 5
                    pure (iter, t))
                else (if (r == Char.ofNat (lo + 6)) then (do
                    let t ← set (mqOf q) 6
                    pure (iter, t))
                else (if (r == Char.ofNat (lo + 7)) then (do
                    let t ← set (mqOf q) 7
                    pure (iter, t))
                else (do
                    TRes.err)))))))))
            else (do
                pure (iter, mqOf q)))
        | Option.none => (do
            pure (iter, mqOf q))) >>= K) =
      TRes.bindOpt (sanCoord guard lo upd iter q) (fun st => K (st.1, mqOf st.2)) := by
  cases iter with
  | nil => rfl
  | cons c r =>
    dsimp only [List.head?_cons, List.tail_cons, sanCoord]
    cases guard c with
    | false => rfl
    | true =>
      simp only [if_true]
      show (letterArms c lo (fun i => do let t ← set (mqOf q) i.toUInt8; pure (r, t)) TRes.err 0 8 >>= K) = _
      rw [letterArms_eq _ _ _ _ _ _ (by omega)]
      simp only [FenL.char_le_iff, char_toNat_ofNat _ hlo, char_toNat_ofNat (lo + 0) (by omega)]
      by_cases hr : lo + 0 ≤ c.toNat ∧ c.toNat ≤ lo + 7
      · rw [if_pos hr, if_pos (by omega), hset q _ (by omega)]
        rfl
      · rw [if_neg hr, if_neg (by omega)]
        rfl
theorem capture_stanza {β : Type} (iter : List Char) (q : Wee.MoveQuery) (query : MoveQuery) (hq : query = mqOf q)
    (K : List Char × MoveQuery → TRes β) :
    (
      (do
          if ((List.head? iter) == (Option.some 'x')) then (do
              let iter := List.tail iter
              let t_24 ← MoveQuery.set_is_capture query true
              let query := t_24
              pure (iter, query))
          else (do
              pure (iter, query))) >>= K) = K ((SanP.stCapture iter q).1, mqOf (SanP.stCapture iter q).2) := by
  subst hq
  cases iter with
  | nil => rfl
  | cons c r =>
    by_cases h1 : c = 'x'
    · subst h1; rfl
    rw [SanP.stCapture_skip c r q h1]
    simp [h1, TRes.pure_eq]

theorem piece_stanza {β : Type} (iter : List Char) (q : Wee.MoveQuery) (query : MoveQuery) (hq : query = mqOf q)
    (K : List Char × MoveQuery → TRes β) :
    (
      (do
          match (List.head? iter) with
          | Option.some p => (do
              if (Char.isUpper p) then (do
                  let iter := List.tail iter
                  if (p == 'K') then (do
                      let t_41 ← MoveQuery.set_piece query Piece.king
                      let query := t_41
                      pure (iter, query))
                  else (if (p == 'Q') then (do
                      let t_42 ← MoveQuery.set_piece query Piece.queen
                      let query := t_42
                      pure (iter, query))
                  else (if (p == 'R') then (do
                      let t_43 ← MoveQuery.set_piece query Piece.rook
                      let query := t_43
                      pure (iter, query))
                  else (if (p == 'B') then (do
                      let t_44 ← MoveQuery.set_piece query Piece.bishop
                      let query := t_44
                      pure (iter, query))
                  else (if (p == 'N') then (do
                      let t_45 ← MoveQuery.set_piece query Piece.knight
                      let query := t_45
                      pure (iter, query))
                  else (if (p == 'P') then (do
                      let t_46 ← MoveQuery.set_piece query Piece.pawn
                      let query := t_46
                      pure (iter, query))
                  else (do
                      TRes.err)))))))
              else (do
                  pure (iter, query)))
          | Option.none => (do
              pure (iter, query))) >>= K) = TRes.bindOpt (SanP.stPiece iter q) (fun st => K (st.1, mqOf st.2)) := by
  subst hq
  cases iter with
  | nil => rfl
  | cons c r =>
    simp only [List.head?_cons, List.tail_cons]
    by_cases hu : c.isUpper = true
    · by_cases h1 : c = 'K'
      · subst h1; rfl
      by_cases h2 : c = 'Q'
      · subst h2; rfl
      by_cases h3 : c = 'R'
      · subst h3; rfl
      by_cases h4 : c = 'B'
      · subst h4; rfl
      by_cases h5 : c = 'N'
      · subst h5; rfl
      by_cases h6 : c = 'P'
      · subst h6; rfl
      unfold SanP.stPiece
      simp only [hu, if_true, pieceLetter_none c h1 h2 h3 h4 h5 h6, beq_iff_eq, h1, h2, h3, h4, h5, h6, if_false]
      rfl
    · unfold SanP.stPiece
      simp only [hu]
      rfl

theorem finish_stanza (iter : List Char) (q : Wee.MoveQuery) (query : MoveQuery) (hq : query = mqOf q) :
    (
      (do
          if (Option.isSome (List.head? iter)) then (do
              TRes.err)
          else (do
              pure ())) >>= fun _ =>
      (do
          if (Option.isNone query.f_piece) then (do
              let t_47 ← MoveQuery.set_piece query Piece.pawn
              let query := t_47
              pure query)
          else (do
              pure query))) = TRes.okOr ((SanP.stFinish iter q).map mqOf) := by
  subst hq
  cases iter with
  | cons c r => rfl
  | nil =>
    cases hp : q.piece with
    | none => simp [SanP.stFinish, mqOf, hp, TRes.pure_eq, MoveQuery.set_piece]
    | some p => simp [SanP.stFinish, mqOf, hp, TRes.pure_eq]

/-- **`San::try_from_notation`** (the SAN scanner of `notation.rs`: two castling prefixes, then the reversed text read
through a peekable cursor — mark, promotion, destination rank / file, `x`, origin rank / file, piece letter, nothing
left, default pawn) is the model's `parseSanChars`, for every text; no panic -/
theorem San.try_from_notation_eq (s : List Char) :
    San.try_from_notation s = TRes.okOr ((parseSanChars s).map mqOf) := by
  rw [SanP.parseSanChars_eq]
  unfold San.try_from_notation
  have e1 : str.starts_with s ['O', '-', 'O', '-', 'O'] = startsWith s "O-O-O".toList := by rfl
  have e2 : str.starts_with s ['O', '-', 'O'] = startsWith s "O-O".toList := by rfl
  rw [e1, e2]
  by_cases h1 : startsWith s "O-O-O".toList = true
  · rw [if_pos h1, if_pos h1]; rfl
  rw [if_neg h1, if_neg h1]
  by_cases h2 : startsWith s "O-O".toList = true
  · rw [if_pos h2, if_pos h2]; rfl
  rw [if_neg h2, if_neg h2]
  refine (TRes.bind_of_ok MoveQuery.new_eq _).trans ?_
  refine (mark_stanza _ _).trans ?_
  unfold SanP.scan SanP.scanBack
  refine (promo_stanza _ {} _ rfl _).trans (TRes.bindOpt_okOr _ fun it q => ?_)
  refine (coord_stanza Char.isDigit 49 (by decide) MoveQuery.set_destination_rank
    (fun q n => { q with destRank := some n }) (fun _ _ _ => rfl) it q _).trans (TRes.bindOpt_okOr _ fun it q => ?_)
  refine (coord_stanza Char.isLower 97 (by decide) MoveQuery.set_destination_file
    (fun q n => { q with destFile := some n }) (fun _ _ _ => rfl) it q _).trans (TRes.bindOpt_okOr _ fun it q => ?_)
  refine (capture_stanza it q _ rfl _).trans ?_
  refine (coord_stanza Char.isDigit 49 (by decide) MoveQuery.set_origin_rank
    (fun q n => { q with originRank := some n }) (fun _ _ _ => rfl) _ _ _).trans (TRes.bindOpt_okOr _ fun it q => ?_)
  refine (coord_stanza Char.isLower 97 (by decide) MoveQuery.set_origin_file
    (fun q n => { q with originFile := some n }) (fun _ _ _ => rfl) it q _).trans (TRes.bindOpt_okOr _ fun it q => ?_)
  exact (piece_stanza it q _ rfl _).trans (TRes.bindOpt_okOr _ fun it q => finish_stanza it q _ rfl)


/-! ## the coordinate (LAN) writer -/

/-- **`Lan::into_notation(Move)`** (`mod lan`, the coordinate writer used for `bestmove` / `pv`): on a move word whose
promotion code is a `Piece` discriminant it appends exactly the model's `Move.lan m`; no panic -/
theorem Lan.into_notation_eq (m : UInt32) (hp : Wee.Move.promotionCode m ≤ 6) (f : List Char) :
    Lan.into_notation m f = .ok (f ++ (Wee.Move.lan m).toList) := by
  have ho := Wee.Move.origin_lt m
  have hd := Wee.Move.dest_lt m
  unfold Lan.into_notation Wee.Move.lan
  simp only [Move.origin_eq, Move.destination_eq, TRes.ofPanics_some, TRes.ok_bind, Move.promotion_of_le6 m hp,
    Square.fmt_eq _ (show ((Wee.Move.origin m).toUInt8).toNat < 64 by rw [nat_toUInt8_toNat _ (by omega)]; exact ho),
    Square.fmt_eq _ (show ((Wee.Move.dest m).toUInt8).toNat < 64 by rw [nat_toUInt8_toNat _ (by omega)]; exact hd),
    nat_toUInt8_toNat _ (show Wee.Move.origin m < 256 by omega), nat_toUInt8_toNat _ (show Wee.Move.dest m < 256 by omega)]
  cases Wee.Move.promotion m with
  | none => simp [TRes.pure_eq]
  | some p => simp [TRes.pure_eq, Piece.into_char_eq]

/-! ## what the SAN scanner produces can be tested -/

theorem queryOk_of_none (q : Wee.MoveQuery) (h1 : q.originRank = Option.none) (h2 : q.originFile = Option.none)
    (h3 : q.destRank = Option.none) (h4 : q.destFile = Option.none) : QueryOk q :=
  ⟨fun r e => (by rw [h1] at e; cases e), fun r e => (by rw [h2] at e; cases e), fun r e => (by rw [h3] at e; cases e),
    fun r e => (by rw [h4] at e; cases e)⟩

theorem sanPromo_ok (it : List Char) (q : Wee.MoveQuery) (st : SanSt) (hq : QueryOk q) (h : SanP.stPromo it q = some st) :
    QueryOk st.2 := by
  unfold SanP.stPromo at h
  split at h
  · split at h
    · split at h
      · cases h
      · cases h; exact ⟨hq.1, hq.2, hq.3, hq.4⟩
    · cases h; exact hq
  · cases h; exact hq

theorem sanPiece_ok (it : List Char) (q : Wee.MoveQuery) (st : SanSt) (hq : QueryOk q) (h : SanP.stPiece it q = some st) :
    QueryOk st.2 := by
  unfold SanP.stPiece at h
  split at h
  · split at h
    · split at h
      · cases h
      · cases h; exact ⟨hq.1, hq.2, hq.3, hq.4⟩
    · cases h; exact hq
  · cases h; exact hq

theorem sanCapture_ok (it : List Char) (q : Wee.MoveQuery) (hq : QueryOk q) : QueryOk (SanP.stCapture it q).2 := by
  unfold SanP.stCapture
  split
  · exact ⟨hq.1, hq.2, hq.3, hq.4⟩
  · exact hq

theorem sanCoord_ok (guard : Char → Bool) (lo : Nat) (hlo : lo + 7 < 55296) (upd : Wee.MoveQuery → Nat → Wee.MoveQuery)
    (hupd : ∀ q n, QueryOk q → n < 256 → QueryOk (upd q n)) (it : List Char) (q : Wee.MoveQuery) (st : SanSt)
    (hq : QueryOk q) (h : sanCoord guard lo upd it q = some st) : QueryOk st.2 := by
  unfold sanCoord at h
  split at h
  · split at h
    · split at h
      · rename_i c r _ hr
        cases h
        apply hupd _ _ hq
        have := hr.2
        rw [FenL.char_le_iff, char_toNat_ofNat _ hlo] at this
        rw [char_toNat_ofNat _ (by omega)]
        omega
      · cases h
    · cases h; exact hq
  · cases h; exact hq

/-- an invariant of the queries passes along the model's chain of stanzas -/
theorem chain_ok {β : Type} {P : Wee.MoveQuery → Prop} {R : β → Prop} {x : Option SanSt}
    {k' : List Char → Wee.MoveQuery → Option β} {r : β}
    (h : (match x with
      | Option.none => Option.none
      | some (it, q) => k' it q) = some r)
    (hx : ∀ st, x = some st → P st.2) (hk : ∀ it q r, P q → k' it q = some r → R r) : R r := by
  cases x with
  | none => cases h
  | some st => exact hk st.1 st.2 r (hx st rfl) h

/-- every query the SAN scanner returns has coordinates that fit a `u8` (so `MoveQuery.test_eq` applies to it) -/
theorem parseSanChars_queryOk (s : List Char) (q : Wee.MoveQuery) (h : parseSanChars s = some q) : QueryOk q := by
  rw [SanP.parseSanChars_eq] at h
  split at h
  · cases h; exact queryOk_of_none _ rfl rfl rfl rfl
  split at h
  · cases h; exact queryOk_of_none _ rfl rfl rfl rfl
  unfold SanP.scan SanP.scanBack at h
  refine chain_ok h (fun st e => sanPromo_ok _ _ st (queryOk_of_none _ rfl rfl rfl rfl) e) (fun it q r hq h => ?_)
  refine chain_ok h (fun st e => sanCoord_ok _ _ (by decide) (fun q n => { q with destRank := some n })
    (fun q n hq hn => ⟨hq.1, hq.2, fun r e => (by cases e; exact hn), hq.4⟩) _ _ st hq e) (fun it q r hq h => ?_)
  refine chain_ok h (fun st e => sanCoord_ok _ _ (by decide) (fun q n => { q with destFile := some n })
    (fun q n hq hn => ⟨hq.1, hq.2, hq.3, fun r e => (by cases e; exact hn)⟩) _ _ st hq e) (fun it q r hq h => ?_)
  refine chain_ok h (fun st e => sanCoord_ok _ _ (by decide) (fun q n => { q with originRank := some n })
    (fun q n hq hn => ⟨fun r e => (by cases e; exact hn), hq.2, hq.3, hq.4⟩) _ _ st (sanCapture_ok it q hq) e)
    (fun it q r hq h => ?_)
  refine chain_ok h (fun st e => sanCoord_ok _ _ (by decide) (fun q n => { q with originFile := some n })
    (fun q n hq hn => ⟨hq.1, fun r e => (by cases e; exact hn), hq.3, hq.4⟩) _ _ st hq e) (fun it q r hq h => ?_)
  refine chain_ok h (fun st e => sanPiece_ok _ _ st hq e) (fun it q r hq h => ?_)
  unfold SanP.stFinish at h
  by_cases he : (!it.isEmpty) = true
  · rw [if_pos he] at h; cases h
  · rw [if_neg he] at h
    cases h
    split
    · exact ⟨hq.1, hq.2, hq.3, hq.4⟩
    · exact hq

/-- **SAN text → does this move match?** — the composition the engine runs for every SAN token
(`San::try_from_notation` then `MoveQuery::test` on each legal move): equal to the model's `parseSanChars` then
`MoveQuery.test`, `Err` exactly when the model rejects the text; no panic on a move word with valid piece codes -/
theorem San.test_eq (s : List Char) (m : UInt32) (hm : MoveOk m) :
    (San.try_from_notation s >>= fun Q => MoveQuery.test Q m) =
      TRes.okOr ((parseSanChars s).map fun q => q.test m) := by
  rw [San.try_from_notation_eq]
  cases h : parseSanChars s with
  | none => rfl
  | some q => exact MoveQuery.test_eq q (parseSanChars_queryOk s q h) m hm


/-! ## the coordinate writer for a line of moves (`info pv …`) -/

def enumAux {α : Type} : Nat → List α → List (UInt64 × α)
  | _, [] => []
  | k, a :: r => (k.toUInt64, a) :: enumAux (k + 1) r

theorem enumerate_aux {α : Type} (l : List α) (k : Nat) :
    ((List.range' k l.length).map Nat.toUInt64).zip l = enumAux k l := by
  induction l generalizing k with
  | nil => rfl
  | cons a r ih =>
    simp only [List.length_cons, List.range'_succ, List.map_cons, List.zip_cons_cons, enumAux, ih]

theorem iter.enumerate_eq {α : Type} (l : List α) : iter.enumerate l = enumAux 0 l := by
  unfold iter.enumerate
  rw [List.range_eq_range', enumerate_aux]

theorem lan_loop (n : Nat) (B : List Char → UInt64 × Move → TRes (Flow (List Char)))
    (hB : ∀ f (k : Nat) m, k < n → Wee.Move.promotionCode m ≤ 6 →
      B f (k.toUInt64, m) = .ok (.cont (f ++ (Wee.Move.lan m).toList ++ if k + 1 < n then [' '] else []))) :
    ∀ (l : List Move) (k : Nat) (f : List Char), k + l.length = n → (∀ m ∈ l, Wee.Move.promotionCode m ≤ 6) →
      for_loop (enumAux k l) f B = .ok (f ++ (" ".intercalate (l.map Wee.Move.lan)).toList) := by
  intro l
  induction l with
  | nil => intro k f _ _; simp [enumAux, for_loop]
  | cons m r ih =>
    intro k f hk hp
    simp only [List.length_cons] at hk
    rw [enumAux, for_loop, hB f k m (by omega) (hp m List.mem_cons_self)]
    cases r with
    | nil =>
      simp only [List.length_nil] at hk
      have : ¬ (k + 1 < n) := by omega
      simp [this, enumAux, for_loop]
    | cons b r' =>
      simp only [List.length_cons] at hk
      have : k + 1 < n := by omega
      simp only [this, if_true]
      rw [ih (k + 1) _ (by simp only [List.length_cons]; omega) (fun m' hm' => hp m' (List.mem_cons_of_mem _ hm'))]
      simp [String.intercalate_cons_cons, List.append_assoc]

/-- **`Lan::into_notation(&[Move])`** (the `info pv` line): the loop translated from `notation.rs` (`enumerate`, a space
after every move but the last, `len() - 1` never underflows inside the loop) appends the model's coordinate texts joined
by single spaces; no panic -/
theorem Lan.into_notation_slice_eq (l : List Move) (hl : l.length < 2 ^ 64)
    (hp : ∀ m ∈ l, Wee.Move.promotionCode m ≤ 6) (f : List Char) :
    Lan.into_notation_slice l f = .ok (f ++ (" ".intercalate (l.map Wee.Move.lan)).toList) := by
  unfold Lan.into_notation_slice
  rw [iter.enumerate_eq]
  refine lan_loop l.length _ ?_ l 0 f (by simp) hp
  intro f k m hk hm
  have e := toNat_toUInt64 _ hl
  have e1 : (1 : UInt64).toNat = 1 := rfl
  have hsub : UInt64.checked_sub (slice.len l) (1 : UInt64) = some (l.length - 1).toUInt64 :=
    UInt64.checked_sub_eq_some.2 (by unfold slice.len; rw [e, e1, toNat_toUInt64 _ (by omega)]; exact Nat.sub_add_cancel (Nat.lt_of_le_of_lt (Nat.zero_le _) hk))
  have hlt : decide (k.toUInt64 < (l.length - 1).toUInt64) = decide (k + 1 < l.length) := by
    apply decide_eq_decide.2
    rw [UInt64.lt_iff_toNat_lt, toNat_toUInt64 _ (by omega), toNat_toUInt64 _ (by omega)]
    omega
  simp only [Lan.into_notation_eq m hm, TRes.ok_bind, hsub, TRes.ofPanics_some, hlt]
  by_cases h : k + 1 < l.length
  · simp [h, TRes.pure_eq]
  · simp [h, TRes.pure_eq]


/-! ## the coordinate (LAN) READER: the `filter_map` closure of `uci.rs` -/

theorem fromUTF8?_size (bs : ByteArray) (a : String) (h : String.fromUTF8? bs = some a) : a.utf8ByteSize = bs.size := by
  unfold String.fromUTF8? at h
  split at h
  · cases h; rfl
  · cases h

theorem sliceBytes_size (s : String) (a b : Nat) (r : String) (h : sliceBytes s a b = some r) : r.utf8ByteSize = b - a := by
  unfold sliceBytes at h
  simp only at h
  split at h
  · cases h
  · rename_i hb
    split at h
    · cases h
    · rw [fromUTF8?_size _ _ h]
      simp only [ByteArray.size_extract]
      have : b ≤ s.toUTF8.size := by omega
      omega

/-- the primitive `str::get(a..b)` of the prelude is the model's `sliceBytes` -/
theorem str.get_range_eq (s : List Char) (a b : UInt64) :
    str.get_range s a b = (sliceBytes (String.ofList s) a.toNat b.toNat).map String.toList := by
  unfold str.get_range sliceBytes
  simp only []
  split
  · rfl
  · split <;> rfl

theorem parseSquare_lt (cs : List Char) (o : Nat) (h : parseSquare cs = some o) : o < 64 := by
  unfold parseSquare at h
  by_cases hb : (String.ofList cs).utf8ByteSize ≠ 2
  · rw [if_pos hb] at h; cases h
  rw [if_neg hb] at h
  rcases cs with _ | ⟨f, _ | ⟨r, _ | ⟨c, t⟩⟩⟩
  · cases h
  · cases h
  · dsimp only at h
    by_cases hf : f.toUpper < 'A' ∨ f.toUpper > 'H'
    · rw [if_pos hf] at h; cases h
    rw [if_neg hf] at h
    by_cases hr : r < '1' ∨ r > '8'
    · rw [if_pos hr] at h; cases h
    rw [if_neg hr] at h
    cases h
    simp only [gt_iff_lt, char_lt_iff, not_or, Nat.not_lt, Char.reduceToNat] at hf hr
    have e1 : ('1' : Char).toNat = 49 := by rfl
    have eA : ('A' : Char).toNat = 65 := by rfl
    unfold mkSq
    omega
  · cases h

/-- the square stanza of the closure: `Square::try_from(m.get(a..b)?).ok()?` -/
theorem square_stanza {β : Type} (m : List Char) (a b : UInt64) (hab : b.toNat - a.toNat = 2) (K : Square → TRes β) :
    ((TRes.okOr (str.get_range m a b)) >>= fun t => Square.try_from_str t >>= K) =
      match sliceBytes (String.ofList m) a.toNat b.toNat with
      | Option.none => .err
      | some t => match parseSquare t.toList with
        | Option.none => .err
        | some o => K o.toUInt8 := by
  rw [str.get_range_eq]
  cases h : sliceBytes (String.ofList m) a.toNat b.toNat with
  | none => rfl
  | some t =>
    have hsz := sliceBytes_size _ _ _ _ h
    have : (String.ofList t.toList).utf8ByteSize < 2 ^ 64 := by
      rw [String.ofList_toList, hsz, hab]; decide
    simp only [Option.map_some, TRes.okOr_some, TRes.ok_bind, Square.try_from_str_eq _ this]
    cases parseSquare t.toList <;> rfl

theorem promo_letter {β : Type} (c : Char) (K : Option Piece → TRes β) :
    ((if (c == 'q') then (do pure (Option.some Piece.queen))
      else (if (c == 'r') then (do pure (Option.some Piece.rook))
      else (if (c == 'b') then (do pure (Option.some Piece.bishop))
      else (if (c == 'n') then (do pure (Option.some Piece.knight))
      else (do TRes.err))))) >>= K) =
      if c = 'q' then K (some .queen) else if c = 'r' then K (some .rook) else if c = 'b' then K (some .bishop)
      else if c = 'n' then K (some .knight) else .err := by
  by_cases h1 : c = 'q'
  · subst h1; rfl
  by_cases h2 : c = 'r'
  · subst h2; rfl
  by_cases h3 : c = 'b'
  · subst h3; rfl
  by_cases h4 : c = 'n'
  · subst h4; rfl
  simp [h1, h2, h3, h4]

/-- the end of the closure: `MoveQuery::new()` with origin, destination and the optional promotion piece set -/
theorem query_tail (o d : Nat) (ho : o < 64) (hd : d < 64) (po : Option Piece) :
    (do
      let t_6 ← MoveQuery.new
      let t_7 ← MoveQuery.set_origin t_6 o.toUInt8
      let t_8 ← MoveQuery.set_destination t_7 d.toUInt8
      match po with
      | Option.some promotion => (do
          let t_9 ← MoveQuery.set_promotion t_8 promotion
          pure t_9)
      | Option.none => (do
          pure t_8)) =
      .ok (mqOf { originRank := some (rankOf o), originFile := some (fileOf o), destRank := some (rankOf d),
                  destFile := some (fileOf d), promotion := po }) := by
  cases po <;>
    simp only [TRes.pure_eq, TRes.ok_bind, MoveQuery.new_eq, MoveQuery.set_origin, MoveQuery.set_destination,
      MoveQuery.set_promotion, mqOf, Option.map_some, rank_toUInt8 _ ho, file_toUInt8 _ ho,
      rank_toUInt8 _ hd, file_toUInt8 _ hd]

/-- the Rust-side outcome of the model's `parseUciMoveToken` (outer `none` = panic, inner `none` = token rejected) -/
def tokenRes : Option (Option Wee.MoveQuery) → TRes MoveQuery
  | Option.none => .panic
  | some Option.none => .err
  | some (some q) => .ok (mqOf q)

/-- **the LAN reader** (`uci.rs`, `position … moves <m>…`: the `filter_map` closure, translated from the source:
`m.get(0..2)?`, `Square::try_from(..).ok()?`, `m.get(2..4)?`, the optional promotion letter at `chars().nth(4)`,
`MoveQuery::new` + `set_origin` + `set_destination` + `set_promotion`) is the model's `parseUciMoveToken`, for every text:
`None` (token rejected) exactly when the model rejects, never a panic -/
theorem uci.parse_move_token_eq (m : List Char) :
    uci.parse_move_token m = tokenRes (parseUciMoveToken (String.ofList m)) := by
  unfold uci.parse_move_token parseUciMoveToken
  refine (square_stanza m 0 2 rfl _).trans ?_
  have z0 : (0 : UInt64).toNat = 0 := by rfl
  have z2 : (2 : UInt64).toNat = 2 := by rfl
  have z4 : (4 : UInt64).toNat = 4 := by rfl
  rw [z0, z2]
  cases sliceBytes (String.ofList m) 0 2 with
  | none => rfl
  | some a =>
  dsimp only []
  cases ho : parseSquare a.toList with
  | none => rfl
  | some o =>
  dsimp only []
  refine (square_stanza m 2 4 rfl _).trans ?_
  rw [z2, z4]
  cases sliceBytes (String.ofList m) 2 4 with
  | none => rfl
  | some b =>
  dsimp only []
  cases hd : parseSquare b.toList with
  | none => rfl
  | some d =>
  dsimp only []
  have ho64 := parseSquare_lt _ _ ho
  have hd64 := parseSquare_lt _ _ hd
  have hm : (String.ofList m).toList[4]? = m[4]? := by rw [String.toList_ofList]
  have hn : iter.nth m (4 : UInt64) = m[4]? := by rfl
  rw [hm, hn]
  cases m[4]? with
  | none => exact query_tail o d ho64 hd64 Option.none
  | some c =>
    dsimp only []
    refine (promo_letter c _).trans ?_
    by_cases h1 : c = 'q'
    · subst h1; exact query_tail o d ho64 hd64 (some .queen)
    by_cases h2 : c = 'r'
    · subst h2; exact query_tail o d ho64 hd64 (some .rook)
    by_cases h3 : c = 'b'
    · subst h3; exact query_tail o d ho64 hd64 (some .bishop)
    by_cases h4 : c = 'n'
    · subst h4; exact query_tail o d ho64 hd64 (some .knight)
    simp only [h1, h2, h3, h4, if_false]
    rfl


/-! ## the text primitives of the command loop (`uci.rs`): words, `i32` and `usize` texts -/

section
open Wee.Uci

theorem split_go_eq (l : List Char) : ∀ cur : List Char,
    str.split_ascii_whitespace.go l cur =
      (splitAsciiWs.go (fun c => c == ' ' || c == '\t' || c == '\n' || c == '\x0C' || c == '\r') l cur).map String.toList := by
  induction l with
  | nil => intro cur; unfold str.split_ascii_whitespace.go splitAsciiWs.go; by_cases h : cur.isEmpty <;> simp [h]
  | cons c r ih =>
    intro cur
    unfold str.split_ascii_whitespace.go splitAsciiWs.go
    simp only [char.is_ascii_whitespace]
    by_cases hc : (c == ' ' || c == '\t' || c == '\n' || c == '\x0C' || c == '\r') = true
    · by_cases h : cur.isEmpty <;> simp [hc, h, ih]
    · simp [hc, ih]

/-- `str::split_ascii_whitespace` of the prelude = the model's `splitAsciiWs` -/
theorem str.split_ascii_whitespace_eq (s : String) :
    str.split_ascii_whitespace s.toList = (splitAsciiWs s).map String.toList := by
  unfold str.split_ascii_whitespace splitAsciiWs
  exact split_go_eq _ _

theorem ite_match_aux (C : Prop) [Decidable C] (x : Int) :
    (if C then Except.error () else Except.ok (Int32.ofInt x) : Except Unit Int32) =
      match (if C then Option.none else some x) with | some v => Except.ok (Int32.ofInt v) | Option.none => Except.error () := by
  by_cases h : C <;> simp [h]

theorem gen_i32_eq (cs : List Char) : i32.from_str_radix10 cs =
    match i32Val (signSplit cs) with | some v => Except.ok (Int32.ofInt v) | Option.none => Except.error () := by
  have : i32.from_str_radix10 cs = (fun (p : Bool × List Char) =>
      if p.2.isEmpty || !p.2.all Char.isDigit then Except.error () else
      let v : Int := (p.2.foldl (fun acc c => acc * 10 + (c.toNat - 48)) 0 : Nat)
      let v := if p.1 then -v else v
      if v < -2147483648 ∨ v > 2147483647 then Except.error () else Except.ok (Int32.ofInt v)) (signSplit cs) := by
    unfold i32.from_str_radix10 signSplit
    rfl
  rw [this]
  generalize signSplit cs = p
  unfold i32Val
  dsimp only
  by_cases h1 : (p.2.isEmpty || !p.2.all Char.isDigit) = true
  · rw [if_pos h1, if_pos h1]
  · rw [if_neg h1, if_neg h1]
    split <;> exact ite_match_aux _ _
/-- `i32::from_str_radix(s, 10)` of the prelude = the model's `parseI32` -/
theorem i32.from_str_radix10_eq (s : String) :
    i32.from_str_radix10 s.toList =
      match parseI32 s with | some v => Except.ok (Int32.ofInt v) | Option.none => Except.error () := by
  rw [gen_i32_eq, parseI32_eq]

/-- `usize::from_str_radix(s, 10)` (= `str.parse_usize` of `TextFnsBridge.lean`) = the model's `parseUsizeTok` -/
theorem usize.from_str_radix10_eq (s : String) :
    usize.from_str_radix10 s.toList =
      match parseUsizeTok s with | some n => Except.ok n.toUInt64 | Option.none => Except.error () := by
  unfold usize.from_str_radix10
  rw [str.parse_usize_eq, parseUsizeTok_eq_parseUsize]
  show (match TRes.okOr ((parseUsize (dropPlus s.toList)).map Nat.toUInt64) with | .ok v => Except.ok v | _ => Except.error ()) =
    match parseUsize (dropPlus s.toList) with | some n => Except.ok n.toUInt64 | Option.none => Except.error ()
  cases parseUsize (dropPlus s.toList) <;> rfl

end

/-! ## the remaining one-liners (so that every generated function has its bridge statement) -/

theorem Square.rank_file_eq (sq : Square) : Square.rank_file sq = .ok (Square.rank sq, Square.file sq) := by rfl
theorem Board.empty_map_eq : Board.empty_map = .ok (arrCells (List.replicate 64 Option.none)) := by rfl
theorem State.new_eq (s : Wee.State) :
    State.new (boardOf s.pieces) s.turn (rightsArr (s.castleW, s.castleB)) (s.ep.map Nat.toUInt8)
      ⟨s.halfmove.toUInt64, s.fullmove.toUInt64⟩ = .ok (stateOf s) := by rfl
theorem MoveQuery.set_origin_eq (q : MoveQuery) (sq : Square) :
    MoveQuery.set_origin q sq = .ok { q with f_origin_rank := some (Square.rank sq), f_origin_file := some (Square.file sq) } := by rfl
theorem MoveQuery.set_destination_eq (q : MoveQuery) (sq : Square) :
    MoveQuery.set_destination q sq = .ok { q with f_dest_rank := some (Square.rank sq), f_dest_file := some (Square.file sq) } := by rfl
/-- `MoveQuery::by_moving_from_to` on squares `< 64` is the model query with the four coordinates set -/
theorem MoveQuery.by_moving_from_to_eq (o d : Nat) (ho : o < 64) (hd : d < 64) :
    MoveQuery.by_moving_from_to o.toUInt8 d.toUInt8 =
      .ok (mqOf { originRank := some (rankOf o), originFile := some (fileOf o), destRank := some (rankOf d), destFile := some (fileOf d) }) := by
  simp only [MoveQuery.by_moving_from_to, MoveQuery.new_eq, MoveQuery.set_origin_eq, MoveQuery.set_destination_eq, TRes.ok_bind,
    TRes.pure_eq, mqOf, Option.map_some, rank_toUInt8 _ ho, file_toUInt8 _ ho, rank_toUInt8 _ hd, file_toUInt8 _ hd]

end Wee.GenFns
