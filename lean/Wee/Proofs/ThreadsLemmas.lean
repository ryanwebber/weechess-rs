import Wee.Model.Threads
/-!
# Lemmas about the thread / channel protocol (`Wee/Model/Threads.lean`)

* `Wee.Fair`: a small generic theory of labelled transition systems given by a step *function*: infinite executions
  with stuttering, weak fairness of an action, and the ranking rule `leadsTo_of_rank` ("helpful action" rule: Manna–Pnueli
  response rule / Lamport's WF1 iterated along a well-founded rank) — proved here, not assumed.
* `Wee.Threads`: the rules of `step` as an inductive relation `Step`; the inductive invariant `Inv` of the protocol,
  preserved rule by rule; its consequences; the ranking argument for `wait_cancel`; the timer lemmas and the
  `Stop`-idempotence bisimulation.

The property theorems are in `Wee/Props/Threads.lean`.
-/

namespace Wee.Fair
universe u v w
variable {σ : Type u} {α : Type v}

/-- an infinite execution of the labelled system `step`; `act i = none` is a stuttering step -/
structure Exec (step : σ → α → Option σ) where
  st : Nat → σ
  act : Nat → Option α
  ok : ∀ i, match act i with
    | some a => step (st i) a = some (st (i + 1))
    | none => st (i + 1) = st i

/-- weak fairness of action `a`: if `a` is enabled from some moment on forever, it is taken at or after that moment -/
def WeakFair {step : σ → α → Option σ} (e : Exec step) (a : α) : Prop :=
  ∀ i, (∀ j, i ≤ j → (step (e.st j) a).isSome = true) → ∃ j, i ≤ j ∧ e.act j = some a

/-- **ranking rule for "P leads to Q" under weak fairness.**  `I` holds along the execution.  In every `I`-state with
`P ∧ ¬Q` there is a fair action `helpful s` that is enabled; EVERY step from such a state reaches `Q`, or keeps `P` and
either lowers the rank (well-founded `r`) or — only if it is not the helpful action — keeps the rank and the helpful
action.  Then every execution that is weakly fair for the fair actions reaches `Q` from every `P`-state. -/
theorem leadsTo_of_rank {step : σ → α → Option σ} {ρ : Type w} (r : ρ → ρ → Prop) (wf : WellFounded r)
    (I P Q : σ → Prop) (rank : σ → ρ) (helpful : σ → α) (isFair : α → Prop)
    (hfair : ∀ s, I s → P s → ¬ Q s → isFair (helpful s))
    (hen : ∀ s, I s → P s → ¬ Q s → (step s (helpful s)).isSome = true)
    (hstep : ∀ s a s', I s → P s → ¬ Q s → step s a = some s' →
      Q s' ∨ (P s' ∧ (r (rank s') (rank s) ∨ (a ≠ helpful s ∧ rank s' = rank s ∧ helpful s' = helpful s))))
    (e : Exec step) (hI : ∀ i, I (e.st i)) (hwf : ∀ a, isFair a → WeakFair e a) :
    ∀ i, P (e.st i) → ∃ j, i ≤ j ∧ Q (e.st j) := by
  suffices H : ∀ (x : ρ) (i : Nat), rank (e.st i) = x → P (e.st i) → ∃ j, i ≤ j ∧ Q (e.st j) from
    fun i hp => H _ i rfl hp
  intro x
  induction x using wf.induction with
  | _ x ih =>
    intro i hx hp
    -- some later state satisfies Q or has a smaller rank
    have key : ∃ j, i ≤ j ∧ (Q (e.st j) ∨ (P (e.st j) ∧ r (rank (e.st j)) x)) := by
      apply Classical.byContradiction
      intro hno
      -- otherwise a state that has P, rank `x` and the helpful action of `e.st i` passes them on, by another action
      have next : ∀ j, i ≤ j → P (e.st j) ∧ rank (e.st j) = x ∧ helpful (e.st j) = helpful (e.st i) →
          (P (e.st (j + 1)) ∧ rank (e.st (j + 1)) = x ∧ helpful (e.st (j + 1)) = helpful (e.st i)) ∧
          e.act j ≠ some (helpful (e.st i)) := by
        intro j hj ⟨hpj, hrj, hhj⟩
        have hok := e.ok j
        cases hact : e.act j with
        | none =>
          rw [hact] at hok
          rw [show e.st (j + 1) = e.st j from hok]
          exact ⟨⟨hpj, hrj, hhj⟩, nofun⟩
        | some a =>
          rw [hact] at hok
          rcases hstep _ a _ (hI j) hpj (fun h => hno ⟨j, hj, Or.inl h⟩) hok with h | ⟨hp', h | ⟨h1, h2, h3⟩⟩
          · exact absurd ⟨j + 1, Nat.le_succ_of_le hj, Or.inl h⟩ hno
          · exact absurd ⟨j + 1, Nat.le_succ_of_le hj, Or.inr ⟨hp', hrj ▸ h⟩⟩ hno
          · exact ⟨⟨hp', h2.trans hrj, h3.trans hhj⟩, fun e => h1 (hhj ▸ Option.some.inj e)⟩
      have stay : ∀ j, i ≤ j → P (e.st j) ∧ rank (e.st j) = x ∧ helpful (e.st j) = helpful (e.st i) := by
        intro j hj
        induction hj with
        | refl => exact ⟨hp, hx, rfl⟩
        | step hj ih => exact (next _ hj ih).1
      -- so the helpful action stays enabled and, being fair, is taken
      have hq : ¬ Q (e.st i) := fun h => hno ⟨i, Nat.le_refl _, Or.inl h⟩
      obtain ⟨j, hj, hact⟩ := hwf _ (hfair _ (hI _) hp hq) i fun j hj =>
        (stay j hj).2.2 ▸ hen _ (hI _) (stay j hj).1 fun h => hno ⟨j, hj, Or.inl h⟩
      exact (next j hj (stay j hj)).2 hact
    obtain ⟨j, hj, h | ⟨hpj, hrj⟩⟩ := key
    · exact ⟨j, hj, h⟩
    · obtain ⟨j', hj', hq'⟩ := ih _ hrj j rfl hpj
      exact ⟨j', Nat.le_trans hj hj', hq'⟩

theorem Exec.invariant {step : σ → α → Option σ} (e : Exec step) (I : σ → Prop) (h0 : I (e.st 0))
    (hstep : ∀ s a s', I s → step s a = some s' → I s') : ∀ i, I (e.st i) := by
  intro i
  induction i with
  | zero => exact h0
  | succ i ih =>
    have hok := e.ok i
    cases hact : e.act i with
    | none => rw [hact] at hok; have e1 : e.st (i + 1) = e.st i := hok; rw [e1]; exact ih
    | some a => rw [hact] at hok; exact hstep _ a _ ih hok

/-! ### a finite run followed by stuttering is an execution -/

def runList (step : σ → α → Option σ) : σ → List α → Option σ
  | s, [] => some s
  | s, a :: r =>
    match step s a with
    | some s' => runList step s' r
    | none => none

/-- the state after the first `i` actions of the list (the last state once the list is used up) -/
def stAt (step : σ → α → Option σ) : σ → List α → Nat → σ
  | s, [], _ => s
  | s, _ :: _, 0 => s
  | s, a :: r, i + 1 =>
    match step s a with
    | some s' => stAt step s' r i
    | none => s

theorem stAt_zero (step : σ → α → Option σ) (s : σ) (acts : List α) : stAt step s acts 0 = s := by
  cases acts <;> rfl

theorem stAt_ok (step : σ → α → Option σ) : ∀ (acts : List α) (s : σ), (runList step s acts).isSome = true →
    ∀ i, match acts[i]? with
      | some a => step (stAt step s acts i) a = some (stAt step s acts (i + 1))
      | none => stAt step s acts (i + 1) = stAt step s acts i := by
  intro acts
  induction acts with
  | nil => intro s _ i; simp [stAt]
  | cons a r ih =>
    intro s h i
    unfold runList at h
    cases hs : step s a with
    | none => rw [hs] at h; cases h
    | some s1 =>
      rw [hs] at h
      cases i with
      | zero =>
        simp only [List.getElem?_cons_zero]
        show step (stAt step s (a :: r) 0) a = some (stAt step s (a :: r) 1)
        simp only [stAt, hs, stAt_zero]
      | succ k =>
        have := ih s1 h k
        simp only [List.getElem?_cons_succ]
        simp only [stAt, hs]
        exact this

theorem stAt_final (step : σ → α → Option σ) : ∀ (acts : List α) (s fin : σ), runList step s acts = some fin →
    ∀ i, acts.length ≤ i → stAt step s acts i = fin := by
  intro acts
  induction acts with
  | nil => intro s fin h i _; simp only [runList, Option.some.injEq] at h; subst h; rfl
  | cons a r ih =>
    intro s fin h i hi
    unfold runList at h
    cases hs : step s a with
    | none => rw [hs] at h; cases h
    | some s1 =>
      rw [hs] at h
      cases i with
      | zero => simp at hi
      | succ k =>
        simp only [stAt, hs]
        exact ih s1 fin h k (by simpa using hi)

/-- the execution that performs `acts` from `s` and then stutters forever -/
def Exec.ofRun (step : σ → α → Option σ) (s : σ) (acts : List α) (h : (runList step s acts).isSome = true) :
    Exec step where
  st := stAt step s acts
  act := fun i => acts[i]?
  ok := stAt_ok step acts s h

/-- such an execution is weakly fair for every action that is not enabled in its final state -/
theorem Exec.ofRun_fair (step : σ → α → Option σ) (s fin : σ) (acts : List α) (h : runList step s acts = some fin)
    (a : α) (hdis : (step fin a).isSome = false) :
    WeakFair (Exec.ofRun step s acts (by rw [h]; rfl)) a := by
  intro i hen
  have h1 := hen (max i acts.length) (Nat.le_max_left _ _)
  have h2 : (Exec.ofRun step s acts (by rw [h]; rfl)).st (max i acts.length) = fin :=
    stAt_final step acts s fin h _ (Nat.le_max_right _ _)
  rw [h2, hdis] at h1
  cases h1

end Wee.Fair

namespace Wee.Threads
variable {μ π : Type}

/-! ## lists -/

theorem lastBest_append (a b : List (Ev μ π)) : ∀ bl, lastBest (a ++ b) bl = lastBest b (lastBest a bl) := by
  induction a with
  | nil => intro bl; rfl
  | cons e r ih => intro bl; simp only [List.cons_append, lastBest, ih]

@[simp] theorem lastBest_snoc (a : List (Ev μ π)) (e : Ev μ π) (bl : List μ) :
    lastBest (a ++ [e]) bl = bestAfter (lastBest a bl) e := by
  rw [lastBest_append]; rfl

/-- `best_line` at the end is the line of the last `BestMove` event, or its initial value -/
theorem lastBest_eq (evs : List (Ev μ π)) : ∀ bl, lastBest evs bl = (lastBestEvent evs).getD bl := by
  induction evs with
  | nil => intro bl; rfl
  | cons e r ih =>
    intro bl
    cases e with
    | best line p =>
      simp only [lastBest, bestAfter, lastBestEvent, ih]
      cases lastBestEvent r <;> rfl
    | other p => simp only [lastBest, bestAfter, lastBestEvent, ih]

theorem bestmoves_append (a b : List (Line μ π)) : bestmoves (a ++ b) = bestmoves a ++ bestmoves b := by
  induction a with
  | nil => rfl
  | cons x r ih => cases x <;> simp only [List.cons_append, bestmoves, ih]

theorem bestmoves_info (evs : List (Ev μ π)) : bestmoves (evs.map Line.info) = [] := by
  induction evs with
  | nil => rfl
  | cons e r ih => simp only [List.map_cons, bestmoves, ih]

theorem bestmoves_tailLines (bl : List μ) : bestmoves (tailLines bl : List (Line μ π)) = bl.head?.toList := by
  cases bl <;> rfl

theorem mem_bestmoves {ls : List (Line μ π)} {m : μ} : m ∈ bestmoves ls ↔ Line.bestmove m ∈ ls := by
  induction ls with
  | nil => simp [bestmoves]
  | cons x r ih => cases x <;> simp [bestmoves, ih]

/-- all `bestmove` lines of the writer function: none, or the head of the final `best_line` -/
theorem bestmoves_writerOut (evs : List (Ev μ π)) :
    bestmoves (writerOut evs) = (lastBest evs []).head?.toList := by
  unfold writerOut
  rw [bestmoves_append, bestmoves_info, bestmoves_tailLines, List.nil_append]

/-! ## the rules of `step`

`step f8 s a = some s'` spelt out: the process is alive (`s.m ≠ aborted`) and one of the rules below applies — the guard of
`a` holds in `s`, and `s'` is `s` with the few fields `a` writes.  Everything below reasons about steps through `Step`:
a property that reads none of the written fields is kept by definitional unfolding. -/

inductive Step (f8 : Bool) (s : St μ π) : Act μ π → St μ π → Prop
  | mCall : s.m = .idle → Step f8 s .mCall { s with m := .joinC, q2 := if s.rx2 then s.q2 + 1 else s.q2 }
  | mJoinC : s.m = .joinC ∧ s.c = .done → s.cOk = true ∨ f8 = true →
      Step f8 s .mJoinC { s with m := .joinW, artifact := s.cOk }
  | mJoinCAbort : s.m = .joinC ∧ s.c = .done → s.cOk = false → f8 = false → Step f8 s .mJoinC { s with m := .aborted }
  | mJoinW : s.m = .joinW ∧ (s.w = .done ∨ s.w = .absent) → Step f8 s .mJoinW { s with m := .returned, tx2 := false }
  | callerDrop : s.w = .absent ∧ s.rx1 = true → Step f8 s .callerDrop { s with rx1 := false, q1 := [] }
  | callerRecv {e r} : s.w = .absent ∧ s.rx1 = true → s.q1 = e :: r → Step f8 s .callerRecv { s with q1 := r }
  | cRecv : s.c = .recv → 0 < s.q2 → Step f8 s .cRecv { s with c := .cancel, q2 := s.q2 - 1 }
  | cRecvErr : s.c = .recv → ¬ 0 < s.q2 → s.tx2 = false ∧ s.tx3 = false ∧ s.tt = false →
      Step f8 s .cRecv { s with c := .cancel, recvErr := true }
  | cCancel : s.c = .cancel → Step f8 s .cCancel { s with c := .joinS, flag := true }
  | cJoin : s.c = .joinS ∧ s.s = .done → Step f8 s .cJoin { s with c := .done, cOk := s.sOk, rx2 := false }
  | sEmit (e) : s.s = .run →
      Step f8 s (.sEmit e) { s with emitted := s.emitted ++ [e], q1 := if s.rx1 then s.q1 ++ [e] else s.q1 }
  | sEndSelf : s.s = .run → Step f8 s .sEndSelf { s with s := .sendStop }
  | sNotice : s.s = .run ∧ s.flag = true → Step f8 s .sNotice { s with s := .sendStop }
  | sPanic : s.s = .run → Step f8 s .sPanic { s with s := .unwind, sOk := false, injected := true }
  | sSendStop : s.s = .sendStop → s.rx2 = true → Step f8 s .sSendStop { s with s := .unwind, q2 := s.q2 + 1 }
  | sSendStopErr : s.s = .sendStop → s.rx2 = false →
      Step f8 s .sSendStop { s with s := .unwind, sOk := false, sendFailed := true }
  | sDropSink : s.s = .unwind ∧ s.sink = true → Step f8 s .sDropSink { s with sink := false }
  | sDropTx3 : s.s = .unwind ∧ s.tx3 = true → Step f8 s .sDropTx3 { s with tx3 := false }
  | sFinish : s.s = .unwind ∧ s.sink = false ∧ s.tx3 = false → Step f8 s .sFinish { s with s := .done }
  | wRecv {e r} : s.w = .loop → s.q1 = e :: r →
      Step f8 s .wRecv { s with q1 := r, consumed := s.consumed ++ [e], printed := s.printed ++ [.info e],
                                best := bestAfter s.best e }
  | wClosed : s.w = .loop ∧ s.q1 = [] ∧ s.sink = false → Step f8 s .wClosed { s with w := .tail }
  | wTail : s.w = .tail → Step f8 s .wTail { s with w := .done, rx1 := false, printed := s.printed ++ tailLines s.best }
  | tFire : s.t = .waiting → Step f8 s .tFire { s with t := .fired, q2 := if s.rx2 then s.q2 + 1 else s.q2 }
  | tExit : s.t = .fired → Step f8 s .tExit { s with t := .done, tt := false }

section rules
variable {f8 : Bool} {s s' : St μ π} {a : Act μ π}

namespace Step
theorem of_step (hm : s.m ≠ .aborted) (hs : step f8 s a = some s') : Step f8 s a s' := by
  cases a <;> simp only [step, if_neg hm, Option.ite_none_right_eq_some, Option.some.injEq] at hs
  case mJoinC =>
    obtain ⟨hg, hs⟩ := hs
    split at hs
    next hk => cases hs; simpa only [hk] using Step.mJoinC (f8 := f8) hg (Or.inl hk)
    next hk =>
      split at hs
      next hf =>
        cases hs
        simpa only [Bool.not_eq_true _ ▸ hk] using Step.mJoinC hg (Or.inr hf)
      next hf => cases hs; exact .mJoinCAbort hg (by simpa using hk) (by simpa using hf)
  case cRecv =>
    obtain ⟨hg, hs⟩ := hs
    split at hs
    next hq => cases hs; exact .cRecv hg hq
    next hq =>
      split at hs
      next ht => cases hs; exact .cRecvErr hg hq ht
      next => cases hs
  case sSendStop =>
    obtain ⟨hg, hs⟩ := hs
    split at hs
    next hk => cases hs; exact .sSendStop hg hk
    next hk => cases hs; exact .sSendStopErr hg (by simpa using hk)
  case callerRecv =>
    obtain ⟨hg, hs⟩ := hs
    split at hs
    next hq => cases hs; exact .callerRecv hg hq
    next => cases hs
  case wRecv =>
    obtain ⟨hg, hs⟩ := hs
    split at hs
    next hq => cases hs; exact .wRecv hg hq
    next => cases hs
  -- the other actions have one rule, with one guard
  all_goals
    obtain ⟨hg, rfl⟩ := hs
    constructor
    exact hg

theorem to_step (hm : s.m ≠ .aborted) (h : Step f8 s a s') : step f8 s a = some s' := by
  cases h with
  | mJoinC hg hk => cases hc : s.cOk <;> simp_all [step]
  | _ => simp [step, *]

theorem enabled (hm : s.m ≠ .aborted) (h : Step f8 s a s') : (step f8 s a).isSome = true := by
  rw [h.to_step hm]; rfl
end Step

theorem step_iff : step f8 s a = some s' ↔ s.m ≠ .aborted ∧ Step f8 s a s' :=
  ⟨fun hs => have hm : s.m ≠ .aborted := fun hm => by simp [step, hm] at hs
    ⟨hm, .of_step hm hs⟩, fun ⟨hm, h⟩ => h.to_step hm⟩

/-- an action is enabled iff one of its rules applies -/
theorem enabled_iff (hm : s.m ≠ .aborted) : Enabled f8 s a ↔ ∃ s', Step f8 s a s' :=
  ⟨fun h => (Option.isSome_iff_exists.1 h).imp fun _ => .of_step hm, fun ⟨_, h⟩ => h.enabled hm⟩

end rules

/-! ## the inductive invariant -/

/-- the invariant of every interleaving (both variants of `wait_cancel`, with or without writer / timer) -/
structure Inv (f8 : Bool) (s : St μ π) : Prop where
  /-- the control receiver lives exactly as long as C -/
  rx2_iff : s.rx2 = true ↔ s.c ≠ .done
  /-- S owns both of its senders until it unwinds … -/
  s_live : s.s = .run ∨ s.s = .sendStop → s.sink = true ∧ s.tx3 = true
  /-- … and has dropped both when it is joinable -/
  s_done : s.s = .done → s.sink = false ∧ s.tx3 = false
  /-- M's sender lives until `wait_cancel` returns -/
  tx2_iff : s.tx2 = true ↔ s.m ≠ .returned
  tt_iff : s.tt = true ↔ s.t ≠ .done
  /-- with a writer, the event receiver lives exactly as long as W -/
  rx1_w : s.w ≠ .absent → (s.rx1 = true ↔ s.w ≠ .done)
  /-- C ends only after having joined S, and with S's fate -/
  c_done : s.c = .done → s.s = .done ∧ s.cOk = s.sOk
  c_ok : s.c ≠ .done → s.cOk = true
  /-- M passes its first join only after C has ended; the artifact is there iff C did not panic -/
  m_past : s.m = .joinW ∨ s.m = .returned → s.c = .done ∧ s.artifact = s.cOk
  m_ret : s.m = .returned → s.w = .done ∨ s.w = .absent
  /-- W leaves its loop only when the channel is closed and drained -/
  w_past : s.w = .tail ∨ s.w = .done → s.sink = false ∧ s.q1 = []
  /-- the flag is set exactly by C's `cancel` -/
  flag_iff : s.flag = true ↔ (s.c = .joinS ∨ s.c = .done)
  /-- M's `Stop` is in the queue until C takes one -/
  stop_sent : s.m ≠ .idle → s.c = .recv → 0 < s.q2
  /-- `tx3.send(Stop).unwrap()` never failed -/
  sendFailed : s.sendFailed = false
  /-- `controller.recv()` never returned `Err` -/
  recvErr : s.recvErr = false
  /-- S panicked iff `analyze_iterative` did -/
  sOk_iff : s.sOk = !s.injected
  sOk_run : s.s = .run ∨ s.s = .sendStop → s.sOk = true
  /-- with a writer no event is lost: received ++ queued = emitted -/
  data : s.w ≠ .absent → s.consumed ++ s.q1 = s.emitted
  best : s.best = lastBest s.consumed []
  printed : s.printed = s.consumed.map Line.info ++ (if s.w = .done then tailLines s.best else [])
  absent : s.w = .absent → s.printed = [] ∧ s.consumed = []
  /-- with `join().ok()` the main thread never panics -/
  aborted : f8 = true → s.m ≠ .aborted
  /-- with `join().unwrap()` (before the repair of F8) `wait_cancel` gets past its first join only if C did not panic -/
  preF8 : f8 = false → s.m = .joinW ∨ s.m = .returned → s.cOk = true

theorem inv_init (f8 writer timer : Bool) : Inv f8 (init writer timer : St μ π) := by
  cases writer <;> cases timer <;> constructor <;> simp [init, lastBest]

/-- a `send` leaves a non-empty queue non-empty -/
theorem pos_send {b : Bool} {n : Nat} (h : 0 < n) : 0 < if b then n + 1 else n := by
  split <;> omega

section preservation
variable {f8 : Bool} {s s' : St μ π} {a : Act μ π}

/-- M is not past its first join while C has not ended -/
theorem Inv.m_before (h : Inv f8 s) (hc : s.c ≠ .done) : ¬ (s.m = .joinW ∨ s.m = .returned) :=
  fun hm => hc (h.m_past hm).1

/-- C has not ended while S has not -/
theorem Inv.c_before (h : Inv f8 s) (hs : s.s ≠ .done) : s.c ≠ .done :=
  fun hc => hs (h.c_done hc).1

/-- W is in its loop (or absent) while S holds `sink` -/
theorem Inv.w_before (h : Inv f8 s) (hs : s.s = .run ∨ s.s = .sendStop) : ¬ (s.w = .tail ∨ s.w = .done) := fun hw => by
  have h1 := (h.s_live hs).1
  rw [(h.w_past hw).1] at h1; cases h1

/-- the order of the joins: once M is past `search_handle.join()`, C and S have ended, C with S's fate, and the join
result is `Some` iff `analyze_iterative` did not panic -/
theorem Inv.past (h : Inv f8 s) (hm : s.m = .joinW ∨ s.m = .returned) :
    s.c = .done ∧ s.s = .done ∧ s.cOk = s.sOk ∧ s.artifact = !s.injected :=
  have ⟨hc, ha⟩ := h.m_past hm
  have ⟨hs, hk⟩ := h.c_done hc
  ⟨hc, hs, hk, by rw [ha, hk, h.sOk_iff]⟩

/-- the invariant is kept when S leaves `run` to send its `Stop` (the rules `sEndSelf` and `sNotice`) -/
theorem Inv.sEnd (h : Inv f8 s) (hr : s.s = .run) : Inv f8 { s with s := .sendStop } :=
  { h with
    s_live := fun _ => h.s_live (Or.inl hr)
    s_done := by simp
    c_done := fun hc => absurd hc (h.c_before (by simp [hr]))
    sOk_run := fun _ => h.sOk_run (Or.inl hr) }

namespace Step
/-- `Inv` is preserved by every rule.  Per rule, only the clauses that read a written field are argued; the others are
taken over from `h` as they stand. -/
theorem inv (hs : Step f8 s a s') (h : Inv f8 s) : Inv f8 s' := by
  cases hs with
  | mCall hg =>
    exact { h with
      tx2_iff := by simpa [hg] using h.tx2_iff
      m_past := by simp
      m_ret := by simp
      stop_sent := fun _ (hc : s.c = .recv) => by
        have : s.rx2 = true := h.rx2_iff.2 (by simp [hc])
        simp [this]
      aborted := by simp
      preF8 := by simp }
  | mJoinC hg hk =>
    exact { h with
      tx2_iff := by simpa [hg.1] using h.tx2_iff
      m_past := fun _ => ⟨hg.2, rfl⟩
      m_ret := by simp
      stop_sent := by simp [hg.2]
      aborted := by simp
      preF8 := fun hf _ => hk.resolve_right (by simp [hf]) }
  | mJoinCAbort hg hk hf =>
    exact { h with
      tx2_iff := by simpa [hg.1] using h.tx2_iff
      m_past := by simp
      m_ret := by simp
      stop_sent := by simp [hg.2]
      aborted := by simp [hf]
      preF8 := by simp }
  | mJoinW hg =>
    exact { h with
      tx2_iff := by simp
      m_past := fun _ => h.m_past (Or.inl hg.1)
      m_ret := fun _ => hg.2
      stop_sent := fun _ => h.stop_sent (by simp [hg.1])
      aborted := by simp
      preF8 := fun hf _ => h.preF8 hf (Or.inl hg.1) }
  | callerDrop hg =>
    exact { h with
      rx1_w := fun hn => absurd hg.1 hn
      w_past := fun hp => ⟨(h.w_past hp).1, rfl⟩
      data := fun hn => absurd hg.1 hn }
  | callerRecv hg _ =>
    exact { h with
      w_past := by simp [hg.1]
      data := fun hn => absurd hg.1 hn }
  | cRecv hc _ =>
    have hcd : s.c ≠ .done := by simp [hc]
    exact { h with
      rx2_iff := by simpa [hc] using h.rx2_iff
      c_done := by simp
      c_ok := fun _ => h.c_ok hcd
      m_past := fun hm => absurd hm (h.m_before hcd)
      flag_iff := by simpa [hc] using h.flag_iff
      stop_sent := by simp }
  | cRecvErr hc _ ht =>
    -- `recv` cannot fail: M still holds its sender
    have hm : s.m = .returned := Classical.byContradiction fun hm => by
      rw [h.tx2_iff.2 hm] at ht; cases ht.1
    exact absurd (Or.inr hm) (h.m_before (by simp [hc]))
  | cCancel hc =>
    have hcd : s.c ≠ .done := by simp [hc]
    exact { h with
      rx2_iff := by simpa [hc] using h.rx2_iff
      c_done := by simp
      c_ok := fun _ => h.c_ok hcd
      m_past := fun hm => absurd hm (h.m_before hcd)
      flag_iff := by simp
      stop_sent := by simp }
  | cJoin hg =>
    have hcd : s.c ≠ .done := by simp [hg.1]
    exact { h with
      rx2_iff := by simp
      c_done := fun _ => ⟨hg.2, rfl⟩
      c_ok := by simp
      m_past := fun hm => absurd hm (h.m_before hcd)
      flag_iff := by simpa [hg.1] using h.flag_iff
      stop_sent := by simp
      preF8 := fun _ hm => absurd hm (h.m_before hcd) }
  | sEmit e hr =>
    have hw := h.w_before (Or.inl hr)
    exact { h with
      w_past := fun hp => absurd hp hw
      data := fun hn => by
        have : s.rx1 = true := (h.rx1_w hn).2 fun hd => hw (Or.inr hd)
        simp [this, ← h.data hn] }
  | sEndSelf hr => exact h.sEnd hr
  | sNotice hg => exact h.sEnd hg.1
  | sPanic hr =>
    exact { h with
      s_live := by simp
      s_done := by simp
      c_done := fun hc => absurd hc (h.c_before (by simp [hr]))
      sOk_iff := rfl
      sOk_run := by simp }
  | sSendStop hr _ =>
    exact { h with
      s_live := by simp
      s_done := by simp
      c_done := fun hc => absurd hc (h.c_before (by simp [hr]))
      stop_sent := fun _ _ => Nat.succ_pos _
      sOk_run := by simp }
  | sSendStopErr hr hk =>
    -- the send cannot fail: C, which holds the receiver, is still there
    rw [h.rx2_iff.2 (h.c_before (by simp [hr]))] at hk; cases hk
  | sDropSink hg =>
    exact { h with
      s_live := by simp [hg.1]
      s_done := by simp [hg.1]
      w_past := fun hp => ⟨rfl, (h.w_past hp).2⟩ }
  | sDropTx3 hg =>
    exact { h with
      s_live := by simp [hg.1]
      s_done := by simp [hg.1] }
  | sFinish hg =>
    exact { h with
      s_live := by simp
      s_done := fun _ => hg.2
      c_done := fun hc => absurd hc (h.c_before (by simp [hg.1]))
      sOk_run := by simp }
  | wRecv hw hq =>
    exact { h with
      w_past := by simp [hw]
      data := fun hn => by simpa [hq] using h.data hn
      best := by rw [lastBest_snoc, ← h.best]
      printed := by simp [h.printed, hw]
      absent := by simp [hw] }
  | wClosed hg =>
    exact { h with
      rx1_w := by simpa [hg.1] using h.rx1_w
      m_ret := fun hm => by simpa [hg.1] using h.m_ret hm
      w_past := fun _ => ⟨hg.2.2, hg.2.1⟩
      data := fun _ => h.data (by simp [hg.1])
      printed := by simpa [hg.1] using h.printed
      absent := by simp }
  | wTail hw =>
    exact { h with
      rx1_w := by simp
      m_ret := fun _ => Or.inl rfl
      w_past := fun _ => h.w_past (Or.inl hw)
      data := fun _ => h.data (by simp [hw])
      printed := by simp [h.printed, hw]
      absent := by simp }
  | tFire ht =>
    exact { h with
      tt_iff := by simpa [ht] using h.tt_iff
      stop_sent := fun hm hc => pos_send (h.stop_sent hm hc) }
  | tExit => exact { h with tt_iff := by simp }
end Step

theorem inv_step (h : Inv f8 s) (hs : step f8 s a = some s') : Inv f8 s' :=
  (step_iff.1 hs).2.inv h

end preservation

theorem inv_reachable {f8 writer timer : Bool} {s : St μ π} (h : Reachable f8 writer timer s) : Inv f8 s := by
  induction h with
  | init => exact inv_init _ _ _
  | step a _ hs ih => exact inv_step ih hs

/-- presence of the writer is fixed by the configuration -/
theorem writer_reachable {f8 writer timer : Bool} {s : St μ π} (h : Reachable f8 writer timer s) :
    (s.w = .absent ↔ writer = false) := by
  induction h with
  | init => cases writer <;> simp [init]
  | step a _ hs ih =>
    rw [← ih]
    cases (step_iff.1 hs).2 with
    | wClosed hg => simp [hg.1]
    | wTail hw => simp [hw]
    | _ => exact Iff.rfl

/-- what every step by one of the actions of the run keeps, the run keeps -/
theorem runActs_ind_mem {f8 : Bool} {P : St μ π → Prop} : ∀ (acts : List (Act μ π)),
    (∀ {s a s'}, a ∈ acts → P s → step f8 s a = some s' → P s') →
    ∀ {s s' : St μ π}, P s → runActs f8 s acts = some s' → P s' := by
  intro acts
  induction acts with
  | nil => intro _ s s' h hr; simp only [runActs, Option.some.injEq] at hr; subst hr; exact h
  | cons a r ih =>
    intro hstep s s' h hr
    unfold runActs at hr
    cases hs : step f8 s a with
    | none => rw [hs] at hr; cases hr
    | some s1 =>
      rw [hs] at hr
      exact ih (fun hm => hstep (List.mem_cons_of_mem _ hm)) (hstep List.mem_cons_self h hs) hr

theorem runActs_ind {f8 : Bool} {P : St μ π → Prop} (hstep : ∀ {s a s'}, P s → step f8 s a = some s' → P s')
    (acts : List (Act μ π)) {s s' : St μ π} : P s → runActs f8 s acts = some s' → P s' :=
  runActs_ind_mem acts fun _ => hstep

theorem runActs_reachable {f8 writer timer : Bool} : ∀ (acts : List (Act μ π)) {s s' : St μ π},
    Reachable f8 writer timer s → runActs f8 s acts = some s' → Reachable f8 writer timer s' :=
  runActs_ind fun h hs => .step _ h hs

theorem runActs_eq_runList (f8 : Bool) : ∀ (acts : List (Act μ π)) (s : St μ π),
    runActs f8 s acts = Wee.Fair.runList (step f8) s acts := by
  intro acts
  induction acts with
  | nil => intro s; rfl
  | cons a r ih =>
    intro s
    unfold runActs Wee.Fair.runList
    cases step f8 s a with
    | none => rfl
    | some s1 => exact ih s1

/-! ## consequences of the invariant used by the property theorems -/

/-- once W has ended it has received every emitted event and printed exactly `writerOut emitted` -/
theorem printed_done {f8 : Bool} {s : St μ π} (h : Inv f8 s) (hw : s.w = .done) :
    s.consumed = s.emitted ∧ s.q1 = [] ∧ s.printed = writerOut s.emitted := by
  have h1 := h.w_past (Or.inr hw)
  have h2 := h.data (by rw [hw]; exact fun e => nomatch e)
  rw [h1.2, List.append_nil] at h2
  refine ⟨h2, h1.2, ?_⟩
  rw [h.printed, h.best, if_pos hw, h2]
  rfl

/-- all `bestmove` lines printed so far: none before W has ended, then the head of the final `best_line`, if any -/
theorem bestmoves_printed {f8 : Bool} {s : St μ π} (h : Inv f8 s) :
    bestmoves s.printed = if s.w = .done then (lastBest s.emitted []).head?.toList else [] := by
  rw [h.printed, h.best, bestmoves_append, bestmoves_info, List.nil_append]
  split
  next hw => rw [bestmoves_tailLines, (printed_done h hw).1]
  next => rfl

/-- every step only appends to the printed lines and to the emitted events -/
theorem step_mono {f8 : Bool} {s s' : St μ π} {a : Act μ π} (hs : step f8 s a = some s') :
    s.printed <+: s'.printed ∧ s.emitted <+: s'.emitted := by
  cases (step_iff.1 hs).2 with
  | sEmit => exact ⟨List.prefix_refl _, List.prefix_append _ _⟩
  | wRecv | wTail => exact ⟨List.prefix_append _ _, List.prefix_refl _⟩
  | _ => exact ⟨List.prefix_refl _, List.prefix_refl _⟩

/-- after `wait_cancel` has returned no step changes the printed lines, the emitted events, the join result or M's
program counter -/
theorem returned_stable {f8 : Bool} {s s' : St μ π} {a : Act μ π} (h : Inv f8 s) (hm : s.m = .returned)
    (hs : step f8 s a = some s') :
    s'.m = .returned ∧ s'.printed = s.printed ∧ s'.emitted = s.emitted ∧ s'.artifact = s.artifact ∧
    s'.consumed = s.consumed := by
  obtain ⟨hc, hsd, _⟩ := h.past (Or.inr hm)
  have hw := h.m_ret hm
  -- M, C and S are at their ends and W is done or absent: only the caller and T can still move
  cases (step_iff.1 hs).2 with
  | callerDrop | callerRecv | tFire | tExit => exact ⟨hm, rfl, rfl, rfl, rfl⟩
  | _ => simp_all

/-! ## liveness: the ranking argument -/

/-- weight of S: how far it is from being joinable -/
def sW (s : St μ π) : Nat :=
  match s.s with
  | .run => 5
  | .sendStop => 4
  | .unwind => 1 + (if s.sink = true then 1 else 0) + (if s.tx3 = true then 1 else 0)
  | .done => 0
def cW : CPc → Nat | .recv => 3 | .cancel => 2 | .joinS => 1 | .done => 0
def mW : MPc → Nat | .idle => 3 | .joinC => 2 | .joinW => 1 | .returned => 0 | .aborted => 0
def wW : WPc → Nat | .loop => 2 | .tail => 1 | .done => 0 | .absent => 0
/-- first component of the rank: the program counters -/
def rank1 (s : St μ π) : Nat := sW s + cW s.c + mW s.m + wW s.w
/-- second component: the events still queued — counted only once S can no longer emit -/
def rank2 (s : St μ π) : Nat := if s.s = .run then 0 else s.q1.length

/-- the action that is enabled and makes progress while M waits in `wait_cancel` -/
def helpful (s : St μ π) : Act μ π :=
  match s.s with
  | .run => if s.flag = true then .sNotice else if s.c = .cancel then .cCancel else .cRecv
  | .sendStop => .sSendStop
  | .unwind => if s.sink = true then .sDropSink else if s.tx3 = true then .sDropTx3 else .sFinish
  | .done =>
    match s.c with
    | .recv => .cRecv
    | .cancel => .cCancel
    | .joinS => .cJoin
    | .done =>
      if s.m = .joinC then .mJoinC else
      match s.w with
      | .loop => if s.q1 = [] then .wClosed else .wRecv
      | .tail => .wTail
      | _ => .mJoinW

/-- M is inside `wait_cancel`, blocked in one of its two joins -/
def Waiting (s : St μ π) : Prop := s.m = .joinC ∨ s.m = .joinW
/-- `wait_cancel` is over: it returned (or, before the repair of F8, took the process down) -/
def Over (s : St μ π) : Prop := s.m = .returned ∨ s.m = .aborted

/-! liveness without M: a search whose stop condition has occurred ends and its output is printed -/

/-- the stop condition of the search has occurred: S has left `analyze_iterative`, or the flag is set, or C is about to
set it, or a `Stop` (from M, T or S) is waiting for C -/
def Triggered (s : St μ π) : Prop :=
  s.s ≠ .run ∨ s.flag = true ∨ s.c = .cancel ∨ (s.c = .recv ∧ 0 < s.q2)

/-- the search thread is joinable and the writer (if any) has printed everything and ended — or the process is gone
(possible only before the repair of F8) -/
def Answered (s : St μ π) : Prop :=
  (s.s = .done ∧ (s.w = .done ∨ s.w = .absent)) ∨ s.m = .aborted

/-- the helpful action for `Triggered ↝ Answered`: it does not involve M -/
def helpful2 (s : St μ π) : Act μ π :=
  match s.s with
  | .run => if s.flag = true then .sNotice else if s.c = .cancel then .cCancel else .cRecv
  | .sendStop => .sSendStop
  | .unwind => if s.sink = true then .sDropSink else if s.tx3 = true then .sDropTx3 else .sFinish
  | .done =>
    match s.w with
    | .loop => if s.q1 = [] then .wClosed else .wRecv
    | _ => .wTail

def lexLt (a b : Nat × Nat) : Prop := a.1 < b.1 ∨ (a.1 = b.1 ∧ a.2 < b.2)

theorem lexLt_wf : WellFounded lexLt := by
  refine Subrelation.wf ?_ (Prod.lex Nat.lt_wfRel Nat.lt_wfRel).wf
  rintro ⟨a1, a2⟩ ⟨b1, b2⟩ (h | ⟨h1, h2⟩)
  · exact Prod.Lex.left _ _ h
  · simp only at h1 h2; subst h1; exact Prod.Lex.right _ h2

section ranking
variable {f8 : Bool} {s s' : St μ π} {a : Act μ π}

/-- the helpful action is always one of the guaranteed ones, and never T's -/
theorem helpful_range (s : St μ π) : (helpful s).fair = true ∧ (helpful s).proc ≠ .T := by
  unfold helpful
  (repeat' split) <;> exact ⟨rfl, nofun⟩

theorem helpful2_range (s : St μ π) : (helpful2 s).fair = true ∧ (helpful2 s).proc ≠ .T := by
  unfold helpful2
  (repeat' split) <;> exact ⟨rfl, nofun⟩

theorem helpful_run (hr : s.s = .run) :
    helpful s = if s.flag = true then .sNotice else if s.c = .cancel then .cCancel else .cRecv := by
  simp only [helpful, hr]

theorem helpful2_eq (hd : s.s ≠ .done) : helpful2 s = helpful s := by
  cases hs : s.s <;> simp only [helpful, helpful2, hs]
  exact absurd hs hd

/-- a step of W, or one that is not guaranteed, taken while S runs and changing no program counter and not the flag,
changes neither the rank nor the helpful actions (which then do not read the event queue), and is not one of them -/
theorem quiet_run (hr : s.s = .run) (hr' : s'.s = .run) (hf : s'.flag = s.flag) (hc : s'.c = s.c) (hm : s'.m = s.m)
    (hw : s'.w = s.w) (ha : a.proc = .W ∨ a.fair = false) :
    (rank1 s', rank2 s') = (rank1 s, rank2 s) ∧ (a ≠ helpful s ∧ helpful s' = helpful s) ∧
      (a ≠ helpful2 s ∧ helpful2 s' = helpful2 s) := by
  have h1 : a ≠ helpful s := by
    rintro rfl
    rcases ha with ha | ha
    · rw [helpful_run hr] at ha
      (repeat' split at ha) <;> cases ha
    · rw [(helpful_range s).1] at ha; cases ha
  have h2 : helpful s' = helpful s := by rw [helpful_run hr, helpful_run hr', hf, hc]
  have e : helpful2 s = helpful s := helpful2_eq (by simp [hr])
  have e' : helpful2 s' = helpful s' := helpful2_eq (by simp [hr'])
  exact ⟨by simp only [rank1, rank2, sW, hr, hr', hc, hm, hw, ↓reduceIte], ⟨h1, h2⟩, by rw [e]; exact h1,
    by rw [e, e', h2]⟩

namespace Step
/-- Every step lowers the rank `(rank1, rank2)` — or it is a step of the environment (the caller, T, an `sEmit`, a `wRecv`
while S runs) that changes neither the rank nor anything the helpful actions depend on. -/
theorem rank (hs : Step f8 s a s') :
    lexLt (rank1 s', rank2 s') (rank1 s, rank2 s) ∨
    ((rank1 s', rank2 s') = (rank1 s, rank2 s) ∧ (a ≠ helpful s ∧ helpful s' = helpful s) ∧
      (a ≠ helpful2 s ∧ helpful2 s' = helpful2 s)) := by
  cases hs with
  | mCall hg | mJoinC hg | mJoinCAbort hg | mJoinW hg | cRecv hg | cRecvErr hg | cCancel hg | cJoin hg
  | sEndSelf hg | sNotice hg | sDropSink hg | sDropTx3 hg | sFinish hg | wClosed hg
  | wTail hg =>
    refine Or.inl (Or.inl ?_)
    simp only [rank1, sW, cW, mW, wW, hg, Bool.false_eq_true, ↓reduceIte]
    omega
  | sPanic hg | sSendStop hg | sSendStopErr hg =>
    refine Or.inl (Or.inl ?_)
    simp only [rank1, sW, hg]
    split <;> split <;> omega
  | sEmit _ hr => exact Or.inr (quiet_run hr hr rfl rfl rfl rfl (Or.inr rfl))
  | tFire | tExit =>
    exact Or.inr ⟨rfl, ⟨fun e => (helpful_range s).2 (e ▸ rfl), rfl⟩, fun e => (helpful2_range s).2 (e ▸ rfl), rfl⟩
  | wRecv _ hq | callerRecv _ hq =>
    by_cases hr : s.s = .run
    · exact Or.inr (quiet_run hr hr rfl rfl rfl rfl (by simp [Act.proc, Act.fair]))
    · refine Or.inl (Or.inr ⟨rfl, ?_⟩)
      simp only [rank2, hr, hq, List.length_cons, ↓reduceIte]
      omega
  | callerDrop =>
    by_cases hr : s.s = .run
    · exact Or.inr (quiet_run hr hr rfl rfl rfl rfl (Or.inr rfl))
    · cases hq : s.q1 with
      | nil =>
        refine Or.inr ⟨?_, ⟨?_, ?_⟩, ?_, ?_⟩
        · simp only [rank1, rank2, sW, hq]
        · exact fun e => by have := (helpful_range s).1; rw [← e] at this; cases this
        · simp only [helpful, hq]
        · exact fun e => by have := (helpful2_range s).1; rw [← e] at this; cases this
        · simp only [helpful2, hq]
      | cons e r =>
        refine Or.inl (Or.inr ⟨rfl, ?_⟩)
        simp only [rank2, hr, hq, List.length_cons, List.length_nil, ↓reduceIte]
        omega

theorem waiting (hs : Step f8 s a s') (hw : Waiting s) : Over s' ∨ Waiting s' := by
  cases hs with
  | mCall => exact Or.inr (Or.inl rfl)
  | mJoinC => exact Or.inr (Or.inr rfl)
  | mJoinCAbort => exact Or.inl (Or.inr rfl)
  | mJoinW => exact Or.inl (Or.inl rfl)
  | _ => exact Or.inr hw

/-- the stop condition, once it has occurred, stays -/
theorem triggered (hs : Step f8 s a s') (ht : Triggered s) : Triggered s' := by
  cases hs with
  | mCall | tFire =>
    exact ht.imp id (.imp id (.imp id fun ⟨hc, hq⟩ => ⟨hc, pos_send hq⟩))
  | cRecv | cRecvErr => exact Or.inr (Or.inr (Or.inl rfl))
  | cCancel => exact Or.inr (Or.inl rfl)
  | cJoin hg => exact Or.inl (by simp [hg.2])
  | sEndSelf | sNotice | sPanic | sSendStop | sSendStopErr | sFinish => exact Or.inl nofun
  | _ => exact ht
end Step

end ranking

section enabled
variable {f8 : Bool} {s : St μ π}

/-- while S has not finished the helpful action is S's next step — or, while it runs un-cancelled, C's — and is enabled,
provided a `Stop` is queued whenever C is still in `recv` -/
theorem enabled_helpful_S (h : Inv f8 s) (hm : s.m ≠ .aborted) (hd : s.s ≠ .done)
    (hq : s.s = .run → s.c = .recv → 0 < s.q2) : (step f8 s (helpful s)).isSome = true := by
  cases hs : s.s with
  | run =>
    rw [helpful_run hs]
    split
    next hf => exact (Step.sNotice ⟨hs, hf⟩).enabled hm
    split
    next hc => exact (Step.cCancel hc).enabled hm
    next hf hc =>
      -- the flag is not set and C is not about to set it: C is in `recv`
      have hr : s.c = .recv := by
        have := h.flag_iff
        cases hc' : s.c <;> simp_all
      exact (Step.cRecv hr (hq hs hr)).enabled hm
  | sendStop =>
    simp only [helpful, hs]
    exact (Step.sSendStop hs (h.rx2_iff.2 (h.c_before hd))).enabled hm
  | unwind =>
    simp only [helpful, hs]
    split
    next hk => exact (Step.sDropSink ⟨hs, hk⟩).enabled hm
    split
    next ht => exact (Step.sDropTx3 ⟨hs, ht⟩).enabled hm
    next hk ht => exact (Step.sFinish ⟨hs, by simpa using hk, by simpa using ht⟩).enabled hm
  | done => exact absurd hs hd

/-- once S has finished, W is never blocked -/
theorem enabled_writer (h : Inv f8 s) (hm : s.m ≠ .aborted) (hd : s.s = .done) :
    (s.w = .loop → (step f8 s (if s.q1 = [] then .wClosed else .wRecv)).isSome = true) ∧
    (s.w = .tail → (step f8 s .wTail).isSome = true) := by
  refine ⟨fun hw => ?_, fun hw => (Step.wTail hw).enabled hm⟩
  cases hq : s.q1 with
  | nil => exact (Step.wClosed ⟨hw, hq, (h.s_done hd).1⟩).enabled hm
  | cons e r => exact (Step.wRecv hw hq).enabled hm

/-- **no deadlock**: while M waits, the helpful action is enabled, and it is one of the guaranteed (fair) actions -/
theorem enabled_helpful (h : Inv f8 s) (hw : Waiting s) :
    (step f8 s (helpful s)).isSome = true ∧ (helpful s).fair = true := by
  refine ⟨?_, (helpful_range s).1⟩
  have hm : s.m ≠ .aborted ∧ s.m ≠ .idle := by rcases hw with e | e <;> simp [e]
  by_cases hd : s.s = .done
  · simp only [helpful, hd]
    cases hc : s.c with
    | recv => exact (Step.cRecv hc (h.stop_sent hm.2 hc)).enabled hm.1
    | cancel => exact (Step.cCancel hc).enabled hm.1
    | joinS => exact (Step.cJoin ⟨hc, hd⟩).enabled hm.1
    | done =>
      simp only
      split
      next hj =>
        by_cases hk : s.cOk = true ∨ f8 = true
        · exact (Step.mJoinC ⟨hj, hc⟩ hk).enabled hm.1
        · exact (Step.mJoinCAbort ⟨hj, hc⟩ (by simpa using mt Or.inl hk) (by simpa using mt Or.inr hk)).enabled hm.1
      next hj =>
        have hj' : s.m = .joinW := hw.resolve_left hj
        cases hww : s.w with
        | loop => simpa only [hww] using (enabled_writer h hm.1 hd).1 hww
        | tail => exact (enabled_writer h hm.1 hd).2 hww
        | done => exact (Step.mJoinW ⟨hj', Or.inl hww⟩).enabled hm.1
        | absent => exact (Step.mJoinW ⟨hj', Or.inr hww⟩).enabled hm.1
  · exact enabled_helpful_S h hm.1 hd fun _ hc => h.stop_sent hm.2 hc

theorem enabled_helpful2 (h : Inv f8 s) (ht : Triggered s) (hq : ¬ Answered s) :
    (step f8 s (helpful2 s)).isSome = true ∧ (helpful2 s).fair = true := by
  refine ⟨?_, (helpful2_range s).1⟩
  have hm : s.m ≠ .aborted := fun e => hq (Or.inr e)
  by_cases hd : s.s = .done
  · simp only [helpful2, hd]
    cases hw : s.w with
    | loop => simpa only [hw] using (enabled_writer h hm hd).1 hw
    | tail => exact (enabled_writer h hm hd).2 hw
    | done => exact absurd (Or.inl ⟨hd, Or.inl hw⟩) hq
    | absent => exact absurd (Or.inl ⟨hd, Or.inr hw⟩) hq
  · rw [helpful2_eq hd]
    refine enabled_helpful_S h hm hd fun hr hc => ?_
    rcases ht with h1 | h1 | h1 | h1
    · exact absurd hr h1
    · have := h.flag_iff.1 h1
      rw [hc] at this; simp at this
    · rw [hc] at h1; cases h1
    · exact h1.2

end enabled

/-- **`wait_cancel` ends** on every weakly fair execution: from every moment at which M is blocked in one of the two
joins, a later moment at which it has returned (or aborted, which `Inv.aborted` excludes for the repaired code) -/
theorem waiting_leadsTo_over {f8 : Bool} (e : Wee.Fair.Exec (step f8 (μ := μ) (π := π)))
    (h0 : Inv f8 (e.st 0)) (hfair : ∀ a : Act μ π, a.fair = true → Wee.Fair.WeakFair e a) :
    ∀ i, Waiting (e.st i) → ∃ j, i ≤ j ∧ Over (e.st j) := by
  have hI : ∀ i, Inv f8 (e.st i) := e.invariant (Inv f8) h0 (fun s a s' hi hs => inv_step hi hs)
  refine Wee.Fair.leadsTo_of_rank lexLt lexLt_wf (Inv f8) Waiting Over (fun s => (rank1 s, rank2 s)) helpful
    (fun a => a.fair = true) ?_ ?_ ?_ e hI hfair
  · intro s hi hw _; exact (enabled_helpful hi hw).2
  · intro s hi hw _; exact (enabled_helpful hi hw).1
  · intro s a s' _ hw _ hs
    have hs := (step_iff.1 hs).2
    exact (hs.waiting hw).imp id fun hw' => ⟨hw', hs.rank.imp id fun ⟨hr, hh, _⟩ => ⟨hh.1, hr, hh.2⟩⟩

/-- **a triggered search is answered** on every weakly fair execution -/
theorem triggered_leadsTo_answered {f8 : Bool} (e : Wee.Fair.Exec (step f8 (μ := μ) (π := π)))
    (h0 : Inv f8 (e.st 0)) (hfair : ∀ a : Act μ π, a.fair = true → Wee.Fair.WeakFair e a) :
    ∀ i, Triggered (e.st i) → ∃ j, i ≤ j ∧ Answered (e.st j) := by
  have hI : ∀ i, Inv f8 (e.st i) := e.invariant (Inv f8) h0 (fun s a s' hi hs => inv_step hi hs)
  refine Wee.Fair.leadsTo_of_rank lexLt lexLt_wf (Inv f8) Triggered Answered (fun s => (rank1 s, rank2 s)) helpful2
    (fun a => a.fair = true) ?_ ?_ ?_ e hI hfair
  · intro s hi ht hq; exact (enabled_helpful2 hi ht hq).2
  · intro s hi ht hq; exact (enabled_helpful2 hi ht hq).1
  · intro s a s' _ ht _ hs
    have hs := (step_iff.1 hs).2
    exact Or.inr ⟨hs.triggered ht, hs.rank.imp id fun ⟨hr, _, hh⟩ => ⟨hh.1, hr, hh.2⟩⟩


/-! ## the timer -/

/-- a state with T's own part and the number of queued `Stop`s forgotten -/
def forgetTimer (s : St μ π) : St μ π := { s with q2 := 0, t := .done, tt := false }

/-- equal up to T's own state and the number of queued `Stop`s, of which C will read at most one: either C is past its
`recv`, or both queues are non-empty -/
def StopEquiv (s u : St μ π) : Prop :=
  forgetTimer s = forgetTimer u ∧ (s.c ≠ .recv ∨ (0 < s.q2 ∧ 0 < u.q2))

theorem StopEquiv.refl {s : St μ π} (h : s.c ≠ .recv ∨ 0 < s.q2) : StopEquiv s s :=
  ⟨rfl, h.imp id (fun h => ⟨h, h⟩)⟩

theorem StopEquiv.symm {s u : St μ π} (h : StopEquiv s u) : StopEquiv u s := by
  obtain ⟨h1, h2⟩ := h
  refine ⟨h1.symm, ?_⟩
  have hc' := congrArg St.c h1
  have hc : s.c = u.c := hc'
  rcases h2 with h2 | ⟨h2, h3⟩
  · exact Or.inl (hc ▸ h2)
  · exact Or.inr ⟨h3, h2⟩

section timer
variable {f8 : Bool} {s u s' : St μ π} {a b : Act μ π}

/-- a step of T never disables an action of another process -/
theorem timer_never_blocks (hb : b.proc = .T) (hs : step f8 s b = some s') (ha : a.proc ≠ .T)
    (hen : (step f8 s a).isSome = true) : (step f8 s' a).isSome = true := by
  obtain ⟨hm, hb'⟩ := step_iff.1 hs
  obtain ⟨s'', hs''⟩ := Option.isSome_iff_exists.1 hen
  -- T writes `t` and `tt`, and only adds to `q2`
  obtain ⟨x, y, k, hk, hy, rfl⟩ :
      ∃ x y k, s.q2 ≤ k ∧ (s.tt = false → y = false) ∧ s' = { s with t := x, tt := y, q2 := k } := by
    cases hb' with
    | tFire => exact ⟨_, _, _, by split <;> omega, id, rfl⟩
    | tExit => exact ⟨_, _, _, Nat.le_refl _, fun _ => rfl, rfl⟩
    | _ => cases hb
  have hm : ({ s with t := x, tt := y, q2 := k } : St μ π).m ≠ .aborted := hm
  cases (step_iff.1 hs'').2 with
  | tFire | tExit => exact absurd rfl ha
  | cRecv hc hq => exact Step.enabled hm (.cRecv hc (Nat.lt_of_lt_of_le hq hk))
  | cRecvErr hc hq ht =>
    by_cases hk0 : 0 < k
    · exact Step.enabled hm (.cRecv hc hk0)
    · exact Step.enabled hm (.cRecvErr hc hk0 ⟨ht.1, ht.2.1, hy ht.2.2⟩)
  | mJoinCAbort hg hk hf => exact Step.enabled hm (.mJoinCAbort hg hk hf)
  | sSendStopErr hr hk => exact Step.enabled hm (.sSendStopErr hr hk)
  -- the guards of the other rules read nothing T writes
  | _ =>
    apply Step.enabled hm
    constructor <;> assumption

/-- equal up to T's fields: the one is the other with those fields set -/
theorem eq_of_forgetTimer (h : forgetTimer s = forgetTimer u) : u = { s with t := u.t, tt := u.tt, q2 := u.q2 } := by
  cases s; cases u
  simp_all [forgetTimer]

/-- `StopEquiv` states agree on everything observable: program counters of M, C, S, W, flag, channel 1, outputs -/
theorem StopEquiv.obs {s u : St μ π} (h : StopEquiv s u) :
    s.m = u.m ∧ s.c = u.c ∧ s.s = u.s ∧ s.w = u.w ∧ s.flag = u.flag ∧ s.q1 = u.q1 ∧ s.printed = u.printed ∧
    s.emitted = u.emitted ∧ s.consumed = u.consumed ∧ s.artifact = u.artifact ∧ s.sOk = u.sOk ∧ s.cOk = u.cOk := by
  rw [eq_of_forgetTimer h.1]
  exact ⟨rfl, rfl, rfl, rfl, rfl, rfl, rfl, rfl, rfl, rfl, rfl, rfl⟩

/-- steps of T are invisible -/
theorem stopEquiv_timer (h : StopEquiv s u) (hb : b.proc = .T) (hs : step f8 s b = some s') : StopEquiv s' u := by
  obtain ⟨h1, h2⟩ := h
  cases (step_iff.1 hs).2 with
  | tFire => exact ⟨h1, h2.imp id fun ⟨h3, h4⟩ => ⟨pos_send h3, h4⟩⟩
  | tExit => exact ⟨h1, h2⟩
  | _ => cases hb

/-- every step of M, C, S, W from one of two `StopEquiv` states is matched by the same action from the other -/
theorem stopEquiv_step (h : StopEquiv s u) (ha : a.proc ≠ .T) (hs : step f8 s a = some s') :
    ∃ u', step f8 u a = some u' ∧ StopEquiv s' u' := by
  obtain ⟨h1, h2⟩ := h
  obtain ⟨hm, hs⟩ := step_iff.1 hs
  obtain ⟨x, y, k, rfl⟩ : ∃ x y k, u = { s with t := x, tt := y, q2 := k } := ⟨_, _, _, eq_of_forgetTimer h1⟩
  have hm : ({ s with t := x, tt := y, q2 := k } : St μ π).m ≠ .aborted := hm
  cases hs with
  | tFire | tExit => exact absurd rfl ha
  | mCall hg => exact ⟨_, Step.to_step hm (.mCall hg), rfl, h2.imp id fun ⟨h3, h4⟩ => ⟨pos_send h3, pos_send h4⟩⟩
  | cRecv hc hq => exact ⟨_, Step.to_step hm (.cRecv hc (h2.resolve_left (not_not_intro hc)).2), rfl, Or.inl nofun⟩
  | cRecvErr hc hq => exact absurd (h2.resolve_left (not_not_intro hc)).1 hq
  | cCancel hc => exact ⟨_, Step.to_step hm (.cCancel hc), rfl, Or.inl nofun⟩
  | cJoin hg => exact ⟨_, Step.to_step hm (.cJoin hg), rfl, Or.inl nofun⟩
  | sSendStop hr hk =>
    exact ⟨_, Step.to_step hm (.sSendStop hr hk), rfl, h2.imp id fun _ => ⟨Nat.succ_pos _, Nat.succ_pos _⟩⟩
  | mJoinCAbort hg hk hf => exact ⟨_, Step.to_step hm (.mJoinCAbort hg hk hf), rfl, h2⟩
  | sSendStopErr hr hk => exact ⟨_, Step.to_step hm (.sSendStopErr hr hk), rfl, h2⟩
  -- the other rules read and write neither `c` nor anything in which `u` differs from `s`
  | _ =>
    apply Exists.intro
    apply And.intro
    · apply Step.to_step hm
      constructor <;> assumption
    · exact ⟨rfl, h2⟩

end timer

/-! ## along a run; the `injected` flag; terminal states -/

theorem runActs_inv {f8 : Bool} : ∀ (acts : List (Act μ π)) {s s' : St μ π}, Inv f8 s →
    runActs f8 s acts = some s' → Inv f8 s' :=
  runActs_ind inv_step

/-- along a run the printed lines and the emitted events only grow -/
theorem runActs_mono {f8 : Bool} {s s' : St μ π} (acts : List (Act μ π)) (hr : runActs f8 s acts = some s') :
    s.printed <+: s'.printed ∧ s.emitted <+: s'.emitted :=
  runActs_ind (P := fun x => s.printed <+: x.printed ∧ s.emitted <+: x.emitted)
    (fun h hs => ⟨h.1.trans (step_mono hs).1, h.2.trans (step_mono hs).2⟩) acts
    ⟨List.prefix_refl _, List.prefix_refl _⟩ hr

/-- after `wait_cancel` has returned, nothing of this search is printed any more, whatever the other threads still do -/
theorem runActs_returned_stable {f8 : Bool} {s s' : St μ π} (acts : List (Act μ π)) (h : Inv f8 s)
    (hm : s.m = .returned) (hr : runActs f8 s acts = some s') :
    s'.m = .returned ∧ s'.printed = s.printed ∧ s'.emitted = s.emitted ∧ s'.artifact = s.artifact ∧
    s'.consumed = s.consumed :=
  (runActs_ind (P := fun x => Inv f8 x ∧ x.m = .returned ∧ x.printed = s.printed ∧ x.emitted = s.emitted ∧
      x.artifact = s.artifact ∧ x.consumed = s.consumed)
    (fun ⟨hi, hm, e2, e3, e4, e5⟩ hs =>
      have ⟨g1, g2, g3, g4, g5⟩ := returned_stable hi hm hs
      ⟨inv_step hi hs, g1, g2.trans e2, g3.trans e3, g4.trans e4, g5.trans e5⟩)
    acts ⟨h, hm, rfl, rfl, rfl, rfl⟩ hr).2

/-- `injected` records exactly whether `sPanic` was taken -/
theorem step_injected {f8 : Bool} {s s' : St μ π} {a : Act μ π} (hs : step f8 s a = some s') :
    (s'.injected = true ↔ s.injected = true ∨ a = .sPanic) := by
  cases (step_iff.1 hs).2 <;> simp

/-- a state in which NO action is enabled: `wait_cancel` is over and every thread has ended -/
theorem terminal_state {f8 : Bool} {s : St μ π} (h : Inv f8 s) (hno : ∀ a : Act μ π, (step f8 s a).isSome = false) :
    (s.m = .returned ∨ s.m = .aborted) ∧
    (s.m = .returned → s.c = .done ∧ s.s = .done ∧ (s.w = .done ∨ s.w = .absent) ∧ s.t = .done) := by
  have hm : s.m = .returned ∨ s.m = .aborted := by
    cases hmm : s.m with
    | idle =>
      have := (Step.mCall (f8 := f8) hmm).enabled (by simp [hmm])
      rw [hno] at this; cases this
    | joinC =>
      have := (enabled_helpful h (Or.inl hmm)).1
      rw [hno] at this; cases this
    | joinW =>
      have := (enabled_helpful h (Or.inr hmm)).1
      rw [hno] at this; cases this
    | returned => exact Or.inl rfl
    | aborted => exact Or.inr rfl
  refine ⟨hm, fun hr => ?_⟩
  obtain ⟨hc, hs, _⟩ := h.past (Or.inr hr)
  refine ⟨hc, hs, h.m_ret hr, ?_⟩
  have hna : s.m ≠ .aborted := by simp [hr]
  cases ht : s.t with
  | waiting => have := (Step.tFire (f8 := f8) ht).enabled hna; rw [hno] at this; cases this
  | fired => have := (Step.tExit (f8 := f8) ht).enabled hna; rw [hno] at this; cases this
  | done => rfl

/-! ## the last `BestMove` event -/

theorem lastBestEvent_some {evs : List (Ev μ π)} {line : List μ} (h : lastBestEvent evs = some line) :
    ∃ p, Ev.best line p ∈ evs := by
  induction evs with
  | nil => cases h
  | cons e r ih =>
    cases e with
    | best l p =>
      cases hr : lastBestEvent r with
      | none =>
        simp only [lastBestEvent, hr, Option.or_some, Option.getD_none, Option.some.injEq] at h
        exact ⟨p, h ▸ List.mem_cons_self⟩
      | some l' =>
        simp only [lastBestEvent, hr, Option.or_some, Option.getD_some, Option.some.injEq] at h
        exact (ih (h ▸ hr)).imp fun _ => List.mem_cons_of_mem _
    | other p => exact (ih h).imp fun _ => List.mem_cons_of_mem _

theorem lastBestEvent_none {evs : List (Ev μ π)} :
    lastBestEvent evs = none ↔ ∀ line p, Ev.best line p ∉ evs := by
  induction evs with
  | nil => simp [lastBestEvent]
  | cons e r ih =>
    cases e with
    | best l p =>
      have : lastBestEvent (.best l p :: r) ≠ none := by cases hr : lastBestEvent r <;> simp [lastBestEvent, hr]
      exact ⟨fun h => absurd h this, fun h => absurd List.mem_cons_self (h l p)⟩
    | other p => simp [lastBestEvent, ih]

/-! Three tactics that no proof uses.  `step_inv` proves one action's case of the invariant the direct way — destructure
invariant and state, unfold `step`, split every `if`, `simp_all` — where the proof in use, `Step.inv`, does `cases` on
the rule.  `live_tac` and `live2_tac` are its analogues for the ranking; they name predicates `Progress`, `Progress2`
that are not defined (the ranking is stated by `Step.rank`), so they cannot be run. -/
local macro "step_inv" h:ident hs:ident s:ident : tactic => `(tactic| (
  obtain ⟨h1, h2, h3, h4, h5, h6, h7, h8, h9, h10, h11, h12, h13, h14, h15, h16, h17, h18, h19, h20, h21, h22, h23⟩ := $h
  obtain ⟨m, c, ss, w, t, sOk, cOk, art, q1, sink, rx1, q2, tx2, tx3, tt, rx2, flag, best, em, co, pr, sf, inj, re⟩ := $s
  simp only at h1 h2 h3 h4 h5 h6 h7 h8 h9 h10 h11 h12 h13 h14 h15 h16 h17 h18 h19 h20 h21 h22 h23
  unfold step at $hs:ident
  simp only at $hs:ident
  (repeat' split at $hs:ident) <;> (try cases $hs:ident) <;> constructor <;> simp_all <;> (first | omega | grind)))

local macro "live_tac" h:ident hs:ident s:ident : tactic => `(tactic| (
  obtain ⟨h1, h2, h3, h4, h5, h6, h7, h8, h9, h10, h11, h12, h13, h14, h15, h16, h17, h18, h19, h20, h21, h22, h23⟩ := $h
  obtain ⟨m, c, ss, w, t, sOk, cOk, art, q1, sink, rx1, q2, tx2, tx3, tt, rx2, flag, best, em, co, pr, sf, inj, re⟩ := $s
  simp only at h1 h2 h3 h4 h5 h6 h7 h8 h9 h10 h11 h12 h13 h14 h15 h16 h17 h18 h19 h20 h21 h22 h23
  unfold step at $hs:ident
  simp only at $hs:ident
  (repeat' split at $hs:ident) <;> (try cases $hs:ident) <;>
    simp_all [Progress, Waiting, Over, lexLt, rank1, rank2, sW, cW, mW, wW, helpful] <;> (first | omega | grind)))

local macro "live2_tac" h:ident hs:ident s:ident : tactic => `(tactic| (
  obtain ⟨h1, h2, h3, h4, h5, h6, h7, h8, h9, h10, h11, h12, h13, h14, h15, h16, h17, h18, h19, h20, h21, h22, h23⟩ := $h
  obtain ⟨m, c, ss, w, t, sOk, cOk, art, q1, sink, rx1, q2, tx2, tx3, tt, rx2, flag, best, em, co, pr, sf, inj, re⟩ := $s
  simp only at h1 h2 h3 h4 h5 h6 h7 h8 h9 h10 h11 h12 h13 h14 h15 h16 h17 h18 h19 h20 h21 h22 h23
  unfold step at $hs:ident
  simp only at $hs:ident
  (repeat' split at $hs:ident) <;> (try cases $hs:ident) <;>
    simp_all [Progress2, Triggered, Answered, lexLt, rank1, rank2, sW, cW, mW, wW, helpful2] <;> (first | omega | grind)))

end Wee.Threads
