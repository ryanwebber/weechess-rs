import Wee.Gen.UciFns
import Wee.Proofs.BookFnsBridge
import Wee.Proofs.UciLemmas
/-!
# Stage 4c: the command loop translated from `uci.rs` refines the session model `Wee/Model/Uci.lean`

`Client.exec.body` (generated by `tools/rs2lean_uci.py` from the text of `Client::exec`) is one pass of the command loop.
`TokenSeam.body_refines`: whenever it returns, `Uci.step` returns the corresponding session, the same quit flag and the
corresponding outputs.  `TokenSeam.exec_refines`: a whole run is a `RunsTo` run of the model over the same lines (`Uci.run` with the
outcome of each search supplied from outside).

**Which family of theorems to build on.**  The step / loop / run theorems exist under three hypotheses about the resolver
`State::by_performing_moves`:
* `TokenSeam` (this file): the resolver agrees with `performQueries` on the queries read from the words of a line.  This is what
  the proofs use: `TokenSeam.body_refines`, `.loop_refines`, `.exec_refines` are the theorems, the other two families are their
  corollaries.
* `ResolverSeamQ` (`SeamFnsBridge.lean`): the same for every query list whose ranks and files fit a `u8`.  The translated
  resolver satisfies it (`resolverSeamQ_seamEnv`) and it gives a `TokenSeam` (`ResolverSeamQ.tokens`).  Build on the `TokenSeam`
  theorems through it, or on `Client.exec.body_refines_resolved` / `Client.exec_refines_resolved`, where the translated resolver is
  plugged in and no resolver hypothesis is left.
* `ResolverSeam` (this file): the same for ALL query lists.  No `env` can satisfy it — argued, not proved in Lean: `mqOf` truncates
  ranks and files to `u8`, so two model queries with different answers have the same Rust query and one resolver would have to
  give both answers.  So `Client.exec.body_refines`, `Client.exec.loop_refines`, `Client.exec_refines`, which assume it, say
  nothing: build nothing on them.

The other hypotheses: the regex seam (`RxOK`, `TextFnsBridge.lean`) and fewer than 2^64 words on a line (`ShortLines`).  `go` and
`position` first join a running search and are proved from the idle
session (`arm_of_idle`); all other arms are run in one pass over the body (`Client.exec.body_refines_other`) against the rules of
the model's step (`Uci.StepOf`), and the theorems `arm_…` are that pass at a line with the given first word.
-/
namespace Wee.GenFns
open Wee.Uci

/-! ## the words of a line -/

theorem words_of_tok {cmd w : String} {args : List String} (htok : splitAsciiWs cmd = w :: args) :
    str.split_ascii_whitespace cmd.toList = w.toList :: args.map String.toList := by
  rw [str.split_ascii_whitespace_eq, htok, List.map_cons]

theorem first_word_ne {cmd w v : String} {args : List String} (htok : splitAsciiWs cmd = w :: args) (h : w ≠ v) :
    ∀ a, splitAsciiWs cmd ≠ v :: a :=
  fun _ e => h (List.cons.inj (htok.symm.trans e)).1

/-! ## the argument loop of `go` -/

def tOf (t : Option Int) : Option Float := t.map fun ms => i32.as_f64 (Int32.ofInt ms) / (1000.0 : Float)
def dOf (d : Option Nat) : Option UInt64 := d.map Nat.toUInt64
def unparsable : List Char := "info string unparsable go commands".toList

/-- one pass of the argument loop, as a function of the model's vocabulary -/
def goStep (arg : List Char) (it : List (List Char)) (v : World × Option Float × Option UInt64) :
    Panics (Flow (List (List Char) × World × Option Float × Option UInt64)) :=
  if arg = "movetime".toList then
    match it with
    | [] => some (Flow.brk ([], World.println v.1 unparsable, v.2.1, v.2.2))
    | time :: it' => (match i32.from_str_radix10 time with
        | .ok ms => some (Flow.cont (it', v.1, some (i32.as_f64 ms / (1000.0 : Float)), v.2.2))
        | .error _ => some (Flow.brk (it', World.println v.1 unparsable, v.2.1, v.2.2)))
  else if arg = "depth".toList then
    match it with
    | [] => some (Flow.brk ([], World.println v.1 unparsable, v.2.1, v.2.2))
    | x :: it' => (match usize.from_str_radix10 x with
        | .ok n => some (Flow.cont (it', v.1, v.2.1, some n))
        | .error _ => some (Flow.brk (it', World.println v.1 unparsable, v.2.1, v.2.2)))
  else some (Flow.brk (it, World.println v.1 unparsable, v.2.1, v.2.2))

theorem go_loop (F : List Char → List (List Char) → World × Option Float × Option UInt64 →
      Panics (Flow (List (List Char) × World × Option Float × Option UInt64)))
    (hF : ∀ arg it v, F arg it v = goStep arg it v) (io : World) :
    ∀ (fuel : Nat) (args : List String), args.length < fuel → ∀ (d : Option Nat) (t : Option Int),
      ∃ rest, while_let_next fuel (args.map String.toList) (io, tOf t, dOf d) F =
        some (rest, (if (parseGoArgs args d t).2.2 then World.println io unparsable else io),
              tOf (parseGoArgs args d t).2.1, dOf (parseGoArgs args d t).1) := by
  intro fuel
  induction fuel with
  | zero => intro args h; omega
  | succ n ih =>
    intro args hlen d t
    cases args with
    | nil => exact ⟨[], by simp [while_let_next, parseGoArgs]⟩
    | cons a rest =>
      simp only [List.map_cons, while_let_next, hF]
      by_cases h1 : a = "movetime"
      · subst h1
        cases rest with
        | nil => exact ⟨[], by simp [goStep, parseGoArgs.eq_3]⟩
        | cons x rest' =>
          rw [parseGoArgs.eq_2]
          simp only [goStep, List.map_cons, if_true, i32.from_str_radix10_eq]
          cases hp : parseI32 x with
          | none => exact ⟨rest'.map String.toList, by simp⟩
          | some ms =>
            obtain ⟨r, hr⟩ := ih rest' (by simp at hlen ⊢; omega) d (some ms)
            exact ⟨r, by simpa [tOf] using hr⟩
      · by_cases h2 : a = "depth"
        · subst h2
          cases rest with
          | nil => exact ⟨[], by simp [goStep, parseGoArgs.eq_5]⟩
          | cons x rest' =>
            rw [parseGoArgs.eq_4]
            have hne : ¬ ("depth".toList = "movetime".toList) := fun h => absurd (String.toList_inj.1 h) (by decide)
            simp only [goStep, List.map_cons, if_true, hne, if_false, usize.from_str_radix10_eq]
            cases hp : parseUsizeTok x with
            | none => exact ⟨rest'.map String.toList, by simp⟩
            | some k =>
              obtain ⟨r, hr⟩ := ih rest' (by simp at hlen ⊢; omega) (some k) t
              exact ⟨r, by simpa [dOf] using hr⟩
        · have e1 : ¬ (a.toList = "movetime".toList) := fun h => h1 (String.toList_inj.1 h)
          have e2 : ¬ (a.toList = "depth".toList) := fun h => h2 (String.toList_inj.1 h)
          rw [parseGoArgs.eq_6 _ _ _ _ h1 h2]
          refine ⟨rest.map String.toList, ?_⟩
          unfold goStep
          rw [if_neg e1, if_neg e2]
          simp

/-! ## sessions, events, and the arms without parsing -/

abbrev Vars := Option Search × State × Option SearchArtifact × ThreadRng × World

def Flow.vars {σ : Type} : Flow σ → σ
  | .cont s => s
  | .brk s => s
def Flow.isBrk {σ : Type} : Flow σ → Bool
  | .cont _ => false
  | .brk _ => true

/-- whether the search now running (if any) will be joined with an artifact -/
def okOf (cs : Option Search) : Bool :=
  match cs with
  | some h => h.outcome.isSome
  | none => true

/-- the generated loop variables represent a model session -/
structure Rep (Inv : Wee.State → Prop) (g : Vars) (s : Sess) : Prop where
  pos : g.2.1 = stateOf s.pos
  inv : Inv s.pos
  searching : s.searching = g.1.isSome
  artifact : s.artifact = g.2.2.1.isSome
  ok : ∀ h, g.1 = some h → s.searchOk = h.outcome.isSome

theorem Rep.print {Inv : Wee.State → Prop} {cs : Option Search} {cp : State} {pa : Option SearchArtifact} {rng : ThreadRng} {io : World}
    {s : Sess} (h : Rep Inv (cs, cp, pa, rng, io) s) (io' : World) : Rep Inv (cs, cp, pa, rng, io') s :=
  ⟨h.pos, h.inv, h.searching, h.artifact, h.ok⟩

theorem Rep.setPos {Inv : Wee.State → Prop} {cs : Option Search} {cp : State} {pa : Option SearchArtifact} {rng : ThreadRng} {io : World}
    {s : Sess} (h : Rep Inv (cs, cp, pa, rng, io) s) {st : Wee.State} (hst : Inv st) (io' : World) :
    Rep Inv (cs, stateOf st, pa, rng, io') { s with pos := st } :=
  ⟨rfl, hst, h.searching, h.artifact, h.ok⟩

/-- a printed line against the model's `Out.line` (the model abbreviates the two `id` lines) -/
inductive LineR (env : UciSeams) : List Char → String → Prop
  | lit (s : String) : LineR env s.toList s
  | name : LineR env ("id name ".toList ++ env.display_EngineVersion) "id name"
  | author : LineR env ("id author ".toList ++ env.engine_author) "id author"

/-- the events of the generated code against the outputs / marks of the model, in order -/
inductive UEvR (env : UciSeams) : List UEvent → List Out → Prop
  | nil : UEvR env [] []
  | line {l s es os} : LineR env l s → UEvR env es os → UEvR env (.stdout l :: es) (.line s :: os)
  | book {m lan es os} : UEvR env es os →
      UEvR env (.stdout ("info string book move: ".toList ++ m) :: .stdout ("bestmove ".toList ++ lan) :: es) (.bookMove :: os)
  | join {o es os} : UEvR env es os → UEvR env (.wait_cancel o :: es) (.joinRunning :: os)
  | spawn {st seed d t prev es os} : UEvR env es os →
      UEvR env (.spawn st seed (dOf d) (tOf t) prev :: es) (.searchStarted d t prev.isSome :: os)
  | state {es os} : UEvR env es os → UEvR env (.stderr "{}".toList :: es) (.stderrState :: os)
  | status {f es os} : (f = "Search in progress ({:.3}s)...".toList ∨ f = "No search running...".toList) → UEvR env es os →
      UEvR env (.stderr f :: es) (.stderrStatus :: os)

theorem UEvR.append {env : UciSeams} {a : List UEvent} {oa : List Out} (h : UEvR env a oa) {b : List UEvent} {ob : List Out}
    (h2 : UEvR env b ob) : UEvR env (a ++ b) (oa ++ ob) := by
  induction h with
  | nil => exact h2
  | line hl _ ih => exact UEvR.line hl ih
  | book _ ih => exact UEvR.book ih
  | join _ ih => exact UEvR.join ih
  | spawn _ ih => exact UEvR.spawn ih
  | state _ ih => exact UEvR.state ih
  | status hf _ ih => exact UEvR.status hf ih

/-- the model's book predicate for this book: the translated `OpeningBook::lookup` offers a move for the position; every step
theorem hands it to `Uci.step` -/
def hasBookOf (book : OpeningBook) (p : Wee.State) : Bool :=
  match OpeningBook.lookup book (stateOf p) with
  | some (some _) => true
  | _ => false


/-- what every arm of the bridge proves (the conclusion that `Client.exec.body_refines_other`, `Client.exec.body_refines` and
`Client.exec.body_refines_resolved` write out) -/
def StepGoal (env : UciSeams) (Inv : Wee.State → Prop) (book : OpeningBook) (g : Vars) (s : Sess) (cmd : String) (r : Flow Vars) : Prop :=
  ∃ s' outs evs, Uci.step (hasBookOf book) s cmd (fun _ => okOf r.vars.1) = some (s', outs, r.isBrk) ∧
    Rep Inv r.vars s' ∧ r.vars.2.2.2.2.out = g.2.2.2.2.out ++ evs ∧ UEvR env evs outs

/-- a line given by its characters, as the generated code has it (a string literal is `String.ofList` of its characters) -/
theorem LineR.chars (env : UciSeams) (l : List Char) : LineR env l (String.ofList l) := by
  have := LineR.lit (env := env) (String.ofList l)
  rwa [String.toList_ofList] at this

local macro "arm_start" h:ident htok:ident : tactic => `(tactic| (
  unfold Client.exec.body at $h:ident
  rw [str.split_ascii_whitespace_eq, $htok:ident] at $h:ident
  simp (config := {decide := true}) only [List.map_cons, slice.split_first, if_false, if_true] at $h:ident))

/-- `go` and `position` first join a running search; what follows is the arm as run from the idle session -/
theorem arm_of_idle {env : UciSeams} {Inv : Wee.State → Prop} {rx : RegexCaptures} {book : OpeningBook} {cmd : String}
    (hbody : ∀ hS cp pa rng io, Client.exec.body env rx book (some hS, cp, pa, rng, io) cmd.toList =
      Client.exec.body env rx book (none, cp, hS.outcome, rng, (Search.wait_cancel hS io).2) cmd.toList)
    (hstep : ∀ f s, s.searching = true → step (hasBookOf book) s cmd f =
      (step (hasBookOf book) { s with searching := false, artifact := s.searchOk } cmd f).map
        (fun x => (x.1, Out.joinRunning :: x.2.1, x.2.2)))
    (idle : ∀ cp pa rng io s r, Rep Inv (none, cp, pa, rng, io) s →
      Client.exec.body env rx book (none, cp, pa, rng, io) cmd.toList = some r → StepGoal env Inv book (none, cp, pa, rng, io) s cmd r)
    (g : Vars) (s : Sess) (hrep : Rep Inv g s) (r : Flow Vars)
    (h : Client.exec.body env rx book g cmd.toList = some r) : StepGoal env Inv book g s cmd r := by
  obtain ⟨cs, cp, pa, rng, io⟩ := g
  rcases cs with _ | hS
  · exact idle cp pa rng io s r hrep h
  · rw [hbody] at h
    have hs : s.searching = true := hrep.searching
    have hrep1 : Rep Inv (none, cp, hS.outcome, rng, (Search.wait_cancel hS io).2)
        { s with searching := false, artifact := s.searchOk } :=
      ⟨hrep.pos, hrep.inv, rfl, hrep.ok hS rfl, fun _ hh => by cases hh⟩
    obtain ⟨s', outs, evs, hstep', hr, hout, hev⟩ := idle cp _ rng _ _ r hrep1 h
    refine ⟨s', .joinRunning :: outs, .wait_cancel hS.outcome :: evs, ?_, hr, ?_, UEvR.join hev⟩
    · rw [hstep _ s hs, hstep']; rfl
    · rw [hout]; simp [Search.wait_cancel]

section Arms
variable (env : UciSeams) (Inv : Wee.State → Prop) (rx : RegexCaptures) (book : OpeningBook)

/-! ## the `go` arm -/

theorem arm_go_idle (cp : State) (pa : Option SearchArtifact) (rng : ThreadRng) (io : World) (s : Sess) (hrep : Rep Inv (none, cp, pa, rng, io) s)
    (cmd : String) (args : List String)
    (htok : splitAsciiWs cmd = "go" :: args) (r : Flow Vars)
    (h : Client.exec.body env rx book (none, cp, pa, rng, io) cmd.toList = some r) :
    StepGoal env Inv book (none, cp, pa, rng, io) s cmd r := by
  arm_start h htok
  rw [pure_bind'] at h
  obtain ⟨L, hL, h⟩ := bind_eq_some.1 h
  have hx : ∃ rest, some L = some (rest, (if (parseGoArgs args Option.none Option.none).2.2 then World.println io unparsable else io),
      tOf (parseGoArgs args Option.none Option.none).2.1, dOf (parseGoArgs args Option.none Option.none).1) := by
    rw [← hL]
    refine go_loop _ ?_ io _ args (by rw [List.length_map]; exact Nat.lt_succ_self _) Option.none Option.none
    intro arg it v
    obtain ⟨io1, st, sd⟩ := v
    have l1 : "movetime".toList = ['m', 'o', 'v', 'e', 't', 'i', 'm', 'e'] := String.toList_ofList
    have l2 : "depth".toList = ['d', 'e', 'p', 't', 'h'] := String.toList_ofList
    have l3 : unparsable = ['i', 'n', 'f', 'o', ' ', 's', 't', 'r', 'i', 'n', 'g', ' ', 'u', 'n', 'p', 'a', 'r', 's', 'a', 'b',
                      'l', 'e', ' ', 'g', 'o', ' ', 'c', 'o', 'm', 'm', 'a', 'n', 'd', 's'] := String.toList_ofList
    unfold goStep
    rw [l1, l2, l3]
    by_cases h1 : arg = ['m', 'o', 'v', 'e', 't', 'i', 'm', 'e']
    · subst h1
      cases it with
      | nil => simp [slice_iter.next, some_bind', Option.pure_def]
      | cons x it' =>
        simp only [slice_iter.next, Option.pure_def, beq_self_eq_true, if_true]
        cases i32.from_str_radix10 x <;> rfl
    · by_cases h2 : arg = ['d', 'e', 'p', 't', 'h']
      · subst h2
        cases it with
        | nil => simp (config := {decide := true}) [slice_iter.next, some_bind', Option.pure_def]
        | cons x it' =>
          simp (config := {decide := true}) only [slice_iter.next, Option.pure_def, if_true, if_false]
          cases usize.from_str_radix10 x <;> rfl
      · have b1 : (arg == ['m', 'o', 'v', 'e', 't', 'i', 'm', 'e']) = false := beq_eq_false_iff_ne.2 h1
        have b2 : (arg == ['d', 'e', 'p', 't', 'h']) = false := beq_eq_false_iff_ne.2 h2
        simp only [b1, b2, if_neg h1, if_neg h2, Bool.false_eq_true, if_false, some_bind', Option.pure_def]
  obtain ⟨rest, hx⟩ := hx
  cases Option.some.inj hx
  clear hL hx
  have hs : s.searching = false := hrep.searching
  have hpos : cp = stateOf s.pos := hrep.pos
  have hart : s.artifact = pa.isSome := hrep.artifact
  -- the parsed arguments as one value `pg = (depth, time, bad)`; `bad` prints the complaint first, on both sides
  obtain ⟨pg, hpg⟩ : ∃ pg, parseGoArgs args Option.none Option.none = pg := ⟨_, rfl⟩
  rw [hpg] at h
  have hpre : UEvR env (if pg.2.2 then [UEvent.stdout unparsable] else [])
      (if pg.2.2 then [Out.line "info string unparsable go commands"] else []) := by
    cases pg.2.2
    · exact UEvR.nil
    · exact UEvR.line (LineR.lit _) UEvR.nil
  have hstep : ∀ f, step (hasBookOf book) s cmd f = some
      (if hasBookOf book s.pos then (s, (if pg.2.2 then [Out.line "info string unparsable go commands"] else []) ++ [.bookMove], false)
       else ({ s with searching := true, artifact := false, searchOk := f s.pos },
         (if pg.2.2 then [Out.line "info string unparsable go commands"] else []) ++ [.searchStarted pg.1 pg.2.1 s.artifact], false)) := by
    intro f
    rw [step_go _ _ _ htok, joinKeep_idle hs, hpg]
    cases hasBookOf book s.pos <;> rfl
  obtain ⟨e10, he, h⟩ := bind_eq_some.1 h
  obtain ⟨ob, hb, he⟩ := bind_eq_some.1 he
  have hhb : hasBookOf book s.pos = ob.isSome := by
    unfold hasBookOf; rw [← hpos, hb]; cases ob <;> rfl
  unfold StepGoal
  rw [hstep, hhb]
  cases ob with
  | none =>
    cases pure_eq_some.1 he
    cases pure_eq_some.1 h
    refine ⟨_, _, _, rfl, ⟨hpos, hrep.inv, rfl, rfl, fun hS hh => by cases hh; rfl⟩, ?_,
      hpre.append (hart ▸ UEvR.spawn (st := cp) (seed := rng.gen_u64.fst) UEvR.nil)⟩
    cases pg.2.2 <;> simp [Flow.vars, Search.spawn, World.println]
  | some moves =>
    obtain ⟨gr, hg, he⟩ := bind_eq_some.1 he
    obtain ⟨mv, hi, he⟩ := bind_eq_some.1 he
    obtain ⟨lan, hl, he⟩ := bind_eq_some.1 he
    cases pure_eq_some.1 he
    cases pure_eq_some.1 h
    refine ⟨_, _, _, rfl, ⟨hpos, hrep.inv, hs, hart, fun hS hh => by cases hh⟩, ?_,
      hpre.append (UEvR.book (m := env.display_Move mv) (lan := lan) UEvR.nil)⟩
    cases pg.2.2 <;> simp [Flow.vars, World.println] <;> rfl
theorem body_join (hS : Search) (cp : State) (pa : Option SearchArtifact) (rng : ThreadRng) (io : World) (cmd w : String) (args : List String)
    (hw : w = "go" ∨ w = "position") (htok : splitAsciiWs cmd = w :: args) :
    Client.exec.body env rx book (some hS, cp, pa, rng, io) cmd.toList =
      Client.exec.body env rx book (none, cp, hS.outcome, rng, (Search.wait_cancel hS io).2) cmd.toList := by
  unfold Client.exec.body
  rw [words_of_tok htok]
  rcases hw with rfl | rfl
  · rw [(String.toList_ofList : "go".toList = _)]; rfl
  · rw [(String.toList_ofList : "position".toList = _)]; rfl

theorem step_join_go (hb : Wee.State → Bool) (f : Wee.State → Bool) (s : Sess) (hs : s.searching = true) (cmd : String) (args : List String)
    (htok : splitAsciiWs cmd = "go" :: args) :
    step hb s cmd f = (step hb { s with searching := false, artifact := s.searchOk } cmd f).map
      (fun x => (x.1, Out.joinRunning :: x.2.1, x.2.2)) := by
  rw [step_go _ _ _ htok, step_go _ _ _ htok, joinKeep_searching hs, joinKeep_idle rfl]
  cases hb s.pos <;> simp

theorem step_join_position (hb : Wee.State → Bool) (f : Wee.State → Bool) (s : Sess) (hs : s.searching = true) (cmd : String) (args : List String)
    (htok : splitAsciiWs cmd = "position" :: args) :
    step hb s cmd f = (step hb { s with searching := false, artifact := s.searchOk } cmd f).map
      (fun x => (x.1, Out.joinRunning :: x.2.1, x.2.2)) := by
  rw [step_position _ _ _ htok, step_position _ _ _ htok, joinKeep_searching hs, joinKeep_idle rfl]
  cases positionCmd { pos := s.pos, searching := false, artifact := s.searchOk, searchOk := s.searchOk } args <;> simp

theorem arm_go (g : Vars) (s : Sess) (hrep : Rep Inv g s) (cmd : String) (args : List String)
    (htok : splitAsciiWs cmd = "go" :: args) (r : Flow Vars)
    (h : Client.exec.body env rx book g cmd.toList = some r) : StepGoal env Inv book g s cmd r :=
  arm_of_idle (fun hS cp pa rng io => body_join env rx book hS cp pa rng io cmd _ args (Or.inl rfl) htok)
    (fun f s hs => step_join_go _ f s hs cmd args htok)
    (fun cp pa rng io s r hrep h => arm_go_idle env Inv rx book cp pa rng io s hrep cmd args htok r h) g s hrep r h

end Arms

/-- the generated step refines the model's step, for every line whose first word is not `position` (no hypothesis on the seams): whenever one pass of the
command loop translated from `uci.rs` returns, `Uci.step` returns the corresponding session and quit flag, and the events
emitted during the pass correspond to the model's outputs and marks, in order.  The model's `searchOK` parameter is the
outcome the world holds for the search now running. -/
theorem Client.exec.body_refines_other (env : UciSeams) (Inv : Wee.State → Prop) (rx : RegexCaptures) (book : OpeningBook)
    (g : Vars) (s : Sess) (hrep : Rep Inv g s) (cmd : String)
    (hnp : ∀ args, splitAsciiWs cmd ≠ "position" :: args) (r : Flow Vars)
    (h : Client.exec.body env rx book g cmd.toList = some r) :
    ∃ s' outs evs, Uci.step (hasBookOf book) s cmd (fun _ => okOf r.vars.1) = some (s', outs, r.isBrk) ∧
      Rep Inv r.vars s' ∧ r.vars.2.2.2.2.out = g.2.2.2.2.out ++ evs ∧ UEvR env evs outs := by
  obtain ⟨cs, cp, pa, rng, io⟩ := g
  have hs := step_of (hasBookOf book) s cmd (fun _ => okOf r.vars.1)
  cases htok : splitAsciiWs cmd with
  | nil =>
    unfold Client.exec.body at h
    rw [str.split_ascii_whitespace_eq, htok] at h
    cases Option.some.inj h
    rw [htok] at hs
    generalize step (hasBookOf book) s cmd _ = res at hs ⊢
    cases hs
    exact ⟨s, _, _, rfl, hrep.print _, rfl, UEvR.line (LineR.chars _ _) UEvR.nil⟩
  | cons w args =>
    by_cases h1 : w = "go"
    · subst h1; exact arm_go env Inv rx book _ s hrep cmd args htok r h
    by_cases h3 : w = "position"
    · subst h3; exact absurd htok (hnp args)
    have ne : ∀ (l : List Char), w ≠ String.ofList l → (w.toList == l) = false := by
      intro l hne
      exact beq_eq_false_iff_ne.2 (fun hh => hne (String.toList_inj.1 (hh.trans String.toList_ofList.symm)))
    unfold Client.exec.body at h
    rw [words_of_tok htok] at h
    -- the two long arms go here, once; every arm below runs on what is left
    simp only [slice.split_first, ne _ h1, ne _ h3, Bool.false_eq_true, if_false] at h
    rw [htok] at hs
    generalize step (hasBookOf book) s cmd _ = res at hs ⊢
    have hsr := hrep.searching
    -- with the word as the list of its characters the comparisons with the command words evaluate: `Option.some.inj h` runs the arm
    cases hs with
    | go => exact absurd rfl h1
    | position => exact absurd rfl h3
    | isready =>
      rw [(String.toList_ofList : "isready".toList = _)] at h
      cases Option.some.inj h
      exact ⟨s, _, _, rfl, hrep.print _, rfl, UEvR.line (LineR.chars _ _) UEvR.nil⟩
    | uci =>
      rw [(String.toList_ofList : "uci".toList = _)] at h
      cases Option.some.inj h
      refine ⟨s, _, [.stdout ("id name ".toList ++ env.display_EngineVersion), .stdout ("id author ".toList ++ env.engine_author),
        .stdout "uciok".toList], rfl, hrep.print _, ?_, UEvR.line LineR.name (UEvR.line LineR.author (UEvR.line (LineR.lit _) UEvR.nil))⟩
      simp [Flow.vars, World.println]
    | quit =>
      rw [(String.toList_ofList : "quit".toList = _)] at h
      cases Option.some.inj h
      exact ⟨s, _, [], rfl, hrep, (List.append_nil _).symm, UEvR.nil⟩
    | state =>
      rw [(String.toList_ofList : ".state".toList = _)] at h
      cases Option.some.inj h
      exact ⟨s, _, _, rfl, hrep.print _, rfl, UEvR.state UEvR.nil⟩
    | status =>
      rw [(String.toList_ofList : ".status".toList = _)] at h
      rcases cs with _ | hS
      · cases Option.some.inj h
        exact ⟨s, _, _, rfl, hrep.print _, rfl, UEvR.status (Or.inr String.toList_ofList.symm) UEvR.nil⟩
      · cases Option.some.inj h
        exact ⟨s, _, _, rfl, hrep.print _, rfl, UEvR.status (Or.inl String.toList_ofList.symm) UEvR.nil⟩
    | stop =>
      rw [(String.toList_ofList : "stop".toList = _)] at h
      rcases cs with _ | hS
      · cases Option.some.inj h
        rw [joinKeep_idle hsr]
        exact ⟨s, _, [], rfl, hrep, (List.append_nil _).symm, UEvR.nil⟩
      · cases Option.some.inj h
        rw [joinKeep_searching hsr]
        exact ⟨_, _, [.wait_cancel hS.outcome], rfl, ⟨hrep.pos, hrep.inv, rfl, hrep.ok hS rfl, fun _ hh => by cases hh⟩, rfl,
          UEvR.join UEvR.nil⟩
    | ucinewgame =>
      rw [(String.toList_ofList : "ucinewgame".toList = _)] at h
      rcases cs with _ | hS
      · cases Option.some.inj h
        rw [if_neg (by rw [hsr]; exact Bool.false_ne_true)]
        exact ⟨_, _, [], rfl, ⟨hrep.pos, hrep.inv, rfl, rfl, fun _ hh => by cases hh⟩, (List.append_nil _).symm, UEvR.nil⟩
      · cases Option.some.inj h
        rw [if_pos (show s.searching = true from hsr)]
        exact ⟨_, _, [.wait_cancel hS.outcome], rfl, ⟨hrep.pos, hrep.inv, rfl, rfl, fun _ hh => by cases hh⟩, rfl,
          UEvR.join UEvR.nil⟩
    | other _ _ hready _ hstop huci hnew hquit hstate hstatus =>
      have ne' : ∀ (l : List Char), (∀ a, w :: args = String.ofList l :: a → False) → (w.toList == l) = false :=
        fun l hl => ne l fun e => hl args (e ▸ rfl)
      simp only [ne' _ hready, ne' _ hstop, ne' _ huci, ne' _ hnew, ne' _ hquit, ne' _ hstate, ne' _ hstatus,
        Bool.false_eq_true, if_false, pure, Option.some.injEq] at h
      subst h
      exact ⟨s, _, _, rfl, hrep.print _, rfl, UEvR.line (LineR.chars _ _) UEvR.nil⟩

/-! ## the arms other than `go` and `position`, one by one

Each is the theorem above at a line with the given first word. -/

section Arms
variable (env : UciSeams) (Inv : Wee.State → Prop) (rx : RegexCaptures) (book : OpeningBook)

theorem arm_isready (g : Vars) (s : Sess) (hrep : Rep Inv g s) (cmd : String) (args : List String)
    (htok : splitAsciiWs cmd = "isready" :: args) (r : Flow Vars)
    (h : Client.exec.body env rx book g cmd.toList = some r) : StepGoal env Inv book g s cmd r :=
  Client.exec.body_refines_other env Inv rx book g s hrep cmd (first_word_ne htok (by decide)) r h

theorem arm_uci (g : Vars) (s : Sess) (hrep : Rep Inv g s) (cmd : String) (args : List String)
    (htok : splitAsciiWs cmd = "uci" :: args) (r : Flow Vars)
    (h : Client.exec.body env rx book g cmd.toList = some r) : StepGoal env Inv book g s cmd r :=
  Client.exec.body_refines_other env Inv rx book g s hrep cmd (first_word_ne htok (by decide)) r h

theorem arm_quit (g : Vars) (s : Sess) (hrep : Rep Inv g s) (cmd : String) (args : List String)
    (htok : splitAsciiWs cmd = "quit" :: args) (r : Flow Vars)
    (h : Client.exec.body env rx book g cmd.toList = some r) : StepGoal env Inv book g s cmd r :=
  Client.exec.body_refines_other env Inv rx book g s hrep cmd (first_word_ne htok (by decide)) r h

theorem arm_state (g : Vars) (s : Sess) (hrep : Rep Inv g s) (cmd : String) (args : List String)
    (htok : splitAsciiWs cmd = ".state" :: args) (r : Flow Vars)
    (h : Client.exec.body env rx book g cmd.toList = some r) : StepGoal env Inv book g s cmd r :=
  Client.exec.body_refines_other env Inv rx book g s hrep cmd (first_word_ne htok (by decide)) r h

theorem arm_status (g : Vars) (s : Sess) (hrep : Rep Inv g s) (cmd : String) (args : List String)
    (htok : splitAsciiWs cmd = ".status" :: args) (r : Flow Vars)
    (h : Client.exec.body env rx book g cmd.toList = some r) : StepGoal env Inv book g s cmd r :=
  Client.exec.body_refines_other env Inv rx book g s hrep cmd (first_word_ne htok (by decide)) r h

theorem arm_stop (g : Vars) (s : Sess) (hrep : Rep Inv g s) (cmd : String) (args : List String)
    (htok : splitAsciiWs cmd = "stop" :: args) (r : Flow Vars)
    (h : Client.exec.body env rx book g cmd.toList = some r) : StepGoal env Inv book g s cmd r :=
  Client.exec.body_refines_other env Inv rx book g s hrep cmd (first_word_ne htok (by decide)) r h

theorem arm_ucinewgame (g : Vars) (s : Sess) (hrep : Rep Inv g s) (cmd : String) (args : List String)
    (htok : splitAsciiWs cmd = "ucinewgame" :: args) (r : Flow Vars)
    (h : Client.exec.body env rx book g cmd.toList = some r) : StepGoal env Inv book g s cmd r :=
  Client.exec.body_refines_other env Inv rx book g s hrep cmd (first_word_ne htok (by decide)) r h

theorem arm_empty (g : Vars) (s : Sess) (hrep : Rep Inv g s) (cmd : String)
    (htok : splitAsciiWs cmd = []) (r : Flow Vars)
    (h : Client.exec.body env rx book g cmd.toList = some r) : StepGoal env Inv book g s cmd r :=
  Client.exec.body_refines_other env Inv rx book g s hrep cmd (fun a e => by rw [htok] at e; cases e) r h

theorem arm_unknown (g : Vars) (s : Sess) (hrep : Rep Inv g s) (cmd : String) (w : String) (args : List String)
    (htok : splitAsciiWs cmd = w :: args)
    (h1 : w ≠ "go") (h2 : w ≠ "isready") (h3 : w ≠ "position") (h4 : w ≠ "stop") (h5 : w ≠ "uci") (h6 : w ≠ "ucinewgame")
    (h7 : w ≠ "quit") (h8 : w ≠ ".state") (h9 : w ≠ ".status") (r : Flow Vars)
    (h : Client.exec.body env rx book g cmd.toList = some r) : StepGoal env Inv book g s cmd r :=
  Client.exec.body_refines_other env Inv rx book g s hrep cmd (first_word_ne htok h3) r h

end Arms

/-! ## the `position` arm -/

theorem split_once_eq (args : List String) :
    Option.getD (slice.split_once (args.map String.toList) (fun arg => arg == ['m', 'o', 'v', 'e', 's'])) (args.map String.toList, []) =
      ((splitMoves args).1.map String.toList, (splitMoves args).2.map String.toList) := by
  rw [splitMoves_eq]
  unfold slice.split_once List.span
  rw [Uci.span_loop_eq]
  have hp : ((fun x => !(fun arg : List Char => arg == ['m', 'o', 'v', 'e', 's']) x) ∘ String.toList) = (fun x : String => x != "moves") := by
    funext a
    have hm : "moves".toList = ['m', 'o', 'v', 'e', 's'] := String.toList_ofList
    simp only [Function.comp, bne, ← hm]
    congr 1
    rw [Bool.eq_iff_iff, beq_iff_eq, beq_iff_eq, String.toList_inj]
  simp only [List.reverse_nil, List.nil_append, List.takeWhile_map, List.dropWhile_map, hp]
  cases hd : List.dropWhile (fun x : String => x != "moves") args with
  | nil =>
    have : List.takeWhile (fun x : String => x != "moves") args = args := by
      have := List.takeWhile_append_dropWhile (p := fun x : String => x != "moves") (l := args)
      rw [hd, List.append_nil] at this; exact this
    simp [this]
  | cons a r => simp

/-- `filter_map` with the translated `parse_move_token` closure (`TextFnsBridge2.lean`) = the model's `parsed` / `qs` -/
theorem filter_map_tokens (M : List String) :
    slice.filter_map (M.map String.toList) uci.parse_move_token =
      if (M.map parseUciMoveToken).any Option.isNone then Option.none
      else some (((M.map parseUciMoveToken).filterMap fun x => x.bind id).map mqOf) := by
  induction M with
  | nil => rfl
  | cons m r ih =>
    simp only [List.map_cons, slice.filter_map, uci.parse_move_token_eq, String.ofList_toList, ih]
    cases hp : parseUciMoveToken m with
    | none => simp [tokenRes]
    | some o =>
      cases o with
      | none => simp [tokenRes]
      | some q =>
        by_cases ha : (r.map parseUciMoveToken).any Option.isNone = true
        · simp [tokenRes, ha]
        · simp [tokenRes, ha]


/-- the seam `State::by_performing_moves` against the model's resolver, on a class of positions closed under everything the loop does.
`resolve` quantifies over ALL query lists, which no `env` can satisfy, the resolver translated from `state.rs` in particular (`mqOf`
truncates ranks and files to `u8`: argued in the head of this file, not proved in Lean; see `ResolverSeamQ` in `SeamFnsBridge.lean`);
the loop only needs `TokenSeam` below. -/
structure ResolverSeam (env : UciSeams) (Inv : Wee.State → Prop) : Prop where
  start : Inv startState
  fen : ∀ text st, parseFen false text = .ok st → Inv st
  keeps : ∀ st qs st', Inv st → performQueries st qs = some (.ok st') → Inv st'
  resolve : ∀ st qs, Inv st →
    match performQueries st qs with
    | Option.none => env.by_performing_moves (stateOf st) (qs.map mqOf) = Option.none
    | some (.ok st') => env.by_performing_moves (stateOf st) (qs.map mqOf) = some (.ok (stateOf st'))
    | some (.error _) => ∃ e, env.by_performing_moves (stateOf st) (qs.map mqOf) = some (.error e)

/-- `len() != len()` on `usize`s is the comparison of the lengths, below 2^64 -/
theorem usize_bne_of_le {a n : Nat} (ha : a ≤ n) (hn : n < 2 ^ 64) : (UInt64.ofNat a != UInt64.ofNat n) = (a != n) := by
  by_cases he : a = n
  · simp [he]
  · have : UInt64.ofNat a ≠ UInt64.ofNat n := by
      intro hh
      have := congrArg UInt64.toNat hh
      simp [UInt64.toNat_ofNat', Nat.mod_eq_of_lt hn, Nat.mod_eq_of_lt (Nat.lt_of_le_of_lt ha hn)] at this
      exact he this
    rw [bne_iff_ne.2 this, bne_iff_ne.2 he]

/-- what the command loop uses of the seam: the resolver is only ever called on the queries read from the words of a line.
Both `ResolverSeam` and its restriction to well-formed queries (`ResolverSeamQ`, `SeamFnsBridge.lean`) give this. -/
structure TokenSeam (env : UciSeams) (Inv : Wee.State → Prop) : Prop where
  start : Inv startState
  fen : ∀ text st, parseFen false text = .ok st → Inv st
  keeps : ∀ st qs st', Inv st → performQueries st qs = some (.ok st') → Inv st'
  resolve : ∀ st (M : List String), Inv st →
    match performQueries st ((M.map parseUciMoveToken).filterMap fun x => x.bind id) with
    | Option.none => env.by_performing_moves (stateOf st) (((M.map parseUciMoveToken).filterMap fun x => x.bind id).map mqOf) = Option.none
    | some (.ok st') => env.by_performing_moves (stateOf st) (((M.map parseUciMoveToken).filterMap fun x => x.bind id).map mqOf) = some (.ok (stateOf st'))
    | some (.error _) => ∃ e, env.by_performing_moves (stateOf st) (((M.map parseUciMoveToken).filterMap fun x => x.bind id).map mqOf) = some (.error e)

theorem ResolverSeam.tokens {env : UciSeams} {Inv : Wee.State → Prop} (h : ResolverSeam env Inv) : TokenSeam env Inv :=
  ⟨h.start, h.fen, h.keeps, fun st _ hi => h.resolve st _ hi⟩

/-- the seam at the queries of a line, read from the resolver's answer: a position, and the model's is the one it represents;
or an error, and the model has an error too -/
theorem TokenSeam.resolved {env : UciSeams} {Inv : Wee.State → Prop} (hres : TokenSeam env Inv) {st : Wee.State} (hinv : Inv st)
    (M : List String) {t : Except MovePerformError State}
    (h : env.by_performing_moves (stateOf st) (((M.map parseUciMoveToken).filterMap fun x => x.bind id).map mqOf) = some t) :
    (∃ st', performQueries st ((M.map parseUciMoveToken).filterMap fun x => x.bind id) = some (.ok st') ∧ t = .ok (stateOf st')) ∨
    ∃ e e', performQueries st ((M.map parseUciMoveToken).filterMap fun x => x.bind id) = some (.error e) ∧ t = .error e' := by
  have hr := hres.resolve st M hinv
  cases hpq : performQueries st ((M.map parseUciMoveToken).filterMap fun x => x.bind id) with
  | none => rw [hpq] at hr; exact absurd (hr.symm.trans h) (fun e => nomatch e)
  | some res =>
    rw [hpq] at hr
    cases res with
    | ok st' => exact Or.inl ⟨st', rfl, Option.some.inj (h.symm.trans hr)⟩
    | error e =>
      obtain ⟨e', he'⟩ := hr
      exact Or.inr ⟨e, e', rfl, Option.some.inj (h.symm.trans he')⟩

theorem TokenSeam.arm_position_idle {env : UciSeams} {Inv : Wee.State → Prop} (hres : TokenSeam env Inv) (rx : RegexCaptures) (hrx : RxOK rx)
    (book : OpeningBook)
    (cp : State) (pa : Option SearchArtifact) (rng : ThreadRng) (io : World) (s : Sess) (hrep : Rep Inv (none, cp, pa, rng, io) s)
    (cmd : String) (args : List String) (hlen : (splitAsciiWs cmd).length < 2 ^ 64)
    (htok : splitAsciiWs cmd = "position" :: args) (r : Flow Vars)
    (h : Client.exec.body env rx book (none, cp, pa, rng, io) cmd.toList = some r) :
    StepGoal env Inv book (none, cp, pa, rng, io) s cmd r := by
  arm_start h htok
  rw [split_once_eq] at h
  simp only [some_bind', Option.pure_def] at h
  have hs : s.searching = false := hrep.searching
  have hM : (splitMoves args).2.length < 2 ^ 64 := by
    rw [splitMoves_eq]
    have h1 := (List.dropWhile_sublist (fun x : String => x != "moves") (l := args)).length_le
    have h2 : (splitAsciiWs cmd).length = args.length + 1 := by rw [htok]; rfl
    simp only [List.length_tail]
    omega
  have hstep0 : ∀ f, step (hasBookOf book) s cmd f = (positionCmd s args).map (fun x : Sess × List Out => (x.1, x.2, false)) := by
    intro f
    rw [step_position _ _ _ htok, joinKeep_idle hs]
    cases positionCmd s args <;> rfl
  simp only [hstep0, positionCmd_eq, StepGoal]
  generalize (splitMoves args).1 = P at h ⊢
  generalize (splitMoves args).2 = M at h hM ⊢
  obtain ⟨e21, hE, hK⟩ := bind_eq_some.1 h
  clear h
  have base : (∃ msg : List Char, posBase P = .inr (String.ofList msg) ∧ e21 = Ctl.exit (Flow.cont (none, cp, pa, rng, io.println msg))) ∨
      (∃ st, Inv st ∧ posBase P = .inl (some st) ∧ e21 = Ctl.next (stateOf st, io)) := by
    rcases P with _ | ⟨w, rest⟩
    · simp only [List.map_nil, slice.first, List.head?_nil, Option.some.injEq] at hE
      exact Or.inl ⟨_, rfl, hE.symm⟩
    · simp only [List.map_cons, slice.first, List.head?_cons] at hE
      by_cases h1 : w = "startpos"
      · subst h1
        simp (config := {decide := true}) only [if_true, State.default_eq rx hrx, some_bind', Option.some.injEq] at hE
        exact Or.inr ⟨startState, hres.start, rfl, hE.symm⟩
      · by_cases h2 : w = "fen"
        · subst h2
          simp (config := {decide := true}) only [if_true, if_false] at hE
          have hrf : slice.range_from ("fen".toList :: rest.map String.toList) 1 = some (rest.map String.toList) := by
            simp [slice.range_from]
          rw [hrf, some_bind'] at hE
          have hjoin : str.join (rest.map String.toList) [' '] = (" ".intercalate rest).toList := by
            unfold str.join; rw [String.toList_intercalate]; rfl
          obtain ⟨nd, hnd, hplus, hsx⟩ := hrx
          rw [hjoin, Fen.try_from_notation_model nd hnd hplus false rx hsx] at hE
          cases hp : parseFenChars false (" ".intercalate rest).toList with
          | ok st =>
            have hpf : parseFen false (" ".intercalate rest) = .ok st := hp
            simp only [hp, TRes.ofRes, TRes.toResult, some_bind', Option.some.injEq] at hE
            exact Or.inr ⟨st, hres.fen _ _ hpf, by rw [posBase.eq_2, hpf], hE.symm⟩
          | err =>
            have hpf : parseFen false (" ".intercalate rest) = .err := hp
            simp only [hp, TRes.ofRes, TRes.toResult, some_bind', Option.some.injEq] at hE
            exact Or.inl ⟨_, by rw [posBase.eq_2, hpf], hE.symm⟩
          | panic =>
            simp only [hp, TRes.ofRes, TRes.toResult] at hE
            cases hE
        · have b1 : (w.toList == ['s', 't', 'a', 'r', 't', 'p', 'o', 's']) = false :=
            beq_eq_false_iff_ne.2 (fun hh => h1 (String.toList_inj.1 (hh.trans String.toList_ofList.symm)))
          have b2 : (w.toList == ['f', 'e', 'n']) = false :=
            beq_eq_false_iff_ne.2 (fun hh => h2 (String.toList_inj.1 (hh.trans String.toList_ofList.symm)))
          simp only [b1, b2, Bool.false_eq_true, if_false, Option.some.injEq] at hE
          refine Or.inl ⟨_, ?_, hE.symm⟩
          unfold posBase
          split
          · rename_i heq; injection heq with hw _; exact absurd hw h1
          · rename_i heq; injection heq with hw _; exact absurd hw h2
          · rfl
  rcases base with ⟨msg, hb, rfl⟩ | ⟨st, hinv, hb, rfl⟩
  · simp only [Option.some.injEq] at hK
    subst hK
    rw [hb]
    exact ⟨s, [.line (String.ofList msg)], [.stdout msg], rfl, hrep.print _, rfl, UEvR.line (LineR.chars _ _) UEvR.nil⟩
  · rw [hb]
    show ∃ s' outs evs, Option.map (fun x : Sess × List Out => (x.1, x.2, false)) (applyMoves s st M) = some (s', outs, r.isBrk) ∧ _
    simp only [] at hK
    obtain ⟨t27, h27, hK⟩ := bind_eq_some.1 hK
    rw [filter_map_tokens] at h27
    by_cases hany : (M.map parseUciMoveToken).any Option.isNone = true
    · simp [hany] at h27
    · simp only [hany, Bool.false_eq_true, if_false, Option.some.injEq] at h27
      subst h27
      have hql : ((M.map parseUciMoveToken).filterMap fun x => x.bind id).length ≤ M.length := by
        have := List.length_filterMap_le (fun x : Option (Option Wee.MoveQuery) => x.bind id) (M.map parseUciMoveToken)
        simpa using this
      have hr := fun t => hres.resolved hinv M (t := t)
      rw [applyMoves_eq]
      simp only [slice.len, List.length_map, usize_bne_of_le hql hM] at hK
      generalize (M.map parseUciMoveToken).filterMap (fun x => x.bind id) = Q at hK hr ⊢
      obtain ⟨e28, h28, hK⟩ := bind_eq_some.1 hK
      by_cases hne : (Q.length != M.length) = true
      · simp only [hne, if_true, Option.some.injEq] at h28
        subst h28
        simp only [Option.some.injEq] at hK
        subst hK
        rw [if_pos hne]
        exact ⟨_, _, _, rfl, hrep.setPos hinv _, rfl, UEvR.line (LineR.chars _ _) UEvR.nil⟩
      · simp only [hne, Bool.false_eq_true, if_false, Option.some.injEq] at h28
        subst h28
        simp only [] at hK
        obtain ⟨t30, h30, hK⟩ := bind_eq_some.1 hK
        rw [if_neg hne]
        -- the resolver's answer: the new position, or an error and the position stays
        rcases hr t30 h30 with ⟨st', hpq, rfl⟩ | ⟨e, e', hpq, rfl⟩ <;> rw [hpq] <;> cases Option.some.inj hK
        · exact ⟨_, _, [], rfl, hrep.setPos (hres.keeps _ _ _ hinv hpq) _, by simp [Flow.vars], UEvR.nil⟩
        · exact ⟨_, _, _, rfl, hrep.setPos hinv _, rfl, UEvR.line (LineR.chars _ _) UEvR.nil⟩

theorem TokenSeam.arm_position {env : UciSeams} {Inv : Wee.State → Prop} (hres : TokenSeam env Inv) (rx : RegexCaptures) (hrx : RxOK rx)
    (book : OpeningBook) (g : Vars) (s : Sess) (hrep : Rep Inv g s) (cmd : String) (args : List String)
    (hlen : (splitAsciiWs cmd).length < 2 ^ 64)
    (htok : splitAsciiWs cmd = "position" :: args) (r : Flow Vars)
    (h : Client.exec.body env rx book g cmd.toList = some r) : StepGoal env Inv book g s cmd r :=
  arm_of_idle (fun hS cp pa rng io => body_join env rx book hS cp pa rng io cmd _ args (Or.inr rfl) htok)
    (fun f s hs => step_join_position _ f s hs cmd args htok)
    (fun cp pa rng io s r hrep h => hres.arm_position_idle rx hrx book cp pa rng io s hrep cmd args hlen htok r h) g s hrep r h

/-- **the generated step refines the model's step — every session state, every input line.**  Whenever one pass of the command
loop translated from `uci.rs` returns, `Uci.step` returns the corresponding session and quit flag, and the events emitted during
the pass correspond to the model's outputs and marks, in order.  The model's `searchOK` parameter is the outcome the world holds
for the search now running.  Hypotheses: the resolver seam on the queries of a line (`TokenSeam`: `position … moves`), the regex
seam `RxOK` (`position fen`, `startpos`), and fewer than 2^64 words on the line (`len() != len()` compares `usize`s). -/
theorem TokenSeam.body_refines {env : UciSeams} {Inv : Wee.State → Prop} (hres : TokenSeam env Inv) (rx : RegexCaptures)
    (hrx : RxOK rx) (book : OpeningBook) (g : Vars) (s : Sess) (hrep : Rep Inv g s) (cmd : String)
    (hlen : (splitAsciiWs cmd).length < 2 ^ 64) (r : Flow Vars)
    (h : Client.exec.body env rx book g cmd.toList = some r) : StepGoal env Inv book g s cmd r := by
  by_cases hp : ∃ args, splitAsciiWs cmd = "position" :: args
  · obtain ⟨args, htok⟩ := hp
    exact hres.arm_position rx hrx book g s hrep cmd args hlen htok r h
  · exact Client.exec.body_refines_other env Inv rx book g s hrep cmd (fun args ha => hp ⟨args, ha⟩) r h

/-- `TokenSeam.body_refines` under `ResolverSeam`, the seam for ALL query lists, which the head of this file argues no `env`
meets: a corollary to build nothing on -/
theorem Client.exec.body_refines (env : UciSeams) (Inv : Wee.State → Prop) (hres : ResolverSeam env Inv) (rx : RegexCaptures)
    (hrx : RxOK rx) (book : OpeningBook) (g : Vars) (s : Sess) (hrep : Rep Inv g s) (cmd : String)
    (hlen : (splitAsciiWs cmd).length < 2 ^ 64) (r : Flow Vars)
    (h : Client.exec.body env rx book g cmd.toList = some r) :
    ∃ s' outs evs, Uci.step (hasBookOf book) s cmd (fun _ => okOf r.vars.1) = some (s', outs, r.isBrk) ∧
      Rep Inv r.vars s' ∧ r.vars.2.2.2.2.out = g.2.2.2.2.out ++ evs ∧ UEvR env evs outs :=
  hres.tokens.body_refines rx hrx book g s hrep cmd hlen r h

/-! ## whole command histories -/

/-- every line has fewer than 2^64 words (true of every `String` a process can hold) -/
def ShortLines (lines : List String) : Prop := ∀ c ∈ lines, (splitAsciiWs c).length < 2 ^ 64

/-- the final join of `Client::exec` after the loop, on the model side -/
def finish (s : Sess) : Sess := if s.searching then { s with searching := false } else s

/-- **whole histories**: the loop over the input lines followed by the final join (`if let Some(search) = current_search {
_ = search.wait_cancel(); }`), as translated, refines the model's run over the same lines. -/
theorem TokenSeam.loop_refines {env : UciSeams} {Inv : Wee.State → Prop} (hres : TokenSeam env Inv) (rx : RegexCaptures)
    (hrx : RxOK rx) (book : OpeningBook) :
    ∀ (lines : List String), ShortLines lines → ∀ (g : Vars) (s : Sess), Rep Inv g s → ∀ (g' : Vars),
      stdin.lines_loop (lines.map String.toList) g (fun vars cmd => Client.exec.body env rx book vars cmd) = some g' →
      ∃ s' outs evs, RunsTo (hasBookOf book) s lines s' outs ∧
        (match g'.1 with
          | some search => (Search.wait_cancel search g'.2.2.2.2).2
          | none => g'.2.2.2.2).out = g.2.2.2.2.out ++ evs ∧ UEvR env evs outs := by
  intro lines
  induction lines with
  | nil =>
    intro _ g s hrep g' h
    simp only [List.map_nil, stdin.lines_loop, Option.some.injEq] at h
    subst h
    obtain ⟨cs, cp, pa, rng, io⟩ := g
    have hs := hrep.searching
    rcases cs with _ | hS
    · refine ⟨_, _, [], RunsTo.eof s, by simp, ?_⟩
      simp only [Option.isSome_none] at hs
      simp [hs]; exact UEvR.nil
    · refine ⟨_, _, [.wait_cancel hS.outcome], RunsTo.eof s, by simp [Search.wait_cancel], ?_⟩
      simp only [Option.isSome_some] at hs
      simp [hs]; exact UEvR.join UEvR.nil
  | cons c cs ih =>
    intro hnp g s hrep g' h
    simp only [List.map_cons, stdin.lines_loop] at h
    cases hb : Client.exec.body env rx book g c.toList with
    | none => simp [hb] at h
    | some r =>
      obtain ⟨s1, o1, e1, hstep, hrep1, hout1, hev1⟩ :=
        hres.body_refines rx hrx book g s hrep c (hnp c List.mem_cons_self) r hb
      cases r with
      | cont g1 =>
        simp only [hb] at h
        obtain ⟨s2, o2, e2, hrun, hout2, hev2⟩ := ih (fun x hx => hnp x (List.mem_cons_of_mem _ hx)) g1 s1 hrep1 g' h
        refine ⟨s2, o1 ++ o2, e1 ++ e2, RunsTo.cont _ hstep hrun, ?_, hev1.append hev2⟩
        rw [hout2]
        simp only [Flow.vars] at hout1
        rw [hout1, List.append_assoc]
      | brk g1 =>
        simp only [hb, Option.some.injEq] at h
        subst h
        obtain ⟨cs1, cp1, pa1, rng1, io1⟩ := g1
        have hs := hrep1.searching
        simp only [Flow.vars] at hout1 hs
        rcases cs1 with _ | hS
        · simp only [Option.isSome_none] at hs
          refine ⟨_, _, e1, RunsTo.quit _ hstep, hout1, ?_⟩
          simp [hs]; exact hev1
        · simp only [Option.isSome_some] at hs
          refine ⟨_, _, e1 ++ [.wait_cancel hS.outcome], RunsTo.quit _ hstep, ?_, ?_⟩
          · simp [Search.wait_cancel, hout1]
          · simp [hs]; exact hev1.append (UEvR.join UEvR.nil)


/-- `TokenSeam.loop_refines` under `ResolverSeam`, which the head of this file argues no `env` meets: a corollary to build nothing
on -/
theorem Client.exec.loop_refines (env : UciSeams) (Inv : Wee.State → Prop) (hres : ResolverSeam env Inv) (rx : RegexCaptures)
    (hrx : RxOK rx) (book : OpeningBook) :
    ∀ (lines : List String), ShortLines lines → ∀ (g : Vars) (s : Sess), Rep Inv g s → ∀ (g' : Vars),
      stdin.lines_loop (lines.map String.toList) g (fun vars cmd => Client.exec.body env rx book vars cmd) = some g' →
      ∃ s' outs evs, RunsTo (hasBookOf book) s lines s' outs ∧
        (match g'.1 with
          | some search => (Search.wait_cancel search g'.2.2.2.2).2
          | none => g'.2.2.2.2).out = g.2.2.2.2.out ++ evs ∧ UEvR env evs outs :=
  hres.tokens.loop_refines rx hrx book

/-- **`Client::exec` as translated** (initialisers, loop, final join): for every input, whenever the
generated `Client.exec` returns the final world, the model's run from `Sess.init` over the same lines exists and the events
appended to the world correspond to the model's outputs and marks. -/
theorem TokenSeam.exec_refines {env : UciSeams} {Inv : Wee.State → Prop} (hres : TokenSeam env Inv) (rx : RegexCaptures) (hrx : RxOK rx)
    (book : OpeningBook) (lines : List String) (hnp : ShortLines lines) (rng : ThreadRng) (io io' : World)
    (h : Client.exec env rx (lines.map String.toList) rng book io = some io') :
    ∃ s' outs evs, RunsTo (hasBookOf book) Sess.init lines s' outs ∧ io'.out = io.out ++ evs ∧ UEvR env evs outs := by
  unfold Client.exec at h
  rw [State.default_eq rx hrx, some_bind'] at h
  -- from here on the start position is a variable: a unifier left with `Sess.init.pos =?= startState` runs the FEN reader
  have hst := hres.start
  unfold Sess.init
  generalize startState = p0 at h hst ⊢
  obtain ⟨g', hl, h⟩ := bind_eq_some.1 h
  have hrep : Rep Inv ((Option.none : Option Search), stateOf p0, (Option.none : Option SearchArtifact), rng, io)
      { pos := p0, searching := false, artifact := false, searchOk := true } :=
    ⟨rfl, hst, rfl, rfl, fun _ hh => by cases hh⟩
  obtain ⟨s', outs, evs, hrun, hout, hev⟩ := hres.loop_refines rx hrx book lines hnp _ _ hrep g' hl
  refine ⟨s', outs, evs, hrun, ?_, hev⟩
  obtain ⟨cs, cp, pa, rng1, io1⟩ := g'
  rcases cs with _ | hS
  · cases pure_eq_some.1 h; exact hout
  · cases pure_eq_some.1 h; exact hout

/-- `TokenSeam.exec_refines` under `ResolverSeam`, which the head of this file argues no `env` meets: a corollary to build nothing
on -/
theorem Client.exec_refines (env : UciSeams) (Inv : Wee.State → Prop) (hres : ResolverSeam env Inv) (rx : RegexCaptures) (hrx : RxOK rx)
    (book : OpeningBook) (lines : List String) (hnp : ShortLines lines) (rng : ThreadRng) (io io' : World)
    (h : Client.exec env rx (lines.map String.toList) rng book io = some io') :
    ∃ s' outs evs, RunsTo (hasBookOf book) Sess.init lines s' outs ∧ io'.out = io.out ++ evs ∧ UEvR env evs outs :=
  hres.tokens.exec_refines rx hrx book lines hnp rng io io' h

end Wee.GenFns
