import Wee.Model.Uci
/-!
# `Uci.step` by the first word of the line

The `match` of `Uci.step` (one pass of the command loop, `Client::exec`) is opened in this file only.  `StepOf` lists its ten
forms — one rule per command word with the result of that arm, and `other` — and `step_of` says that `step` has one of them:
statements about ALL commands go by cases on it.  The equations `step_go … step_status` are for a line whose first word is
known (case analysis on `StepOf` cannot decide that two command words differ, so they are proved from the definition).
-/
namespace Wee.Uci

theorem joinKeep_idle {s : Sess} (h : s.searching = false) : joinKeep s = (s, []) := by
  unfold joinKeep; rw [h]; rfl

theorem joinKeep_searching {s : Sess} (h : s.searching = true) :
    joinKeep s = ({ s with searching := false, artifact := s.searchOk }, [.joinRunning]) := by
  unfold joinKeep; rw [h]; rfl

/-- Indexed by the words of the line; `other` is a line that begins with none of the nine words (the empty line among them). -/
inductive StepOf (hasBook : State → Bool) (s : Sess) (searchOK : State → Bool) :
    List String → Option (Sess × List Out × Bool) → Prop
  | go (args : List String) {j : Sess × List Out} {pg : Option Nat × Option Int × Bool} (hj : joinKeep s = j)
      (hpg : parseGoArgs args Option.none Option.none = pg) : StepOf hasBook s searchOK ("go" :: args)
      (if hasBook j.1.pos then
        some (j.1, j.2 ++ (if pg.2.2 then [Out.line "info string unparsable go commands"] else []) ++ [.bookMove], false)
       else some ({ j.1 with searching := true, artifact := false, searchOk := searchOK j.1.pos },
          j.2 ++ (if pg.2.2 then [Out.line "info string unparsable go commands"] else []) ++
            [.searchStarted pg.1 pg.2.1 j.1.artifact], false))
  | isready (args : List String) : StepOf hasBook s searchOK ("isready" :: args) (some (s, [.line "readyok"], false))
  | position (args : List String) {j : Sess × List Out} (hj : joinKeep s = j) : StepOf hasBook s searchOK ("position" :: args)
      ((positionCmd j.1 args).map fun x => (x.1, j.2 ++ x.2, false))
  | stop (args : List String) : StepOf hasBook s searchOK ("stop" :: args) (some ((joinKeep s).1, (joinKeep s).2, false))
  | uci (args : List String) : StepOf hasBook s searchOK ("uci" :: args)
      (some (s, [.line "id name", .line "id author", .line "uciok"], false))
  | ucinewgame (args : List String) : StepOf hasBook s searchOK ("ucinewgame" :: args)
      (some ({ s with searching := false, artifact := false }, if s.searching then [.joinRunning] else [], false))
  | quit (args : List String) : StepOf hasBook s searchOK ("quit" :: args) (some (s, [], true))
  | state (args : List String) : StepOf hasBook s searchOK (".state" :: args) (some (s, [.stderrState], false))
  | status (args : List String) : StepOf hasBook s searchOK (".status" :: args) (some (s, [.stderrStatus], false))
  | other (toks : List String) (hgo : ∀ args, toks = "go" :: args → False) (hready : ∀ args, toks = "isready" :: args → False)
      (hpos : ∀ args, toks = "position" :: args → False) (hstop : ∀ args, toks = "stop" :: args → False)
      (huci : ∀ args, toks = "uci" :: args → False) (hnew : ∀ args, toks = "ucinewgame" :: args → False)
      (hquit : ∀ args, toks = "quit" :: args → False) (hstate : ∀ args, toks = ".state" :: args → False)
      (hstatus : ∀ args, toks = ".status" :: args → False) :
      StepOf hasBook s searchOK toks (some (s, [.line "info string unknown command"], false))

theorem step_of (hasBook : State → Bool) (s : Sess) (line : String) (searchOK : State → Bool) :
    StepOf hasBook s searchOK (splitAsciiWs line) (step hasBook s line searchOK) := by
  unfold step
  split
  case h_1 args heq => rw [heq]; exact .go args rfl rfl
  case h_3 args heq =>
    rw [heq]
    cases hj : joinKeep s with
    | mk s1 o1 =>
      have := StepOf.position (hasBook := hasBook) (searchOK := searchOK) args hj
      dsimp only at this ⊢
      cases hp : positionCmd s1 args <;> rw [hp] at this <;> exact this
  case h_4 args heq => rw [heq]; exact .stop args
  case h_10 hgo hready hpos hstop huci hnew hquit hstate hstatus =>
    exact .other _ hgo hready hpos hstop huci hnew hquit hstate hstatus
  all_goals
    rename_i args heq
    rw [heq]
    constructor

theorem step_go (hasBook ok : State → Bool) (s : Sess) {line : String} {args : List String}
    (h : splitAsciiWs line = "go" :: args) :
    step hasBook s line ok =
      (let g := parseGoArgs args Option.none Option.none
       let o2 := if g.2.2 then [Out.line "info string unparsable go commands"] else []
       if hasBook (joinKeep s).1.pos then some ((joinKeep s).1, (joinKeep s).2 ++ o2 ++ [.bookMove], false)
       else some ({ (joinKeep s).1 with searching := true, artifact := false, searchOk := ok (joinKeep s).1.pos },
                  (joinKeep s).2 ++ o2 ++ [.searchStarted g.1 g.2.1 (joinKeep s).1.artifact], false)) := by
  unfold step; rw [h]; rfl

theorem step_isready (hasBook ok : State → Bool) (s : Sess) {line : String} {args : List String}
    (h : splitAsciiWs line = "isready" :: args) :
    step hasBook s line ok = some (s, [.line "readyok"], false) := by
  unfold step; rw [h]; rfl

theorem step_position (hasBook ok : State → Bool) (s : Sess) {line : String} {args : List String}
    (h : splitAsciiWs line = "position" :: args) :
    step hasBook s line ok =
      match positionCmd (joinKeep s).1 args with
      | Option.none => Option.none
      | some (s', o2) => some (s', (joinKeep s).2 ++ o2, false) := by
  unfold step; rw [h]; rfl

theorem step_stop (hasBook ok : State → Bool) (s : Sess) {line : String} {args : List String}
    (h : splitAsciiWs line = "stop" :: args) :
    step hasBook s line ok = some ((joinKeep s).1, (joinKeep s).2, false) := by
  unfold step; rw [h]; rfl

theorem step_uci (hasBook ok : State → Bool) (s : Sess) {line : String} {args : List String}
    (h : splitAsciiWs line = "uci" :: args) :
    step hasBook s line ok = some (s, [.line "id name", .line "id author", .line "uciok"], false) := by
  unfold step; rw [h]; rfl

theorem step_ucinewgame (hasBook ok : State → Bool) (s : Sess) {line : String} {args : List String}
    (h : splitAsciiWs line = "ucinewgame" :: args) :
    step hasBook s line ok =
      some ({ s with searching := false, artifact := false }, if s.searching then [.joinRunning] else [], false) := by
  unfold step; rw [h]; rfl

theorem step_quit (hasBook ok : State → Bool) (s : Sess) {line : String} {args : List String}
    (h : splitAsciiWs line = "quit" :: args) :
    step hasBook s line ok = some (s, [], true) := by
  unfold step; rw [h]; rfl

theorem step_state (hasBook ok : State → Bool) (s : Sess) {line : String} {args : List String}
    (h : splitAsciiWs line = ".state" :: args) :
    step hasBook s line ok = some (s, [.stderrState], false) := by
  unfold step; rw [h]; rfl

theorem step_status (hasBook ok : State → Bool) (s : Sess) {line : String} {args : List String}
    (h : splitAsciiWs line = ".status" :: args) :
    step hasBook s line ok = some (s, [.stderrStatus], false) := by
  unfold step; rw [h]; rfl

end Wee.Uci
