import Wee.Proofs.HoldsP
/-!
# The generic induction over the worker's recursion (`SearchCtl.Walk`), from the one traversal

Every instance `SearchCtl.Walk ctx I J N A` (no panic, stop bound, depth bookkeeping, table invariants, …) holds of the
worker in an environment, given that the invariant is stable under the environment's batches (rely); the guarantee `G` is
shown for the two stores of a node.  It is `nodeE_outP` of `Wee/Proofs/HoldsP.lean` with no contract on the values and no
condition on the windows: the obligations of `Walk` are the panic sites (`Sites`), the node entry and the stores of that
traversal.  The sequential `SearchCtl.searchNode_walk` is the instance at `Env.empty`.
-/
namespace Wee.Env
open Wee Wee.Search Wee.C06
open Wee.SearchCtl (entryOf InBuffer Walk)

section walk
variable {env : Env} {ctx : Ctx} {V : Spec} {N : Nat → NodeArgs → Prop}

/-- the guarantee for the stores of a node (the premisses of `Walk.insert` without the state and its invariant) -/
def InsertG (ctx : Ctx) (V : Spec) (N : Nat → NodeArgs → Prop) : Prop :=
  ∀ rem a pseudo mv m next kind ev, N (rem+1) a →
    ¬ (a.curDepth > 0 ∧ ctx.history.contains (Wee.hash ctx.keys a.s) = true) →
    pseudoLegalMoves a.s = some pseudo → InBuffer a pseudo mv → tryAsLegal a.s mv = some (some (m, next)) →
    V.G (Wee.hash ctx.keys a.s).toNat (entryOf a kind m ev)

/-- **the generic induction for the worker in an environment**: the obligations of `Walk` are those of the one traversal,
with no contract on the values (`C` only remembers which buffer move a returned value belongs to) -/
theorem searchNodeE_walk (W : Walk ctx V.I V.J N V.A) (hrely : Rely V env) (hG : InsertG ctx V N) :
    ∀ (rem : Nat) (a : NodeArgs), N rem a → HoldsE V (searchNodeE env ctx rem a) (fun _ => True) := by
  refine fun rem a hN => holdsE_of_counting fun n => holdsP_conseq (searchNodeE_induct (Pre := N)
    (T := fun _ _ x => ∀ n, HoldsP V (fun st => V.I st ∧ n ≤ st.nodes) x (fun _ st' => V.I st' ∧ n < st'.nodes))
    (fun rem a rec hN hleaf hrec n => ?_) rem a hN n) (fun _ h => h) fun _ _ h => ⟨h, trivial⟩
  have h0 : rec = Option.none → N 0 a := fun hr => hleaf hr ▸ hN
  have hs : rec ≠ Option.none → ∃ r, N (r + 1) a ∧ ∀ child, rec = some child → ∀ a', N r a' → ∀ k,
      HoldsP V (fun st => V.I st ∧ k ≤ st.nodes) (child a') (fun _ st' => V.I st' ∧ k < st'.nodes) := by
    intro hne
    cases rec with
    | none => exact absurd rfl hne
    | some c =>
      obtain ⟨r, rfl, h⟩ := hrec c rfl
      exact ⟨r, hN, fun child hc => by cases hc; exact h⟩
  refine holdsP_conseq (nodeE_outP (P0 := V.I) (P := V.I) (Q := fun _ _ st => V.I st)
    (C := fun _ m next _ _ => ∃ ps mv, pseudoLegalMoves a.s = some ps ∧ InBuffer a ps mv ∧
      tryAsLegal a.s mv = some (some (m, next)))
    hrely (fun _ h => h) hrely (fun _ h => h) ctx a rec
    { under := fun found ⟨st, hi, hf⟩ hpr => ?under
      leaf := fun hr α β e hq => W.leaf a α β e (h0 hr) hq
      pseudo := fun hr hp => (hs hr).elim fun r h => W.pseudo r a h.1 hp
      eval := fun hr he => (hs hr).elim fun r h => W.eval r a h.1 he
      legal := fun hr ps mv hps hmv ht => (hs hr).elim fun r h => W.legal r a ps mv h.1 hps hmv ht }
    Window.any W.tick W.rng (fun hcut => ⟨fun child hc ps hps alpha beta mv hmv m next ht α k _ => ?child,
      fun hr beta m next α v _ ⟨ps, mv, hps, hmv, ht⟩ _ => ?cut,
      fun hr ps alpha beta buf r e st hps hbuf _ hout hi => ?store⟩) n)
    (fun _ h => h) ?post
  case under =>
    have hsp := SearchCtl.probe_spec a found
    rw [hpr] at hsp
    obtain ⟨e, rfl, hu⟩ := hsp
    exact W.underflow rem a st e hN hi hf hu
  case child =>
    obtain ⟨r, hN, ih⟩ := hs (fun h => by rw [hc] at h; cases h)
    exact holdsP_conseq (ih child hc _ (W.child r _ ps mv m next α (W.window _ a alpha beta hN) hps hmv ht) k)
      (fun _ h => h) fun v st' h => ⟨h, ps, mv, hps, hmv, ht⟩
  case cut =>
    obtain ⟨r, hN, _⟩ := hs hr
    exact hG r a ps mv m next kindLower beta hN hcut hps hmv ht
  case store =>
    obtain ⟨r', hN, _⟩ := hs hr
    have key : ∀ m kind ev, (∃ (next : State) (_ _ : Eval), ∃ ps mv, pseudoLegalMoves a.s = some ps ∧ InBuffer a ps mv ∧
        tryAsLegal a.s mv = some (some (m, next))) →
        V.I (st.ctlInsert (hash ctx.keys a.s).toNat (entryOf a kind m ev)) ∧
        V.G (hash ctx.keys a.s).toNat (entryOf a kind m ev) := by
      rintro m kind ev ⟨next, _, _, ps, mv, hps, hmv, ht⟩
      exact ⟨W.insert r' a ps mv m next kind ev st hN hi hcut hps hmv ht, hG r' a ps mv m next kind ev hN hcut hps hmv ht⟩
    cases hout with
    | cutoff hl => exact key _ _ _ (hl.witness fun _ h => nomatch h)
    | stored _ hl => exact key _ _ _ (hl.witness (fun _ h => nomatch h) _ rfl)
  case post =>
    rintro r st' ⟨hn, found, stored, _, _, _, h1, h2⟩
    cases stored with
    | none => exact ⟨h1 rfl, hn⟩
    | some e => exact ⟨h2 e rfl, hn⟩

end walk

end Wee.Env
