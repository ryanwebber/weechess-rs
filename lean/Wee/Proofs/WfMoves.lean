import Wee.Proofs.ApplyClosed
import Wee.Proofs.SanLemmas
/-!
# Legal move lists are well-formed (`SanP.WFMoves`) — helper lemmas for C12 / C07

On the rules alone: the attributes of a pseudo-legal move are functions of (kind, origin, destination, promotion)
(`PFacts`), in positions that satisfy three consequences of `Spec.LegalPos` (`PosOK`: one king of the side to move, a
castling right only with the king at home, the en-passant target behind an opposing pawn and not on the last rank).
Since the packed moves of `compute_legal_moves` read injectively as such moves (`C02.legalMoves_perm`, `C02.legalMoves_entry`), the
generated list is well formed (`wfMoves_legal`) and compares with the rules' list as the SAN writer needs it.
-/
namespace Wee.WfM
open Wee.C10 (DisjointBoard)

/-! ## the rules' pseudo-legal moves -/

/-- captured kind as a function of (kind, origin, destination) -/
def capOf (P : Spec.Pos) (k : Spec.Kind) (src dst : Nat) : Option Spec.Kind :=
  if k = .pawn then
    (if dst % 8 = src % 8 then Option.none else
      match P.at dst with
      | some x => some x.2
      | Option.none => some Spec.Kind.pawn)
  else (P.at dst).map (·.2)

def epOf (P : Spec.Pos) (k : Spec.Kind) (src dst : Nat) : Bool :=
  decide (k = .pawn) && decide (dst % 8 ≠ src % 8) && (P.at dst).isNone

def castleOf (k : Spec.Kind) (src dst : Nat) : Option Bool :=
  if k = .king then
    (if dst = src + 2 then some true else if dst + 2 = src then some false else Option.none)
  else Option.none

def dblOf (k : Spec.Kind) (src dst : Nat) : Bool :=
  decide (k = .pawn) && (decide (dst = src + 16) || decide (src = dst + 16))

/-- what is true of every pseudo-legal move of the rules in a sane position -/
structure PFacts (P : Spec.Pos) (sm : Spec.SMove) : Prop where
  color : sm.color = P.turn
  capture : sm.capture = capOf P sm.kind sm.src sm.dst
  ep : sm.ep = epOf P sm.kind sm.src sm.dst
  castle : sm.castle = castleOf sm.kind sm.src sm.dst
  dbl : sm.dbl = dblOf sm.kind sm.src sm.dst
  /-- the moving piece stands on the origin -/
  mover : P.at sm.src = some (P.turn, sm.kind)
  /-- capture-ness is a function of kind and destination -/
  capSome : sm.capture.isSome =
    (P.occupied sm.dst || (decide (sm.kind = .pawn) && (P.ep == some sm.dst)))
  /-- promotion-ness is a function of kind and destination -/
  promoSome : sm.promo.isSome = (decide (sm.kind = .pawn) && decide (sm.dst / 8 = Spec.lastRank P.turn))
  promoKind : ∀ k, sm.promo = some k → k ∈ Spec.promoKinds
  castleKing : sm.castle ≠ Option.none → sm.kind = .king ∧ sm.src = Spec.kingHome P.turn
  src_lt : sm.src < 64
  dst_lt : sm.dst < 64

/-- the consequences of `Spec.LegalPos` that the facts need -/
structure PosOK (P : Spec.Pos) : Prop where
  oneKing : ∀ o o', P.at o = some (P.turn, Spec.Kind.king) → P.at o' = some (P.turn, Spec.Kind.king) → o = o'
  kingHome : ∀ kingSide, P.right P.turn kingSide = true → P.at (Spec.kingHome P.turn) = some (P.turn, Spec.Kind.king)
  ep : ∀ t, P.ep = some t → t / 8 ≠ Spec.lastRank P.turn ∧
    ∃ v, Spec.step t 0 (-P.turn.fwd) = some v ∧ P.at v = some (P.turn.opp, Spec.Kind.pawn)

/-- a king step never moves two files on its rank (so it is never mistaken for castling) -/
theorem king_no2 (occ : Nat → Bool) (c : Spec.Color) (o t : Nat)
    (h : t ∈ Spec.attacksFrom occ c .king o) : ¬ t = o + 2 ∧ ¬ t + 2 = o := by
  simp only [Spec.attacksFrom, Spec.kingSteps, List.mem_filterMap, List.mem_cons, List.not_mem_nil,
    or_false] at h
  obtain ⟨d, hd, hs⟩ := h
  rw [step_iff] at hs
  rcases hd with rfl | rfl | rfl | rfl | rfl | rfl | rfl | rfl <;> dsimp only at hs <;> omega

/-- the en-passant target is not a square a pawn of the side to move can be pushed to, and not on its last rank -/
theorem ep_facts {P : Spec.Pos} (hok : PosOK P) {o t : Nat} {df : Int} (hat : P.at o = some (P.turn, Spec.Kind.pawn))
    (hst : Spec.step o df P.turn.fwd = some t) (hep : P.ep = some t) :
    df ≠ 0 ∧ t / 8 ≠ Spec.lastRank P.turn := by
  obtain ⟨hnl, v, hv, hpv⟩ := hok.ep t hep
  refine ⟨?_, hnl⟩
  rintro rfl
  have := step_rev (at_lt hat) hst
  rw [Int.neg_zero, hv] at this
  rw [Option.some.inj this, hat] at hpv
  exact specColor_opp_ne _ (congrArg Prod.fst (Option.some.inj hpv)).symm

theorem facts_of_pseudo (P : Spec.Pos) (hok : PosOK P) (sm : Spec.SMove)
    (hm : sm ∈ Spec.pseudoMoves P) : PFacts P sm := by
  have hkh := hok.kingHome
  have hf := fwd_cases P.turn
  have hkc := Spec.kingHome_cases P.turn
  cases (Spec.pseudo_iff P sm).1 hm with
  | @push o t pr hat hst hn hpr =>
    have g1 := step_file_eq hst
    obtain ⟨g2, g3⟩ := step_one_ne16 hf (Or.inl rfl) hst
    have hnep : ¬ P.ep = some t := fun he => (ep_facts hok hat hst he).1 rfl
    exact { color := rfl, capture := by simp [capOf, g1], ep := by simp [epOf, g1], castle := by simp [castleOf]
            dbl := by simp [dblOf, g2, g3], mover := hat, capSome := by simp [Spec.Pos.occupied, hn, hnep]
            promoSome := by rcases hpr with ⟨h, rfl⟩ | ⟨h, k, _, rfl⟩ <;> simp [h]
            promoKind := fun k h => by rcases hpr with ⟨_, rfl⟩ | ⟨_, k', hk', rfl⟩ <;> cases h; exact hk'
            castleKing := fun h => absurd rfl h, src_lt := at_lt hat, dst_lt := step_lt hst }
  | @double o t1 t2 hat hr h1 h2 n1 n2 =>
    have g1 : t2 % 8 = o % 8 := (step_file_eq h2).trans (step_file_eq h1)
    have g2 : t2 = o + 16 ∨ o = t2 + 16 := by have := step_two_16 h1 h2; omega
    have hnep : ¬ P.ep = some t2 := by
      intro he
      obtain ⟨_, v, hv, hpv⟩ := hok.ep t2 he
      have := step_rev (step_lt h1) h2
      rw [Int.neg_zero, hv] at this
      rw [Option.some.inj this, n1] at hpv; cases hpv
    have hnl := home_not_last P.turn hr h1 h2
    exact { color := rfl, capture := by simp [capOf, g1], ep := by simp [epOf, g1], castle := by simp [castleOf]
            dbl := by rcases g2 with g2 | g2 <;> simp [dblOf, g2]
            mover := hat, capSome := by simp [Spec.Pos.occupied, n2, hnep], promoSome := by simp [hnl]
            promoKind := fun k h => by cases h
            castleKing := fun h => absurd rfl h, src_lt := at_lt hat, dst_lt := step_lt h2 }
  | @capture o t k pr east hat hst hatt hpr =>
    have g1 := step_file_ne (capDf_cases east) hst
    obtain ⟨g2, g3⟩ := step_one_ne16 hf (Or.inr (capDf_cases east)) hst
    exact { color := rfl, capture := by simp [capOf, g1, hatt], ep := by simp [epOf, hatt], castle := by simp [castleOf]
            dbl := by simp [dblOf, g2, g3], mover := hat, capSome := by simp [Spec.Pos.occupied, hatt]
            promoSome := by rcases hpr with ⟨h, rfl⟩ | ⟨h, k, _, rfl⟩ <;> simp [h]
            promoKind := fun k h => by rcases hpr with ⟨_, rfl⟩ | ⟨_, k', hk', rfl⟩ <;> cases h; exact hk'
            castleKing := fun h => absurd rfl h, src_lt := at_lt hat, dst_lt := step_lt hst }
  | @enPassant o t east hat hst hn hep =>
    have g1 := step_file_ne (capDf_cases east) hst
    obtain ⟨g2, g3⟩ := step_one_ne16 hf (Or.inr (capDf_cases east)) hst
    have hnl := (ep_facts hok hat hst hep).2
    exact { color := rfl, capture := by simp [capOf, g1, hn], ep := by simp [epOf, g1, hn], castle := by simp [castleOf]
            dbl := by simp [dblOf, g2, g3], mover := hat, capSome := by simp [hep], promoSome := by simp [hnl]
            promoKind := fun k h => by cases h
            castleKing := fun h => absurd rfl h, src_lt := at_lt hat, dst_lt := step_lt hst }
  | @piece o t k hk hat hatt hown =>
    have hcas : castleOf k o t = Option.none := by
      unfold castleOf
      by_cases e : k = .king
      · have := king_no2 _ _ _ _ (e ▸ hatt)
        rw [if_pos e, if_neg this.1, if_neg this.2]
      · rw [if_neg e]
    exact { color := rfl, capture := by simp [capOf, hk], ep := by simp [epOf, hk], castle := hcas.symm
            dbl := by simp [dblOf, hk], mover := hat, capSome := by simp [Spec.Pos.occupied, hk]
            promoSome := by simp [hk], promoKind := fun k h => by cases h
            castleKing := fun h => absurd rfl h, src_lt := at_lt hat, dst_lt := attacksFrom_lt _ _ _ _ _ hatt }
  | castleK r e1 e2 =>
    exact { color := rfl, capture := by simp [capOf, e2], ep := by simp [epOf], castle := by simp [castleOf]
            dbl := by simp [dblOf], mover := hkh _ r, capSome := by simp [Spec.Pos.occupied, e2], promoSome := by simp
            promoKind := (fun k h => by cases h), castleKing := fun _ => ⟨rfl, rfl⟩
            src_lt := by dsimp only; omega, dst_lt := by dsimp only; omega }
  | castleQ r e1 e2 =>
    exact { color := rfl, capture := by simp [capOf, e2], ep := by simp [epOf]
            castle := by rcases hkc with h | h <;> simp [castleOf, h]
            dbl := by simp [dblOf], mover := hkh _ r, capSome := by simp [Spec.Pos.occupied, e2], promoSome := by simp
            promoKind := (fun k h => by cases h), castleKing := fun _ => ⟨rfl, rfl⟩
            src_lt := by dsimp only; omega, dst_lt := by dsimp only; omega }

/-- a pseudo-legal move is determined by kind, origin, destination and promotion -/
theorem pseudo_inj {P : Spec.Pos} {a b : Spec.SMove} (ha : PFacts P a) (hb : PFacts P b)
    (hk : a.kind = b.kind) (hs : a.src = b.src) (hd : a.dst = b.dst) (hp : a.promo = b.promo) : a = b := by
  obtain ⟨c1, k1, s1, d1, cap1, p1, e1, cs1, db1⟩ := a
  obtain ⟨c2, k2, s2, d2, cap2, p2, e2, cs2, db2⟩ := b
  have h1 := ha.color; have h2 := ha.capture; have h3 := ha.ep; have h4 := ha.castle; have h5 := ha.dbl
  have g1 := hb.color; have g2 := hb.capture; have g3 := hb.ep; have g4 := hb.castle; have g5 := hb.dbl
  simp only at hk hs hd hp h1 h2 h3 h4 h5 g1 g2 g3 g4 g5
  subst hk hs hd hp
  rw [h1, h2, h3, h4, h5, g1, g2, g3, g4, g5]

theorem posOK_of_legal (P : Spec.Pos) (hl : Spec.LegalPos P = true) : PosOK P := by
  have hl := (Spec.legalPos_iff P).1 hl
  refine ⟨fun o o' h1 h2 => ?_, fun kingSide r => ?_, fun t he => ?_⟩
  · obtain ⟨q, _, _, hu⟩ := hl.king P.turn
    rw [hu o (at_lt h1) h1, hu o' (at_lt h2) h2]
  · cases kingSide
    · exact (hl.rightQ _ r).1
    · exact (hl.rightK _ r).1
  · obtain ⟨hr, _, ⟨b, hb, hbat⟩, _⟩ := hl.ep t he
    rw [Spec.fwd_opp] at hb
    refine ⟨?_, b, hb, hbat⟩
    revert hr
    cases P.turn <;> simp only [Spec.homeRank, Spec.Color.fwd, Spec.Color.opp, Spec.lastRank] <;> omega

/-! ## the packed moves of `compute_legal_moves` -/

open Wee.SanP

theorem promo_codes : ∀ n, n < 7 →
    (((if n = 0 then Option.none else Piece.ofCode? n).bind absKind = Option.none ∨
      (if n = 0 then Option.none else Piece.ofCode? n).bind absKind ∈
        [some Spec.Kind.queen, some Spec.Kind.rook, some Spec.Kind.bishop, some Spec.Kind.knight]) →
    (if n = 0 then Option.none else Piece.ofCode? n) ∈ lanPromos) := by decide

/-- accessor consistency of a packed move with valid codes that reads as a pseudo-legal rule move -/
theorem accOK_of_facts {P : Spec.Pos} {m : Move} {sm : Spec.SMove} (hsm : toSpecMove m = some sm)
    (hc : Wee.C02.CodesOk m) (hf : PFacts P sm) : AccOK m := by
  obtain ⟨hpiece, hsmeq⟩ := (toSpecMove_eq_some m sm).1 hsm
  have hpromo : sm.promo = (Move.promotion m).bind absKind := congrArg Spec.SMove.promo hsmeq
  have hcast : sm.castle = (Move.castleSide m).map (fun s => s == .king) := congrArg Spec.SMove.castle hsmeq
  have hcap : Move.captureCode m < 7 := Nat.lt_succ_of_le ((Wee.C02.codesOk_iff_le m).1 hc).1
  have hpc : Move.promotionCode m < 7 := Nat.lt_succ_of_le ((Wee.C02.codesOk_iff_le m).1 hc).2
  have hpr : Move.promotion m ∈ lanPromos := by
    apply promo_codes _ hpc
    show (Move.promotion m).bind absKind = Option.none ∨ (Move.promotion m).bind absKind ∈ _
    rw [← hpromo]
    cases hp : sm.promo with
    | none => exact Or.inl rfl
    | some k =>
      right
      have := hf.promoKind k hp
      simp only [Spec.promoKinds, List.mem_cons, List.not_mem_nil, or_false] at this
      rcases this with rfl | rfl | rfl | rfl <;> simp
  refine ⟨by rw [hpiece, absKind_kindPiece]; rfl, hcap, hpr, fun hne => ?_, fun hne => ?_⟩
  · -- only pawns promote
    have hs : sm.promo.isSome = true := by
      rw [hpromo]
      simp only [lanPromos, List.mem_cons, List.not_mem_nil, or_false] at hpr
      rcases hpr with h | h | h | h | h
      · exact absurd h hne
      all_goals rw [h]; rfl
    rw [hf.promoSome] at hs
    simp only [Bool.and_eq_true, decide_eq_true_eq] at hs
    rw [hpiece, hs.1]; rfl
  · -- castling moves are king moves
    have : sm.castle ≠ Option.none := by
      rw [hcast]
      cases h : Move.castleSide m with
      | none => exact absurd h hne
      | some sd => simp
    rw [hpiece, (hf.castleKing this).1]; rfl

/-- what is known about every move of the legal-move list of a legal position -/
theorem mem_data (s : State) (hl : LegalPos s = true) (hd : DisjointBoard s.pieces) (m : Move)
    (hm : m ∈ (legalMoves s).map (·.1)) :
    ∃ sm, toSpecMove m = some sm ∧ sm ∈ Spec.legalMoves (abs s) ∧ PFacts (abs s) sm ∧ AccOK m := by
  obtain ⟨r, hr, rfl⟩ := List.mem_map.1 hm
  obtain ⟨sm, hsm, hleg, _⟩ := C02.legalMoves_entry s hl hd r hr
  obtain ⟨_, ps, hps, hmem⟩ := Wee.C02.mem_legalMoves? (C02.legalMoves?_eq s hl hd) hr
  have hcodes := Wee.C02.codesOk_of_generated s ps hps r.1 hmem
  have hpseudo : sm ∈ Spec.pseudoMoves (abs s) := (Spec.mem_legalMoves.1 hleg).1
  have hf := facts_of_pseudo (abs s) (posOK_of_legal _ hl) sm hpseudo
  exact ⟨sm, hsm, hleg, hf, accOK_of_facts hsm hcodes hf⟩

/-- reading a packed move through its accessors is injective on the legal-move list -/
theorem toSpec_inj (s : State) (hl : LegalPos s = true) (hd : DisjointBoard s.pieces) :
    ∀ m ∈ (legalMoves s).map (·.1), ∀ m' ∈ (legalMoves s).map (·.1),
      toSpecMove m = toSpecMove m' → m = m' := by
  apply inj_of_nodup_map
  rw [List.map_map]
  exact (C02.legalMoves_perm s hl hd).2

theorem promo_isSome {m : Move} (h : AccOK m) :
    ((Move.promotion m).bind absKind).isSome = (Move.promotion m).isSome := by
  rcases h.promotion' with h | ⟨k, _, h⟩ <;> simp [h, absKind_kindPiece]

theorem castleOf_dst {k : Spec.Kind} {src d d' : Nat} (h : castleOf k src d ≠ Option.none)
    (e : castleOf k src d = castleOf k src d') : d = d' := by
  unfold castleOf at h e
  by_cases hk : k = .king
  · simp only [if_pos hk] at h e
    by_cases a1 : d = src + 2 <;> by_cases a2 : d + 2 = src <;> by_cases b1 : d' = src + 2 <;>
      by_cases b2 : d' + 2 = src <;> simp [a1, a2, b1, b2] at h e <;> omega
  · simp only [if_neg hk] at h; exact absurd rfl h

/-- at most one castling move per side among the pseudo-legal moves -/
theorem pseudo_castle_inj {P : Spec.Pos} {a b : Spec.SMove} (ha : PFacts P a) (hb : PFacts P b)
    (hc : a.castle ≠ Option.none) (hcc : a.castle = b.castle) : a = b := by
  have hc' : b.castle ≠ Option.none := hcc ▸ hc
  obtain ⟨k1, s1⟩ := ha.castleKing hc
  obtain ⟨k2, s2⟩ := hb.castleKing hc'
  have hk : a.kind = b.kind := k1.trans k2.symm
  have hs : a.src = b.src := s1.trans s2.symm
  have hdd : a.dst = b.dst := by
    have e1 := ha.castle
    have e2 := hb.castle
    rw [← hk, ← hs] at e2
    exact castleOf_dst (e1 ▸ hc) (by rw [← e1, ← e2, hcc])
  have hpp : a.promo = b.promo := by
    have p1 := ha.promoSome
    have p2 := hb.promoSome
    rw [k1] at p1; rw [k2] at p2
    simp at p1 p2
    rw [p1, p2]
  exact pseudo_inj ha hb hk hs hdd hpp

/-- **a list of move words that read, injectively, as pseudo-legal moves of a sane position is well formed**: each
field of `WFMoves` speaks of the accessors of two listed words; `toSpecMove_fields` turns it into the same statement about the
two rule moves, where `PFacts` decides it -/
theorem wfMoves_of_read {P : Spec.Pos} (hok : PosOK P) (L : List Move)
    (hread : ∀ m ∈ L, ∃ sm, toSpecMove m = some sm ∧ PFacts P sm ∧ AccOK m)
    (hinj : ∀ m ∈ L, ∀ m' ∈ L, toSpecMove m = toSpecMove m' → m = m') : WFMoves L := by
  -- two listed words with their readings, and the accessors of each as fields of its reading
  have two : ∀ m ∈ L, ∀ m' ∈ L, ∃ sm sm', toSpecMove m = some sm ∧ toSpecMove m' = some sm' ∧ PFacts P sm ∧
      PFacts P sm' ∧ AccOK m ∧ AccOK m' ∧ Move.piece m = kindPiece sm.kind ∧ Move.piece m' = kindPiece sm'.kind ∧
      sm.src = Move.origin m ∧ sm'.src = Move.origin m' ∧ sm.dst = Move.dest m ∧ sm'.dst = Move.dest m' := by
    intro m hm m' hm'
    obtain ⟨sm, hsm, hf, hacc⟩ := hread m hm
    obtain ⟨sm', hsm', hf', hacc'⟩ := hread m' hm'
    obtain ⟨a1, a2, a3, _⟩ := toSpecMove_fields hsm
    obtain ⟨b1, b2, b3, _⟩ := toSpecMove_fields hsm'
    exact ⟨sm, sm', hsm, hsm', hf, hf', hacc, hacc', a1, b1, a2, b2, a3, b3⟩
  refine ⟨fun m hm => let ⟨_, _, _, h⟩ := hread m hm; h, ?_, ?_, ?_, ?_, ?_, ?_⟩
  · intro m hm m' hm' hp ho hde hpr
    obtain ⟨sm, sm', hsm, hsm', hf, hf', _, _, a1, b1, a2, b2, a3, b3⟩ := two m hm m' hm'
    have : sm = sm' := pseudo_inj hf hf' (kindPiece_inj (by rw [← a1, ← b1, hp])) (by rw [a2, b2, ho])
      (by rw [a3, b3, hde]) (by rw [(toSpecMove_fields hsm).2.2.2.1, (toSpecMove_fields hsm').2.2.2.1, hpr])
    exact hinj m hm m' hm' (by rw [hsm, hsm', this])
  · intro m hm m' hm' hp hde
    obtain ⟨sm, sm', hsm, hsm', hf, hf', hacc, hacc', a1, b1, _, _, a3, b3⟩ := two m hm m' hm'
    have hk : sm.kind = sm'.kind := kindPiece_inj (by rw [← a1, ← b1, hp])
    have hdd : sm.dst = sm'.dst := by rw [a3, b3, hde]
    rw [← capture_isSome m hacc.capture, ← capture_isSome m' hacc'.capture, ← (toSpecMove_fields hsm).2.2.2.2.1,
      ← (toSpecMove_fields hsm').2.2.2.2.1, hf.capSome, hf'.capSome, hk, hdd]
  · intro m hm m' hm' hp hde
    obtain ⟨sm, sm', hsm, hsm', hf, hf', hacc, hacc', a1, b1, _, _, a3, b3⟩ := two m hm m' hm'
    have hk : sm.kind = sm'.kind := kindPiece_inj (by rw [← a1, ← b1, hp])
    have hdd : sm.dst = sm'.dst := by rw [a3, b3, hde]
    rw [← promo_isSome hacc, ← promo_isSome hacc', ← (toSpecMove_fields hsm).2.2.2.1, ← (toSpecMove_fields hsm').2.2.2.1,
      hf.promoSome, hf'.promoSome, hk, hdd]
  · intro m hm m' hm' ho
    obtain ⟨sm, sm', _, _, hf, hf', _, _, a1, b1, a2, b2, _⟩ := two m hm m' hm'
    have h1 := hf.mover
    rw [a2, ho, ← b2, hf'.mover] at h1
    have : sm'.kind = sm.kind := congrArg Prod.snd (Option.some.inj h1)
    rw [a1, b1, this]
  · intro m hm m' hm' hk hk'
    obtain ⟨sm, sm', _, _, hf, hf', _, _, a1, b1, a2, b2, _⟩ := two m hm m' hm'
    have h1 := hf.mover
    have h2 := hf'.mover
    rw [kindPiece_inj (b := .king) (a1.symm.trans hk)] at h1
    rw [kindPiece_inj (b := .king) (b1.symm.trans hk')] at h2
    rw [← a2, ← b2]
    exact hok.oneKing _ _ h1 h2
  · intro m hm m' hm' hne he
    obtain ⟨sm, sm', hsm, hsm', hf, hf', _⟩ := two m hm m' hm'
    have a6 := (toSpecMove_fields hsm).2.2.2.2.2
    have hc : sm.castle ≠ Option.none := by
      rw [a6]
      cases h : Move.castleSide m with
      | none => exact absurd h hne
      | some sd => simp
    have : sm = sm' := pseudo_castle_inj hf hf' hc (by rw [a6, (toSpecMove_fields hsm').2.2.2.2.2, he])
    exact hinj m hm m' hm' (by rw [hsm, hsm', this])

theorem wfMoves_legal (s : State) (hl : LegalPos s = true) (hd : DisjointBoard s.pieces) :
    WFMoves ((legalMoves s).map (·.1)) :=
  wfMoves_of_read (posOK_of_legal _ hl) _
    (fun m hm => let ⟨sm, h1, _, h3, h4⟩ := mem_data s hl hd m hm; ⟨sm, h1, h3, h4⟩) (toSpec_inj s hl hd)

/-! ## the legal-move list against the rules' list (for the SAN writer) -/

/-- the generated list, read through the accessors, is a permutation of the rules' legal moves -/
theorem filterMap_perm (s : State) (hl : LegalPos s = true) (hd : DisjointBoard s.pieces) :
    (((legalMoves s).map (·.1)).filterMap toSpecMove).Perm (Spec.legalMoves (abs s)) := by
  have h := ((C02.legalMoves_perm s hl hd).1).filterMap id
  rw [List.filterMap_map, List.filterMap_map] at h
  have e1 : (legalMoves s).filterMap (id ∘ (toSpecMove ∘ (·.1))) =
      ((legalMoves s).map (·.1)).filterMap toSpecMove := by
    rw [List.filterMap_map]; rfl
  have e2 : (Spec.legalMoves (abs s)).filterMap (id ∘ some) = Spec.legalMoves (abs s) := by
    show (Spec.legalMoves (abs s)).filterMap some = _
    exact List.filterMap_some
  rw [e1, e2] at h
  exact h

/-- what the SAN rules denote does not depend on the order of the move list -/
theorem denotes_perm {L1 L2 : List Spec.SMove} (h : L1.Perm L2) (parts : Spec.SanParts) (m : Spec.SMove) :
    (Spec.denotes L1 parts == [m]) = (Spec.denotes L2 parts == [m]) := by
  rw [Bool.eq_iff_iff, beq_iff_eq, beq_iff_eq, denotes_eq, denotes_eq]
  have hp := h.filter (matchesParts parts)
  constructor
  · intro e; rw [e] at hp; exact (List.perm_singleton.1 hp.symm)
  · intro e; rw [e] at hp; exact (List.perm_singleton.1 hp)

theorem spellingsIn_perm {L1 L2 : List Spec.SMove} (h : L1.Perm L2) (mark : String) (m : Spec.SMove) :
    spellingsIn L1 mark m = spellingsIn L2 mark m := by
  unfold spellingsIn
  have : (fun s => Spec.denotes L1 s == [m]) = (fun s => Spec.denotes L2 s == [m]) :=
    funext fun s => denotes_perm h s m
  rw [this]

/-- every legal move of the rules is the reading of a generated move -/
theorem exists_packed (s : State) (hl : LegalPos s = true) (hd : DisjointBoard s.pieces)
    (sm : Spec.SMove) (hsm : sm ∈ Spec.legalMoves (abs s)) :
    ∃ m ∈ (legalMoves s).map (·.1), toSpecMove m = some sm := by
  have := ((filterMap_perm s hl hd).mem_iff (a := sm)).2 hsm
  obtain ⟨m, hm, e⟩ := List.mem_filterMap.1 this
  exact ⟨m, hm, e⟩

/-- `NegOK` for a pseudo-legal, non-castling move of the rules -/
theorem negOK_pseudo (s : State) (hl : LegalPos s = true) (hd : DisjointBoard s.pieces)
    (sm : Spec.SMove) (hps : sm ∈ Spec.pseudoMoves (abs s)) (hnc : sm.castle = Option.none) :
    NegOK ((legalMoves s).map (·.1)) sm := by
  have hf := facts_of_pseudo (abs s) (posOK_of_legal _ hl) sm hps
  refine ⟨hnc, hf.src_lt, hf.dst_lt, fun k hk => ⟨hf.promoKind k hk, ?_⟩, ?_, ?_⟩
  · have := hf.promoSome
    rw [hk] at this
    simp only [Option.isSome_some, Bool.true_eq, Bool.and_eq_true, decide_eq_true_eq] at this
    exact this.1
  · intro m' hm' sm' hsm' hk hs hdd hp
    obtain ⟨sm2, hsm2, _, hf', _⟩ := mem_data s hl hd m' hm'
    rw [hsm'] at hsm2; cases hsm2
    exact pseudo_inj hf' hf hk hs hdd hp
  · intro hp m' hm' hpc hde
    obtain ⟨sm', hsm', _, hf', hacc'⟩ := mem_data s hl hd m' hm'
    obtain ⟨b1, _, b3, b4, _, _⟩ := toSpecMove_fields hsm'
    have hk : sm'.kind = sm.kind := kindPiece_inj (by rw [← b1, hpc])
    have h1 := hf'.promoSome
    have h2 := hf.promoSome
    rw [hk, b3, hde, ← h2, hp] at h1
    have : sm'.promo = Option.none := by
      cases h : sm'.promo with
      | none => rfl
      | some k => rw [h] at h1; cases h1
    rw [b4] at this
    exact (promo_bind_none m' hacc').1 this

/-- an illegal pseudo-legal move is not the reading of any generated legal move -/
theorem illegal_not_listed (s : State) (hl : LegalPos s = true) (hd : DisjointBoard s.pieces)
    (sm : Spec.SMove) (hill : sm ∈ Spec.illegalPseudo (abs s)) :
    ∀ m' ∈ (legalMoves s).map (·.1), toSpecMove m' ≠ some sm := by
  intro m' hm' e
  obtain ⟨sm', hsm', hleg, _⟩ := mem_data s hl hd m' hm'
  rw [e] at hsm'; cases hsm'
  have h1 := (Spec.mem_legalMoves.1 hleg).2
  have h2 := (List.mem_filter.1 hill).2
  rw [h1] at h2; cases h2

end Wee.WfM
