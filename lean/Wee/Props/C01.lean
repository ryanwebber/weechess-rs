import Wee.Proofs.MoveGenLemmas
import Wee.Proofs.ApplyClosed
import Wee.Proofs.Placement
/-!
# C01 — legal move generation is exactly the rules of chess

Rust: `weechess-core/src/movegen.rs` (`MoveGenerator::compute_legal_moves`, `compute_psuedo_legal_moves_into`,
`compute_{pawn,knight,king,bishop,rook,queen}_moves`, `GameStateHelper::expand_moves`,
`PseudoLegalMove::try_as_legal_move`), `weechess-engine/src/searcher.rs` (`Searcher::perft`).
Model: `Wee/Model/MoveGen.lean`.  Specification: `Wee/Spec/Chess.lean` (`pawnMovesFrom`, `pieceMovesFrom`,
`castleMoves`, `pseudoMoves`, `legalMoves`, `applyMove`, `perft`), abstraction `Wee/Spec/Abs.lean`
(`abs`, `toSpecMove`, `LegalPos`).

A generated move is compared with a specification move through `toSpecMove`, which reads ALL attributes of the
packed move through the accessors of C20 (piece, colour, origin, destination, captured kind, promotion kind,
en-passant flag, castle side, double-step flag).  So "`toSpecMove mv = some m`" says that every attribute of the
generated move is the attribute the rules prescribe (e.g. `capture` = kind of the piece standing on the target).

Bottom-up: each generator, all pseudo-legal moves (`C01_pseudo`), the legality filter (`C01_legal_filter`), the legal-move
list (`C01_moves`), the perft walk (`C01_perft`).  The legality filter performs the move, so from there on make-move
correctness (property C02) is used: the helper lemmas take it as the hypothesis `ApplyCorrect`, which
`Wee.C02.applyCorrect` (`Wee/Proofs/ApplyBridge.lean`) proves on top of the generator layers; `C01_moves`, `C01_perft` have
no hypothesis besides `LegalPos s` and `DisjointBoard s.pieces`.  C09 (attack tables, shifts), C10 (attacked squares,
check) and C20 (move accessors) are used as proved theorems.

`DisjointBoard s.pieces` (no square holds two pieces) is not implied by `LegalPos s`, which only looks at the
mailbox reading `abs s`; it holds for every board built from a mailbox/FEN and is preserved by every generated
move (`C01_legal_results`), hence for every position reachable by the engine.
-/
namespace Wee
open Gen
open Wee.C10 (DisjointBoard)

/-! ## layer 1: the generators -/

/-- **Knights** (`compute_knight_moves`).  On a board without stacked pieces, a specification move is produced
by the knight loop (read through all accessors) iff it is one of the rule moves `Spec.pieceMovesFrom` of a knight
of the side to move: jump pattern inside the board, target not an own piece, `capture` = the kind standing on the
target, no other attribute set. -/
theorem C01_knight (s : State) (hd : DisjointBoard s.pieces) (sm : Option Spec.SMove) :
    sm ∈ (knightMoves (Helper.of s)).map toSpecMove ↔
      ∃ sq, (abs s).at sq = some (absColor s.turn, Spec.Kind.knight) ∧
        sm ∈ (Spec.pieceMovesFrom (abs s) (absColor s.turn) .knight sq).map some := by
  rw [mem_knightMoves s hd]
  simp only [mem_map_some]

/-- **Sliders** (`compute_bishop_moves`, `compute_rook_moves`, `compute_queen_moves`): the magic-table lookups of
C09 masked with `!own_pieces` give exactly the rule moves along the rays. -/
theorem C01_slider_bishop (s : State) (hd : DisjointBoard s.pieces) (sm : Option Spec.SMove) :
    sm ∈ (sliderMoves (Helper.of s) .bishop bishopAttacks).map toSpecMove ↔
      ∃ sq, (abs s).at sq = some (absColor s.turn, Spec.Kind.bishop) ∧
        sm ∈ (Spec.pieceMovesFrom (abs s) (absColor s.turn) .bishop sq).map some := by
  rw [mem_bishopMoves s hd]
  simp only [mem_map_some]

theorem C01_slider_rook (s : State) (hd : DisjointBoard s.pieces) (sm : Option Spec.SMove) :
    sm ∈ (sliderMoves (Helper.of s) .rook rookAttacks).map toSpecMove ↔
      ∃ sq, (abs s).at sq = some (absColor s.turn, Spec.Kind.rook) ∧
        sm ∈ (Spec.pieceMovesFrom (abs s) (absColor s.turn) .rook sq).map some := by
  rw [mem_rookMoves s hd]
  simp only [mem_map_some]

theorem C01_slider_queen (s : State) (hd : DisjointBoard s.pieces) (sm : Option Spec.SMove) :
    sm ∈ (sliderMoves (Helper.of s) .queen queenAttacks).map toSpecMove ↔
      ∃ sq, (abs s).at sq = some (absColor s.turn, Spec.Kind.queen) ∧
        sm ∈ (Spec.pieceMovesFrom (abs s) (absColor s.turn) .queen sq).map some := by
  rw [mem_queenMoves s hd]
  simp only [mem_map_some]

/-- **King steps** (first loop of `compute_king_moves`; `compute_king_moves = steps ++ castles`, `kingMoves_eq`).
The engine generates the rule moves of the king EXCEPT those whose destination is in `opposing_attacks()`
of the current position; by C10 that is: the destination is attacked by the opponent and does not hold an
opposing piece.  (Every such move is illegal: `C01_removed_illegal`.) -/
theorem C01_king_steps (s : State) (hd : DisjointBoard s.pieces) (sm : Option Spec.SMove) :
    sm ∈ (kingStepList (Helper.of s)).map toSpecMove ↔
      ∃ sq, (abs s).at sq = some (absColor s.turn, Spec.Kind.king) ∧
        ∃ m ∈ Spec.pieceMovesFrom (abs s) (absColor s.turn) .king sq,
          ¬ ((abs s).attackedBy (absColor s.turn).opp m.dst = true ∧
             ¬ ∃ k, (abs s).at m.dst = some ((absColor s.turn).opp, k)) ∧ sm = some m := by
  rw [mem_kingStepList s hd]
  apply exists_congr; intro sq
  apply and_congr_right; intro _
  apply exists_congr; intro m
  apply and_congr_right; intro hm
  apply and_congr_left; intro _
  obtain ⟨t, hatt, _, rfl⟩ := (mem_pieceMovesFrom _ _ _ _ _).1 hm
  rw [specStep_dst, ← Bool.not_eq_true, test_oppAtt_iff s hd]

/-- the four castling mask facts: path masks = the squares strictly between king and rook, check masks = the
king's square, the crossed square and the landing square (both colours, both sides) -/
theorem C01_castle_masks :
    (∀ j : Fin 64, test ((castlePathMasks[Side.king.idx]!)[Color.white.idx]!) j.val = [5, 6].contains j.val) ∧
    (∀ j : Fin 64, test ((castlePathMasks[Side.queen.idx]!)[Color.white.idx]!) j.val = [3, 2, 1].contains j.val) ∧
    (∀ j : Fin 64, test ((castlePathMasks[Side.king.idx]!)[Color.black.idx]!) j.val = [61, 62].contains j.val) ∧
    (∀ j : Fin 64, test ((castlePathMasks[Side.queen.idx]!)[Color.black.idx]!) j.val = [59, 58, 57].contains j.val) ∧
    (∀ j : Fin 64, test ((castleCheckMasks[Side.king.idx]!)[Color.white.idx]!) j.val = [4, 5, 6].contains j.val) ∧
    (∀ j : Fin 64, test ((castleCheckMasks[Side.queen.idx]!)[Color.white.idx]!) j.val = [4, 3, 2].contains j.val) ∧
    (∀ j : Fin 64, test ((castleCheckMasks[Side.king.idx]!)[Color.black.idx]!) j.val = [60, 61, 62].contains j.val) ∧
    (∀ j : Fin 64, test ((castleCheckMasks[Side.queen.idx]!)[Color.black.idx]!) j.val = [60, 59, 58].contains j.val) :=
  castleMask_facts

/-- **Castling** (second loop of `compute_king_moves`).  If a castling right of the side to move implies that its
king stands on the home square (part of `LegalPos`), the castling moves generated are — as a list, in order, with
all attributes — the castling moves of the rules: right held, squares between king and rook empty, king's square,
crossed square and landing square not attacked (`Pos.attackedBy`, through C10). -/
theorem C01_castle (s : State) (hd : DisjointBoard s.pieces)
    (hking : ∀ side, (s.castle s.turn).forSide side = true →
      (abs s).at (Spec.kingHome (absColor s.turn)) = some (absColor s.turn, Spec.Kind.king)) :
    (castleList (Helper.of s)).map toSpecMove = (Spec.castleMoves (abs s) (absColor s.turn)).map some :=
  castleList_spec s hd hking

/-- `compute_king_moves` is the king-step loop followed by the castling loop -/
theorem C01_king_split (h : Helper) : kingMoves h = kingStepList h ++ castleList h := kingMoves_eq h

/-- `compute_pawn_moves` is the sequence of its five blocks (the two capture blocks being: captures, capture
promotions, en passant); `pawnPushSeg` … are those blocks, transcribed. -/
theorem C01_pawn_split (h : Helper) : pawnMoves h = (do
    let a ← pawnPushSeg h
    let b ← pawnPromoSeg h
    let c ← pawnDoubleSeg h
    let e ← pawnSideSeg h true
    let w ← pawnSideSeg h false
    pure (a ++ b.flatten ++ c ++ e ++ w)) := pawnMoves_eq h

/-- **Pawn pushes** (no promotion): never panics (`offset(..).unwrap()`), and generates exactly: own pawn on `o`,
`t` one step forward and empty, `t` not on the last rank; plain pawn move `o → t`, no flag set, no duplicates. -/
theorem C01_pawn_push (s : State) (hd : DisjointBoard s.pieces) :
    ∃ L, pawnPushSeg (Helper.of s) = some L ∧ (∀ sm, sm ∈ L.map toSpecMove ↔
      ∃ o t, (abs s).at o = some (absColor s.turn, Spec.Kind.pawn) ∧
        Spec.step o 0 (absColor s.turn).fwd = some t ∧ (abs s).occupied t = false ∧
        t / 8 ≠ Spec.lastRank (absColor s.turn) ∧
        sm = some { color := absColor s.turn, kind := .pawn, src := o, dst := t }) ∧
      (L.map toSpecMove).Nodup :=
  pawnPushSeg_spec s hd

/-- **Pawn promotions by push**: target on the last rank; the four promotion kinds Q, R, B, N. -/
theorem C01_pawn_promo (s : State) (hd : DisjointBoard s.pieces) :
    ∃ L, pawnPromoSeg (Helper.of s) = some L ∧ (∀ sm, sm ∈ L.flatten.map toSpecMove ↔
      ∃ o t, (abs s).at o = some (absColor s.turn, Spec.Kind.pawn) ∧
        Spec.step o 0 (absColor s.turn).fwd = some t ∧ (abs s).occupied t = false ∧
        t / 8 = Spec.lastRank (absColor s.turn) ∧
        ∃ k ∈ Spec.promoKinds,
          sm = some { color := absColor s.turn, kind := .pawn, src := o, dst := t, promo := some k }) ∧
      (L.flatten.map toSpecMove).Nodup :=
  pawnPromoSeg_spec s hd

/-- **Double pushes**: pawn on its home rank, both squares in front empty; the move carries the double-step flag. -/
theorem C01_pawn_double (s : State) (hd : DisjointBoard s.pieces) :
    ∃ L, pawnDoubleSeg (Helper.of s) = some L ∧ (∀ sm, sm ∈ L.map toSpecMove ↔
      ∃ o t1 t2, (abs s).at o = some (absColor s.turn, Spec.Kind.pawn) ∧
        o / 8 = Spec.homeRank (absColor s.turn) ∧
        Spec.step o 0 (absColor s.turn).fwd = some t1 ∧ Spec.step t1 0 (absColor s.turn).fwd = some t2 ∧
        (abs s).occupied t1 = false ∧ (abs s).occupied t2 = false ∧
        sm = some { color := absColor s.turn, kind := .pawn, src := o, dst := t2, dbl := true }) ∧
      (L.map toSpecMove).Nodup :=
  pawnDoubleSeg_spec s hd

/-- **Pawn captures** (no promotion), towards the east (`east = true`, file + 1) or west: an opposing piece of
kind `k` on the diagonal square; `capture = k`; `piece_at(target).unwrap()` cannot panic. -/
theorem C01_pawn_capture (s : State) (hd : DisjointBoard s.pieces) (east : Bool) :
    ∃ L, pawnCapSeg (Helper.of s) east = some L ∧ (∀ sm, sm ∈ L.map toSpecMove ↔
      ∃ o t k, (abs s).at o = some (absColor s.turn, Spec.Kind.pawn) ∧
        Spec.step o (capDf east) (absColor s.turn).fwd = some t ∧
        (abs s).at t = some ((absColor s.turn).opp, k) ∧
        t / 8 ≠ Spec.lastRank (absColor s.turn) ∧
        sm = some { color := absColor s.turn, kind := .pawn, src := o, dst := t, capture := some k }) ∧
      (L.map toSpecMove).Nodup :=
  pawnCapSeg_spec s hd east

/-- **Pawn capture-promotions**: as above on the last rank, times the four promotion kinds. -/
theorem C01_pawn_capture_promo (s : State) (hd : DisjointBoard s.pieces) (east : Bool) :
    ∃ L, pawnCapPromoSeg (Helper.of s) east = some L ∧ (∀ sm, sm ∈ L.flatten.map toSpecMove ↔
      ∃ o t k, (abs s).at o = some (absColor s.turn, Spec.Kind.pawn) ∧
        Spec.step o (capDf east) (absColor s.turn).fwd = some t ∧
        (abs s).at t = some ((absColor s.turn).opp, k) ∧
        t / 8 = Spec.lastRank (absColor s.turn) ∧
        ∃ kp ∈ Spec.promoKinds, sm = some { color := absColor s.turn, kind := .pawn, src := o, dst := t,
                                            capture := some k, promo := some kp }) ∧
      (L.flatten.map toSpecMove).Nodup :=
  pawnCapPromoSeg_spec s hd east

/-- **En passant**: if the en-passant target is a square of the board, one move per side from which an own pawn
attacks the target; flag set, `capture = Pawn`. -/
theorem C01_pawn_ep (s : State) (hd : DisjointBoard s.pieces) (hep : ∀ e, s.ep = some e → e < 64) (east : Bool) :
    ∃ L, pawnEpSeg (Helper.of s) east = some L ∧ (∀ sm, sm ∈ L.map toSpecMove ↔
      ∃ o t, (abs s).at o = some (absColor s.turn, Spec.Kind.pawn) ∧
        Spec.step o (capDf east) (absColor s.turn).fwd = some t ∧ s.ep = some t ∧
        sm = some { color := absColor s.turn, kind := .pawn, src := o, dst := t,
                    capture := some Spec.Kind.pawn, ep := true }) ∧
      (L.map toSpecMove).Nodup :=
  pawnEpSeg_spec s hd hep east

/-- **Pawns, assembled.**  If the en-passant target (when present) is an empty square of the board (part of
`LegalPos`), `compute_pawn_moves` does not panic and generates exactly `Spec.pawnMovesFrom` of every own pawn,
without duplicates. -/
theorem C01_pawn (s : State) (hd : DisjointBoard s.pieces)
    (hep : ∀ e, s.ep = some e → e < 64 ∧ (abs s).at e = Option.none) :
    ∃ L, pawnMoves (Helper.of s) = some L ∧ (∀ sm, sm ∈ L.map toSpecMove ↔
      ∃ o, (abs s).at o = some (absColor s.turn, Spec.Kind.pawn) ∧
        sm ∈ (Spec.pawnMovesFrom (abs s) (absColor s.turn) o).map some) ∧
      (L.map toSpecMove).Nodup := by
  obtain ⟨L, h1, h2, h3, _⟩ := pawnMoves_spec s hd hep
  refine ⟨L, h1, fun sm => ?_, h3⟩
  rw [h2]; simp only [mem_map_some]

/-! ## layer 2: all pseudo-legal moves -/

/-- the king steps that `compute_king_moves` drops, in the vocabulary of the rules (on the bitboards: `RemovedKingStep`,
`Wee/Proofs/MoveGenLemmas.lean`; `removedKingStep_iff`) -/
def DroppedKingStep (P : Spec.Pos) (m : Spec.SMove) : Prop :=
  m.kind = Spec.Kind.king ∧ m.castle = Option.none ∧ P.attackedBy P.turn.opp m.dst = true ∧
    ¬ ∃ k, P.at m.dst = some (P.turn.opp, k)

/-- bit `m.dst` of `opposing_attacks()` is "attacked by the opponent and not an opposing piece" (C10) -/
theorem removedKingStep_iff (s : State) (hd : DisjointBoard s.pieces) (m : Spec.SMove) :
    RemovedKingStep s m ↔ DroppedKingStep (abs s) m :=
  and_congr_right fun _ => and_congr_right fun _ => test_oppAtt_iff s hd m.dst

/-- **C01_pseudo.**  For a legal position without stacked pieces `compute_psuedo_legal_moves_into` never panics
(`pseudoLegalMoves s = some L`), produces no duplicates, and `L`, read through the accessors, is exactly the
specification's pseudo-legal list minus the king steps onto squares the opponent attacks now. -/
theorem C01_pseudo (s : State) (hl : LegalPos s = true) (hd : DisjointBoard s.pieces) :
    ∃ L, pseudoLegalMoves s = some L ∧ (L.map toSpecMove).Nodup ∧
      ∀ sm, sm ∈ L.map toSpecMove ↔
        ∃ m ∈ Spec.pseudoMoves (abs s), ¬ DroppedKingStep (abs s) m ∧ sm = some m := by
  obtain ⟨L, h1, h2⟩ := pseudoLegal_spec s hd (legalPos_ep s hl) (legalPos_king s hl)
  refine ⟨L, h1, pseudoLegal_nodup s hd (legalPos_ep s hl) (legalPos_king s hl) L h1, fun sm => ?_⟩
  rw [h2]
  apply exists_congr; intro m
  apply and_congr_right; intro _
  apply and_congr_left; intro _
  exact not_congr (removedKingStep_iff s hd m)

/-- the specification's own pseudo-legal list has no duplicates (any position) -/
theorem C01_spec_pseudo_nodup (P : Spec.Pos) : (Spec.pseudoMoves P).Nodup := pseudoMoves_nodup P

/-! ## layer 3: the legality filter -/

/-- **C01_legal_filter.**  If make-move is correct for `mv` (`performMove` succeeds, the successor abstracts to
`Spec.applyMove`, the successor has no stacked pieces — this is what C02 provides) then `try_as_legal_move` keeps
the move, together with that successor, exactly when the mover's king is not attacked afterwards
(`Spec.isLegalAfter`), and never panics.  The check `king & colored_attacks(next.turn)` is C10 on the successor. -/
theorem C01_legal_filter (s : State) (mv : Move) (sm : Spec.SMove) (next : State)
    (hperf : performMove s mv = some (.ok next)) (habs : abs next = Spec.applyMove (abs s) sm)
    (hd' : DisjointBoard next.pieces) (hcol : sm.color = absColor s.turn) :
    tryAsLegal s mv = some (if Spec.isLegalAfter (abs s) sm = true then some (mv, next) else Option.none) :=
  tryAsLegal_spec s mv sm next hperf habs hd' hcol

/-- every move of the specification's pseudo-legal list is a move of the side to move -/
theorem C01_pseudo_color {P : Spec.Pos} {m : Spec.SMove} (h : m ∈ Spec.pseudoMoves P) : m.color = P.turn :=
  ((Spec.pseudo_iff P m).1 h).color

/-- **Dropped king steps are illegal.**  A king step onto an empty square attacked by the opponent leaves the king
attacked after the move (the attacker is neither captured nor blocked; vacating the origin only opens lines). -/
theorem C01_removed_illegal (s : State) (hd : DisjointBoard s.pieces) (m : Spec.SMove)
    (hm : m ∈ Spec.pseudoMoves (abs s)) (hr : RemovedKingStep s m) : Spec.isLegalAfter (abs s) m = false :=
  removed_illegal s hd m hm hr

/-! ## layers 4 and 5: the legal move list, perft -/

/-- `compute_legal_moves` never panics on a legal position; every result `(mv, next)` reads as a legal move `sm`
of the rules, `next` is the rules' successor and again has no stacked pieces and is a legal position. -/
theorem C01_legal_results (s : State) (hl : LegalPos s = true) (hd : DisjointBoard s.pieces) :
    (∃ L, legalMoves? s = some L) ∧
    ∀ r ∈ legalMoves s, ∃ sm, toSpecMove r.1 = some sm ∧ sm ∈ Spec.legalMoves (abs s) ∧
      abs r.2 = Spec.applyMove (abs s) sm ∧ DisjointBoard r.2.pieces ∧ LegalPos r.2 = true :=
  ⟨⟨_, C02.legalMoves?_eq s hl hd⟩, C02.legalMoves_entry s hl hd⟩

/-- **C01_moves.**  For every legal position (one king per side, side not to move not in check, no pawns on the
back ranks, castling rights only with king and rook at home, en-passant target only behind a pawn that has just
double-stepped — `LegalPos`) whose bitboards do not overlap: the list returned by
`MoveGenerator::compute_legal_moves`, each move read through ALL its accessors (moving piece and colour, origin,
destination, captured kind, promotion kind, en-passant flag, castling side, double-step flag), is a permutation of
the legal moves of the rules of chess (`Spec.legalMoves`), and contains no duplicates. -/
theorem C01_moves (s : State) (hl : LegalPos s = true) (hd : DisjointBoard s.pieces) :
    ((legalMoves s).map (toSpecMove ∘ (·.1))).Perm ((Spec.legalMoves (abs s)).map some) ∧
    ((legalMoves s).map (toSpecMove ∘ (·.1))).Nodup :=
  C02.legalMoves_perm s hl hd

/-- the number of generated moves is the number of legal moves (e.g. 0 exactly in mate and stalemate) -/
theorem C01_count (s : State) (hl : LegalPos s = true) (hd : DisjointBoard s.pieces) :
    (legalMoves s).length = (Spec.legalMoves (abs s)).length :=
  C02.legalMoves_length s hl hd

/-- **C01_perft.**  For every depth and every legal position, `Searcher::perft` over the generator and
`by_performing_move` counts exactly the nodes of the perft walk of the rules. -/
theorem C01_perft (d : Nat) (s : State) (hl : LegalPos s = true) (hd : DisjointBoard s.pieces) :
    perft d s = Spec.perft d (abs s) := by
  revert s
  induction d using Nat.strongRecOn with
  | _ d ih =>
    intro s hl hd
    match d, ih with
    | 0, _ => rfl
    | 1, _ => exact C02.legalMoves_length s hl hd
    | d + 2, ih =>
      show ((legalMoves s).map fun r => perft (d + 1) r.2).sum =
        ((Spec.legalMoves (abs s)).map fun m => Spec.perft (d + 1) (Spec.applyMove (abs s) m)).sum
      let G : Option Spec.SMove → Nat := fun o =>
        match o with
        | some m => Spec.perft (d + 1) (Spec.applyMove (abs s) m)
        | Option.none => 0
      have h1 : (legalMoves s).map (fun r => perft (d + 1) r.2) =
          ((legalMoves s).map (toSpecMove ∘ (·.1))).map G := by
        rw [List.map_map]
        apply List.map_congr_left
        intro r hr
        obtain ⟨sm, e, _, habs, hd', hl'⟩ := C02.legalMoves_entry s hl hd r hr
        have := ih (d + 1) (by omega) r.2 hl' hd'
        rw [this, habs]
        show _ = G (toSpecMove r.1)
        rw [e]
      have h2 : (Spec.legalMoves (abs s)).map (fun m => Spec.perft (d + 1) (Spec.applyMove (abs s) m)) =
          ((Spec.legalMoves (abs s)).map some).map G := by
        rw [List.map_map]; rfl
      rw [h1, h2]
      exact ((C02.legalMoves_perm s hl hd).1.map G).sum_nat

/-! ## the same, quantified over mailbox positions

`conc P` is the engine state of the mailbox position `P` — the state the FEN reader builds for the canonical FEN of
`P` (C11: `parseFen (Spec.writeFen P) = .ok (conc P)`).  It never has stacked pieces and reads back as `P`, so no
bitboard side condition is left. -/

/-- **C01_moves, for every legal chess position `P`** (as a mailbox): the engine's move list in the state of `P`
is a duplicate-free permutation of the legal moves of the rules in `P`, attribute by attribute. -/
theorem C01_moves_pos (P : Spec.Pos) (hP : Spec.LegalPos P = true) :
    ((legalMoves (conc P)).map (toSpecMove ∘ (·.1))).Perm ((Spec.legalMoves P).map some) ∧
    ((legalMoves (conc P)).map (toSpecMove ∘ (·.1))).Nodup := by
  have habs := abs_conc P (legalPos_size P hP)
  have hl : LegalPos (conc P) = true := by unfold LegalPos; rw [habs]; exact hP
  have := C01_moves (conc P) hl (disjointBoard_conc P)
  rw [habs] at this
  exact this

/-- **C01_perft, for every legal chess position `P`** and every depth. -/
theorem C01_perft_pos (d : Nat) (P : Spec.Pos) (hP : Spec.LegalPos P = true) :
    perft d (conc P) = Spec.perft d P := by
  have habs := abs_conc P (legalPos_size P hP)
  have hl : LegalPos (conc P) = true := by unfold LegalPos; rw [habs]; exact hP
  have := C01_perft d (conc P) hl (disjointBoard_conc P)
  rw [habs] at this
  exact this

/-! ## non-vacuity -/

/-- White: Ke1, Ng1, Pa7, Pe5; Black: Kh8, Nb8, Pd5 which has just double-stepped (en-passant target d6);
White to move.  18 legal moves: 5 king, 3 knight, a8=Q/R/B/N, axb8=Q/R/B/N, e6, exd6 e.p. -/
def C01_example : State :=
  { pieces := { wk := 0x10, wn := 0x40, wp := 0x0001001000000000, bk := 0x8000000000000000,
                bn := 0x0200000000000000, bp := 0x0000000800000000 }
    turn := .white, castleW := .noRights, castleB := .noRights, ep := some 43, halfmove := 0, fullmove := 1 }

/-- the hypotheses of the theorems are satisfiable: the example is a legal position without stacked pieces … -/
theorem C01_example_disjoint : DisjointBoard C01_example.pieces := by decide +kernel
theorem C01_example_legal : LegalPos C01_example = true := by rw [legalPos_abs]; decide +kernel

example : DisjointBoard C01_example.pieces := C01_example_disjoint
set_option maxRecDepth 1000000 in
example : LegalPos C01_example = true := C01_example_legal

/-- … the start position is a `DisjointBoard` … -/
example : DisjointBoard C10.startPieces := by decide +kernel

/-- … and on the example the generator returns 18 moves (kernel evaluation of the model); that the rules give 18
too, with the same members, is then `C01_count` and `C01_moves` -/
example : (legalMoves C01_example).length = 18 ∧ (Spec.legalMoves (abs C01_example)).length = 18 := by
  have h : (legalMoves C01_example).length = 18 := by rw [legalMoves_fast]; decide +kernel
  exact ⟨h, (C01_count C01_example C01_example_legal C01_example_disjoint).symm.trans h⟩
set_option maxRecDepth 1000000 in
example : ((legalMoves C01_example).map (toSpecMove ∘ (·.1))).all
    (fun x => ((Spec.legalMoves (abs C01_example)).map some).contains x) = true :=
  List.all_eq_true.2 fun _ hx => List.contains_iff_mem.2
    ((C01_moves C01_example C01_example_legal C01_example_disjoint).1.mem_iff.1 hx)

/-- the theorems instantiated -/
example : ((legalMoves C01_example).map (toSpecMove ∘ (·.1))).Perm ((Spec.legalMoves (abs C01_example)).map some) :=
  (C01_moves C01_example C01_example_legal C01_example_disjoint).1
example (d : Nat) : perft d C01_example = Spec.perft d (abs C01_example) :=
  C01_perft d C01_example C01_example_legal C01_example_disjoint

/-- the hypotheses of the castling theorem hold e.g. when no right is held, and when the king is at home -/
example : ∀ side, (C01_example.castle C01_example.turn).forSide side = true →
    (abs C01_example).at (Spec.kingHome (absColor C01_example.turn)) =
      some (absColor C01_example.turn, Spec.Kind.king) := legalPos_king C01_example C01_example_legal

/-- the en-passant hypothesis of `C01_pawn` on the example (target d6 = 43, empty) -/
example : ∀ e, C01_example.ep = some e → e < 64 ∧ (abs C01_example).at e = Option.none :=
  legalPos_ep C01_example C01_example_legal

/-- `C01_legal_results` on the example, in executable form: every generated legal move has a successor that
abstracts to the rules' successor, is disjoint and legal -/
example : ((legalMoves C01_example).all fun r =>
    match toSpecMove r.1 with
    | some sm => decide (abs r.2 = Spec.applyMove (abs C01_example) sm) && decide (DisjointBoard r.2.pieces) &&
        LegalPos r.2
    | Option.none => false) = true := by
  rw [List.all_eq_true]
  intro r hr
  obtain ⟨sm, hsm, _, habs, hd, hl⟩ :=
    (C01_legal_results C01_example C01_example_legal C01_example_disjoint).2 r hr
  rw [hsm]
  simp only [habs, hd, hl, decide_true, Bool.and_self]

/-- White Ke1, Pe2; Black Ke8; White to move: 6 moves, 30 nodes at depth 2 — the perft walk of the model evaluated
by the kernel, that of the rules by `C01_perft` (the magic tables of the start position make the same evaluation of
its 20 moves too slow for the kernel; the correspondence harness covers it) -/
def C01_kpk : State :=
  { pieces := { wk := 0x10, wp := 0x1000, bk := 0x1000000000000000 }
    turn := .white, castleW := .noRights, castleB := .noRights, ep := Option.none, halfmove := 0, fullmove := 1 }

set_option maxRecDepth 1000000 in
example : perft (1 + 1) C01_kpk = 30 ∧ Spec.perft (1 + 1) (abs C01_kpk) = 30 := by
  have h : perft (1 + 1) C01_kpk = 30 := by simp only [perft, legalMoves_fast]; decide +kernel
  exact ⟨h, (C01_perft _ C01_kpk (by rw [legalPos_abs]; decide +kernel) (by decide +kernel)).symm.trans h⟩

end Wee
