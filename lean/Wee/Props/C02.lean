import Wee.Proofs.ApplyGen
import Wee.Proofs.RulesFast
/-!
# C02 — applying a move yields the correct successor position

Rust: `weechess-core/src/state.rs` (`State::by_performing_move`, `State::by_performing_moves`),
`weechess-core/src/moves.rs` (`MoveQuery::test`, `MoveSet::filter`).
Model: `Wee/Model/Board.lean` (`performMove`), `Wee/Model/San.lean` (`performQuery`, `performQueries`).
Rules: `Wee/Spec/Chess.lean` (`Spec.applyMove`), abstraction `Wee/Spec/Abs.lean` (`abs`, `toSpecMove`).

## How the property is cut

The full target `C02_apply_statement` quantifies over the moves *produced by the generator*.  That
every generated move is a well-formed description of a rule-level move is the generator
characterisation (C01).  Everything that is make-move itself is proved here from **explicit,
checkable hypotheses about one move**, with no reference to the generator:

* `MoveFits s mv sm` (`Wee/Proofs/ApplyLemmas.lean`): the packed move `mv` describes the rule-level
  move `sm` in `s` — getters read `sm`; codes valid; mover on `sm.src`; destination empty / enemy
  piece of the captured kind (never a king) / en-passant geometry; promotion = pawn reaching the last
  rank; castling = king home, rook on corner, rook landing square empty; double-step flag ⇔ pawn
  advancing two ranks; placement without overlaps.
* `RightsSound s`: a held castling right implies king and rook on their home squares (the clause of
  `LegalPos`; `C02_rightsSound_of_legal`).

`C02_apply_fits` : under these, `performMove` returns `Ok(next)` and `abs next = Spec.applyMove (abs s) sm`
(all nine fields).  `C02_disjoint_preserved` : the hypotheses on the position carry over to `next`,
hence along every move sequence (`C02_apply_seq`).  `C02_apply_partial` : the full statement follows
once C01 supplies `MoveFits` for generated moves (`Wee/Props/C02Closed.lean`).

Vocabulary defined in the proof files: `MoveFits`, `RightsSound`, `CodesOk`, `coordQuery`,
`CoordsDetermine`; `Wee.C10.DisjointBoard` from C10.
-/
namespace Wee
open Wee.C02
open Wee.C10 (DisjointBoard)

/-! ## scalar fields (each needs only the part of `MoveFits` it uses) -/

/-- **Side to move.** If `by_performing_move` returns `Ok(next)` for a move of the side to move,
then `next` has the other side to move, as the rules say.  Hypotheses: only that `sm` is a move of
the side to move. -/
theorem C02_turn (s next : State) (mv : Move) (sm : Spec.SMove) (hcol : sm.color = absColor s.turn)
    (hnext : performMove s mv = some (.ok next)) :
    (abs next).turn = (Spec.applyMove (abs s) sm).turn ∧ next.turn = s.turn.opp := by
  obtain ⟨p, map, _, _, rfl⟩ := performMove_ok_inv hnext
  exact ⟨turn_agree hcol p map, rfl⟩

/-- **Clocks.** The halfmove clock of `next` is 0 after a pawn move or a capture and one more than
before otherwise; the fullmove number is incremented exactly after Black's move — both equal to the
rule-level values.  Hypotheses: `mv` reads as `sm` (`toSpecMove`), `sm` is a move of the side to move. -/
theorem C02_clocks (s next : State) (mv : Move) (sm : Spec.SMove) (hspec : toSpecMove mv = some sm)
    (hcol : sm.color = absColor s.turn) (hnext : performMove s mv = some (.ok next)) :
    (abs next).halfmove = (Spec.applyMove (abs s) sm).halfmove ∧
    (abs next).fullmove = (Spec.applyMove (abs s) sm).fullmove ∧
    next.halfmove = (if sm.kind = Spec.Kind.pawn ∨ sm.capture.isSome then 0 else clockSucc s.halfmove) ∧
    next.fullmove = (if s.turn = Color.black then clockSucc s.fullmove else s.fullmove) := by
  obtain ⟨p, map, hp, hc, rfl⟩ := performMove_ok_inv hnext
  have h1 := halfmove_agree (s := s) hspec hc p hp map
  refine ⟨h1, fullmove_agree (mv := mv) hcol p map, h1.trans (applyMove_halfmove _ _), ?_⟩
  show (if (s.turn == Color.black) = true then clockSucc s.fullmove else s.fullmove) = _
  simp only [beq_iff_eq]

/-- `clockSucc` is `+ 1` for every counter below `2^64 - 1` and stops there (`usize::saturating_add`, since the
repair of F9: on the pinned tree `+ 1` panicked in builds with overflow checks and wrapped to 0 without) -/
theorem clockSucc_exact {n : Nat} (h : n + 1 < 2^64) : clockSucc n = n + 1 := by unfold clockSucc; rw [if_pos h]
theorem clockSucc_sat {n : Nat} (h : ¬ n + 1 < 2^64) : clockSucc n = n := by unfold clockSucc; rw [if_neg h]

/-- **Clocks, in the property's own words**: for counters that a 64-bit FEN reader can hold and that are not at
the very top of the range, the halfmove clock is exactly one more than before (or 0 after a pawn move or capture)
and the fullmove number exactly one more after Black's move. -/
theorem C02_clocks_exact (s next : State) (mv : Move) (sm : Spec.SMove) (hspec : toSpecMove mv = some sm)
    (hcol : sm.color = absColor s.turn) (hnext : performMove s mv = some (.ok next))
    (hh : s.halfmove + 1 < 2^64) (hf : s.fullmove + 1 < 2^64) :
    next.halfmove = (if sm.kind = Spec.Kind.pawn ∨ sm.capture.isSome then 0 else s.halfmove + 1) ∧
    next.fullmove = (if s.turn = Color.black then s.fullmove + 1 else s.fullmove) := by
  have h := C02_clocks s next mv sm hspec hcol hnext
  rw [clockSucc_exact hh, clockSucc_exact hf] at h
  exact ⟨h.2.2.1, h.2.2.2⟩

/-- counters stay representable: the successor of a state with 64-bit counters has 64-bit counters (no wrap, no
panic — the content of the F9 repair at the model level) -/
theorem C02_clocks_fit (s next : State) (mv : Move) (sm : Spec.SMove) (hspec : toSpecMove mv = some sm)
    (hcol : sm.color = absColor s.turn) (hnext : performMove s mv = some (.ok next))
    (hh : s.halfmove < 2^64) (hf : s.fullmove < 2^64) : next.halfmove < 2^64 ∧ next.fullmove < 2^64 := by
  have h := C02_clocks s next mv sm hspec hcol hnext
  rw [h.2.2.1, h.2.2.2]
  constructor
  · split
    · decide
    · exact clockSucc_lt hh
  · split
    · exact clockSucc_lt hf
    · exact hf

/-- **En-passant target.** `next.ep` is the square passed over exactly after a double pawn step, and
`None` otherwise.  Hypotheses: `mv` reads as `sm`, squares on the board, and the double-step flag is
only set for a two-rank advance (`dst = src ± 16` in the mover's direction). -/
theorem C02_ep (s next : State) (mv : Move) (sm : Spec.SMove) (hspec : toSpecMove mv = some sm)
    (hcol : sm.color = absColor s.turn) (hs : sm.src < 64) (hd : sm.dst < 64)
    (hdbl : sm.dbl = true → (sm.dst : Int) = (sm.src : Int) + 16 * sm.color.fwd)
    (hnext : performMove s mv = some (.ok next)) :
    (abs next).ep = (Spec.applyMove (abs s) sm).ep ∧
    next.ep = (if sm.dbl then some ((sm.src + sm.dst) / 2) else Option.none) := by
  obtain ⟨p, map, _, _, rfl⟩ := performMove_ok_inv hnext
  have := ep_agree hspec hcol hs hd hdbl p map
  exact ⟨this, this⟩

/-- **Castling rights.** The engine recomputes each right as "old right, the mover's king did not
move, and the rook is still on its corner"; the rules say "lost when the king moves or a rook leaves
or is captured on its corner".  Given `RightsSound s` the four flags agree. -/
theorem C02_rights (s next : State) (mv : Move) (sm : Spec.SMove) (h : MoveFits s mv sm) (hrs : RightsSound s)
    (hnext : performMove s mv = some (.ok next)) :
    (abs next).wk = (Spec.applyMove (abs s) sm).wk ∧ (abs next).wq = (Spec.applyMove (abs s) sm).wq ∧
    (abs next).bk = (Spec.applyMove (abs s) sm).bk ∧ (abs next).bq = (Spec.applyMove (abs s) sm).bq := by
  obtain ⟨p, map, hm, hk, rfl, hr⟩ := perform_inv h hnext
  exact rights_agree h hm hk hrs hr

/-- **Piece placement**, all move kinds (quiet move, capture, en passant with the victim removed from
the square beside the origin, promotion with the pawn replaced — also when capturing —, castling on
either side with the rook relocated): the 64 mailbox cells of `next` are the 64 cells the rules give. -/
theorem C02_placement (s next : State) (mv : Move) (sm : Spec.SMove) (h : MoveFits s mv sm)
    (hnext : performMove s mv = some (.ok next)) :
    (abs next).cells = (Spec.applyMove (abs s) sm).cells := by
  obtain ⟨p, map, hm, hk, rfl, hr⟩ := perform_inv h hnext
  exact cells_agree h hm hk hr

/-- `by_performing_move` cannot fail (no `IllegalEnPassant`, no `unwrap` panic) on a move that fits. -/
theorem C02_succeeds (s : State) (mv : Move) (sm : Spec.SMove) (h : MoveFits s mv sm) :
    ∃ next, performMove s mv = some (.ok next) := by
  obtain ⟨p, hm, _⟩ := fits_model h
  obtain ⟨map, hpm, _⟩ := perform_repr hm
  exact ⟨_, hpm⟩

/-! ## the whole successor -/

/-- **C02, one move, from explicit hypotheses.**  If `mv` fits `sm` in `s` and the held rights of `s`
are sound, `State::by_performing_move(s, mv)` returns `Ok(next)` and the mailbox reading of `next` is
exactly the position the rules of chess give: placement (victim removed, rook relocated, pawn
replaced), side to move, the four castling rights, en-passant target, halfmove clock, fullmove number. -/
theorem C02_apply_fits (s : State) (mv : Move) (sm : Spec.SMove) (h : MoveFits s mv sm) (hrs : RightsSound s) :
    ∃ next, performMove s mv = some (.ok next) ∧ abs next = Spec.applyMove (abs s) sm := by
  obtain ⟨p, hm, hk⟩ := fits_model h
  obtain ⟨map, hpm, hr⟩ := perform_repr hm
  exact ⟨_, hpm, abs_finish h hm hk hrs hr⟩

/-- **The invariants travel.**  The successor of a fitting move again has a placement without
overlaps and sound rights — so `C02_apply_fits` applies again to the successor (of a successor …). -/
theorem C02_disjoint_preserved (s next : State) (mv : Move) (sm : Spec.SMove) (h : MoveFits s mv sm)
    (hrs : RightsSound s) (hnext : performMove s mv = some (.ok next)) :
    DisjointBoard next.pieces ∧ RightsSound next := by
  obtain ⟨p, map, hm, hk, rfl, hr⟩ := perform_inv h hnext
  exact ⟨disjoint_of_repr hr, rightsSound_finish hm hrs hr⟩

/-- `RightsSound` is the castling clause of `LegalPos` (for a placement without overlaps). -/
theorem C02_rightsSound_of_legal (s : State) (hl : LegalPos s = true) (hd : DisjointBoard s.pieces) :
    RightsSound s := rightsSound_of_legal hl hd

/-! ## move sequences -/

/-- apply packed moves one after the other (`by_performing_move` folded; first failure wins) -/
def performMoveSeq (s : State) : List Move → Option (Except MoveErr State)
  | [] => some (.ok s)
  | mv :: mvs =>
    match performMove s mv with
    | some (.ok s') => performMoveSeq s' mvs
    | r => r

/-- each move of the sequence fits the position reached by the moves before it -/
def FitsSeq (s : State) : List (Move × Spec.SMove) → Prop
  | [] => True
  | (mv, sm) :: l => MoveFits s mv sm ∧ ∀ next, performMove s mv = some (.ok next) → FitsSeq next l

/-- **C02 along every finite move sequence.**  Starting from a position with sound rights, if every
move fits the position it is played in, the engine's successive successors exist and the final one
reads as the rule-level position obtained by applying the rule-level moves in order; the invariants
hold again at the end. -/
theorem C02_apply_seq (l : List (Move × Spec.SMove)) : ∀ (s : State), RightsSound s → FitsSeq s l →
    ∃ final, performMoveSeq s (l.map (·.1)) = some (.ok final) ∧
      abs final = (l.map (·.2)).foldl Spec.applyMove (abs s) ∧
      RightsSound final ∧ (l ≠ [] → DisjointBoard final.pieces) := by
  induction l with
  | nil => intro s hrs _; exact ⟨s, rfl, rfl, hrs, fun h => absurd rfl h⟩
  | cons x l ih =>
    intro s hrs hf
    obtain ⟨mv, sm⟩ := x
    obtain ⟨hfit, hrest⟩ := hf
    obtain ⟨next, hnext, habs⟩ := C02_apply_fits s mv sm hfit hrs
    obtain ⟨hd', hrs'⟩ := C02_disjoint_preserved s next mv sm hfit hrs hnext
    obtain ⟨final, h1, h2, h3, h4⟩ := ih next hrs' (hrest next hnext)
    refine ⟨final, ?_, ?_, h3, fun _ => ?_⟩
    · simp only [List.map_cons, performMoveSeq, hnext]; exact h1
    · simp only [List.map_cons, List.foldl_cons]; rw [← habs]; exact h2
    · cases l with
      | nil =>
        simp only [List.map_nil, performMoveSeq, Option.some.injEq, Except.ok.injEq] at h1
        subst h1; exact hd'
      | cons y l' => exact h4 (by simp)

/-! ## the full statement and its reduction to C01 -/

/-- every move the generator lists for a legal position (with a placement without overlaps) is a
well-formed description of some rule-level move — the part of C01 that C02 needs -/
def GeneratedMovesFit : Prop :=
  ∀ s : State, LegalPos s = true → DisjointBoard s.pieces →
    ∀ r ∈ legalMoves s, ∃ sm, MoveFits s r.1 sm

/-- **Full statement of C02 (apply).**  For every legal position and every entry `(move, next)` of
the engine's legal-move list, `move` reads as a rule-level move and `next` reads as the rule-level
successor. -/
def C02_apply_statement : Prop :=
  ∀ s : State, LegalPos s = true → DisjointBoard s.pieces →
    ∀ r ∈ legalMoves s, ∃ sm, toSpecMove r.1 = some sm ∧ abs r.2 = Spec.applyMove (abs s) sm

/-- the full statement holds as soon as generated moves fit: `GeneratedMovesFit` is all that it needs of the
generator (supplied from C01 in `Wee/Props/C02Closed.lean`: `C02_generatedMovesFit`, `C02_apply`); nothing about
make-move itself is assumed. -/
theorem C02_apply_partial (hgen : GeneratedMovesFit) : C02_apply_statement := by
  intro s hl hd r hr
  obtain ⟨sm, hfit⟩ := hgen s hl hd r hr
  have hrs := rightsSound_of_legal hl hd
  obtain ⟨next, hnext, habs⟩ := C02_apply_fits s r.1 sm hfit hrs
  have := mem_legalMoves hr
  rw [hnext] at this
  simp only [Option.some.injEq, Except.ok.injEq] at this
  subst this
  exact ⟨sm, hfit.spec, habs⟩

/-- every entry `(move, next)` of the legal-move list satisfies `next = by_performing_move(move)` (no
hypothesis on the position) -/
theorem C02_listed_successor (s : State) (r : Move × State) (hr : r ∈ legalMoves s) :
    performMove s r.1 = some (.ok r.2) := mem_legalMoves hr

/-! ## selecting a move by coordinates (`by_performing_moves`) -/

/-- **Resolution of one query** (`State::by_performing_moves` for one `MoveQuery`): with `ms` the
legal-move list of `s`,
* exactly one entry matches → the result is `by_performing_move` of that entry's move, which is
  `Ok` of the successor stored in the entry;
* no entry matches → `Err(UnknownMove)`;
* two or more match → `Err(AmbiguousMove)`.
In the error cases nothing but the error is returned (`State` is immutable; the caller's position is
unchanged). -/
theorem C02_coords (s : State) (q : MoveQuery) (ms : List (Move × State)) (hms : legalMoves? s = some ms) :
    (∀ r, ms.filter (fun r => q.test r.1) = [r] → performQuery s q = some (.ok r.2)) ∧
    (ms.filter (fun r => q.test r.1) = [] → performQuery s q = some (.error .unknown)) ∧
    (2 ≤ (ms.filter (fun r => q.test r.1)).length → performQuery s q = some (.error .ambiguous)) := by
  rw [performQuery_eq, hms, Option.bind_some]
  refine ⟨fun r hf => by rw [hf], fun hf => by rw [hf], fun hlen => ?_⟩
  generalize ms.filter (fun r => q.test r.1) = F at hlen ⊢
  match F, hlen with
  | [], h => simp at h
  | [_], h => simp at h
  | _ :: _ :: _, _ => rfl

/-- the generator panicking (`legalMoves? = none`) is the only way `performQuery` has no result -/
theorem C02_coords_total (s : State) (q : MoveQuery) (ms : List (Move × State)) (hms : legalMoves? s = some ms) :
    ∃ r, performQuery s q = some r := by
  obtain ⟨h1, h2, h3⟩ := C02_coords s q ms hms
  match hm : ms.filter (fun r => q.test r.1) with
  | [] => exact ⟨_, h2 hm⟩
  | [r] => exact ⟨_, h1 r hm⟩
  | a :: b :: t => exact ⟨_, h3 (by rw [hm]; simp)⟩

/-- **A rejected query stops the sequence**: if the queries `qs₁` lead from `s` to `s₁` and the next
query is rejected there (unknown / ambiguous), `by_performing_moves` returns exactly that error — no
partially updated position is returned. -/
theorem C02_coords_reject (s s₁ : State) (qs₁ qs₂ : List MoveQuery) (q : MoveQuery) (e : MoveErr)
    (h₁ : performQueries s qs₁ = some (.ok s₁)) (hq : performQuery s₁ q = some (.error e)) :
    performQueries s (qs₁ ++ q :: qs₂) = some (.error e) := by
  rw [performQueries_append qs₁ s s₁ _ h₁]
  exact performQueries_error s₁ q qs₂ e hq

/-- accepted queries compose: the sequence is the successor of a successor … -/
theorem C02_coords_step (s s' : State) (q : MoveQuery) (qs : List MoveQuery)
    (hq : performQuery s q = some (.ok s')) : performQueries s (q :: qs) = performQueries s' qs :=
  performQueries_ok s s' q qs hq

/-- what a coordinate query tests: origin, destination, and — if a letter was given — that the letter
is the promotion piece, or (the resolver's leniency) the moving piece itself when the move is not a
promotion -/
theorem C02_coordQuery_test (o d : Nat) (pr : Option Piece) (m : Move) :
    (coordQuery o d pr).test m = true ↔
      Move.origin m = o ∧ Move.dest m = d ∧ ∀ X, pr = some X → X = (Move.promotion m).getD (Move.piece m) :=
  coordQuery_test o d pr m

/-- **At most one match for coordinates.**  Let `L` be a move list in which (origin, destination,
promotion) determine the entry (`CoordsDetermine`).  For the coordinate query `(o, d, pr)`: if no
entry from `o` to `d` is a promotion (letter or not — the lenient case is included), or all of them
are promotions and a letter is given, then at most one entry matches; so the query is never
`AmbiguousMove`. -/
theorem C02_coords_unique (L : List (Move × State)) (o d : Nat) (pr : Option Piece) (hdet : CoordsDetermine L)
    (hcase : (∀ r ∈ L, Move.origin r.1 = o → Move.dest r.1 = d → Move.promotion r.1 = Option.none) ∨
      (pr.isSome = true ∧ ∀ r ∈ L, Move.origin r.1 = o → Move.dest r.1 = d → (Move.promotion r.1).isSome = true)) :
    (L.filter fun r => (coordQuery o d pr).test r.1).length ≤ 1 :=
  coords_unique L o d pr hdet hcase

/-- consequence for the engine: under the conditions of `C02_coords_unique` on the legal-move list,
a coordinate query either applies the one matching legal move (result = its stored successor) or is
rejected as `UnknownMove`; never `AmbiguousMove`. -/
theorem C02_coords_resolve (s : State) (ms : List (Move × State)) (hms : legalMoves? s = some ms)
    (o d : Nat) (pr : Option Piece) (hdet : CoordsDetermine ms)
    (hcase : (∀ r ∈ ms, Move.origin r.1 = o → Move.dest r.1 = d → Move.promotion r.1 = Option.none) ∨
      (pr.isSome = true ∧ ∀ r ∈ ms, Move.origin r.1 = o → Move.dest r.1 = d → (Move.promotion r.1).isSome = true)) :
    (∃ r ∈ ms, Move.origin r.1 = o ∧ Move.dest r.1 = d ∧ performQuery s (coordQuery o d pr) = some (.ok r.2)) ∨
    ((∀ r ∈ ms, (coordQuery o d pr).test r.1 = false) ∧
      performQuery s (coordQuery o d pr) = some (.error .unknown)) := by
  obtain ⟨h1, h2, _⟩ := C02_coords s (coordQuery o d pr) ms hms
  rcases filter_le_one _ ms (coords_unique ms o d pr hdet hcase) with hm | ⟨r, hr, ht, hm⟩
  · exact .inr ⟨fun r hr => Bool.eq_false_iff.2 fun ht => List.filter_eq_nil_iff.1 hm r hr ht, h2 hm⟩
  · obtain ⟨a, b, _⟩ := (coordQuery_test o d pr r.1).1 ht
    exact .inl ⟨r, hr, a, b, h1 r hm⟩

/-! ## non-vacuity: the hypotheses are satisfiable, the engine's successor is the expected one -/

/-- the standard starting position as a literal (no FEN parser involved) -/
def c02Start : State :=
  { pieces :=
      { wp := 0x000000000000FF00, wn := 0x0000000000000042, wb := 0x0000000000000024,
        wr := 0x0000000000000081, wq := 0x0000000000000008, wk := 0x0000000000000010,
        bp := 0x00FF000000000000, bn := 0x4200000000000000, bb := 0x2400000000000000,
        br := 0x8100000000000000, bq := 0x0800000000000000, bk := 0x1000000000000000 }
    turn := .white, castleW := .both, castleB := .both, ep := Option.none, halfmove := 0, fullmove := 1 }

def e2e4 : Move := Move.byMoving .white .pawn 12 28
def e2e4s : Spec.SMove := { color := .white, kind := .pawn, src := 12, dst := 28, dbl := true }

/-- 1. e4 from the starting position fits -/
theorem fits_e2e4 : MoveFits c02Start e2e4 e2e4s :=
  { spec := by decide, codes := by decide, disjoint := by decide +kernel, color := rfl
    src_lt := by decide, dst_lt := by decide
    mover := by rw [C10.abs_at]; decide +kernel
    quiet := fun _ => ⟨rfl, by rw [C10.abs_at]; decide +kernel⟩
    capture := fun k h => by cases h
    enPassant := fun h => by cases h
    promo := fun k h => by cases h
    castle := fun b h => by cases h
    dbl := by decide }

theorem rightsSound_start : RightsSound c02Start :=
  ⟨by decide +kernel, by decide +kernel, by decide +kernel, by decide +kernel⟩

example : LegalPos c02Start = true := by rw [legalPos_abs]; decide +kernel

/-- the hypotheses of `C02_apply_fits`, `C02_disjoint_preserved`, `C02_rights`, `C02_placement`,
`C02_turn`, `C02_clocks`, `C02_ep` are satisfied by 1. e4 in the starting position; the successor has
ep target e3, Black to move, clocks 0 / 1 -/
example : ∃ next, performMove c02Start e2e4 = some (.ok next) ∧
    abs next = Spec.applyMove (abs c02Start) e2e4s :=
  C02_apply_fits _ _ _ fits_e2e4 rightsSound_start

example : performMove c02Start e2e4 = some (.ok
    { pieces := { c02Start.pieces with wp := 0x000000001000EF00 }
      turn := .black, castleW := .both, castleB := .both, ep := some 20, halfmove := 0, fullmove := 1 }) := by rfl

example : FitsSeq c02Start [(e2e4, e2e4s)] :=
  ⟨fits_e2e4, fun _ _ => trivial⟩

/-! ### en passant: white pawn e5 takes d6, black pawn d5 disappears -/

def epState : State :=
  { pieces := { wp := 0x1000000000, wk := 0x10, bp := 0x800000000, bk := 0x1000000000000000 }
    turn := .white, castleW := .noRights, castleB := .noRights, ep := some 43, halfmove := 3, fullmove := 10 }
def epMove : Move := Move.byEnPassant .white .pawn 36 43
def epSMove : Spec.SMove :=
  { color := .white, kind := .pawn, src := 36, dst := 43, capture := some .pawn, ep := true }

theorem fits_ep : MoveFits epState epMove epSMove :=
  { spec := by decide, codes := by decide, disjoint := by decide +kernel, color := rfl
    src_lt := by decide, dst_lt := by decide
    mover := by rw [C10.abs_at]; decide +kernel
    quiet := fun h => by cases h
    capture := fun k _ h => by cases h
    enPassant := fun _ => ⟨rfl, rfl, rfl, rfl, by rw [C10.abs_at]; decide +kernel, rfl, by decide,
      by rw [C10.abs_at]; decide +kernel⟩
    promo := fun k h => by cases h
    castle := fun b h => by cases h
    dbl := by decide }

example : performMove epState epMove = some (.ok
    { pieces := { wp := 0x80000000000, wk := 0x10, bp := 0, bk := 0x1000000000000000 }
      turn := .black, castleW := .noRights, castleB := .noRights, ep := Option.none, halfmove := 0, fullmove := 10 }) := by rfl

/-! ### castling: white O-O (rook h1 → f1, both white rights lost), black O-O-O -/

def castleState : State :=
  { pieces := { wk := 0x10, wr := 0x81, bk := 0x1000000000000000, br := 0x8100000000000000 }
    turn := .white, castleW := .both, castleB := .both, ep := Option.none, halfmove := 7, fullmove := 20 }
def castleMove : Move := Move.byCastling .white .king
def castleSMove : Spec.SMove := { color := .white, kind := .king, src := 4, dst := 6, castle := some true }

theorem fits_castle : MoveFits castleState castleMove castleSMove :=
  { spec := by decide, codes := by decide, disjoint := by decide +kernel, color := rfl
    src_lt := by decide, dst_lt := by decide
    mover := by rw [C10.abs_at]; decide +kernel
    quiet := fun _ => ⟨rfl, by rw [C10.abs_at]; decide +kernel⟩
    capture := fun k h => by cases h
    enPassant := fun h => by cases h
    promo := fun k h => by cases h
    castle := fun b h => by
      cases h
      exact ⟨rfl, rfl, rfl, rfl, by rw [C10.abs_at]; decide +kernel, by rw [C10.abs_at]; decide +kernel⟩
    dbl := by decide }

example : RightsSound castleState :=
  ⟨by decide +kernel, by decide +kernel, by decide +kernel, by decide +kernel⟩

example : performMove castleState castleMove = some (.ok
    { pieces := { wk := 0x40, wr := 0x21, bk := 0x1000000000000000, br := 0x8100000000000000 }
      turn := .black, castleW := .noRights, castleB := .both, ep := Option.none, halfmove := 8, fullmove := 20 }) := by rfl

example : performMove { castleState with turn := .black } (Move.byCastling .black .queen) = some (.ok
    { pieces := { wk := 0x10, wr := 0x81, bk := 0x0400000000000000, br := 0x8800000000000000 }
      turn := .white, castleW := .both, castleB := .noRights, ep := Option.none, halfmove := 8, fullmove := 21 }) := by rfl

/-! ### promotion with capture: g7×h8=Q takes the rook on its corner, Black's king-side right is lost -/

def promoState : State :=
  { pieces := { wp := 0x0040000000000000, wk := 0x10, bk := 0x1000000000000000, br := 0x8000000000000000 }
    turn := .white, castleW := .noRights, castleB := ⟨true, false⟩, ep := Option.none, halfmove := 5, fullmove := 30 }
def promoMove : Move := Move.byCapturePromoting .white .pawn 54 63 .rook .queen
def promoSMove : Spec.SMove :=
  { color := .white, kind := .pawn, src := 54, dst := 63, capture := some .rook, promo := some .queen }

theorem fits_promo : MoveFits promoState promoMove promoSMove :=
  { spec := by decide, codes := by decide, disjoint := by decide +kernel, color := rfl
    src_lt := by decide, dst_lt := by decide
    mover := by rw [C10.abs_at]; decide +kernel
    quiet := fun h => by cases h
    capture := fun k h _ => by cases h; exact ⟨by rw [C10.abs_at]; decide +kernel, by decide⟩
    enPassant := fun h => by cases h
    promo := fun k h => by cases h; exact ⟨rfl, rfl, by decide⟩
    castle := fun b h => by cases h
    dbl := by decide }

example : RightsSound promoState :=
  ⟨by decide +kernel, by decide +kernel, by decide +kernel, by decide +kernel⟩

example : performMove promoState promoMove = some (.ok
    { pieces := { wp := 0, wq := 0x8000000000000000, wk := 0x10, bk := 0x1000000000000000, br := 0 }
      turn := .black, castleW := .noRights, castleB := .noRights, ep := Option.none, halfmove := 0, fullmove := 30 }) := by rfl

/-! ### coordinates -/

/-- two pawn moves from e2: the coordinates e2e4 pick exactly the double step; e2e5 matches nothing -/
def coordsL : List (Move × State) :=
  [(Move.byMoving .white .pawn 12 20, c02Start), (e2e4, c02Start)]

example : CoordsDetermine coordsL := by unfold CoordsDetermine; decide
example : (coordsL.filter fun r => (coordQuery 12 28 Option.none).test r.1) = [(e2e4, c02Start)] := by decide
example : (coordsL.filter fun r => (coordQuery 12 36 Option.none).test r.1) = [] := by decide

/-- the four promotions g7-g8: with the letter the match is unique (`C02_coords_unique`, second case);
without a letter all four match (this is the excluded case: the resolver answers `AmbiguousMove`) -/
def promoL : List (Move × State) :=
  [(Move.byPromoting .white .pawn 54 62 .queen, c02Start), (Move.byPromoting .white .pawn 54 62 .rook, c02Start),
   (Move.byPromoting .white .pawn 54 62 .bishop, c02Start), (Move.byPromoting .white .pawn 54 62 .knight, c02Start)]

example : CoordsDetermine promoL := by unfold CoordsDetermine; decide
example : (pr : Option Piece) → pr = some Piece.rook →
    (promoL.filter fun r => (coordQuery 54 62 pr).test r.1).length ≤ 1 := fun pr h =>
  C02_coords_unique promoL 54 62 pr (by unfold CoordsDetermine; decide) (Or.inr ⟨by rw [h]; rfl, by decide⟩)
example : (promoL.filter fun r => (coordQuery 54 62 (some Piece.rook)).test r.1) =
    [(Move.byPromoting .white .pawn 54 62 .rook, c02Start)] := by decide
example : (promoL.filter fun r => (coordQuery 54 62 Option.none).test r.1).length = 4 := by decide

/-- the resolver's leniency: a redundant letter equal to the moving piece still matches a
non-promotion (`g1f3n` selects Ng1-f3) -/
example : (coordQuery 6 21 (some Piece.knight)).test (Move.byMoving .white .knight 6 21) = true := by decide

end Wee
