import Wee.Props.C02
import Wee.Proofs.ApplyClosed
/-!
# C02 closed over C01's generator characterisation

`Wee/Props/C02.lean` proves make-move correct for every move that satisfies the explicit hypotheses
`C02.MoveFits`.  `Wee/Proofs/MoveGenLemmas.lean` (C01) characterises the generated pseudo-legal moves
as the rule-level pseudo-legal moves.  `Wee/Proofs/ApplyBridge.lean` shows that these fit.

Hence the hypothesis of `C02_apply_partial` holds (`C02_generatedMovesFit`), so `C02_apply_statement` holds unconditionally
(`C02_apply`) and with it the interface `ApplyCorrect` that the C01 theorems take (`C02_applyCorrect`).  The successor of
every listed legal move is again a legal position without overlaps (`C02_closed`), so all of this applies to the
successor of a successor: along any finite line of listed legal moves (`C02_line`) and any accepted sequence of move
queries, as `by_performing_moves` runs them (`C02_queries_closed`).

(Here `MoveFits` of C01 is `_root_.Wee.MoveFits`; the one of C02 is `Wee.C02.MoveFits`.)
-/
namespace Wee
open Wee.C10 (DisjointBoard)

/-- every entry of the engine's legal-move list, in a legal position without overlaps, is a
well-formed description (`C02.MoveFits`) of a rule-level pseudo-legal move -/
theorem C02_generatedMovesFit : GeneratedMovesFit := C02.legal_generated_fit

/-- **C02 (apply), full statement.**  For every legal position (placement without overlaps) and
every entry `(move, next)` of `MoveGenerator::compute_legal_moves`, `move` reads as a rule-level move
`sm` and `next` — the position `State::by_performing_move` produced — reads as the rule-level
successor `Spec.applyMove (abs s) sm`: placement incl. en-passant victim / castling rook / promoted
piece, side to move, castling rights, en-passant target, halfmove clock, fullmove number. -/
theorem C02_apply : C02_apply_statement := C02_apply_partial C02_generatedMovesFit

/-- the hypothesis `ApplyCorrect` of the C01 theorems (`legalMoves_spec`, …) -/
theorem C02_applyCorrect : ApplyCorrect := C02.applyCorrect

/-- the invariants needed to apply C02 again hold for every listed successor -/
theorem C02_successor_invariants (s : State) (hl : LegalPos s = true) (hd : DisjointBoard s.pieces)
    (r : Move × State) (hr : r ∈ legalMoves s) : DisjointBoard r.2.pieces ∧ C02.RightsSound r.2 := by
  obtain ⟨sm, hfit⟩ := C02_generatedMovesFit s hl hd r hr
  exact C02_disjoint_preserved s r.2 r.1 sm hfit (C02.rightsSound_of_legal hl hd) (C02.mem_legalMoves hr)


/-- **C02_closed.**  For every legal position (placement without overlaps) and every entry
`(move, next)` of the legal-move list, `next` is a legal position: 64 cells, exactly one king each,
the side that just moved is not in check, no pawn on rank 1 / 8, held castling rights only with king
and rook at home, en-passant target only directly behind a pawn that just double-stepped. -/
theorem C02_closed : ∀ s, LegalPos s = true → DisjointBoard s.pieces →
    ∀ r ∈ legalMoves s, LegalPos r.2 = true := C02.legalClosed

/-- one move, from explicit hypotheses: a fitting, rule-level pseudo-legal move that does not leave
the own king attacked leads from a legal position to a legal position -/
theorem C02_closed_fits (s : State) (hl : LegalPos s = true) (hd : DisjointBoard s.pieces) (mv : Move)
    (sm : Spec.SMove) (hfit : C02.MoveFits s mv sm) (hps : sm ∈ Spec.pseudoMoves (abs s))
    (hlegal : Spec.isLegalAfter (abs s) sm = true) (next : State)
    (hnext : performMove s mv = some (.ok next)) : LegalPos next = true :=
  C02.legalPos_succ s hl hd mv sm hfit hps hlegal next hnext

/-- a line of play: each entry is taken from the legal-move list of the position reached so far -/
def LegalLine (s : State) : List (Move × State) → Prop
  | [] => True
  | r :: rs => r ∈ legalMoves s ∧ LegalLine r.2 rs

/-- the position at the end of a line -/
def lineEnd (s : State) : List (Move × State) → State
  | [] => s
  | r :: rs => lineEnd r.2 rs

/-- **C02 along every finite sequence of legal moves** (the successor of a successor …): from a legal
position without overlaps, the position at the end of any line of listed legal moves is legal, has no
overlaps, and reads as the rule-level position obtained by applying, in order, the rule-level moves
that the packed moves read as — each of which is legal by the rules in the position where it is played. -/
theorem C02_line (l : List (Move × State)) : ∀ (s : State), LegalPos s = true → DisjointBoard s.pieces →
    LegalLine s l →
    LegalPos (lineEnd s l) = true ∧ DisjointBoard (lineEnd s l).pieces ∧
    ∃ sms : List Spec.SMove, l.map (fun r => toSpecMove r.1) = sms.map some ∧
      abs (lineEnd s l) = sms.foldl Spec.applyMove (abs s) := by
  induction l with
  | nil => intro s hl hd _; exact ⟨hl, hd, [], rfl, rfl⟩
  | cons r rs ih =>
    intro s hl hd hline
    obtain ⟨hr, hrest⟩ := hline
    obtain ⟨sm, hsm, habs⟩ := C02_apply s hl hd r hr
    have hl' := C02_closed s hl hd r hr
    have hd' := (C02_successor_invariants s hl hd r hr).1
    obtain ⟨h1, h2, sms, h3, h4⟩ := ih r.2 hl' hd' hrest
    refine ⟨h1, h2, sm :: sms, ?_, ?_⟩
    · simp only [List.map_cons, hsm, h3]
    · simp only [List.foldl_cons]; rw [← habs]; exact h4

/-- an accepted query (`by_performing_moves` with one `MoveQuery`) leads from a legal position to a
legal position: the result is the stored successor of the one matching legal move -/
theorem C02_query_closed (s s' : State) (q : MoveQuery) (hl : LegalPos s = true) (hd : DisjointBoard s.pieces)
    (hq : performQuery s q = some (.ok s')) :
    (∃ r ∈ legalMoves s, q.test r.1 = true ∧ s' = r.2) ∧ LegalPos s' = true ∧ DisjointBoard s'.pieces := by
  obtain ⟨ms, r, hms, _, hr, ht, rfl⟩ := C02.performQuery_ok_inv hq
  have hr : r ∈ legalMoves s := by rw [legalMoves_of_some hms]; exact hr
  exact ⟨⟨r, hr, ht, rfl⟩, C02_closed s hl hd r hr, (C02_successor_invariants s hl hd r hr).1⟩

/-- **any accepted sequence of queries stays inside the legal positions** -/
theorem C02_queries_closed (qs : List MoveQuery) : ∀ (s s' : State), LegalPos s = true → DisjointBoard s.pieces →
    performQueries s qs = some (.ok s') → LegalPos s' = true ∧ DisjointBoard s'.pieces :=
  fun s s' hl hd => C02.performQueries_inv (I := fun s => LegalPos s = true ∧ DisjointBoard s.pieces)
    (fun s q s' hI hq => (C02_query_closed s s' q hI.1 hI.2 hq).2) qs s s' ⟨hl, hd⟩

/-- in a legal position the move generator does not panic, so a query always has a result -/
theorem C02_query_total (s : State) (q : MoveQuery) (hl : LegalPos s = true) (hd : DisjointBoard s.pieces) :
    ∃ r, performQuery s q = some r :=
  C02_coords_total s q _ (C02.legalMoves?_eq s hl hd)

end Wee
