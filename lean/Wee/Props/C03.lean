import Wee.Proofs.SearchLemmas
import Wee.Proofs.SearchReport
import Wee.Proofs.ReportAlways
import Wee.Props.C15
import Wee.Props.C05
/-!
# C03 — search only ever reports legal moves and legal lines

Rust: `weechess-engine/src/searcher.rs` (`analyze_iterative`, `analyze_recursive`,
`TranspositionTableAccess::iter_moves`, `TranspositionTableMoveIterator::next`), `weechess-core/src/hasher.rs`
(`ZobristHasher::hash`), `weechess-core/src/movegen.rs` (`PseudoLegalMove::try_as_legal_move`).
Model: `Wee/Model/Search.lean` (`searchNode`, `childLoop`, `walkLine`, `runWorker`, `runWorkers`, `iterStep`,
`iterLoop`, `iterate`), `Wee/Model/TT.lean`, `Wee/Model/Hash.lean`.  Helper lemmas: `Wee/Proofs/SearchLemmas.lean`; the
any-schedule forms and their sequential instance: `Wee/Proofs/AnySchedule.lean`, `Wee/Proofs/SeqSchedule.lean`.

## Vocabulary (defined in `Wee/Proofs/SearchLemmas.lean`, namespace `Wee.Search`)

* `LegalIn s mv` — `mv` is one of the moves `MoveGenerator::compute_legal_moves` lists for `s`
  (`∃ r ∈ legalMoves s, r.1 = mv`).  By C01 this is, for a legal position, a legal move of the rules
  (`C03_line_rules` below makes the link explicit).
* `LineLegal s line` — the first move is `LegalIn s`, the next one is `LegalIn` the listed successor, ….
* `Region R` — a set of positions the searches stay in: legal positions without stacked pieces, closed
  under listed legal moves.  Examples: all legal positions (`Region.legal`), everything reachable from a
  set of legal roots (`Region.reach`).
* `Graded G`, `upTo G D` — the depth-graded refinement: `G n` are the positions `n` plies below a root
  (`Plies Roots n`), a legal move leads from grade `n` to grade `n + 1`; `upTo G D` are the grades `≤ D`.  A search
  with depth limit `D` consults the table only for positions of `upTo G D` (quiescence goes deeper but never
  touches the table; check extensions do not add table-consulting plies), so the `…_bounded` theorems need the
  hypotheses below only there.  Each theorem comes in the readable closed-region form and in the `_bounded` form;
  the closed form is the instance `G := fun _ => R`.
* `CollisionFree K R` — two positions of `R` with the same hash have the same legal moves
  (`∀ s s' ∈ R, hash K s = hash K s' → ∀ mv, LegalIn s mv → LegalIn s' mv`).  This is the exact content of
  "up to 64-bit chance" in the property.  **Why it is relative to `R`.**  Quantified over *all* values of type
  `State` it is unsatisfiable by counting (more than `2^64` legal positions with pairwise different move lists,
  64-bit hashes), so an unrestricted hypothesis would make every theorem below vacuous; and the stronger form
  "equal hashes ⇒ equal `legalMoves`" is false for every key table even on tiny regions, because the successors
  listed in `legalMoves` carry the move counters, which are not hashed.  The hypothesis says: *among the
  positions these searches can reach* no two positions with different legal moves share a hash.  It is
  satisfiable (every hasher that is injective on `R`; concrete instance at the end of this file) and it is
  exactly what the property exempts.  For the region of ALL positions reachable from the starting position
  (≈ 10^44 ≫ 2^64) it fails for every 64-bit hasher for the same counting reason — that is why the `_bounded`
  forms matter: they ask for collision freedom only among the positions within the depth limit of the roots
  actually searched (at most about `35^D`, below `2^64` for the depths an engine reaches).  On the pinned tree the real hasher violated it deterministically (F1:
  castling rights / en-passant state not hashed), which is how the illegal `bestmove e1g1` arose.
* `TTInv K R tt` — every entry `tt.find k = some e` has `e.mv` legal in every position of `R` whose hash is `k`.
* `TTWf tt` — the table has the shape of a reachable table (`TT.AInv`: `nT ≥ 1` sub-tables of `nB ≥ 1` buckets of
  `bucketSize` slots, no key twice in a bucket, …), so that the C15 lemmas about `find` after `insert` apply.
* `TInv K R tt := TTWf tt ∧ TTInv K R tt`.
* `LegalInsert K R k e` (namespace `Wee`, defined in `Wee/Proofs/EnvWorker.lean`) — an insert of the kind the search
  performs: `k` is the hash of a position of `R`, `e.mv` a legal move there.

## Structure (A–D of DESIGN §C03)

* A+B `C03_inserts_keep_inv` (via the generic `C03_search_keeps_any_invariant`), `C03_TTInv_insert`,
  `C03_interleaving`;
* C `C03_walk_legal`;
* composition `C03_iterate_inv`, `C03_reported_lines_legal`, `C03_session` (histories of searches),
  `C03_line_rules` (link to the rules of chess); depth-graded forms `C03_walk_legal_bounded`,
  `C03_inserts_keep_inv_bounded`, `C03_reported_lines_legal_bounded`, `C03_session_bounded`;
* D `C03_report_statement` (full statement), `C03_at_least_one_report_partial` (= D′ of DESIGN: proved under the
  explicit hypothesis `FirstRootEntryKept`).  That hypothesis is discharged in `Wee/Props/C03Report.lean`
  (`C03_first_root_entry_kept`: for a root with a legal move in a region with `EvalBelowMate`, any incoming memory
  satisfying `MemOK`, at least one worker in the first iteration, any cancellation instant; `C03_at_least_one_report`
  is the consequence); the full statement is `C03_report` in `Wee/Props/Clamped.lean`.
-/
namespace Wee
open Wee.Search
open Wee.C10 (DisjointBoard)

/-! ## C: the walked line -/

/-- **C03_walk_legal** (C).  `TranspositionTableAccess::iter_moves` rebuilds the principal line by repeatedly
looking up the hash of the current position and applying the stored move with `by_performing_move`, without
any legality check.  If the table satisfies `TTInv`, the line it produces from any position of the region is a
legal line, whatever its length bound `n`: each move is in the legal-move list of the position where it is
played, and the walk continues from the listed successor (`by_performing_move` of a listed move is the listed
successor, `C02_listed_successor`). -/
theorem C03_walk_legal {K : Keys} {R : State → Prop} {tt : TT.Access} (hR : Region R) (hinv : TTInv K R tt)
    (n : Nat) (s : State) (hs : R s) : LineLegal s (walkLine K tt n s) :=
  walkLine_legal hR hinv n s hs

/-! ## A + B: the table invariant is kept by every write of the search -/

/-- a fresh table satisfies the invariant (nothing is stored) -/
theorem C03_TTInv_new (K : Keys) (R : State → Prop) {nT nB : Nat} (hT : 0 < nT) (hB : 0 < nB) :
    TInv K R (TT.Access.new nT nB) :=
  ⟨TTWf.new hT hB, TTInv_new K R hT hB⟩

/-- **C03_TTInv_insert.**  ANY single insert, by anybody, of an entry whose move is legal in a position `s ∈ R`,
under the key `hash K s`, keeps the invariant — from every table state satisfying it (full buckets, displacement
of another key, overwrite of the same key included: by C15 `find` afterwards returns the new entry for that
key and, for every other key, its previous entry or nothing).  Because the hypothesis is only the invariant of the
table state *at the moment of the insert*, this is the single-step fact that makes every interleaving of atomic
table operations of any number of workers keep the invariant (`C03_interleaving`). -/
theorem C03_TTInv_insert {K : Keys} {R : State → Prop} {tt : TT.Access} (hcf : CollisionFree K R)
    (h : TInv K R tt) (s : State) (hs : R s) (m : Move) (hm : LegalIn s m) (e : TT.Entry) (he : e.mv = m.toNat) :
    TInv K R (tt.insert (hash K s).toNat e) :=
  ⟨h.1.insert _ _, TTInv_insert hcf h.1 h.2 s hs m hm e he⟩

/-- **C03_interleaving.**  Let `ops` be any sequence of atomic table operations (`TT.Op`: finds and inserts, in
the order in which they held the sub-table lock — the linearisation of C15) in which every insert is a
`LegalInsert`.  Started from a table satisfying the invariant, the table after `ops` satisfies it.  The inserts
of several workers, of an earlier search and of the current one, may be interleaved in any way. -/
theorem C03_interleaving {K : Keys} {R : State → Prop} (hcf : CollisionFree K R) (ops : List TT.Op) :
    ∀ (tt : TT.Access), TInv K R tt → (∀ k e, TT.Op.insert k e ∈ ops → LegalInsert K R k e) →
      TInv K R (TT.run tt ops) := by
  induction ops with
  | nil => intro tt h _; exact h
  | cons op rest ih =>
    intro tt h hops
    have hrest : ∀ k e, TT.Op.insert k e ∈ rest → LegalInsert K R k e :=
      fun k e hm => hops k e (List.mem_cons_of_mem _ hm)
    cases op with
    | find k => exact ih tt h hrest
    | insert k e =>
      obtain ⟨s, m, hs, hk, hm, he⟩ := hops k e List.mem_cons_self
      subst hk
      exact ih _ (C03_TTInv_insert hcf h s hs m hm e he) hrest

/-- **Generic state-invariant theorem** (the induction principle for the monadic recursion).  Let `I` be any
property of the shared table that is kept by every insert, under the key of a position `s ∈ R`, of an entry
whose move is legal in `s`.  Then `analyze_recursive` started at a position of `R`, with a prioritized move that
is absent or legal there, keeps `I`: for every remaining depth, window, extension count, history, cancellation
instant, and from every state (table contents satisfying `I`, rng state, node and poll counters); whatever
it returns (`Ok`, `Err(SearchInterrupt)`, a panic).  Nothing is assumed about the answers of `find`. -/
theorem C03_search_keeps_any_invariant {I : TT.Access → Prop} {R : State → Prop} (hR : Region R) (ctx : Ctx)
    (hins : ∀ s, R s → InsOK I ctx.keys s) (rem : Nat) (a : NodeArgs) (ha : R a.s)
    (hprio : ∀ m, a.prioritized = some m → LegalIn a.s m) (st : St) (hst : I st.tt) :
    I (runM (searchNode ctx rem a) st).2.tt :=
  (searchNode_keeps hR ctx hins rem a ha hprio st hst).1

/-- **C03_writes_are_legal_inserts** (A: "every insert a worker performs is `(hash K q, e)` with `e.move` legal in
`q`").  From ANY table whatsoever (no invariant and no collision freedom assumed — so whatever the reads
return), for every remaining depth, window, rng state, counters, history and cancellation instant, and whatever
the outcome: the table in which `analyze_recursive` ends is the initial table after a sequence of
`LegalInsert`s.  (Instance of the generic theorem with the strongest invariant.) -/
theorem C03_writes_are_legal_inserts {R : State → Prop} (hR : Region R) (ctx : Ctx) (rem : Nat) (a : NodeArgs)
    (ha : R a.s) (hprio : ∀ m, a.prioritized = some m → LegalIn a.s m) (st : St) :
    ∃ ops : List TT.Op, (∀ op ∈ ops, ∃ k e, op = TT.Op.insert k e ∧ LegalInsert ctx.keys R k e) ∧
      (runM (searchNode ctx rem a) st).2.tt = TT.run st.tt ops := by
  refine C03_search_keeps_any_invariant
    (I := fun tt => ∃ ops : List TT.Op, (∀ op ∈ ops, ∃ k e, op = TT.Op.insert k e ∧ LegalInsert ctx.keys R k e) ∧
      tt = TT.run st.tt ops) hR ctx ?_ rem a ha hprio st ⟨[], fun _ h => (by cases h), rfl⟩
  intro s hs tt m e ⟨ops, hops, htt⟩ hm he
  refine ⟨ops ++ [TT.Op.insert (hash ctx.keys s).toNat e], ?_, ?_⟩
  · intro op hop
    rcases List.mem_append.1 hop with h | h
    · exact hops op h
    · rw [List.mem_singleton] at h
      exact ⟨_, _, h, s, m, hs, rfl, hm, he⟩
  · rw [TT.run_snoc, htt]; rfl

/-- "absent or legal", in the form the search lemmas take it -/
theorem legalIn_of_prio {a : NodeArgs} (h : a.prioritized = Option.none ∨ ∃ m, a.prioritized = some m ∧ LegalIn a.s m) :
    ∀ m, a.prioritized = some m → LegalIn a.s m := by
  intro m hm
  rcases h with h | ⟨m', h, hl⟩
  · rw [h] at hm; cases hm
  · rw [h] at hm; cases hm; exact hl

/-- **C03_inserts_keep_inv** (A + B).  For every context `ctx` (keys, history of earlier positions, cancellation
instant) whose keys are collision-free on the region, every remaining depth `rem`, every argument record `a`
(position in the region; window, depths, extension arbitrary; prioritized move absent or legal in `a.s`) and
every state `st` (rng, counters, table) whose table satisfies `TTWf` and `TTInv`: the state in which
`analyze_recursive` ends — normally, by the interrupt, or by a panic — again satisfies `TTWf` and `TTInv`.
The only table writes are the two `insert`s of `analyze_recursive`; both store, under the hash of the node's
position, a move that `try_as_legal_move` accepted: for a generated pseudo-legal move that is a listed legal
move; for the unchecked prioritized move it is one because the move was legal to begin with (hypothesis; it is
the head of a walked line, see `C03_iterate_inv`). -/
theorem C03_inserts_keep_inv {R : State → Prop} (hR : Region R) (ctx : Ctx) (hcf : CollisionFree ctx.keys R)
    (rem : Nat) (a : NodeArgs) (ha : R a.s)
    (hprio : a.prioritized = Option.none ∨ ∃ m, a.prioritized = some m ∧ LegalIn a.s m)
    (st : St) (hwf : TTWf st.tt) (hinv : TTInv ctx.keys R st.tt) :
    TTWf (runM (searchNode ctx rem a) st).2.tt ∧ TTInv ctx.keys R (runM (searchNode ctx rem a) st).2.tt :=
  C03_search_keeps_any_invariant (I := TInv ctx.keys R) hR ctx (insOK_TInv hcf) rem a ha (legalIn_of_prio hprio) st
    ⟨hwf, hinv⟩

/-- the same for one worker's run of one iteration (`runWorker` is `searchNode` on the root arguments), in the
depth-graded form: root of grade 0, search depth `≤ D`, hypotheses on the grades `≤ D` only -/
theorem C03_worker_keeps_inv {G : Nat → State → Prop} (hG : Graded G) (D : Nat) (ctx : Ctx)
    (hcf : CollisionFree ctx.keys (upTo G D)) (root : State) (hroot : G 0 root) (searchDepth : Nat)
    (hsd : searchDepth ≤ D) (best : Option Move) (hbest : ∀ m, best = some m → LegalIn root m)
    (tt : TT.Access) (rng : Rng.ChaCha8) (polls : Nat) (h : TInv ctx.keys (upTo G D) tt) :
    TInv ctx.keys (upTo G D) (runWorker ctx root searchDepth best tt rng polls).2.tt :=
  (searchNode_keeps_graded hG D ctx (insOK_TInv hcf) searchDepth _ 0 hroot (by omega) hbest _ h).1

/-! ## composition: the iteration driver -/

/-- **C03_iterate_inv.**  The invariant of the deepening loop (`IterInv`: table invariant; the remembered best
move is absent or legal in the root; every `BestMove` reported so far carries a non-empty legal line) is kept by
one iteration with any number of workers (`iterStep`), by the loop (`iterLoop`), and `iterate` hands back an
artifact with the same keys whose table satisfies the invariant — so the next search may reuse it
(`C03_artifact_inv`).  Stated in the depth-graded form (`Graded G`, root of grade 0, iterations `depth < D`); for a
region `R` take `G := fun _ => R` (`Region.graded`, `upTo_const`).

*Several workers.*  `runWorkers` runs the workers of an iteration one after the other, which is one admissible
schedule of the real threads.  The proof does not use this: it is the any-schedule theorem `Env.stepS_inv` (resp. the
loop rule `Env.loopS_rule`) at the sequential schedule (`Env.iterStep_stepS`, `Env.iterLoop_loopS`).  There each worker
relies on and guarantees exactly "every insert is a `LegalInsert`", and the invariant is stable under every legal
insert by anybody (`C03_TTInv_insert`, `C03_interleaving`).  Hence, under the atomicity of the `RwLock`-guarded table
operations (C15), every interleaving of the workers' table operations keeps the invariant. -/
theorem C03_iterate_inv {G : Nat → State → Prop} (hG : Graded G) (D : Nat) (ctx : Ctx)
    (hcf : CollisionFree ctx.keys (upTo G D)) (root : State) (hroot : G 0 root) (rootHash : UInt64) :
    (∀ workers depth st, depth + 1 ≤ D → IterInv ctx.keys (upTo G D) root st →
      IterInv ctx.keys (upTo G D) root (iterStep ctx root rootHash workers depth st)) ∧
    (∀ workersOf n depth st, depth + n ≤ D → IterInv ctx.keys (upTo G D) root st →
      IterInv ctx.keys (upTo G D) root (iterLoop ctx root rootHash workersOf n depth st)) :=
  ⟨fun workers depth st hd h => Env.stepS_inv hG D ctx hcf root hroot rootHash workers depth hd st _ h
      (Env.iterStep_stepS ctx root rootHash workers depth st),
   fun workersOf n depth st => Env.loopS_rule
    (fun d st p h => (show IterInv _ _ root { st with polls := p } from ⟨h.tt, h.best, h.events⟩).boundaryPoll ctx d)
    (fun d st st' hd h hs => Env.stepS_inv hG D ctx hcf root hroot rootHash _ d hd st st' h hs)
    (Env.iterLoop_loopS ctx root rootHash workersOf n depth st)⟩

/-- `iterate` returns the keys it was given and a table satisfying the invariant -/
theorem C03_artifact_inv {R : State → Prop} (hR : Region R) (root : State) (hroot : R root) (art : Artifact)
    (hcf : CollisionFree art.keys.keys R) (htt : TInv art.keys.keys R art.tt)
    (rng0 : Rng.ChaCha8) (maxDepth : Option Nat) (workersOf : Nat → Nat) (cancelAt : Option Nat) (fuelDepth : Nat) :
    (iterate root rng0 maxDepth art workersOf cancelAt fuelDepth).artifact.keys = art.keys ∧
    TInv art.keys.keys R (iterate root rng0 maxDepth art workersOf cancelAt fuelDepth).artifact.tt :=
  let h := iterate_inv hR root hroot art hcf htt rng0 maxDepth workersOf cancelAt fuelDepth
  ⟨h.1, h.2.1⟩

/-- **C03_reported_lines_legal.**  Every `StatusEvent::BestMove { line, .. }` that `analyze_iterative` emits
while searching `root` carries a non-empty line that is legal from `root` (first move legal in `root`, every
following move legal in the position reached so far) — for every random seed `rng0`, every depth limit
(`maxDepth`, `fuelDepth` for the unbounded case), every number of workers per iteration `workersOf`, every
cancellation instant `cancelAt`, and every incoming artifact (keys, table contents, history) whose table
satisfies the invariant — in particular a fresh table (`C03_TTInv_new`) and every table left by earlier searches
of any positions of the region (`C03_artifact_inv`, `C03_session`).  Hypotheses: the region is closed and
contains `root`; the keys are collision-free on it.  Both kinds of report are covered: the one after a completed
iteration and the one after an interrupt. -/
theorem C03_reported_lines_legal {R : State → Prop} (hR : Region R) (root : State) (hroot : R root)
    (art : Artifact) (hcf : CollisionFree art.keys.keys R) (htt : TInv art.keys.keys R art.tt)
    (rng0 : Rng.ChaCha8) (maxDepth : Option Nat) (workersOf : Nat → Nat) (cancelAt : Option Nat) (fuelDepth : Nat)
    (ev : Eval) (line : List Move)
    (hev : Event.best ev line ∈ (iterate root rng0 maxDepth art workersOf cancelAt fuelDepth).events) :
    line ≠ [] ∧ LineLegal root line :=
  (iterate_inv hR root hroot art hcf htt rng0 maxDepth workersOf cancelAt fuelDepth).2.2 ev line hev

/-! ## histories: any sequence of searches sharing one artifact -/

/-- one `go` request: position, seed, depth limit, worker counts, cancellation instant -/
structure SearchReq where
  root : State
  rng0 : Rng.ChaCha8
  maxDepth : Option Nat
  workersOf : Nat → Nat
  cancelAt : Option Nat
  fuelDepth : Nat

/-- run the requests one after the other, each on the artifact the previous one returned; collect
`(root, events)` -/
def session : Artifact → List SearchReq → List (State × List Event)
  | _, [] => []
  | art, q :: qs =>
    let out := iterate q.root q.rng0 q.maxDepth art q.workersOf q.cancelAt q.fuelDepth
    (q.root, out.events) :: session out.artifact qs

/-- **C03_session** (the quantifier over histories).  Any number of searches of any positions of the region, with
any parameters, run one after the other on the artifact handed on from one to the next — starting from a
table satisfying the invariant, e.g. a fresh one: every best line reported by every one of these searches is
non-empty and legal from the position that search was asked about.  (Positions that differ only in castling
rights or en-passant state are different positions of `R`; they may share a hash only if they have the same
legal moves — that is `CollisionFree`.) -/
theorem C03_session {R : State → Prop} (hR : Region R) (qs : List SearchReq) :
    ∀ (art : Artifact), CollisionFree art.keys.keys R → TInv art.keys.keys R art.tt → (∀ q ∈ qs, R q.root) →
      ∀ p ∈ session art qs, ∀ ev line, Event.best ev line ∈ p.2 → line ≠ [] ∧ LineLegal p.1 line := by
  induction qs with
  | nil => intro art _ _ _ p hp; cases hp
  | cons q qs ih =>
    intro art hcf htt hroots p hp ev line hev
    have hq := hroots q List.mem_cons_self
    have hi := iterate_inv hR q.root hq art hcf htt q.rng0 q.maxDepth q.workersOf q.cancelAt q.fuelDepth
    rcases List.mem_cons.1 hp with rfl | hp
    · exact hi.2.2 ev line hev
    · refine ih _ ?_ ?_ (fun q' hq' => hroots q' (List.mem_cons_of_mem _ hq')) p hp ev line hev
      · rw [hi.1]; exact hcf
      · rw [hi.1]; exact hi.2.1

/-! ## the same with hypotheses on the positions within the search depth only -/

/-- **C03_walk_legal_bounded.**  As `C03_walk_legal`, for a depth-graded family: a walk of at most `n` moves from a
position of grade `k` with `k + n ≤ D + 1` only consults entries of positions of grade `≤ D`; if the table
satisfies `TTInv` for those, the line is legal. -/
theorem C03_walk_legal_bounded {K : Keys} {G : Nat → State → Prop} {tt : TT.Access} (hG : Graded G) (D : Nat)
    (hinv : TTInv K (upTo G D) tt) (n : Nat) (s : State) (k : Nat) (hs : G k s) (hk : k + n ≤ D + 1) :
    LineLegal s (walkLine K tt n s) :=
  walkLine_legal_graded hG D hinv n s k hs hk

/-- **Generic state-invariant theorem, depth-graded**: `analyze_recursive` with remaining depth `rem` from a
position of grade `k`, `k + rem ≤ D`, keeps every table property that is kept by legal inserts at positions of
grade `≤ D`. -/
theorem C03_search_keeps_any_invariant_bounded {I : TT.Access → Prop} {G : Nat → State → Prop} (hG : Graded G)
    (D : Nat) (ctx : Ctx) (hins : ∀ s, upTo G D s → InsOK I ctx.keys s) (rem : Nat) (a : NodeArgs) (k : Nat)
    (ha : G k a.s) (hk : k + rem ≤ D) (hprio : ∀ m, a.prioritized = some m → LegalIn a.s m) (st : St)
    (hst : I st.tt) : I (runM (searchNode ctx rem a) st).2.tt :=
  (searchNode_keeps_graded hG D ctx hins rem a k ha hk hprio st hst).1

/-- **C03_inserts_keep_inv_bounded.**  As `C03_inserts_keep_inv` with collision freedom and `TTInv` required only
for the positions of grade `≤ D`, for a call with `k + rem ≤ D`. -/
theorem C03_inserts_keep_inv_bounded {G : Nat → State → Prop} (hG : Graded G) (D : Nat) (ctx : Ctx)
    (hcf : CollisionFree ctx.keys (upTo G D)) (rem : Nat) (a : NodeArgs) (k : Nat) (ha : G k a.s) (hk : k + rem ≤ D)
    (hprio : a.prioritized = Option.none ∨ ∃ m, a.prioritized = some m ∧ LegalIn a.s m)
    (st : St) (hwf : TTWf st.tt) (hinv : TTInv ctx.keys (upTo G D) st.tt) :
    TTWf (runM (searchNode ctx rem a) st).2.tt ∧ TTInv ctx.keys (upTo G D) (runM (searchNode ctx rem a) st).2.tt :=
  C03_search_keeps_any_invariant_bounded (I := TInv ctx.keys (upTo G D)) hG D ctx (insOK_TInv hcf) rem a k ha hk
    (legalIn_of_prio hprio) st ⟨hwf, hinv⟩

/-- **C03_reported_lines_legal_bounded.**  The conclusion of `C03_reported_lines_legal` — every reported best line
is non-empty and legal from the root, for every seed, worker counts, cancellation instant, incoming table — from
hypotheses that concern only the positions within `D` plies of the roots, where `D` bounds the depth limit of
the search (`maxDepth`, or `fuelDepth` when there is none): `G` is any depth-graded family with the root in grade
0 (e.g. `Plies Roots`: the positions exactly `n` legal moves below a root of this or an earlier search); the keys
are collision-free on `upTo G D`; the incoming table satisfies the invariant for `upTo G D`.  The artifact handed
back satisfies it again. -/
theorem C03_reported_lines_legal_bounded {G : Nat → State → Prop} (hG : Graded G) (D : Nat) (root : State)
    (hroot : G 0 root) (art : Artifact) (hcf : CollisionFree art.keys.keys (upTo G D))
    (htt : TInv art.keys.keys (upTo G D) art.tt)
    (rng0 : Rng.ChaCha8) (maxDepth : Option Nat) (workersOf : Nat → Nat) (cancelAt : Option Nat) (fuelDepth : Nat)
    (hD : maxDepth.getD fuelDepth ≤ D) :
    (iterate root rng0 maxDepth art workersOf cancelAt fuelDepth).artifact.keys = art.keys ∧
    TInv art.keys.keys (upTo G D) (iterate root rng0 maxDepth art workersOf cancelAt fuelDepth).artifact.tt ∧
    ∀ ev line, Event.best ev line ∈ (iterate root rng0 maxDepth art workersOf cancelAt fuelDepth).events →
      line ≠ [] ∧ LineLegal root line :=
  Env.searchS_inv hG D root hroot art hcf htt rng0 maxDepth workersOf cancelAt fuelDepth
    (Nat.le_trans (iterLimit_le root maxDepth fuelDepth) hD) _
    (Env.iterate_searchS root rng0 maxDepth art workersOf cancelAt fuelDepth)

/-- **C03_session_bounded** (histories, depth-graded): any number of searches, of roots of grade 0, each with a
depth limit `≤ D`, sharing the artifact: every reported best line is non-empty and legal. -/
theorem C03_session_bounded {G : Nat → State → Prop} (hG : Graded G) (D : Nat) (qs : List SearchReq) :
    ∀ (art : Artifact), CollisionFree art.keys.keys (upTo G D) → TInv art.keys.keys (upTo G D) art.tt →
      (∀ q ∈ qs, G 0 q.root ∧ q.maxDepth.getD q.fuelDepth ≤ D) →
      ∀ p ∈ session art qs, ∀ ev line, Event.best ev line ∈ p.2 → line ≠ [] ∧ LineLegal p.1 line := by
  induction qs with
  | nil => intro art _ _ _ p hp; cases hp
  | cons q qs ih =>
    intro art hcf htt hroots p hp ev line hev
    obtain ⟨hq, hqd⟩ := hroots q List.mem_cons_self
    have hi := C03_reported_lines_legal_bounded hG D q.root hq art hcf htt q.rng0 q.maxDepth q.workersOf q.cancelAt
      q.fuelDepth hqd
    rcases List.mem_cons.1 hp with rfl | hp
    · exact hi.2.2 ev line hev
    · refine ih _ ?_ ?_ (fun q' hq' => hroots q' (List.mem_cons_of_mem _ hq')) p hp ev line hev
      · rw [hi.1]; exact hcf
      · rw [hi.1]; exact hi.2.1

/-! ## link to the rules of chess -/

/-- a line of rule-level moves, each legal by the rules in the position reached so far -/
def SpecLineLegal : Spec.Pos → List Spec.SMove → Prop
  | _, [] => True
  | P, m :: ms => m ∈ Spec.legalMoves P ∧ SpecLineLegal (Spec.applyMove P m) ms

/-- **C03_line_rules.**  A line that is `LineLegal` from a legal position (no stacked pieces) is a legal line of
chess: every packed move, read through all its accessors (C20), is a rule-level move, the first is legal by the
rules in the mailbox reading of `s`, each following one is legal in the position the rules give after the moves
before it (C01 + C02). -/
theorem C03_line_rules : ∀ (line : List Move) (s : State), LegalPos s = true → DisjointBoard s.pieces →
    LineLegal s line → ∃ sms : List Spec.SMove, line.map toSpecMove = sms.map some ∧ SpecLineLegal (abs s) sms := by
  intro line
  induction line with
  | nil => intro s _ _ _; exact ⟨[], rfl, trivial⟩
  | cons m ms ih =>
    intro s hl hd ⟨r, hr, hrm, hrest⟩
    obtain ⟨sm, h1, h2, h3, h4, h5⟩ := C02.legalMoves_entry s hl hd r hr
    obtain ⟨sms, h6, h7⟩ := ih r.2 h5 h4 hrest
    refine ⟨sm :: sms, ?_, h2, ?_⟩
    · simp only [List.map_cons, ← hrm, h1, h6]
    · rw [← h3]; exact h7

/-! ## D: at least one report -/

/-- **Full statement of D** (reduced to the evaluation bound in `C03_report_statement_of_eval_bound`, `Wee/Props/C03Report.lean`; proved as
`C03_report` in `Wee/Props/Clamped.lean`).  One worker per iteration, fresh table of any shape, a root (in a region on
which the keys are collision-free) with at least one legal move, no cancellation, depth limit `d ≥ 1`, any
seed, any history: if the search does not panic, at least one `BestMove` is reported. -/
def C03_report_statement : Prop :=
  ∀ (R : State → Prop), Region R → ∀ (root : State), R root → legalMoves root ≠ [] →
  ∀ (keys : KeyTable) (history : List UInt64) (nT nB : Nat), 0 < nT → 0 < nB → CollisionFree keys.keys R →
  ∀ (rng0 : Rng.ChaCha8) (d : Nat), 1 ≤ d →
    let out := iterate root rng0 (some d) { keys := keys, tt := TT.Access.new nT nB, history := history } (fun _ => 1) Option.none
    out.panic = Option.none → ∃ ev line, Event.best ev line ∈ out.events

/-- **C03_at_least_one_report_partial** (= D′ of DESIGN, first iteration).  For ANY incoming table satisfying the
invariant, any worker counts, seed, cancellation instant, and a depth limit ≥ 1: if the root has a legal move and
`FirstRootEntryKept` holds — the workers of the first iteration end without panic or interrupt and the root's
entry is in the table when the line is read back — then a `BestMove` with a non-empty legal line is reported.
(What stands against it with re-used memory and several workers: the root can hold an old lower-bound entry that
raises alpha so that nothing is re-inserted while inserts into its full bucket displace it; another worker's insert can
displace the root entry after its last write.  It holds all the same, for every memory satisfying `MemOK`:
`C03_first_root_entry_kept`, `Wee/Props/C03Report.lean`.) -/
theorem C03_at_least_one_report_partial {R : State → Prop} (hR : Region R) (root : State) (hroot : R root)
    (art : Artifact) (hcf : CollisionFree art.keys.keys R) (htt : TInv art.keys.keys R art.tt)
    (rng0 : Rng.ChaCha8) (maxDepth : Option Nat) (workersOf : Nat → Nat) (cancelAt : Option Nat) (fuelDepth : Nat)
    (hmoves : legalMoves root ≠ [])
    (hlimit : 1 ≤ (match maxDepth with | some d => d | Option.none => fuelDepth))
    (hkept : FirstRootEntryKept root rng0 art workersOf cancelAt) :
    ∃ ev line, Event.best ev line ∈ (iterate root rng0 maxDepth art workersOf cancelAt fuelDepth).events ∧
      line ≠ [] ∧ LineLegal root line := by
  obtain ⟨ev, line, h⟩ := first_iteration_reports hR root hroot art hcf htt rng0 maxDepth workersOf cancelAt
    fuelDepth hmoves (by cases maxDepth <;> exact hlimit) hkept
  exact ⟨ev, line, h, C03_reported_lines_legal hR root hroot art hcf htt rng0 maxDepth workersOf cancelAt fuelDepth ev line h⟩

theorem EvalBelowMate.mono {R R' : State → Prop} (h : ∀ s, R s → R' s) (hE : EvalBelowMate R') : EvalBelowMate R :=
  fun s hs => hE s (h s hs)

/-! ## non-vacuity: a concrete region, key table, artifact and search -/

/-- White Kh1, Pg2, Pa6, Pc6; Black Ka8, Pa7, Pg3, Ph2; White to move.  White's only legal move is c6-c7 -/
def c03Root : State :=
  { pieces := { wk := 0x80, wp := 0x0000050000004000, bk := 0x0100000000000000, bp := 0x0001000000408000 }
    turn := .white, castleW := .noRights, castleB := .noRights, ep := Option.none, halfmove := 0, fullmove := 1 }
def c03Move : Move := Move.byMoving .white .pawn 42 50
/-- … after which Black is stalemated -/
def c03Succ : State :=
  { pieces := { wk := 0x80, wp := 0x0004010000004000, bk := 0x0100000000000000, bp := 0x0001000000408000 }
    turn := .black, castleW := .noRights, castleB := .noRights, ep := Option.none, halfmove := 0, fullmove := 1 }

theorem c03_lm_root : legalMoves? c03Root = some [(c03Move, c03Succ)] := by rw [legalMoves?_fast]; decide +kernel
theorem c03_lm_succ : legalMoves? c03Succ = some [] := by rw [legalMoves?_fast]; decide +kernel
theorem c03_moves_root : legalMoves c03Root = [(c03Move, c03Succ)] := legalMoves_of_some c03_lm_root
theorem c03_moves_succ : legalMoves c03Succ = [] := legalMoves_of_some c03_lm_succ
theorem c03_legal_root : LegalPos c03Root = true := by rw [legalPos_abs]; decide +kernel
theorem c03_disjoint_root : DisjointBoard c03Root.pieces := by decide +kernel
theorem c03_mem_moves : (c03Move, c03Succ) ∈ legalMoves c03Root := by
  rw [c03_moves_root]; exact List.mem_singleton.2 rfl
/-- the successor of a legal position is legal (C02) -/
theorem c03_legal_succ : LegalPos c03Succ = true :=
  C02_closed c03Root c03_legal_root c03_disjoint_root (c03Move, c03Succ) c03_mem_moves

def c03R (s : State) : Prop := s = c03Root ∨ s = c03Succ

theorem c03_region : Region c03R := by
  refine ⟨?_, ?_⟩
  · rintro s (rfl | rfl)
    · exact ⟨c03_legal_root, c03_disjoint_root⟩
    · exact ⟨c03_legal_succ, (C02_successor_invariants c03Root c03_legal_root c03_disjoint_root (c03Move, c03Succ) c03_mem_moves).1⟩
  · rintro s (rfl | rfl) r hr
    · rw [c03_moves_root, List.mem_singleton] at hr; subst hr; exact Or.inr rfl
    · rw [c03_moves_succ] at hr; cases hr

/-- a toy key table: only the side to move is hashed -/
def c03KeyTable : KeyTable := { turn := #[0, 1], piece := #[], castle := #[], epFile := #[] }

theorem c03_hash_root : hash c03KeyTable.keys c03Root = 0 := by rw [hash_fast]; decide +kernel
theorem c03_hash_succ : hash c03KeyTable.keys c03Succ = 1 := by rw [hash_fast]; decide +kernel

theorem c03_collisionFree : CollisionFree c03KeyTable.keys c03R := by
  rintro s s' (rfl | rfl) (rfl | rfl) hh mv hmv
  · exact hmv
  · rw [c03_hash_root, c03_hash_succ] at hh; cases hh
  · rw [c03_hash_root, c03_hash_succ] at hh; cases hh
  · exact hmv

/-- an artifact with a fresh 2 × 4 table and these keys -/
def c03Art : Artifact := { keys := c03KeyTable, tt := TT.Access.new 2 4, history := [] }

example : Region c03R := c03_region
example : CollisionFree c03Art.keys.keys c03R := c03_collisionFree
example : TInv c03Art.keys.keys c03R c03Art.tt := C03_TTInv_new _ _ (by decide) (by decide)
example : legalMoves c03Root ≠ [] := by rw [c03_moves_root]; exact List.cons_ne_nil _ _

/-- `C03_reported_lines_legal` instantiated: all hypotheses discharged for the example, for every seed, depth
limit, worker-count function and cancellation instant -/
example (rng0 : Rng.ChaCha8) (maxDepth : Option Nat) (workersOf : Nat → Nat) (cancelAt : Option Nat) (fuelDepth : Nat)
    (ev : Eval) (line : List Move)
    (h : Event.best ev line ∈ (iterate c03Root rng0 maxDepth c03Art workersOf cancelAt fuelDepth).events) :
    line ≠ [] ∧ LineLegal c03Root line :=
  C03_reported_lines_legal c03_region c03Root (Or.inl rfl) c03Art c03_collisionFree
    (C03_TTInv_new _ _ (by decide) (by decide)) rng0 maxDepth workersOf cancelAt fuelDepth ev line h

/-- the only legal line of the example -/
example : LineLegal c03Root [c03Move] :=
  ⟨(c03Move, c03Succ), c03_mem_moves, rfl, trivial⟩
theorem c03_legalIn : LegalIn c03Root c03Move :=
  ⟨(c03Move, c03Succ), c03_mem_moves, rfl⟩

/-- … read by the rules of chess (`C03_line_rules` instantiated) -/
example : ∃ sms : List Spec.SMove, [c03Move].map toSpecMove = sms.map some ∧ SpecLineLegal (abs c03Root) sms :=
  C03_line_rules [c03Move] c03Root c03_legal_root c03_disjoint_root
    ⟨(c03Move, c03Succ), c03_mem_moves, rfl, trivial⟩

/-- a non-empty table satisfying the invariant (hypotheses of `C03_inserts_keep_inv`, `C03_walk_legal`): the root's
entry as the search stores it -/
def c03Entry : TT.Entry := { kind := 0, mv := c03Move.toNat, depth := 0, maxDepth := 1, eval := 0 }
def c03Table : TT.Access := (TT.Access.new 2 4).insert (hash c03KeyTable.keys c03Root).toNat c03Entry

theorem c03_table_inv : TInv c03KeyTable.keys c03R c03Table :=
  C03_TTInv_insert c03_collisionFree (C03_TTInv_new _ _ (by decide) (by decide)) c03Root (Or.inl rfl) c03Move
    c03_legalIn c03Entry rfl

/-- the walk on it returns the legal line (kernel evaluation of the model, independent of the theorems) -/
example : walkLine c03KeyTable.keys c03Table 5 c03Root = [c03Move] := by decide +kernel

/-- the hypotheses of `C03_inserts_keep_inv` with a prioritized move and a non-empty table -/
example (history : List UInt64) (cancelAt : Option Nat) (rem : Nat) (rng : Rng.ChaCha8) (nodes polls : Nat) :
    TTInv c03KeyTable.keys c03R
      (runM (searchNode { keys := c03KeyTable.keys, history := history, cancelAt := cancelAt } rem
        (rootArgs c03Root rem (some c03Move))) { tt := c03Table, rng := rng, nodes := nodes, polls := polls }).2.tt := by
  have ha : c03R (rootArgs c03Root rem (some c03Move)).s := Or.inl rfl
  have hp : (rootArgs c03Root rem (some c03Move)).prioritized = Option.none ∨
      ∃ m, (rootArgs c03Root rem (some c03Move)).prioritized = some m ∧
        LegalIn (rootArgs c03Root rem (some c03Move)).s m := Or.inr ⟨c03Move, rfl, c03_legalIn⟩
  exact (C03_inserts_keep_inv c03_region { keys := c03KeyTable.keys, history := history, cancelAt := cancelAt }
    c03_collisionFree rem (rootArgs c03Root rem (some c03Move)) ha hp
    { tt := c03Table, rng := rng, nodes := nodes, polls := polls } c03_table_inv.1 c03_table_inv.2).2

/-- `C03_interleaving`: a sequence of operations whose inserts are legal inserts -/
example : ∀ k e, TT.Op.insert k e ∈ [TT.Op.find 3, .insert (hash c03KeyTable.keys c03Root).toNat c03Entry, .find 0] →
    LegalInsert c03KeyTable.keys c03R k e := by
  intro k e h
  simp only [List.mem_cons, reduceCtorEq, TT.Op.insert.injEq, List.not_mem_nil, or_false, false_or] at h
  obtain ⟨rfl, rfl⟩ := h
  exact ⟨c03Root, c03Move, Or.inl rfl, rfl, c03_legalIn, rfl⟩

/-- `C03_session`: two searches of the example position sharing the artifact, different parameters -/
example : ∀ p ∈ session c03Art
      [{ root := c03Root, rng0 := Rng.seedFromU64 1, maxDepth := some 3, workersOf := fun _ => 1, cancelAt := Option.none, fuelDepth := 64 },
       { root := c03Root, rng0 := Rng.seedFromU64 2, maxDepth := Option.none, workersOf := fun d => d + 2, cancelAt := some 1, fuelDepth := 5 }],
    ∀ ev line, Event.best ev line ∈ p.2 → line ≠ [] ∧ LineLegal p.1 line :=
  C03_session c03_region _ c03Art c03_collisionFree (C03_TTInv_new _ _ (by decide) (by decide))
    (by intro q hq; simp only [List.mem_cons, List.not_mem_nil, or_false] at hq; rcases hq with rfl | rfl <;> exact Or.inl rfl)

/-! ### the hypothesis `CollisionFree` is needed

With keys that hash nothing, the root and its successor collide.  The table that holds only the root's (legal)
entry then yields a walked line whose second move is illegal — the stored move of the root is replayed in the
successor, where `by_performing_move` happily moves the pawn again.  This is the mechanism of defect F1. -/

def c03ZeroKeys : KeyTable := { turn := #[], piece := #[], castle := #[], epFile := #[] }

theorem c03_zero_collision : hash c03ZeroKeys.keys c03Root = hash c03ZeroKeys.keys c03Succ := by
  simp only [hash_fast]; decide +kernel
set_option maxRecDepth 1000000 in
example : hash c03ZeroKeys.keys c03Root = hash c03ZeroKeys.keys c03Succ := c03_zero_collision

theorem c03_not_legalIn_succ (mv : Move) : ¬ LegalIn c03Succ mv := by
  rintro ⟨r, hr, _⟩; rw [c03_moves_succ] at hr; cases hr

set_option maxRecDepth 1000000 in
example : ¬ CollisionFree c03ZeroKeys.keys c03R := fun h =>
  c03_not_legalIn_succ c03Move (h c03Root c03Succ (Or.inl rfl) (Or.inr rfl) c03_zero_collision c03Move c03_legalIn)

/-- the illegal line, computed: the root's move twice -/
theorem c03_bad_walk : (walkLine c03ZeroKeys.keys
    ((TT.Access.new 2 4).insert (hash c03ZeroKeys.keys c03Root).toNat c03Entry) 2 c03Root).take 2 = [c03Move, c03Move] := by
  decide +kernel

example : ¬ LineLegal c03Root [c03Move, c03Move] := by
  rintro ⟨r, hr, _, r', hr', _⟩
  rw [c03_moves_root, List.mem_singleton] at hr
  subst hr
  rw [c03_moves_succ] at hr'
  cases hr'


/-! ### D on the example -/

theorem c03_khm_root : kingHasMove c03Root = some false := by rw [kingHasMove_fast]; decide +kernel
theorem c03_khm_succ : kingHasMove c03Succ = some false := by rw [kingHasMove_fast]; decide +kernel
theorem c03_check_succ : c03Succ.isCheck = false := by rw [isCheck_fast]; decide +kernel
theorem c03_h_w : evalHeuristic (Variation.of c03Root) .white = -20 := by
  rw [variationOf_fast, evalHeuristic_fast]; decide +kernel
theorem c03_h_b : evalHeuristic (Variation.of c03Root) .black = 20 := by
  rw [evalHeuristic_neg _ (egw_bounded c03Root)]
  show - evalHeuristic (Variation.of c03Root) .white = 20
  rw [c03_h_w]; rfl
/-- the bound holds on the example as on every set of states (`evaluate_inside_root`) -/
theorem c03_evalBelowMate : EvalBelowMate c03R := fun _ _ _ _ _ h1 h2 hev => evaluate_inside_root h1 h2 hev

/-! ### the depth-graded hypotheses on the example -/

/-- the graded family generated by the example root: its only positions are the root and its successor -/
theorem c03_plies_sub : ∀ n s, Plies (fun s => s = c03Root) n s → c03R s :=
  Plies.least (fun _ h => Or.inl h) c03_region.closed

theorem c03_graded : Graded (Plies (fun s => s = c03Root)) :=
  Graded.plies _ (fun s h => by subst h; exact ⟨c03_legal_root, c03_disjoint_root⟩)

/-- `C03_reported_lines_legal_bounded` instantiated with `G := Plies {root}` and `D := 3` -/
example (rng0 : Rng.ChaCha8) (workersOf : Nat → Nat) (cancelAt : Option Nat) (ev : Eval) (line : List Move)
    (h : Event.best ev line ∈ (iterate c03Root rng0 (some 3) c03Art workersOf cancelAt).events) :
    line ≠ [] ∧ LineLegal c03Root line :=
  (C03_reported_lines_legal_bounded c03_graded 3 c03Root (Plies.root _ rfl) c03Art
    (c03_collisionFree.congr (fun s ⟨n, _, hs⟩ => c03_plies_sub n s hs))
    ((C03_TTInv_new c03KeyTable.keys c03R (by decide) (by decide)).congr (fun s ⟨n, _, hs⟩ => c03_plies_sub n s hs))
    rng0 (some 3) workersOf cancelAt 64 (Nat.le_refl _)).2.2 ev line h

end Wee
