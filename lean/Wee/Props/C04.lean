import Wee.Proofs.SearchCtlSafe
import Wee.Proofs.SeqSchedule
import Wee.Proofs.Polls
import Wee.Props.C01
import Wee.Props.C05
/-!
# C04 — search always ends, obeys Stop promptly and never panics

Rust: `weechess-engine/src/searcher.rs` — `analyze_iterative`, `analyze_recursive`, `quiescence_search`,
`CancellationToken`, after the repair of defect F2 (a root without legal moves is not searched: `max_depth = 0`;
`assert!(!line.is_empty())` became "no line → no report").
Model: `Wee/Model/Search.lean`.  Helper lemmas: `Wee/Proofs/SearchCtlBase.lean` (flat run equations, `quiesce_walk`),
`Wee/Proofs/SearchCtl.lean` (the generic induction `searchNode_walk` over the whole recursion and its instances
`remInv_*`, `runWorker_depthOK`, `searchNode_stop_bound`), `Wee/Proofs/SearchCtlSafe.lean` (its no-panic instance `safe_walk`
on top of C01/C02, through `Wee/Proofs/ApplyClosed.lean`), `Wee/Proofs/Iteration.lean` (the loop), `Wee/Proofs/SeqSchedule.lean`
(`iterate_safe`: `C04_no_panic` is the any-schedule `Env.searchS_safe` at the sequential schedule), `Wee/Proofs/Polls.lean`
(`runWorker_stop_bound`).

The parts of the property, in the order of the file (every theorem is about the model, which reproduces the engine's event
sequences exactly): termination — the model functions are total and satisfy the recursive equations of the Rust code
(kernel-checked recursion: structural on the remaining depth / the move list / the iteration count, well-founded on the fuel
for `quiescence_search`, which is never exhausted); no `usize` underflow — `current_depth + remaining = max_depth` along the
recursion and every stored entry has `depth ≤ max_depth`; Stop — once the flag is visible to the polls, a node / worker run
ends at or before the next multiple of 10000 of the worker's node counter and the interrupted iteration is the last; a root
without legal moves; no panic for any legal root, depth, worker count and cancellation instant, re-used memory included, under
`PrioritizedOK` (a fact about the incoming memory, true of a fresh one); the returned artifact satisfies what the next search
needs.

The claim part "receiver dropped": in the model the sink is the returned `events` list; the Rust closure ignores the send result
(`_ = sink.send(event)`), so nothing in the search depends on the receiver — there is nothing to state.

The bounds here are per worker and per iteration.  Before the repair of F11 no bound on the TOTAL number of nodes after
`Stop` held of the code; the account of the defect, the repaired loop (the flag is read at every iteration boundary but the
first) and the total bound `C04_stop_total_bound` are in `Wee/Props/C04Stop.lean`.
-/
namespace Wee.SearchCtl
open Wee Wee.Search
open Wee.C10 (DisjointBoard)

/-! ## termination -/

/-- **C04_termination (`analyze_recursive`).**  `searchNode` is a total function that satisfies the two defining
equations (remaining depth 0: entry, then quiescence; remaining depth `rem+1`: entry, then the move loop whose
recursive calls have remaining depth `rem`) — definitionally. -/
theorem C04_termination_searchNode (ctx : Ctx) (rem : Nat) (a : NodeArgs) :
    searchNode ctx 0 a = nodeM ctx a (leafM a) ∧
    searchNode ctx (rem+1) a = nodeM ctx a (expandM ctx (searchNode ctx rem) a (Wee.hash ctx.keys a.s)) :=
  ⟨searchNode_zero ctx a, searchNode_succ ctx rem a⟩

/-- **C04_termination (`quiescence_search`).**  `quiesce` (well-founded recursion on the fuel, mutual with its
capture loop) satisfies the equations of the Rust function; the only model-specific outcome is fuel `0`. -/
theorem C04_termination_quiesce (ev : State → Color → Nat → Option Eval) (fuel depth : Nat) (beta alpha : Eval)
    (r : Move × State) (rest : List (Move × State)) :
    quiesce.loop ev fuel depth beta [] alpha = .ok alpha ∧
    quiesce.loop ev fuel depth beta (r :: rest) alpha =
      (if (!Move.isCapture r.1) = true then quiesce.loop ev fuel depth beta rest alpha
       else match quiesce ev fuel r.2 (depth + 1) (-beta) (-alpha) with
        | .error e => .error e
        | .ok v => if -v ≥ beta then .ok beta else quiesce.loop ev fuel depth beta rest (if -v > alpha then -v else alpha)) :=
  ⟨quiesce.loop.eq_1 .., quiesce.loop.eq_2 ..⟩

/-- **C04_termination (`analyze_iterative`).**  The iteration loop runs at most `limit` iterations and stops at the
first finished state; with a depth limit the limit is that number, a terminal root has limit 0.  Since the repair of
F11 every iteration but the first begins with a read of the cancellation flag (`boundaryPoll`), which can end the loop. -/
theorem C04_termination_iterLoop (ctx : Ctx) (root : State) (rootHash : UInt64) (workersOf : Nat → Nat)
    (n depth : Nat) (st : IterSt) :
    iterLoop ctx root rootHash workersOf 0 depth st = st ∧
    iterLoop ctx root rootHash workersOf (n+1) depth st =
      (if st.finished then st
       else if (boundaryPoll ctx depth st).finished then boundaryPoll ctx depth st
       else iterLoop ctx root rootHash workersOf n (depth + 1)
        (iterStep ctx root rootHash (workersOf depth) depth (boundaryPoll ctx depth st))) :=
  ⟨rfl, rfl⟩

/-! ## the usize subtractions -/

/-- **the invariant `RemInv` at the root.**  The root call of a worker has `current_depth + remaining = max_depth`
(`0 + search_depth = search_depth`). -/
theorem C04_rem_inv_root (root : State) (searchDepth : Nat) (best : Option Move) :
    RemInv searchDepth (rootArgs root searchDepth best) := remInv_root root searchDepth best

/-- **`RemInv` is handed down.**  If a node with remaining depth `rem+1` has `current_depth + (rem+1) = max_depth`,
each child (`max_depth + ext`, `current_depth + 1 + ext`, remaining `rem`) has it again, with or without the check
extension. -/
theorem C04_rem_inv_child (rem : Nat) (a : NodeArgs) (next : State) (alpha : Eval) (h : RemInv (rem+1) a) :
    RemInv rem (childArgs a next alpha) := remInv_child rem a next alpha h

/-- under the invariant the model's test "remaining = 0" is the Rust test `current_depth >= max_depth`, and
`max_depth - current_depth` is the remaining depth (no underflow) -/
theorem C04_rem_inv_meaning (rem : Nat) (a : NodeArgs) (h : RemInv rem a) :
    (rem = 0 ↔ a.curDepth ≥ a.maxDepth) ∧ a.curDepth ≤ a.maxDepth ∧ a.maxDepth - a.curDepth = rem := by
  unfold RemInv at h; omega

/-- the invariant is satisfiable: the root of a depth-5 worker and its children -/
example : RemInv 5 (rootArgs default 5 Option.none) ∧
    RemInv 4 (childArgs (rootArgs default 5 Option.none) default 0) :=
  ⟨C04_rem_inv_root _ _ _, C04_rem_inv_child 4 _ _ _ (C04_rem_inv_root _ _ _)⟩

/-- **C04_no_underflow.**  A worker started on a table all of whose entries have `depth ≤ max_depth` never reaches
the `usize` underflow of `max_depth - current_depth` or `entry.max_depth - entry.depth` (the model's
`.panic "usize subtraction underflow"`), and leaves a table with the same property — for every root, depth, previous
best move, generator state, poll count, history and cancellation instant.  No hypothesis on the position. -/
theorem C04_no_underflow (ctx : Ctx) (root : State) (searchDepth : Nat) (best : Option Move) (tt : TT.Access)
    (rng : Rng.ChaCha8) (polls : Nat) (h : tt.All DepthOK) :
    (runWorker ctx root searchDepth best tt rng polls).1 ≠ .error (.panic "usize subtraction underflow") ∧
    (runWorker ctx root searchDepth best tt rng polls).2.tt.All DepthOK :=
  ⟨(runWorker_depthOK ctx root searchDepth best tt rng polls h).2,
   (runWorker_depthOK ctx root searchDepth best tt rng polls h).1⟩

/-- the same for the whole search: the artifact's table keeps `depth ≤ max_depth` -/
theorem C04_no_underflow_iterate (root : State) (rng0 : Rng.ChaCha8) (maxDepth : Option Nat) (art : Artifact)
    (workersOf : Nat → Nat) (cancelAt : Option Nat) (fuelDepth : Nat) (h : art.tt.All DepthOK) :
    (iterate root rng0 maxDepth art workersOf cancelAt fuelDepth).artifact.tt.All DepthOK :=
  Env.searchS_tt_inv (Adm := fun _ e => DepthOK e) (fun _ k e h he => h.insert k e he)
    (fun w tt env h hadm => Env.runWorkerE_depthOK env _ root w tt hadm h) h _
    (Env.iterate_searchS root rng0 maxDepth art workersOf cancelAt fuelDepth)

/-- the hypothesis holds for every fresh table -/
example (nT nB : Nat) : (TT.Access.new nT nB).All DepthOK := TT.Access.All.new _ _ _

/-! ## quiescence fuel -/

/-- **C04_quiesce_fuel.**  Let `G` be a set of positions closed under the capture moves the generator returns, on
which every such capture removes exactly one piece from the board (`popcount occ` drops by one).  Started on a
position of `G` with the fuel `quiesceFuel s = popcount occ + 2`, the quiescence model never reports
"fuel exhausted" — the fuel is a proof device, not a behaviour.  The hypothesis holds for `G` = legal positions without
stacked pieces (`C04_captures_shrink`, derived from C02), which gives `C04_quiesce_total`. -/
theorem C04_quiesce_fuel (ev : State → Color → Nat → Option Eval) (G : State → Prop)
    (hG : ∀ s, G s → ∀ ms, legalMoves? s = some ms → ∀ r ∈ ms, Move.isCapture r.1 = true →
      G r.2 ∧ popcount r.2.pieces.occ + 1 = popcount s.pieces.occ)
    (s : State) (hs : G s) (d : Nat) (α β : Eval) :
    quiesce ev (quiesceFuel s) s d α β ≠
      .error (.panic "quiescence fuel exhausted (cannot happen: each capture removes a piece)") := by
  intro h
  refine quiesce_walk (F := fun fuel s => G s ∧ popcount s.pieces.occ < fuel)
    (Allowed := fun e => e ≠ .panic "quiescence fuel exhausted (cannot happen: each capture removes a piece)")
    ⟨?_, fun _ _ _ _ => by simp, fun _ _ _ _ _ => by simp, ?_⟩
    (quiesceFuel s) s d α β _ ⟨hs, by unfold quiesceFuel; omega⟩ h rfl
  · intro s hF; exact absurd hF.2 (Nat.not_lt_zero _)
  · intro fuel s ms r hF hL hr hcap
    obtain ⟨h1, h2⟩ := hG s hF.1 ms hL r hr hcap
    exact ⟨h1, by omega⟩

/-- **C04_captures_shrink.**  In a legal position without stacked pieces every move of the generator's list that is
flagged as a capture (ordinary, promoting or en passant) leaves exactly one piece fewer on the board.  From C02
(`abs next = Spec.applyMove (abs s) sm`) and the `MoveFits` facts about the captured piece. -/
theorem C04_captures_shrink (s : State) (hl : LegalPos s = true) (hd : DisjointBoard s.pieces) (r : Move × State)
    (hr : r ∈ legalMoves s) (hcap : Move.isCapture r.1 = true) :
    popcount r.2.pieces.occ + 1 = popcount s.pieces.occ :=
  captures_shrink_exact s ⟨hl, hd⟩ r hr hcap

/-- checked directly on the example position of C01 (5 capture moves: one capturing promotion with its four pieces, one en passant) -/
example : ∀ r ∈ legalMoves C01_example, Move.isCapture r.1 = true →
    popcount r.2.pieces.occ + 1 = popcount C01_example.pieces.occ := by rw [legalMoves_fast]; decide +kernel

/-- **C04_quiesce_total.**  On every legal position `quiescence_search` returns a value: no panic of the generator or
the evaluator, no fuel exhaustion. -/
theorem C04_quiesce_total (s : State) (hl : LegalPos s = true) (hd : DisjointBoard s.pieces)
    (d : Nat) (α β : Eval) : ∃ v, quiesce evaluate (quiesceFuel s) s d α β = .ok v := by
  cases h : quiesce evaluate (quiesceFuel s) s d α β with
  | ok v => exact ⟨v, rfl⟩
  | error e => exact absurd h (quiesce_safe _ s d α β e ⟨hl, hd⟩ (by unfold quiesceFuel; omega))

/-- the closure hypothesis of `C04_quiesce_fuel` is satisfiable: the stalemate position of C05 (no moves at all) -/
example : ∀ s, s = C05.staleS → ∀ ms, legalMoves? s = some ms → ∀ r ∈ ms, Move.isCapture r.1 = true →
    r.2 = C05.staleS ∧ popcount r.2.pieces.occ + 1 = popcount s.pieces.occ := by
  intro s hs ms hms r hr _
  subst hs
  rw [C05.staleS_moves] at hms
  cases hms
  cases hr

/-! ## Stop -/

/-- **C04_stop_bound.**  Assume the cancellation flag answers "cancelled" from the `k`-th poll on and `k` polls have
already happened (`Stop` is visible).  Then a call of `analyze_recursive` — at any node, with everything below it —
either returns `SearchInterrupt` exactly when the worker's node counter reaches the next multiple of 10000, or
returns (normally, or with a panic of the model) strictly before that multiple.  It never executes a node whose count
is a multiple of 10000 without stopping.  The counters only grow and `Stop` stays visible. -/
theorem C04_stop_bound (ctx : Ctx) (k : Nat) (hk : ctx.cancelAt = some k) (rem : Nat) (a : NodeArgs) (st : St)
    (hp : k ≤ st.polls) :
    ((searchNode ctx rem a).run.run st).1 = .error .interrupt ∧
      ((searchNode ctx rem a).run.run st).2.nodes = (st.nodes / Gen.pollInterval + 1) * Gen.pollInterval
    ∨
    ((searchNode ctx rem a).run.run st).1 ≠ .error .interrupt ∧
      st.nodes ≤ ((searchNode ctx rem a).run.run st).2.nodes ∧
      ((searchNode ctx rem a).run.run st).2.nodes < (st.nodes / Gen.pollInterval + 1) * Gen.pollInterval ∧
      k ≤ ((searchNode ctx rem a).run.run st).2.polls := by
  exact stop_post_cases (searchNode_stop_bound ctx k hk rem a st hp)

/-- **C04_stop_worker.**  A worker started when `Stop` is visible returns `SearchInterrupt` with exactly 10000 counted
nodes, or finishes its iteration with fewer than 10000 counted nodes (then it has not read the flag at all). -/
theorem C04_stop_worker (ctx : Ctx) (k : Nat) (hk : ctx.cancelAt = some k) (root : State) (searchDepth : Nat)
    (best : Option Move) (tt : TT.Access) (rng : Rng.ChaCha8) (polls : Nat) (hp : k ≤ polls) :
    (runWorker ctx root searchDepth best tt rng polls).1 = .error .interrupt ∧
      (runWorker ctx root searchDepth best tt rng polls).2.nodes = Gen.pollInterval
    ∨
    (runWorker ctx root searchDepth best tt rng polls).1 ≠ .error .interrupt ∧
      (runWorker ctx root searchDepth best tt rng polls).2.nodes < Gen.pollInterval :=
  runWorker_stop_bound ctx k hk root searchDepth best tt rng polls hp

/-- **C04_stop_before_start** (the claim part "Stop is idempotent").  `Stop` sent before the first node (every poll answers "cancelled": `cancelAt = some 0`) —
and likewise a repeated `Stop`, since the flag is only ever set — gives the same contract for every worker of every
iteration: interrupt at exactly 10000 counted nodes, or completion below 10000. -/
theorem C04_stop_before_start (ctx : Ctx) (hk : ctx.cancelAt = some 0) (root : State) (searchDepth : Nat)
    (best : Option Move) (tt : TT.Access) (rng : Rng.ChaCha8) (polls : Nat) :
    (runWorker ctx root searchDepth best tt rng polls).1 = .error .interrupt ∧
      (runWorker ctx root searchDepth best tt rng polls).2.nodes = Gen.pollInterval
    ∨
    (runWorker ctx root searchDepth best tt rng polls).1 ≠ .error .interrupt ∧
      (runWorker ctx root searchDepth best tt rng polls).2.nodes < Gen.pollInterval :=
  C04_stop_worker ctx 0 hk root searchDepth best tt rng polls (Nat.zero_le _)

/-- the hypotheses are satisfiable: `Stop` before the first poll -/
example : ∃ (ctx : Ctx) (k polls : Nat), ctx.cancelAt = some k ∧ k ≤ polls :=
  ⟨{ keys := { turn := fun _ => 0, piece := fun _ _ _ => 0, castle := fun _ _ => 0, epFile := fun _ => 0 },
     history := [], cancelAt := some 0 }, 0, 0, rfl, Nat.le_refl _⟩

/-- **C04_stop_iterate.**  Once a worker of iteration `depth` is interrupted, (1) the workers after it are not run
(`runWorkers` returns at once on an interrupted accumulator), (2) the iteration step sets `finished` — node count and
previous best move untouched, the table keeps the inserts made before the interrupt — and (3) the iteration loop
returns that state: no further iteration is run, whatever the remaining depth budget.
(Since the repair of F11 the workers of an iteration run on the state `st' = boundaryPoll ctx depth st` left by the
read of the flag at the top of the loop body — `st` with one more counted poll if `depth > 0` —, which did not end the
loop: hypothesis `hb`.  The case that it does end the loop is `C04_stop_ends_within_one_iteration` in
`Wee/Props/C04Stop.lean`.) -/
theorem C04_stop_iterate (ctx : Ctx) (root : State) (rootHash : UInt64) (workersOf : Nat → Nat) (n depth : Nat)
    (st : IterSt) (hf : st.finished = false) (hb : (boundaryPoll ctx depth st).finished = false)
    (hp : (workersOut ctx root (workersOf depth) depth (boundaryPoll ctx depth st)).panic = Option.none)
    (hi : (workersOut ctx root (workersOf depth) depth (boundaryPoll ctx depth st)).interrupted = true) :
    let st' := boundaryPoll ctx depth st
    (∀ l bestMv, runWorkers ctx root depth bestMv l (workersOut ctx root (workersOf depth) depth st') =
      workersOut ctx root (workersOf depth) depth st') ∧
    (iterStep ctx root rootHash (workersOf depth) depth st').finished = true ∧
    (iterStep ctx root rootHash (workersOf depth) depth st').nodes = st.nodes ∧
    (iterStep ctx root rootHash (workersOf depth) depth st').bestMv = st.bestMv ∧
    (iterStep ctx root rootHash (workersOf depth) depth st').tt = (workersOut ctx root (workersOf depth) depth st').tt ∧
    iterLoop ctx root rootHash workersOf (n+1) depth st = iterStep ctx root rootHash (workersOf depth) depth st' := by
  intro st'
  have h := iterStep_interrupted ctx root rootHash (workersOf depth) depth st' hp hi
  refine ⟨fun l bestMv => runWorkers_stopped ctx root depth bestMv l _ (show (_ || _) = true by rw [hi]; rfl), h.1,
    by rw [h.2.2.2.1]; exact boundaryPoll_nodes ctx depth st, by rw [h.2.2.2.2]; exact boundaryPoll_bestMv ctx depth st,
    h.2.2.1, iterLoop_interrupted ctx root rootHash workersOf n depth st hf hb hp hi⟩

/-- the step from a worker's interrupt to the accumulator: the first interrupted worker ends `runWorkers` -/
theorem C04_stop_workers (ctx : Ctx) (root : State) (depth : Nat) (bestMv : Option Move)
    (i : Nat) (seed : UInt64) (rest : List (Nat × UInt64)) (acc : WorkersOut) (st : St)
    (h : (acc.interrupted || acc.panic.isSome) = false)
    (hw : runWorker ctx root ((depth - i % 2) + 1) (if i == 0 then bestMv else Option.none) acc.tt
      (Rng.seedFromU64 seed) acc.polls = (.error .interrupt, st)) :
    runWorkers ctx root depth bestMv ((i, seed) :: rest) acc =
      { acc with tt := st.tt, polls := st.polls, interrupted := true } := by
  rw [runWorkers, if_neg (by rw [h]; decide)]
  simp only []
  rw [hw]

/-! ## terminal root -/

/-- **C04_terminal_root.**  A position without legal moves (checkmate or stalemate) is not searched: the search
ends normally (no panic), emits no `BestMove` and no `Progress` event (at most the saturation warning of the incoming
table), and returns the incoming artifact with the root's key added to the history — in particular the table is
untouched, so the artifact is as re-usable as it was.  For every depth limit including none, every worker count and
every cancellation instant. -/
theorem C04_terminal_root (root : State) (rng0 : Rng.ChaCha8) (maxDepth : Option Nat) (art : Artifact)
    (workersOf : Nat → Nat) (cancelAt : Option Nat) (fuelDepth : Nat) (h : legalMoves root = []) :
    (iterate root rng0 maxDepth art workersOf cancelAt fuelDepth).panic = Option.none ∧
    (iterate root rng0 maxDepth art workersOf cancelAt fuelDepth).artifact =
      { art with history := Wee.hash art.keys.keys root :: art.history } ∧
    (∀ ev line, Event.best ev line ∉ (iterate root rng0 maxDepth art workersOf cancelAt fuelDepth).events) ∧
    (∀ d n, Event.progress d n ∉ (iterate root rng0 maxDepth art workersOf cancelAt fuelDepth).events) := by
  rw [iterate_eq]
  simp only [iterFinal_nil h]
  refine ⟨rfl, rfl, ?_, ?_⟩
  -- the events are `[]` or the saturation warning alone
  all_goals
    intro _ _ hm
    unfold iterInit at hm
    split at hm
    · simp at hm
    · cases hm

/-- the hypothesis is satisfiable: the mate and the stalemate of C05 -/
example : legalMoves C05.mateS = [] ∧ legalMoves C05.staleS = [] :=
  ⟨legalMoves_of_some C05.mateS_moves, legalMoves_of_some C05.staleS_moves⟩

/-! ## no panic -/

/-- the panic sources of the model, i.e. the `unwrap`/`assert!`/arithmetic sites of the search path:
1. `pseudoLegalMoves = none` (`Square::offset(..).unwrap()` in move generation), also inside `legalMoves?`;
2. `tryAsLegal = none` (`by_performing_move(..).unwrap()` on a buffer move — the prioritized move need not be
   pseudo-legal in the root);
3. `evaluate = none` (`first_square().unwrap()` without a king);
4. the two `usize` subtractions of the table probe;
5. the quiescence fuel (model only).
`C04_no_panic` excludes each: 1–3 by C01/C02 on legal positions (`Good`), closed under the moves searched; 2 for the
prioritized move by `PrioritizedOK` (kept as an invariant of the table at the root's key: only the root node writes
under that key, because every other node with that key is cut off by the history — C17); 4 by `C04_no_underflow`;
5 by `C04_captures_shrink`.
**C04_no_panic**: for every legal root (without stacked pieces), every generator state, depth limit (including none),
worker schedule, cancellation instant and every well-formed memory — fresh or re-used — whose entry for the root's
key, if any, carries a legal move of the root, the search does not panic. -/
theorem C04_no_panic (root : State) (rng0 : Rng.ChaCha8) (maxDepth : Option Nat) (art : Artifact)
    (workersOf : Nat → Nat) (cancelAt : Option Nat) (fuelDepth : Nat) (tables buckets : Nat)
    (hT : 0 < tables) (hB : 0 < buckets)
    (hl : LegalPos root = true) (hdj : DisjointBoard root.pieces)
    (hdep : art.tt.All DepthOK) (hinv : TT.AInv Gen.bucketSize tables buckets art.tt)
    (hprio : PrioritizedOK art root) :
    (iterate root rng0 maxDepth art workersOf cancelAt fuelDepth).panic = Option.none :=
  (iterate_safe root rng0 maxDepth art workersOf cancelAt fuelDepth tables buckets hT hB ⟨hl, hdj⟩ hdep
    hinv hprio).1

/-- **C04_no_panic, fresh memory.**  For a fresh `tables × buckets` memory the three table hypotheses hold: what is left
is that the root is a legal position without stacked pieces (`LegalPos`, `DisjointBoard`) and `0 < tables`, `0 < buckets`. -/
theorem C04_no_panic_fresh (root : State) (rng0 : Rng.ChaCha8) (maxDepth : Option Nat) (keys : KeyTable)
    (history : List UInt64) (workersOf : Nat → Nat) (cancelAt : Option Nat) (fuelDepth : Nat) (tables buckets : Nat)
    (hT : 0 < tables) (hB : 0 < buckets)
    (hl : LegalPos root = true) (hdj : DisjointBoard root.pieces) :
    (iterate root rng0 maxDepth { keys, tt := TT.Access.new tables buckets, history } workersOf cancelAt
      fuelDepth).panic = Option.none :=
  C04_no_panic root rng0 maxDepth _ workersOf cancelAt fuelDepth tables buckets hT hB hl hdj
    (TT.Access.All.new _ _ _) (TT.AInv.new _ _)
    (fun e he => by rw [TT.Access.new_find hT hB] at he; cases he)

/-- the position hypotheses are satisfiable (the example position of C01, 18 legal moves, one of them en passant);
the table hypotheses by any fresh table (`C04_no_panic_fresh`) -/
example : DisjointBoard C01_example.pieces := C01_example_disjoint
set_option maxRecDepth 1000000 in
example : LegalPos C01_example = true := C01_example_legal

/-! ## the artifact can seed the next search -/

/-- **C04_artifact_reusable.**  Whatever happens in the search (completion, interrupt, terminal root), the returned
artifact has the same hasher, a history that extends the old one by the root's key, and a table that still satisfies
the access-layer invariant of C15 (`tables × buckets` shape, bucket invariants, routing, counters) and
`depth ≤ max_depth` for every entry — the table hypotheses of `C04_no_panic` / `C04_no_underflow` for the next search.
No hypothesis on the position. -/
theorem C04_artifact_reusable (root : State) (rng0 : Rng.ChaCha8) (maxDepth : Option Nat) (art : Artifact)
    (workersOf : Nat → Nat) (cancelAt : Option Nat) (fuelDepth : Nat) (tables buckets : Nat)
    (hT : 0 < tables) (hB : 0 < buckets)
    (hdep : art.tt.All DepthOK) (hinv : TT.AInv Gen.bucketSize tables buckets art.tt) :
    (iterate root rng0 maxDepth art workersOf cancelAt fuelDepth).artifact.keys = art.keys ∧
    (iterate root rng0 maxDepth art workersOf cancelAt fuelDepth).artifact.history =
      Wee.hash art.keys.keys root :: art.history ∧
    (iterate root rng0 maxDepth art workersOf cancelAt fuelDepth).artifact.tt.All DepthOK ∧
    TT.AInv Gen.bucketSize tables buckets (iterate root rng0 maxDepth art workersOf cancelAt fuelDepth).artifact.tt :=
  ⟨rfl, rfl, C04_no_underflow_iterate root rng0 maxDepth art workersOf cancelAt fuelDepth hdep,
   Env.searchS_tt_inv (Adm := fun _ _ => True) (fun _ k e h _ => h.insert (by decide) hT hB k e)
     (fun _ _ _ _ _ _ _ _ => trivial) hinv _ (Env.iterate_searchS root rng0 maxDepth art workersOf cancelAt fuelDepth)⟩

/-- for the same root the `PrioritizedOK` hypothesis is handed on as well (for another root it is a statement about
key collisions, C03) -/
theorem C04_artifact_reusable_same_root (root : State) (rng0 : Rng.ChaCha8) (maxDepth : Option Nat) (art : Artifact)
    (workersOf : Nat → Nat) (cancelAt : Option Nat) (fuelDepth : Nat) (tables buckets : Nat)
    (hT : 0 < tables) (hB : 0 < buckets)
    (hl : LegalPos root = true) (hdj : DisjointBoard root.pieces)
    (hdep : art.tt.All DepthOK) (hinv : TT.AInv Gen.bucketSize tables buckets art.tt)
    (hprio : PrioritizedOK art root) :
    PrioritizedOK (iterate root rng0 maxDepth art workersOf cancelAt fuelDepth).artifact root :=
  (iterate_safe root rng0 maxDepth art workersOf cancelAt fuelDepth tables buckets hT hB ⟨hl, hdj⟩ hdep
    hinv hprio).2.2.2

end Wee.SearchCtl
