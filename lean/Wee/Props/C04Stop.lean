import Wee.Proofs.StopLemmas
import Wee.Props.Interleave
/-!
# C04 — Stop after the repair of F11: the flag is read between iterations

Rust: `weechess-engine/src/searcher.rs`, `Searcher::analyze_iterative`, the first statement of the loop body
`if depth > 0 && token.is_cancelled() { break; }` (repair of defect F11).  Model: `Wee/Model/Search.lean`
(`boundaryPoll`, `iterLoop`), `Wee/Model/SearchEnv.lean` (`LoopS.stopped`).  Helper lemmas:
`Wee/Proofs/Iteration.lean`, `Wee/Proofs/Polls.lean`, `Wee/Proofs/StopLemmas.lean`.

**F11.**  Before the repair the workers were the only readers of the cancellation flag, and only when their own
per-iteration node counter hit a multiple of 10000.  A root all of whose iterations stay below 10000 nodes (its only
legal move leads to a recorded position: every iteration is 2–3 nodes) never read the flag, and without a depth limit
(`for depth in 0..usize::MAX`) the search never ended after Stop.  The model hid this because `maxDepth = none` is
modelled by `fuelDepth` iterations.  Confirmed on the real code (`stopseq … 8/8/8/8/8/8/8/K1k5 w`: not joined 20 s
after Stop; after the repair: joined).

What is proved here (about the model, which reproduces the repaired engine's event sequences exactly: 486 single-worker
searches with Stop at poll 0…6, depth limits 1…5 and none), in three parts:

* (a) the unbounded loop: every iteration boundary is a poll, so with `cancelAt = some k` the result of `iterate` does not
  depend on the fuel from `k + 1` on (`C04_unlimited_stop_outcome_fuel`; the theorems with `k + 2`, which is sharp for the
  loop state with its poll count, follow from it), nor on a depth limit `d ≥ k + 2`.  This is what justifies
  modelling `usize::MAX` iterations by fuel.
* (b) Stop visible at an iteration boundary ends the loop there; and the TOTAL bound.  The nodes are counted by a ghost
  function (`loopWork`, `workersWork`: the sum of all workers' own counters, the interrupted worker's included, which
  `IterSt.nodes` leaves out; the two agree on completed iterations).  Everything counted from a worker's start at which Stop
  is visible to the end of the search is at most (workers of this iteration still to run) × 10000; with `C04_stop_bound`
  (Props/C04) for the worker that is running when Stop becomes visible: fewer than `workers(depth) × 10000` nodes after Stop
  in total, and 0 if Stop becomes visible between iterations.  The same for racing workers.
* (c) the witness of F11: on the K-vs-K root the loop as it was BEFORE the repair runs all `n` iterations for every `n`
  under `cancelAt = some 0`; the repaired loop stops after the first (namespace `F11`).
-/
namespace Wee.SearchCtl
open Wee Wee.Search

/-! ## (a) the unbounded loop needs only finitely many iterations once Stop is visible -/

/-- with the flag answering "cancelled" from poll `k` on, every iteration budget `≥ k + 2` — a depth limit or the fuel —
leads to the final loop state of the budget `k + 2` -/
theorem iterFinal_stop (root : State) (rng0 : Rng.ChaCha8) (art : Artifact) (workersOf : Nat → Nat) (k : Nat)
    (maxDepth : Option Nat) (fuel : Nat) (h : k + 2 ≤ (match maxDepth with | some d => d | Option.none => fuel)) :
    iterFinal root rng0 maxDepth art workersOf (some k) fuel =
      iterFinal root rng0 Option.none art workersOf (some k) (k + 2) := by
  by_cases h0 : legalMoves root = []
  · rw [iterFinal_nil h0, iterFinal_nil h0]
  · rw [iterFinal_of_moves h0, iterFinal_of_moves h0]
    cases maxDepth <;>
      exact iterLoop_fuel (iterCtx root art (some k)) k rfl root _ workersOf _ (k + 2) 0 (iterInit rng0 art)
        (Nat.zero_le _) (Nat.zero_le _) ((Nat.zero_add _).symm ▸ h) (Nat.le_add_left _ _)

/-- **C04_unlimited_stop_independent_of_fuel.**  No depth limit, the flag answers "cancelled" from poll number `k` on
(`cancelAt = some k`): for every root, generator state, incoming artifact and worker counts the search is the same for
every fuel `≥ k + 2`.  (Polls are counted globally; every iteration but the first starts with one, so at the top of
iteration `d` at least `d - 1` polls have happened and the read at the top of iteration `k + 1` says "cancelled".) -/
theorem C04_unlimited_stop_independent_of_fuel (root : State) (rng0 : Rng.ChaCha8) (art : Artifact)
    (workersOf : Nat → Nat) (k fuel : Nat) (h : k + 2 ≤ fuel) :
    iterate root rng0 Option.none art workersOf (some k) fuel =
      iterate root rng0 Option.none art workersOf (some k) (k + 2) := by
  rw [iterate_eq, iterate_eq, iterFinal_stop root rng0 art workersOf k Option.none fuel h]

/-- two fuels `≥ k + 2` give the same search -/
theorem C04_unlimited_stop_fuel_irrelevant (root : State) (rng0 : Rng.ChaCha8) (art : Artifact)
    (workersOf : Nat → Nat) (k f1 f2 : Nat) (h1 : k + 2 ≤ f1) (h2 : k + 2 ≤ f2) :
    iterate root rng0 Option.none art workersOf (some k) f1 = iterate root rng0 Option.none art workersOf (some k) f2 := by
  rw [C04_unlimited_stop_independent_of_fuel root rng0 art workersOf k f1 h1,
    C04_unlimited_stop_independent_of_fuel root rng0 art workersOf k f2 h2]

/-- **a visible Stop makes the depth limit irrelevant**: every depth limit `d ≥ k + 2` gives the search without depth
limit (the model's default fuel is 64: exact for every `k ≤ 62`) -/
theorem C04_stop_makes_depth_limit_irrelevant (root : State) (rng0 : Rng.ChaCha8) (art : Artifact)
    (workersOf : Nat → Nat) (k d fuel fuel' : Nat) (hd : k + 2 ≤ d) (hf : k + 2 ≤ fuel) :
    iterate root rng0 (some d) art workersOf (some k) fuel' = iterate root rng0 Option.none art workersOf (some k) fuel := by
  rw [C04_unlimited_stop_independent_of_fuel root rng0 art workersOf k fuel hf, iterate_eq, iterate_eq]
  rw [iterFinal_stop root rng0 art workersOf k (some d) fuel' hd]

/-- what the search hands out is reached one iteration earlier — `iterate` itself is the same for every fuel `≥ k + 1`: the
last boundary read only counts a poll -/
theorem C04_unlimited_stop_outcome_fuel (root : State) (rng0 : Rng.ChaCha8) (art : Artifact)
    (workersOf : Nat → Nat) (k fuel : Nat) (h : k + 1 ≤ fuel) :
    iterate root rng0 Option.none art workersOf (some k) fuel =
      iterate root rng0 Option.none art workersOf (some k) (k + 1) := by
  rcases Nat.eq_or_lt_of_le h with h | h
  · rw [h]
  · rw [C04_unlimited_stop_independent_of_fuel root rng0 art workersOf k fuel (by omega), iterate_eq, iterate_eq]
    have key : (iterFinal root rng0 Option.none art workersOf (some k) (k + 1)).events =
          (iterFinal root rng0 Option.none art workersOf (some k) (k + 2)).events ∧
        (iterFinal root rng0 Option.none art workersOf (some k) (k + 1)).tt =
          (iterFinal root rng0 Option.none art workersOf (some k) (k + 2)).tt ∧
        (iterFinal root rng0 Option.none art workersOf (some k) (k + 1)).panic =
          (iterFinal root rng0 Option.none art workersOf (some k) (k + 2)).panic := by
      by_cases h0 : legalMoves root = []
      · rw [iterFinal_nil h0, iterFinal_nil h0]
        exact ⟨rfl, rfl, rfl⟩
      · rw [iterFinal_of_moves h0, iterFinal_of_moves h0]
        exact iterLoop_fuel_outcome (iterCtx root art (some k)) k rfl root _ workersOf (k + 1) 0 (iterInit rng0 art)
          (Nat.zero_le _) (Nat.zero_le _) (Nat.le_add_left _ _)
    simp only [key.1, key.2.1, key.2.2]

/-- the bound `k + 2` is meaningful: it is below the model's default fuel for every Stop instant the correspondence
runs use (`k ≤ 6`) -/
example : ∀ k, k ≤ 62 → k + 2 ≤ 64 := by omega

/-! ## (b) Stop at an iteration boundary, and the total bound -/

/-- **C04_stop_ends_within_one_iteration.**  The loop is at the top of iteration `depth > 0` (state not finished), the
flag is visible (`cancelAt = some k`, `k ≤ polls`): the loop ends here, whatever the remaining depth budget — the read
of the flag is counted, nothing else changes: no worker is started, the node count, the events, the table, the
remembered move and evaluation and the generator are those of `st`. -/
theorem C04_stop_ends_within_one_iteration (ctx : Ctx) (k : Nat) (hk : ctx.cancelAt = some k) (root : State)
    (rootHash : UInt64) (workersOf : Nat → Nat) (n depth : Nat) (hd : 0 < depth) (st : IterSt)
    (hf : st.finished = false) (hp : k ≤ st.polls) :
    iterLoop ctx root rootHash workersOf (n + 1) depth st = { st with polls := st.polls + 1, finished := true } ∧
    loopWork ctx root rootHash workersOf (n + 1) depth st = 0 := by
  have hb := boundaryPoll_stops ctx k hk depth hd st hp
  refine ⟨?_, loopWork_stop ctx k hk root rootHash workersOf (n + 1) depth hd st hp⟩
  rw [iterLoop_boundary_stop ctx root rootHash workersOf n depth st hf (by rw [hb]), hb]

/-- the hypotheses are satisfiable -/
example : ∃ (ctx : Ctx) (k depth : Nat) (st : IterSt), ctx.cancelAt = some k ∧ 0 < depth ∧ st.finished = false ∧ k ≤ st.polls :=
  ⟨{ keys := { turn := fun _ => 0, piece := fun _ _ _ => 0, castle := fun _ _ => 0, epFile := fun _ => 0 },
     history := [], cancelAt := some 0 }, 0, 1, default, rfl, Nat.one_pos, rfl, Nat.zero_le _⟩

/-- **the ghost count is the engine's count**: for an iteration whose workers all returned (no interrupt, no panic)
the nodes counted by `iterWork` are exactly what `analyze_iterative` adds to `nodes_searched` -/
theorem C04_work_is_counted_nodes (ctx : Ctx) (root : State) (workers depth : Nat) (st : IterSt)
    (hi : (workersOut ctx root workers depth st).interrupted = false)
    (hp : (workersOut ctx root workers depth st).panic = Option.none) :
    iterWork ctx root workers depth st = (workersOut ctx root workers depth st).sumNodes := by
  have := workersWork_eq_sumNodes ctx root depth st.bestMv ((List.range workers).zip (drawSeeds workers st.rng).1)
    { tt := st.tt, polls := st.polls, evals := [], sumNodes := 0 } hi hp
  unfold iterWork workersOut
  rw [this]
  simp

/-- the defining equations of the ghost count: the control flow of `iterLoop` -/
theorem C04_loopWork_eq (ctx : Ctx) (root : State) (rootHash : UInt64) (workersOf : Nat → Nat) (n depth : Nat)
    (st : IterSt) :
    loopWork ctx root rootHash workersOf 0 depth st = 0 ∧
    loopWork ctx root rootHash workersOf (n + 1) depth st =
      (if st.finished then 0
       else if (boundaryPoll ctx depth st).finished then 0
       else iterWork ctx root (workersOf depth) depth (boundaryPoll ctx depth st) +
        loopWork ctx root rootHash workersOf n (depth + 1)
          (iterStep ctx root rootHash (workersOf depth) depth (boundaryPoll ctx depth st))) :=
  ⟨rfl, rfl⟩

/-- **C04_stop_total_bound.**  `st` is the state the workers of iteration `depth` are started from, `l1 ++ l2` the
workers of this iteration in the order they are run.  If Stop is visible once the workers `l1` have run
(`k ≤ polls` — `l1 = []`: visible at the start of the iteration), then everything counted from there on — the
workers `l2` AND all later iterations, whatever the remaining depth budget — is at most `|l2| × 10000` nodes. -/
theorem C04_stop_total_bound (ctx : Ctx) (k : Nat) (hk : ctx.cancelAt = some k) (root : State) (rootHash : UInt64)
    (workersOf : Nat → Nat) (n depth : Nat) (st : IterSt) (l1 l2 : List (Nat × UInt64))
    (hl : (List.range (workersOf depth)).zip (drawSeeds (workersOf depth) st.rng).1 = l1 ++ l2)
    (hv : k ≤ (runWorkers ctx root depth st.bestMv l1 { tt := st.tt, polls := st.polls, evals := [], sumNodes := 0 }).polls) :
    workersWork ctx root depth st.bestMv l2
        (runWorkers ctx root depth st.bestMv l1 { tt := st.tt, polls := st.polls, evals := [], sumNodes := 0 }) +
      loopWork ctx root rootHash workersOf n (depth + 1) (iterStep ctx root rootHash (workersOf depth) depth st)
    ≤ l2.length * Gen.pollInterval := by
  have h1 := workersWork_stop_bound ctx k hk root depth st.bestMv l2 _ hv
  have h2 : loopWork ctx root rootHash workersOf n (depth + 1) (iterStep ctx root rootHash (workersOf depth) depth st) = 0 := by
    rcases iterStep_finished_or_polls ctx root rootHash (workersOf depth) depth st with hf | hpq
    · exact loopWork_finished _ _ _ _ _ _ _ hf
    · -- the next boundary read ends the loop
      refine loopWork_stop ctx k hk root rootHash workersOf n (depth + 1) (Nat.succ_pos _) _ ?_
      rw [hpq]
      unfold workersOut
      rw [hl, runWorkers_append]
      exact Nat.le_trans hv (runWorkers_polls_mono ctx root depth st.bestMv l2 _)
  omega

/-- **Stop before the first iteration** (`cancelAt = some k`, `k ≤ polls` at the start; `k = 0`: every poll says
"cancelled"): the first iteration is run — the flag is not read before it, so that there is a move to report —, each of
its workers counts at most 10000 nodes, and nothing is searched afterwards: at most `workersOf 0 × 10000` nodes in the
whole search. -/
theorem C04_stop_total_bound_first (ctx : Ctx) (k : Nat) (hk : ctx.cancelAt = some k) (root : State) (rootHash : UInt64)
    (workersOf : Nat → Nat) (n : Nat) (st : IterSt) (hp : k ≤ st.polls) :
    loopWork ctx root rootHash workersOf n 0 st ≤ workersOf 0 * Gen.pollInterval := by
  cases n with
  | zero => exact Nat.zero_le _
  | succ n =>
    rw [(C04_loopWork_eq ctx root rootHash workersOf n 0 st).2, boundaryPoll_zero]
    split
    · exact Nat.zero_le _
    · have := C04_stop_total_bound ctx k hk root rootHash workersOf n 0 st []
        ((List.range (workersOf 0)).zip (drawSeeds (workersOf 0) st.rng).1) rfl hp
      have hlen : ((List.range (workersOf 0)).zip (drawSeeds (workersOf 0) st.rng).1).length ≤ workersOf 0 := by
        rw [List.length_zip, List.length_range]; exact Nat.min_le_left _ _
      have hmul := Nat.mul_le_mul_right Gen.pollInterval hlen
      unfold iterWork
      exact Nat.le_trans this hmul

/-- the hypotheses of `C04_stop_total_bound` are satisfiable (Stop visible at the start of an iteration, `l1 = []`) -/
example (ctx : Ctx) (root : State) (depth : Nat) (st : IterSt) (k : Nat) (h : k ≤ st.polls) (workers : Nat) :
    ∃ l1 l2, (List.range workers).zip (drawSeeds workers st.rng).1 = l1 ++ l2 ∧
      k ≤ (runWorkers ctx root depth st.bestMv l1 { tt := st.tt, polls := st.polls, evals := [], sumNodes := 0 }).polls :=
  ⟨[], _, rfl, h⟩

/-! ### racing workers -/

/-- **C04_stop_total_bound_any_schedule.**  The workers `ws` of one iteration race under ANY interleaving `H` of their
table operations (no admissibility assumed).  If Stop is visible to each of them from its start (`k ≤ w.polls`), the
joined node count — the sum of ALL workers' counters — is at most `|ws| × 10000`. -/
theorem C04_stop_total_bound_any_schedule (ctx : Ctx) (k : Nat) (hk : ctx.cancelAt = some k) (root : State)
    (tt : TT.Access) (ws : List Worker) (H : History) (polls : Nat) (hp : ∀ w ∈ ws, k ≤ w.polls) :
    (joinOf ctx root tt ws H polls).sumNodes ≤ ws.length * Gen.pollInterval := by
  unfold joinOf
  simp only []
  generalize houts : ((List.range ws.length).filterMap fun i => ws[i]?.map fun w => runWorkerE (envOf H i) ctx root w tt) = outs
  have hlen : outs.length ≤ ws.length := by
    rw [← houts]
    exact Nat.le_trans (List.length_filterMap_le _ _) (by rw [List.length_range]; exact Nat.le_refl _)
  have hb : ∀ o ∈ outs, o.2.1.nodes ≤ Gen.pollInterval := by
    intro o ho
    rw [← houts, List.mem_filterMap] at ho
    obtain ⟨i, _, hi⟩ := ho
    cases hw : ws[i]? with
    | none => rw [hw] at hi; cases hi
    | some w =>
      rw [hw] at hi
      simp only [Option.map_some, Option.some.injEq] at hi
      subst hi
      have hmem : w ∈ ws := List.mem_of_getElem? hw
      rcases C04_stop_bound_any_env (envOf H i) ctx k hk root w tt (hp w hmem) with h | h
      · exact Nat.le_of_eq h.2
      · exact Nat.le_of_lt h.2
  exact Nat.le_trans (TT.sum_map_le _ _ outs hb) (Nat.mul_le_mul_right _ hlen)

/-- under any schedule a boundary read that says "cancelled" ends the loop: from an unfinished state at the top of
iteration `depth > 0`, with the flag read at a poll number `p ≥ k`, the stopped state is a `LoopS`-outcome by the
constructor `LoopS.stopped`, which runs no `StepS`.  (That it is the only outcome for this `p` — `LoopS.step` asks for
the opposite answer of the same read — is not part of the statement.) -/
theorem C04_stop_boundary_any_schedule (ctx : Ctx) (k : Nat) (hk : ctx.cancelAt = some k) (root : State)
    (rootHash : UInt64) (workersOf : Nat → Nat) (n depth : Nat) (hd : 0 < depth) (st : IterSt)
    (hf : st.finished = false) (p : Nat) (hp : k ≤ p) :
    LoopS ctx root rootHash workersOf (n + 1) depth st { st with polls := p + 1, finished := true } := by
  have hb := boundaryPoll_stops ctx k hk depth hd { st with polls := p } hp
  have := LoopS.stopped (ctx := ctx) (root := root) (rootHash := rootHash) (workersOf := workersOf) n depth st p hf
    (by rw [hb])
  rw [hb] at this
  exact this

/-! ## (c) the witness of F11: the loop before the repair never reads the flag, the repaired loop stops at once

Root `8/8/8/8/8/8/8/K1k5 w - - 0 1` (White: Ka1; Black: Kc1; the only legal move is Ka2), the key of the successor
`8/8/8/8/8/8/K7/2k5 b - - 1 1` in the artifact's history, one worker, no depth limit, Stop sent before the search
starts (`cancelAt = some 0`: every read of the flag says "cancelled").  Definitions and the symbolic execution of one
iteration (for EVERY depth, generator state and cancellation instant): `Wee/Proofs/StopLemmas.lean`, namespace `F11`.
The same request on the real code (harness `stopseq`, and `search <seed> - 1 0 … 1 8/8/8/8/8/8/K7/2k5_b_-_-_1_1
8/8/8/8/8/8/8/K1k5 w - - 0 1`): the unrepaired tree does not join 20 s after Stop, the repaired one reports one
iteration — as the model. -/

namespace F11

/-- **the deepening loop of `analyze_iterative` as it was BEFORE the repair of F11** (`iterLoop` without the read of
the flag at the top of the loop body; this is the text `iterLoop` had, and the code `searcher.rs` had, before F11) -/
def iterLoopOld (ctx : Ctx) (root : State) (rootHash : UInt64) (workersOf : Nat → Nat) :
    Nat → Nat → IterSt → IterSt
  | 0, _, st => st
  | n+1, depth, st =>
    if st.finished then st
    else iterLoopOld ctx root rootHash workersOf n (depth + 1) (iterStep ctx root rootHash (workersOf depth) depth st)

/-- the artifact of the witness: toy keys (the hash is the side to move), a fresh 1 × 1 table, the successor recorded -/
def wArt : Artifact := { keys := wKeys, tt := TT.Access.new 1 1, history := [Wee.hash wKeys.keys wSucc] }

/-- the search starts in the invariant -/
theorem w_init (rng0 : Rng.ChaCha8) : WInv 0 (iterInit rng0 wArt) := ⟨rfl, rfl, rfl, rfl, rfl, rfl, rfl⟩

/-- `wCtx c` and `iterInit rng0 wArt` are the context and the initial loop state of `iterate wRoot rng0 _ wArt _ c` -/
example (c : Option Nat) (rng0 : Rng.ChaCha8) :
    iterCtx wRoot wArt c = wCtx c ∧ WInv 0 (iterInit rng0 wArt) ∧ legalMoves wRoot = [(wMove, wSucc)] :=
  ⟨rfl, w_init rng0, w_legal⟩

/-- the invariant of the witness search through the OLD loop: by induction on the number of iterations -/
theorem old_loop_inv (c : Option Nat) (rootHash : UInt64) :
    ∀ (n d : Nat) (st : IterSt), WInv d st →
      WInv (d + n) (iterLoopOld (wCtx c) wRoot rootHash (fun _ => 1) n d st) := by
  intro n
  induction n with
  | zero => intro d st h; exact h
  | succ n ih =>
    intro d st h
    rw [iterLoopOld, if_neg (by rw [h.fin]; decide)]
    have := ih (d + 1) _ (w_iterStep c rootHash d st h)
    rw [show d + (n + 1) = d + 1 + n by omega]
    exact this

/-- **C04_F11_old_loop_never_stops.**  Before the repair: on the witness, with Stop visible from the very first poll
(`cancelAt = some 0`), the loop runs ALL `n` iterations for EVERY `n` — `n` `Progress` events, `3n - 1` nodes, not a
single read of the flag (`polls = 0`), not finished, no panic.  With `for depth in 0..usize::MAX` the search thread
never returns after Stop. -/
theorem C04_F11_old_loop_never_stops (rng0 : Rng.ChaCha8) (n : Nat) :
    let st := iterLoopOld (wCtx (some 0)) wRoot (Wee.hash wKeys.keys wRoot) (fun _ => 1) n 0 (iterInit rng0 wArt)
    progressCount st.events = n ∧ st.polls = 0 ∧ st.finished = false ∧ st.panic = Option.none ∧
    st.nodes = if n = 0 then 0 else 3 * n - 1 := by
  intro st
  have h := old_loop_inv (some 0) (Wee.hash wKeys.keys wRoot) n 0 (iterInit rng0 wArt) (w_init rng0)
  rw [Nat.zero_add] at h
  exact ⟨h.prog, h.polls, h.fin, h.panic, h.nodes⟩

/-- the nodes counted in iteration `d` of the witness search -/
theorem w_iterWork (c : Option Nat) (d : Nat) (st : IterSt) (h : WInv d st) :
    iterWork (wCtx c) wRoot 1 d st = if d = 0 then 2 else 3 := by
  unfold iterWork
  rw [Search.drawSeeds_one, show (List.range 1).zip [(Rng.nextU64 st.rng).1] = [(0, (Rng.nextU64 st.rng).1)] from rfl,
    workersWork_cons, if_neg (by exact Bool.false_ne_true), w_workerRun c d st h]
  rfl

/-- with Stop visible from the first poll, the boundary read after the first iteration ends the witness search; the
state after that iteration is a variable known through `WInv` only, so that nothing here runs the iteration -/
theorem w_boundary (rootHash : UInt64) (m : Nat) (s1 : IterSt) (h1 : WInv 1 s1) :
    let st := iterLoop (wCtx (some 0)) wRoot rootHash (fun _ => 1) (m + 1) 1 s1
    progressCount st.events = 1 ∧ st.polls = 1 ∧ st.finished = true ∧ st.panic = Option.none ∧ st.nodes = 2 := by
  intro st
  have hst : st = _ := (C04_stop_ends_within_one_iteration (wCtx (some 0)) 0 rfl wRoot rootHash (fun _ => 1) m 1
    Nat.one_pos s1 h1.fin (Nat.zero_le _)).1
  rw [hst]
  exact ⟨h1.prog, congrArg (· + 1) h1.polls, rfl, h1.panic, h1.nodes⟩

/-- **C04_F11_repaired_loop_stops.**  After the repair, same search: whatever the iteration budget `n ≥ 2`, the loop
runs the first iteration (2 nodes, one `Progress` event), reads the flag at the top of the
second and ends. -/
theorem C04_F11_repaired_loop_stops (rng0 : Rng.ChaCha8) (n : Nat) (hn : 2 ≤ n) :
    let st := iterLoop (wCtx (some 0)) wRoot (Wee.hash wKeys.keys wRoot) (fun _ => 1) n 0 (iterInit rng0 wArt)
    progressCount st.events = 1 ∧ st.polls = 1 ∧ st.finished = true ∧ st.panic = Option.none ∧ st.nodes = 2 ∧
    loopWork (wCtx (some 0)) wRoot (Wee.hash wKeys.keys wRoot) (fun _ => 1) n 0 (iterInit rng0 wArt) = 2 := by
  obtain ⟨m, rfl⟩ : ∃ m, n = m + 1 + 1 := ⟨n - 2, by omega⟩
  intro st
  have hf : ¬ (iterInit rng0 wArt).finished = true := by rw [(w_init rng0).fin]; decide
  have hst : st = iterLoop (wCtx (some 0)) wRoot (Wee.hash wKeys.keys wRoot) (fun _ => 1) (m + 1) 1
      (iterStep (wCtx (some 0)) wRoot (Wee.hash wKeys.keys wRoot) 1 0 (iterInit rng0 wArt)) := by
    show iterLoop _ _ _ _ (m + 1 + 1) 0 _ = _
    rw [iterLoop_succ, boundaryPoll_zero, if_neg hf, if_neg hf]
  rw [hst]
  obtain ⟨a, b, c, d, e⟩ := w_boundary _ m _ (w_iterStep (some 0) _ 0 _ (w_init rng0))
  refine ⟨a, b, c, d, e, ?_⟩
  rw [(C04_loopWork_eq _ _ _ _ (m + 1) 0 _).2, boundaryPoll_zero, if_neg hf, if_neg hf,
    loopWork_stop (wCtx (some 0)) 0 rfl _ _ _ _ 1 Nat.one_pos _ (Nat.zero_le _), Nat.add_zero]
  -- the first iteration: one worker, 2 nodes
  exact w_iterWork (some 0) 0 _ (w_init rng0)

/-- the same as a statement about `iterate` (the function compared event by event with the engine): without a depth
limit, Stop before the start, any fuel `≥ 2` — exactly one iteration is reported, no panic -/
theorem C04_F11_iterate_stops (rng0 : Rng.ChaCha8) (fuel : Nat) (hf : 2 ≤ fuel) :
    progressCount (iterate wRoot rng0 Option.none wArt (fun _ => 1) (some 0) fuel).events = 1 ∧
    (iterate wRoot rng0 Option.none wArt (fun _ => 1) (some 0) fuel).panic = Option.none := by
  have h := C04_F11_repaired_loop_stops rng0 fuel hf
  simp only [] at h
  rw [iterate_eq, iterFinal_of_moves (by rw [w_legal]; exact List.cons_ne_nil _ _)]
  dsimp only
  refine ⟨?_, h.2.2.2.1⟩
  split
  · rw [progressCount_append]
    exact congrArg (· + 0) h.1
  · exact h.1

end F11

end Wee.SearchCtl
