import Wee.Proofs.EvalLemmas
import Wee.Proofs.ShortcutSound
import Wee.Proofs.EvalFast
/-!
# C05 — no-move positions score as mate or draw; others never as mate

Rust: `weechess-engine/src/eval/mod.rs` (`Evaluator::evaluate`, `Evaluation::{mate_in_ply,
is_terminal, POS_INF, NEG_INF}`), after the repair of defect F3 (`if !king_has_move ||
state.is_check()`).  Model: `Wee/Model/Eval.lean` (`evaluate`, `kingHasMove`, `Ev.mateInPly`,
`Ev.isTerminal`), `Wee/Model/MoveGen.lean` (`legalMoves?`), `Wee/Model/Board.lean` (`State.isCheck`).

The statements are at model level and *relative to the model's move generator* (`legalMoves? s`
is `MoveGenerator::compute_legal_moves`; that it is the rules of chess is C01).

* `C05_mono` and friends: arithmetic of the mate score; the only hypothesis is `d' < 2^31` of the monotonicity
  (needed: `C05_mono_wrap_counterexample`).
* `C05_mate`: no hypotheses besides "no legal move, in check" (since F3 is repaired the full
  generator is always consulted when the side to move is in check).
* `C05_stalemate`: needs the soundness of the `king_has_move` shortcut for positions NOT in check,
  `ShortcutSoundNoCheck s`; `C05_shortcut_sound` proves it from the ray lemmas (C09) for every
  placement without stacked pieces, giving `C05_stalemate_closed`.
* `C05_nonterminal_branch`: a position with a legal move always gets the heuristic score, clamped to
  `[NEG_INF + 1, POS_INF - 1]` since the repair of defect F10 (`clampHeuristic`);
  `C05_nonterminal_partial`: that score is non-terminal when `|material| + positional < 10000`
  (needed before the repair of F10, not since: `C05_nonterminal_unconditional`, `C05_all` in
  `Wee/Props/Clamped.lean`).
* `C05_nonterminal_statement`: the clause with the constant bound `|material| < 9000`, proved in
  `Wee/Props/C05Closed.lean`.
-/
namespace Wee.C05
open Gen

/-! ## the mate score -/

/-- **C05_mono (a).**  `POS_INF ≤ mate_in_ply d` for every `d : usize` (wrap included). -/
theorem C05_mono_ge (d : Nat) : Ev.posInf ≤ Ev.mateInPly d := Ev.posInf_le_mateInPly d

/-- **C05_mono (b).**  Mate scores never increase with ply: `d ≤ d' < 2^31` ⇒
`mate_in_ply d' ≤ mate_in_ply d`.  (For `d' ≥ 2^31` the cast `ply as i32` goes negative and the
"bonus" grows: `C05_mono_wrap_counterexample`; unreachable, plies are bounded by the search depth.) -/
theorem C05_mono_le {d d' : Nat} (h : d ≤ d') (h' : d' < 2^31) : Ev.mateInPly d' ≤ Ev.mateInPly d := by
  rw [mateInPly_eq, mateInPly_eq, plyAsI32_small h', plyAsI32_small (by omega)]
  show (10000 : Int) + _ ≤ 10000 + _; omega

/-- strictly faster mates within the bonus window score strictly higher -/
theorem C05_mono_lt {d d' : Nat} (h : d < d') (h' : d' ≤ 10) : Ev.mateInPly d' < Ev.mateInPly d := by
  rw [mateInPly_eq, mateInPly_eq, plyAsI32_small (by omega), plyAsI32_small (by omega)]
  show (10000 : Int) + _ < 10000 + _; omega

/-- **C05_mono**: (a) and (b) together. -/
theorem C05_mono (d d' : Nat) :
    Ev.posInf ≤ Ev.mateInPly d ∧ (d ≤ d' → d' < 2^31 → Ev.mateInPly d' ≤ Ev.mateInPly d) :=
  ⟨C05_mono_ge d, C05_mono_le⟩

/-- the hypothesis `d' < 2^31` of `C05_mono_le` cannot be dropped on a 64-bit target -/
theorem C05_mono_wrap_counterexample : ¬ (Ev.mateInPly (2^31) ≤ Ev.mateInPly 0) := by decide

/-- concrete values: mate now = 11000, mate in 3 plies = 10700, beyond 10 plies = `POS_INF` -/
example : Ev.mateInPly 0 = 11000 ∧ Ev.mateInPly 3 = 10700 ∧ Ev.mateInPly 10 = 10000 ∧
    Ev.mateInPly 57 = 10000 ∧ Ev.posInf = 10000 ∧ Ev.negInf = -10000 := by decide

/-- mate scores are terminal, from both perspectives -/
theorem C05_mate_terminal (d : Nat) :
    Ev.isTerminal (Ev.mateInPly d) = true ∧ Ev.isTerminal (-(Ev.mateInPly d)) = true := by
  have h : (10000 : Int) ≤ Ev.mateInPly d := C05_mono_ge d
  exact ⟨Ev.isTerminal_iff.2 (.inr h), Ev.isTerminal_iff.2 (.inl (by eomega))⟩

/-- the draw score is not terminal -/
theorem C05_even_not_terminal : Ev.isTerminal 0 = false := by decide

/-! ## mate and stalemate -/

/-- **C05_mate.**  The side to move is in check and `compute_legal_moves` returns no move ⇒
`evaluate` returns `-mate_in_ply(depth)` from the side to move's perspective and
`+mate_in_ply(depth)` from the opponent's, for every depth.  No other hypothesis: the repaired
guard `!king_has_move || is_check` is entered whenever the side to move is in check, and a checked
king exists (so `first_square().unwrap()` cannot panic). -/
theorem C05_mate (s : State) (c : Color) (d : Nat)
    (hno : legalMoves? s = some []) (hchk : s.isCheck = true) :
    evaluate s c d = some (if s.turn = c then - Ev.mateInPly d else Ev.mateInPly d) := by
  -- a checked king exists
  have hk : ∃ khm, kingHasMove s = some khm := by
    cases hk : kingHasMove s with
    | some khm => exact ⟨khm, rfl⟩
    | none =>
      unfold State.isCheck isCheckB at hchk
      rw [(kingHasMove_eq_none_iff s).1 hk] at hchk
      simp [bbAny] at hchk
  obtain ⟨khm, hk⟩ := hk
  rw [evaluate_of_moves hk (by rw [hchk, Bool.or_true]) hno, hchk, List.isEmpty_nil, terminalOr_mate]
  simp only [beq_iff_eq]

/-- **Shortcut soundness off check** — what `C05_stalemate` needs from the `king_has_move`
shortcut.  In words: if the side to move is NOT in check and its king has a neighbour square that
is empty and not in the opponent's attack map (`Board::colored_attacks(!turn)`, computed with the
king on the board), then `compute_legal_moves` returns at least one move.
It is FALSE without `¬ isCheck` — defect F3 of the pinned tree: on
`3R2k1/5ppp/8/8/8/8/8/4K3 b` the model computes `kingHasMove = some true`, `isCheck = true`,
`legalMoves? = some []` (`#eval`; the kernel needs minutes per rook look-up, so it is not a
`decide` example here).  It is PROVED below for every placement without stacked pieces
(`C05_shortcut_sound`). -/
def ShortcutSoundNoCheck (s : State) : Prop :=
  s.isCheck = false → kingHasMove s = some true → legalMoves? s ≠ some []

/-- **C05_shortcut_sound.**  `ShortcutSoundNoCheck` holds for every state whose twelve piece
bitboards are pairwise disjoint (`DisjointBoard`, the hypothesis of C10; true of every board built
from a mailbox and preserved by moves).  Proof: the king step `k → t` is generated
(`compute_king_moves`), performed, and `try_as_legal_move` keeps it: by C09 the opponent's attack
set after the step can contain a king square only if it contained that square, `k` or `t` before
— and none of these was attacked (not in check; `t` outside the attack map). -/
theorem C05_shortcut_sound (s : State) (hd : C10.DisjointBoard s.pieces) : ShortcutSoundNoCheck s :=
  fun hchk hkhm => shortcut_sound_no_check s hd hchk hkhm

/-- **C05_stalemate.**  The side to move is not in check and `compute_legal_moves` returns no
move ⇒ `evaluate` returns exactly `Evaluation::EVEN` from both perspectives.  Hypotheses: the side
to move has a king (`kingHasMove s ≠ none`; without one the Rust code panics) and
`ShortcutSoundNoCheck s`. -/
theorem C05_stalemate (s : State) (c : Color) (d : Nat)
    (hno : legalMoves? s = some []) (hchk : s.isCheck = false)
    (hking : kingHasMove s ≠ none) (hsound : ShortcutSoundNoCheck s) :
    evaluate s c d = some 0 := by
  cases hk : kingHasMove s with
  | none => exact absurd hk hking
  | some khm =>
    cases khm with
    | true => exact absurd hno (hsound hchk hk)
    | false => rw [evaluate_of_moves hk rfl hno, hchk, List.isEmpty_nil, terminalOr_stalemate]

/-- **C05_stalemate_closed.**  No hypothesis on the shortcut left: on a placement without stacked
pieces, with a king of the side to move on the board, "not in check and `compute_legal_moves`
empty" ⇒ `evaluate` returns `Evaluation::EVEN`, from both perspectives, at every depth. -/
theorem C05_stalemate_closed (s : State) (c : Color) (d : Nat) (hd : C10.DisjointBoard s.pieces)
    (hno : legalMoves? s = some []) (hchk : s.isCheck = false) (hking : kingHasMove s ≠ none) :
    evaluate s c d = some 0 :=
  C05_stalemate s c d hno hchk hking (C05_shortcut_sound s hd)

/-! ### non-vacuity: a knight mate and a pawn stalemate (no sliders, so the kernel can run the
move generator without building magic tables) -/

/-- `6nk/5Npp/8/8/8/8/8/K7 b - - 0 1`: Black is mated by the knight on f7 -/
def mateS : State :=
  { pieces := { wk := 0x1, wn := 0x0020000000000000, bk := 0x8000000000000000, bn := 0x4000000000000000,
                bp := 0x00C0000000000000 },
    turn := .black, castleW := .noRights, castleB := .noRights, ep := none, halfmove := 0, fullmove := 1 }

/-- `k7/P7/1K6/8/8/8/8/8 b - - 0 1`: Black is stalemated -/
def staleS : State :=
  { pieces := { wk := 0x0000020000000000, wp := 0x0001000000000000, bk := 0x0100000000000000 },
    turn := .black, castleW := .noRights, castleB := .noRights, ep := none, halfmove := 0, fullmove := 1 }

theorem mateS_moves : legalMoves? mateS = some [] := by rw [legalMoves?_fast]; decide +kernel
theorem staleS_moves : legalMoves? staleS = some [] := by rw [legalMoves?_fast]; decide +kernel

/-- the hypotheses of `C05_mate` hold for `mateS`; the conclusion computed directly -/
example : legalMoves? mateS = some [] ∧ mateS.isCheck = true ∧
    evaluate mateS .black 3 = some (-10700) ∧ evaluate mateS .white 3 = some 10700 :=
  ⟨mateS_moves, by simp only [isCheck_fast, evaluate_fast]; decide +kernel⟩

/-- the hypotheses of `C05_stalemate` hold for `staleS` (the shortcut says "no king move", so
`ShortcutSoundNoCheck` holds vacuously there); the conclusion computed directly -/
example : legalMoves? staleS = some [] ∧ staleS.isCheck = false ∧ kingHasMove staleS = some false ∧
    evaluate staleS .black 3 = some 0 ∧ evaluate staleS .white 3 = some 0 :=
  ⟨staleS_moves, by simp only [isCheck_fast, kingHasMove_fast, evaluate_fast]; decide +kernel⟩
example : C10.DisjointBoard staleS.pieces ∧ kingHasMove staleS ≠ none := by decide +kernel
/-- `4k3/8/8/8/8/8/4P3/4K3 w - - 0 1`: a quiet position with king moves -/
def quietS : State :=
  { pieces := { wk := 0x10, wp := 0x1000, bk := 0x1000000000000000 },
    turn := .white, castleW := .noRights, castleB := .noRights, ep := none, halfmove := 0, fullmove := 1 }

/-- a non-vacuous instance of `ShortcutSoundNoCheck`: not in check, the shortcut fires, and the
generator does return moves -/
example : quietS.isCheck = false ∧ kingHasMove quietS = some true ∧ ShortcutSoundNoCheck quietS ∧
    C10.DisjointBoard quietS.pieces := by
  refine ⟨by rw [isCheck_fast]; decide +kernel, by rw [kingHasMove_fast]; decide +kernel,
    fun _ _ => by rw [legalMoves?_fast]; decide +kernel, by decide +kernel⟩

/-! ## positions with a legal move -/

/-- **C05_nonterminal_branch** (structural part of `C05_nonterminal`).  If `compute_legal_moves`
returns at least one move (and the side to move has a king), `evaluate` returns the heuristic
weighted sum, clamped to `[NEG_INF + 1, POS_INF - 1]` since the repair of defect F10
(`eval.clamp(..)` at the end of `Evaluator::evaluate`) — whether or not the `king_has_move`
shortcut fired, in check or not. -/
theorem C05_nonterminal_branch (s : State) (c : Color) (d : Nat) (m : Move × State)
    (ms : List (Move × State)) (hm : legalMoves? s = some (m :: ms)) (hking : kingHasMove s ≠ none) :
    evaluate s c d = some (clampHeuristic (evalHeuristic (Variation.of s) c)) := by
  cases hk : kingHasMove s with
  | none => exact absurd hk hking
  | some khm =>
    rw [evaluate_eq, hk, hm]
    exact ite_self _

/-- term-by-term bound: `|score| ≤ |material| + |Δ piece-square| + |Δ king-edge| + |Δ pawns|`
(every weight has modulus ≤ 1 and `x ↦ (x as f32 * w) as i32` does not increase the modulus). -/
theorem C05_heuristic_bound (s : State) (c : Color) :
    (evalHeuristic (Variation.of s) c).natAbs ≤ (materialDiff s c).natAbs + positionalDiff s c :=
  evalHeuristic_natAbs_le s c

/-- **C05_nonterminal_partial.**  A position with a legal move whose material difference plus
positional differences stays below `POS_INF = 10000` gets a non-terminal score (and the clamp of
F10's repair does not change it: `clampHeuristic_id`).  Since the repair the hypothesis `hb` is
redundant: `C05_nonterminal_unconditional` (`Wee/Props/Clamped.lean`).  `hb` does not follow from a bound on the
material alone by the term-by-term estimate: the only unconditional bound on the positional part is the crude
`positionalDiff ≤ 1497600 + 2280 + 720` of `C13_evaluator_bounds` (an arbitrary `State` may hold 64 pieces of each
kind); `C05_nonterminal` (`Wee/Props/C05Closed.lean`) couples position and material instead. -/
theorem C05_nonterminal_partial (s : State) (c : Color) (d : Nat) (m : Move × State)
    (ms : List (Move × State)) (hm : legalMoves? s = some (m :: ms)) (hking : kingHasMove s ≠ none)
    (hb : (materialDiff s c).natAbs + positionalDiff s c < 10000) :
    ∃ e, evaluate s c d = some e ∧ Ev.isTerminal e = false := by
  refine ⟨_, C05_nonterminal_branch s c d m ms hm hking, ?_⟩
  have h := C05_heuristic_bound s c
  rw [clampHeuristic_id_natAbs (by omega)]
  exact Ev.isTerminal_eq_false (by eomega) (by eomega)

/-- the hypotheses of `C05_nonterminal_partial` hold for `quietS` (score 125 = pawn 100 + 25) -/
example : (∃ m ms, legalMoves? quietS = some (m :: ms)) ∧ kingHasMove quietS ≠ none ∧
    (materialDiff quietS .white).natAbs + positionalDiff quietS .white < 10000 ∧
    evaluate quietS .white 0 = some 125 := by
  refine ⟨?_, by rw [kingHasMove_fast]; decide +kernel, by rw [termBound_fast]; decide +kernel,
    by rw [evaluate_fast]; decide +kernel⟩
  have h : ((legalMoves? quietS).bind List.head?).isSome = true := by rw [legalMoves?_fast]; decide +kernel
  cases hl : legalMoves? quietS with
  | none => rw [hl] at h; cases h
  | some l =>
    cases l with
    | nil => rw [hl] at h; cases h
    | cons m ms => exact ⟨m, ms, rfl⟩

/-- **Full statement of `C05_nonterminal`** as in DESIGN.md, proved as `C05_nonterminal` in
`Wee/Props/C05Closed.lean`.  It does not follow from `C05_nonterminal_partial`: that would need
`positionalDiff s c ≤ 10000 - 9000 = 1000` for positions with one king and at most 16 men a side, and the
piece-square sums alone can reach `0.8 · 2 · 15 · 50 = 1200`; the proof bounds `score - 0.95·material` instead
(`Wee/Proofs/EvalBound.lean`, with the sharp range of `end_game_weight` in place of the crude `|egw| ≤ 19` used here).
The threshold is there because the unclamped heuristic sum is unbounded in the material: eleven queens against a
bare king give 10020 (`C05_unbounded_example`, `Wee/Props/C05Closed.lean`).  Since the repair of F10 — the heuristic result is
clamped — the statement holds without the material and men hypotheses: `C05_nonterminal_all` in
`Wee/Props/Clamped.lean`. -/
def C05_nonterminal_statement : Prop :=
  ∀ (s : State) (c : Color) (d : Nat), OneKingEach s → (∀ c, (Piece.all.map (pieceCount s c)).sum ≤ 16) →
    (∃ m ms, legalMoves? s = some (m :: ms)) → (materialDiff s c).natAbs < 9000 →
    ∃ e, evaluate s c d = some e ∧ Ev.isTerminal e = false

end Wee.C05
