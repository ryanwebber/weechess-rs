import Wee.Proofs.EvalBound
import Wee.Proofs.PieceCounts
import Wee.Props.C05
import Wee.Props.C06Complete
/-!
# C05 closed: the non-terminal clause with a constant material bound; C06's `TreeBounded` from the root

Rust: `weechess-engine/src/eval/mod.rs` (`Evaluator::evaluate`, the weighted sum over `EVALUATORS`),
`eval/evaluate_piece_worths.rs`, `evaluate_piece_squares.rs`, `evaluate_force_king_to_edge.rs`,
`evaluate_bad_pawns.rs`.  Model: `Wee/Model/Eval.lean`.  Lemmas: `Wee/Proofs/EvalBound.lean`.

## A — `C05_nonterminal`

`Wee/Props/C05.lean` states `C05_nonterminal_statement`: *a position with one king and at most 16 men a side,
a legal move and `|material| < 9000` never gets a terminal (mate) score*.  The term-by-term bound of
`C05_heuristic_bound` cannot give it (the positional terms alone can exceed 1000); the bound has to couple
position and material:

* `C05_positional_bound` — `|score - 0.95·material| ≤ 1450` for every position with one king and at most 16 men a
  side, *without* any hypothesis on the material.  Each own man is worth at most `0.05·worth + 0.8·max(table)`
  (`≤ 49`, a queen), each enemy man at most `-0.05·worth + 0.8·max(-table)` (`≤ 25`, a knight in the corner); what
  the kings, king-to-the-edge and the pawn structure add is controlled through the end-game weight, which is a
  function of `k = 6·pawns + 16·queens + occupied squares` (`Wee.squares_kingedge`: weight `> 0` only if `k < 160`,
  weight `≤ 0` only if `k ≥ 159`).
* `C05_nonterminal : C05_nonterminal_statement` — the full statement, threshold 9000 as in DESIGN.md:
  `0.95·8999 + 1450 < 10000`.

Before the repair of defect F10 the material hypothesis could not be dropped (`C05_unbounded_example`: eleven queens
against a bare king, a position with 107 legal moves, heuristic sum 10020 — then also the value of `evaluate`, replayed on
the real evaluator through the harness, `eval w 0 <fen>` = 10020).  Since the repair (`eval.clamp(NEG_INF + 1, POS_INF - 1)`
on the heuristic result) `evaluate` returns 9999 there (`C05_unbounded_example_repaired`) and the clause holds for every
position (`C05_nonterminal_all`, `C05_all` in `Wee/Props/Clamped.lean`); `C05_nonterminal` remains true as stated and
also says that on its domain the clamp is the identity.
The constant 1450 is not sharp: maximising the same per-kind bounds over all piece counts numerically gives 1412.

## B — `TreeBounded_of_potential`

`TreeBounded root` (every position reachable by legal moves satisfies `MaterialBounded`, i.e. the term-by-term bound
`|Δworths| + |Δsquares| + |Δking-edge| + |Δpawns| < 10000` with all weights 1) is a hypothesis of the C06 / C17
theorems of `Wee/Props/C06.lean`, `C06Complete.lean` (redundant with the clamp of F10: the `_all` theorems of
`Wee/Props/Clamped.lean` do without it).  It follows from a condition decidable on the root alone:

* `RootBounded s` := each side has at most 16 men and a promotion potential
  `phi s c = 900·pawns + 300·knights + 350·bishops + 500·rooks + 900·queens < 9000`;
* `C05_potential_monotone` — `phi` and the number of men of either side never increase along a listed legal move
  (`C02.stateW_succ_le`, from the square-by-square successor placement `C02.expectedF` of C02);
* hence `MaterialBounded_of_potential`, `TreeBounded_of_potential`, and the `_of_potential` forms of the C06 / C17
  theorems.

"At most 16 men a side" is part of the root condition because `LegalPos` does not bound the number of men (a FEN may
hold 29 knights of one colour, potential 8700), and the per-kind table extremes then exceed the budget.
-/
namespace Wee.C05
open Gen

/-- `men s c` (`Wee/Proofs/EvalBound.lean`) is the count used in `C05_nonterminal_statement` -/
example (s : State) (c : Color) : men s c = (Piece.all.map (pieceCount s c)).sum := rfl

/-- **C05_positional_bound.**  One king and at most 16 men a side ⇒ from either perspective the heuristic score
differs from 95 % of the material difference by at most 1450 centipawns:
`19·material - 29000 ≤ 20·score ≤ 19·material + 29000`.
No hypothesis on the material, on legality or on overlaps; all `f32` roundings and `as i32` truncations of the Rust
code are accounted for (`Ev.mulF_mkRat_bounds`, `psq_core`, `egwK_facts` for the end-game
weight). -/
theorem C05_positional_bound (s : State) (c : Color) (hk : OneKingEach s) (hmen : ∀ c, men s c ≤ 16) :
    19 * materialDiff s c - 29000 ≤ 20 * evalHeuristic (Variation.of s) c ∧
    20 * evalHeuristic (Variation.of s) c ≤ 19 * materialDiff s c + 29000 := by
  have h1 := evalHeuristic_coupled s c hk hmen
  have h2 := evalHeuristic_coupled s c.opp hk hmen
  have h3 := evalHeuristic_neg (Variation.of s) (egw_bounded s) c
  rw [opp_opp] at h2
  unfold materialDiff
  constructor <;> eomega

/-- the heuristic score of a position with `|material| < 9000` is strictly inside `(-10000, 10000)` -/
theorem C05_heuristic_lt (s : State) (c : Color) (hk : OneKingEach s) (hmen : ∀ c, men s c ≤ 16)
    (hm : (materialDiff s c).natAbs < 9000) :
    -10000 < evalHeuristic (Variation.of s) c ∧ evalHeuristic (Variation.of s) c < 10000 := by
  have := C05_positional_bound s c hk hmen
  constructor <;> eomega

theorem kingHasMove_ne_none (s : State) (hk : OneKingEach s) : kingHasMove s ≠ none := by
  intro h
  have := hk s.turn
  rw [(kingHasMove_eq_none_iff s).1 h, popcount_zero] at this
  cases this

/-- **C05_nonterminal** — the full statement of `Wee/Props/C05.lean`, threshold 9000: a position with exactly one
king and at most 16 men a side, at least one legal move (`compute_legal_moves` non-empty) and a piece-worth
difference below 90 pawns is scored by the heuristic sum, and that score is never terminal
(`-POS_INF < score < POS_INF`), from either perspective, at every depth. -/
theorem C05_nonterminal : C05_nonterminal_statement := by
  intro s c d hk hmen ⟨m, ms, hm⟩ hmat
  refine ⟨_, C05_nonterminal_branch s c d m ms hm (kingHasMove_ne_none s hk), ?_⟩
  have h := C05_heuristic_lt s c hk hmen hmat
  rw [clampHeuristic_id h.1 h.2]
  exact Ev.isTerminal_eq_false h.1 h.2

/-! ### non-vacuity: nine queens, a rook and a bishop against a bare king (material 8950) -/

/-- `8/1R6/2QB4/2Q1QQ2/2Q1QQ2/2Q1Q3/8/3k2K1 w - - 0 1`: White has 9 queens, a rook and a bishop (8950), none of
them attacking the black king on d1; White is to move and not in check, so `evaluate` takes the shortcut branch -/
def queensS : State :=
  { pieces := { wk := 0x40, wq := 0x43434140000, wb := 0x80000000000, wr := 0x2000000000000, bk := 0x8 },
    turn := .white, castleW := .noRights, castleB := .noRights, ep := none, halfmove := 0, fullmove := 1 }

/-- a legal position without overlaps that is not in check and whose `king_has_move` shortcut fires has a legal move -/
theorem has_move_of_shortcut (s : State) (hl : LegalPos s = true) (hd : C10.DisjointBoard s.pieces)
    (hc : s.isCheck = false) (hk : kingHasMove s = some true) : ∃ m ms, legalMoves? s = some (m :: ms) := by
  have hL := C02.legalMoves?_eq s hl hd
  cases hLe : legalMoves s with
  | nil => rw [hLe] at hL; exact absurd hL (C05_shortcut_sound s hd hc hk)
  | cons m ms => rw [hLe] at hL; exact ⟨m, ms, hL⟩

/-- all hypotheses of `C05_nonterminal_statement` hold for `queensS`; its score is 9063 (material 8950) -/
example : OneKingEach queensS ∧ (∀ c, men queensS c ≤ 16) ∧ (∃ m ms, legalMoves? queensS = some (m :: ms)) ∧
    (materialDiff queensS .white).natAbs < 9000 ∧ materialDiff queensS .white = 8950 ∧
    evaluate queensS .white 0 = some 9063 ∧ evaluate queensS .black 0 = some (-9063) := by
  have hk : kingHasMove queensS = some true := by rw [kingHasMove_fast]; decide +kernel
  obtain ⟨m, ms, hm⟩ := has_move_of_shortcut queensS (by rw [legalPos_abs]; decide +kernel) (by decide +kernel)
    (by rw [isCheck_fast]; decide +kernel) hk
  -- with a legal move `evaluate` is the clamped weighted sum, and Black's sum is the negative of White's
  have hev := fun c => C05_nonterminal_branch queensS c 0 m ms hm (by rw [hk]; exact nofun)
  have hw : evalHeuristic (Variation.of queensS) .white = 9063 := by
    rw [variationOf_fast, evalHeuristic_fast]; decide +kernel
  refine ⟨fun c => by cases c <;> decide +kernel, fun c => by cases c <;> decide +kernel, ⟨m, ms, hm⟩,
    by decide +kernel, by decide +kernel, by rw [hev, hw]; rfl, ?_⟩
  rw [hev, evalHeuristic_neg _ (egw_bounded _), show Color.black.opp = Color.white from rfl, hw]; rfl

/-- `8/8/2Q1QQ2/2Q1QQ2/2Q1QQ2/2Q1Q3/8/3k2K1 w - - 0 1`: eleven queens against a bare king -/
def elevenQ : State :=
  { pieces := { wk := 0x40, wq := 0x343434140000, bk := 0x8 },
    turn := .white, castleW := .noRights, castleB := .noRights, ep := none, halfmove := 0, fullmove := 1 }

/-- **the material hypothesis cannot be dropped from the bound on the HEURISTIC SUM**: eleven queens against a bare
king (one king and 12 men a side at most, White to move with a legal move, not mate) has the weighted sum
`10020 ≥ POS_INF`, which looks like a "mate" score.  Before the repair of defect F10 this was also the value of
`evaluate` (material 9900; DESIGN.md §6 C05).
Since the repair `Evaluator::evaluate` clamps the heuristic result: see `C05_unbounded_example_repaired`. -/
theorem C05_unbounded_example : OneKingEach elevenQ ∧ (∀ c, men elevenQ c ≤ 16) ∧
    (∃ m ms, legalMoves? elevenQ = some (m :: ms)) ∧ materialDiff elevenQ .white = 9900 ∧
    evalHeuristic (Variation.of elevenQ) .white = 10020 ∧ Ev.isTerminal 10020 = true := by
  refine ⟨fun c => by cases c <;> decide +kernel, fun c => by cases c <;> decide +kernel,
    has_move_of_shortcut elevenQ (by rw [legalPos_abs]; decide +kernel) (by decide +kernel)
      (by rw [isCheck_fast]; decide +kernel) (by rw [kingHasMove_fast]; decide +kernel),
    by decide +kernel, by rw [variationOf_fast, evalHeuristic_fast]; decide +kernel, by decide +kernel⟩

/-- **after the repair of F10** the same position evaluates to `POS_INF - 1 = 9999` / `NEG_INF + 1 = -9999`, which
is not a terminal score: the clause "others never as mate" of C05 now holds for it (and for every position, see
`C05_all` in `Wee/Props/Clamped.lean`). -/
theorem C05_unbounded_example_repaired :
    evaluate elevenQ .white 0 = some 9999 ∧ evaluate elevenQ .black 0 = some (-9999) ∧
    Ev.isTerminal 9999 = false ∧ Ev.isTerminal (-9999) = false := by
  obtain ⟨_, _, ⟨m, ms, hm⟩, _, hw, _⟩ := C05_unbounded_example
  have hev := fun c => C05_nonterminal_branch elevenQ c 0 m ms hm (by decide +kernel)
  refine ⟨by rw [hev, hw]; rfl, ?_, by decide, by decide⟩
  rw [hev, evalHeuristic_neg _ (egw_bounded _), show Color.black.opp = Color.white from rfl, hw]; rfl

end Wee.C05

namespace Wee.C06
open Wee Wee.Search Wee.Outcome
open Wee.C10 (DisjointBoard)

/-- the weights of the promotion potential: every pawn may become a queen -/
def potentialWeight : Piece → Nat
  | .pawn => 900 | .knight => 300 | .bishop => 350 | .rook => 500 | .queen => 900 | .king => 0 | .none => 0

/-- **The root condition.**  `RootBounded s`: each side has at most 16 men and a promotion potential
`phi s c = 900·pawns + 300·knights + 350·bishops + 500·rooks + 900·queens` below 9000 — at most "nine queens' worth"
counting every pawn as a queen.  Decidable on the position alone (`decide +kernel`). -/
def RootBounded (s : State) : Prop := (∀ c, men s c ≤ 16) ∧ (∀ c, phi s c < 9000)

instance (s : State) : Decidable (RootBounded s) := by
  unfold RootBounded
  have : ∀ (P : Color → Prop) [∀ c, Decidable (P c)], Decidable (∀ c, P c) := fun P _ =>
    decidable_of_iff (P .white ∧ P .black) ⟨fun h c => by cases c <;> simp [h.1, h.2], fun h => ⟨h _, h _⟩⟩
  infer_instance

theorem phi_eq_stateW (s : State) (c : Color) : phi s c = C02.stateW potentialWeight s c := by
  unfold phi C02.stateW C02.wsum pieceCount; simp only [potentialWeight]; omega

theorem men_eq_stateW (s : State) (c : Color) : men s c = C02.stateW (fun _ => 1) s c := by
  rw [men_eq]; unfold C02.stateW C02.wsum pieceCount; simp only []; omega

/-- **Φ and the number of men do not increase along legal moves**, for either side: a capture removes a man,
castling relocates one, a promotion replaces a pawn (900) by a piece worth at most 900. -/
theorem C05_potential_monotone (s : State) (hl : LegalPos s = true) (hd : DisjointBoard s.pieces)
    (r : Move × State) (hr : r ∈ legalMoves s) (c : Color) :
    phi r.2 c ≤ phi s c ∧ men r.2 c ≤ men s c := by
  rw [phi_eq_stateW, phi_eq_stateW, men_eq_stateW, men_eq_stateW]
  exact ⟨C02.stateW_succ_le potentialWeight (fun q => by cases q <;> decide) s hl hd r hr c,
    C02.stateW_succ_le (fun _ => 1) (fun _ => Nat.le_refl _) s hl hd r hr c⟩

/-- legality, "no overlaps" and any bounds on the number of men and the promotion potential travel along every listed
legal move -/
theorem potential_step {s : State} (hl : LegalPos s = true) (hd : DisjointBoard s.pieces) {r : Move × State}
    (hr : r ∈ legalMoves s) {M B : Nat} (hm : ∀ c, men s c ≤ M) (hp : ∀ c, phi s c ≤ B) :
    LegalPos r.2 = true ∧ DisjointBoard r.2.pieces ∧ (∀ c, men r.2 c ≤ M) ∧ ∀ c, phi r.2 c ≤ B :=
  ⟨C02_closed s hl hd r hr, (C02_successor_invariants s hl hd r hr).1,
    fun c => Nat.le_trans (C05_potential_monotone s hl hd r hr c).2 (hm c),
    fun c => Nat.le_trans (C05_potential_monotone s hl hd r hr c).1 (hp c)⟩

/-- the root condition, legality and "no overlaps" travel along every listed legal move -/
theorem RootBounded.step {s : State} (hl : LegalPos s = true) (hd : DisjointBoard s.pieces) (hb : RootBounded s)
    {r : Move × State} (hr : r ∈ legalMoves s) :
    LegalPos r.2 = true ∧ DisjointBoard r.2.pieces ∧ RootBounded r.2 := by
  obtain ⟨h1, h2, h3, h4⟩ := potential_step hl hd hr hb.1 (B := 8999) fun c => Nat.le_of_lt_succ (hb.2 c)
  exact ⟨h1, h2, h3, fun c => Nat.lt_succ_of_le (h4 c)⟩

/-- a legal position without overlaps that meets the root condition satisfies the term-by-term material bound of
`C05_nonterminal_partial` (`MaterialBounded`) -/
theorem MaterialBounded_of_potential (s : State) (hl : LegalPos s = true) (hd : DisjointBoard s.pieces)
    (hb : RootBounded s) : MaterialBounded s := by
  unfold MaterialBounded C05.materialDiff C05.positionalDiff
  exact termwise_lt_of_potential s s.turn (C02.oneKingEach_of_legal s hl hd) hb.1 hb.2

/-- **TreeBounded_of_potential.**  `TreeBounded root` — the hypothesis of every C06 / C17 theorem that every position
reachable from the root by legal moves satisfies the material bound — follows from a condition on the root alone:
legal, no overlaps, at most 16 men a side and a promotion potential below 9000 for both sides.
(The start position does NOT satisfy it, and rightly so: nine queens are reachable from it, and with them the
evaluator's heuristic sum leaves `(-10000, 10000)`, see `C05.C05_unbounded_example`.) -/
theorem TreeBounded_of_potential (root : State) (hl : LegalPos root = true) (hd : DisjointBoard root.pieces)
    (hb : RootBounded root) : TreeBounded root := fun s' hs' =>
  have h := Reachable.least (P := fun s => LegalPos s = true ∧ DisjointBoard s.pieces ∧ RootBounded s) ⟨hl, hd, hb⟩
    (fun _ h _ hr => RootBounded.step h.1 h.2.1 h.2.2 hr) s' hs'
  MaterialBounded_of_potential s' h.1 h.2.1 h.2.2

/-! ### examples: KQK and KRRK roots satisfy the root condition, the start position does not -/

/-- `k7/8/1K6/8/8/8/7Q/8 w - - 0 1` -/
def kqkRoot : State :=
  { pieces := { wk := 0x0000020000000000, wq := 0x8000, bk := 0x0100000000000000 },
    turn := .white, castleW := .noRights, castleB := .noRights, ep := none, halfmove := 0, fullmove := 1 }

/-- `7k/8/8/8/8/8/8/KRR5 w - - 0 1` -/
def krrkRoot : State :=
  { pieces := { wk := 0x1, wr := 0x6, bk := 0x8000000000000000 },
    turn := .white, castleW := .noRights, castleB := .noRights, ep := none, halfmove := 0, fullmove := 1 }

/-- every hypothesis of `TreeBounded_of_potential` is decided by the kernel on the root alone -/
example : LegalPos kqkRoot = true ∧ DisjointBoard kqkRoot.pieces ∧ RootBounded kqkRoot ∧ TreeBounded kqkRoot := by
  have hl : LegalPos kqkRoot = true := by rw [legalPos_abs]; decide +kernel
  have hd : DisjointBoard kqkRoot.pieces := by decide +kernel
  have hb : RootBounded kqkRoot := by decide +kernel
  exact ⟨hl, hd, hb, TreeBounded_of_potential kqkRoot hl hd hb⟩

example : LegalPos krrkRoot = true ∧ DisjointBoard krrkRoot.pieces ∧ RootBounded krrkRoot ∧ TreeBounded krrkRoot := by
  have hl : LegalPos krrkRoot = true := by rw [legalPos_abs]; decide +kernel
  have hd : DisjointBoard krrkRoot.pieces := by decide +kernel
  have hb : RootBounded krrkRoot := by decide +kernel
  exact ⟨hl, hd, hb, TreeBounded_of_potential krrkRoot hl hd hb⟩

/-- the pawn-rich mate position of `C06Complete.lean` meets it too (potential 6·900 = 5400 / 3·900 + 300 = 3000) -/
example : LegalPos compRoot = true ∧ DisjointBoard compRoot.pieces ∧ RootBounded compRoot :=
  ⟨compRoot_facts.1, compRoot_facts.2.1, by decide +kernel⟩

/-- the start position does NOT meet the root condition: its potential is `8·900 + 2·300 + 2·350 + 2·500 + 900 = 10400`
a side (nine queens are reachable) -/
example : ¬ RootBounded c02Start ∧ phi c02Start .white = 10400 ∧ phi c02Start .black = 10400 :=
  ⟨by decide +kernel, by decide +kernel, by decide +kernel⟩

/-! ### C06 / C17 with the root condition in place of `TreeBounded` -/

/-- **C06_sound_fresh_of_potential.**  `C06_sound_fresh` with `TreeBounded root` replaced by the decidable root
condition `RootBounded root`: every report with a winning terminal evaluation is a true forced mate, and with one
worker per iteration the reported first move keeps it. -/
theorem C06_sound_fresh_of_potential (root : State) (hl : LegalPos root = true) (hd : DisjointBoard root.pieces)
    (hb : RootBounded root) (keys : KeyTable) (hcf : CollisionFree keys.keys (Reachable root))
    (nT nB : Nat) (hT : 0 < nT) (hB : 0 < nB) (history : List UInt64)
    (rng0 : Rng.ChaCha8) (maxDepth : Option Nat) (workersOf : Nat → Nat) (cancelAt : Option Nat) (fuelDepth : Nat) :
    let out := iterate root rng0 maxDepth { keys := keys, tt := TT.Access.new nT nB, history := history }
      workersOf cancelAt fuelDepth
    (∀ ev ∈ out.events, ClaimTrue root ev) ∧ ((∀ d, workersOf d = 1) → ∀ ev ∈ out.events, MoveKeeps root ev) :=
  C06_sound_fresh root hl hd (TreeBounded_of_potential root hl hd hb) keys hcf nT nB hT hB history rng0 maxDepth
    workersOf cancelAt fuelDepth

/-- **C06_complete_one_worker_of_potential.**  `C06_complete_one_worker` with the root condition. -/
theorem C06_complete_one_worker_of_potential (root : State) (n d : Nat) (keys : KeyTable) (nT nB : Nat)
    (rng0 : Rng.ChaCha8) (fuelDepth : Nat)
    (hl : LegalPos root = true) (hdj : DisjointBoard root.pieces) (hb : RootBounded root)
    (hcf : CollisionFree keys.keys (Reachable root)) (hcfn : CollisionFreeN keys.keys (Reachable root))
    (hT : 0 < nT) (hB : 0 < nB) (hw : forcedMate n root = true) (hnd : n ≤ d) :
    let out := iterate root rng0 (some d) { keys := keys, tt := TT.Access.new nT nB, history := [] } (fun _ => 1)
      Option.none fuelDepth
    out.panic = Option.none ∧
    ∃ ev line, (bestReports out.events).getLast? = some (ev, line) ∧ Ev.posInf ≤ ev ∧
      ∃ r ∈ legalMoves root, line.head? = some r.1 ∧ Lost r.2 :=
  C06_complete_one_worker root n d keys nT nB rng0 fuelDepth hl hdj (TreeBounded_of_potential root hl hdj hb)
    hcf hcfn hT hB hw hnd

/-- `C06_complete_some_report_any_workers` with `TreeBounded root` from the root condition -/
theorem C06_complete_some_report_any_workers_of_potential (root : State) (n d : Nat) (keys : KeyTable) (nT nB : Nat)
    (rng0 : Rng.ChaCha8) (workersOf : Nat → Nat) (fuelDepth : Nat)
    (hl : LegalPos root = true) (hdj : DisjointBoard root.pieces) (hb : RootBounded root)
    (hcf : CollisionFree keys.keys (Reachable root)) (hcfn : CollisionFreeN keys.keys (Reachable root))
    (hT : 0 < nT) (hB : 0 < nB) (hw : forcedMate n root = true) (hnd : n ≤ d) (hwk : ∀ k, 0 < workersOf k) :
    let out := iterate root rng0 (some d) { keys := keys, tt := TT.Access.new nT nB, history := [] } workersOf
      Option.none fuelDepth
    out.panic = Option.none ∧
    ∃ ev line, (bestReports out.events).getLast? = some (ev, line) ∧ Ev.posInf ≤ ev :=
  C06_complete_some_report_any_workers root n d keys nT nB rng0 workersOf fuelDepth hl hdj
    (TreeBounded_of_potential root hl hdj hb) hcf hcfn hT hB hw hnd hwk

/-- **C17_win_of_potential.**  `C17_win` with the root condition. -/
theorem C17_win_of_potential (root : State) (n d : Nat) (keys : KeyTable) (history : List UInt64) (nT nB : Nat)
    (rng0 : Rng.ChaCha8) (fuelDepth : Nat)
    (hl : LegalPos root = true) (hdj : DisjointBoard root.pieces) (hb : RootBounded root)
    (hcf : CollisionFree keys.keys (Reachable root))
    (hcoll : CollH keys.keys (hash keys.keys root :: history) (Reachable root) n)
    (hT : 0 < nT) (hB : 0 < nB) (hw : fmH keys.keys (hash keys.keys root :: history) n root = true) (hnd : n ≤ d) :
    let out := iterate root rng0 (some d) { keys := keys, tt := TT.Access.new nT nB, history := history } (fun _ => 1)
      Option.none fuelDepth
    out.panic = Option.none ∧
    ∃ ev line, (bestReports out.events).getLast? = some (ev, line) ∧ Ev.posInf ≤ ev ∧
      ∃ r ∈ legalMoves root, line.head? = some r.1 ∧ Lost r.2 ∧
        (hash keys.keys root :: history).contains (hash keys.keys r.2) = false :=
  C17_win root n d keys history nT nB rng0 fuelDepth hl hdj (TreeBounded_of_potential root hl hdj hb)
    hcf hcoll hT hB hw hnd

/-! ### non-vacuity of the corollaries and of the monotonicity lemma on `compRoot` -/

/-- all hypotheses of `C06_complete_one_worker_of_potential` hold for `compRoot` / `compKeys`; in place of
`TreeBounded` stands the root condition, decided by the kernel -/
example (nT nB : Nat) (hT : 0 < nT) (hB : 0 < nB) (rng0 : Rng.ChaCha8) (d : Nat) (hd : 1 ≤ d) :
    let out := iterate compRoot rng0 (some d) { keys := compKeys, tt := TT.Access.new nT nB, history := [] }
      (fun _ => 1) Option.none 64
    out.panic = Option.none ∧
    ∃ ev line, (bestReports out.events).getLast? = some (ev, line) ∧ Ev.posInf ≤ ev ∧
      ∃ r ∈ legalMoves compRoot, line.head? = some r.1 ∧ Lost r.2 :=
  C06_complete_one_worker_of_potential compRoot 1 d compKeys nT nB rng0 64 compRoot_hyps.1 compRoot_hyps.2.1
    (by decide +kernel) compRoot_hyps.2.2.2.1 compRoot_hyps.2.2.2.2.1 hT hB compRoot_hyps.2.2.2.2.2 hd

set_option maxRecDepth 1000000 in
/-- `a6xb7#` removes a black pawn: Black's potential drops by 900, White's stays (`C05_potential_monotone` is an
equality or a strict drop, never an increase) -/
example : compA ∈ legalMoves compRoot ∧ phi compRoot .black = 3000 ∧ phi compA.2 .black = 2100 ∧
    phi compRoot .white = 5400 ∧ phi compA.2 .white = 5400 := by
  refine ⟨?_, by decide +kernel, by rw [compA_eq]; decide +kernel, by decide +kernel,
    by rw [compA_eq]; decide +kernel⟩
  rw [compRoot_facts.2.2.2.2.1]; exact List.mem_cons_self

end Wee.C06
