import Wee.Proofs.MateRoot
import Wee.Props.C05
import Wee.Proofs.PairingLemmas
import Wee.Proofs.SeqSchedule
import Wee.Props.C02Closed
/-!
# C06 — mate claims are true (soundness: theorems) and shallow forced mates are found (completeness: the statement;
its theorems are in `Wee/Props/C06Complete.lean`)

Rust: `weechess-engine/src/searcher.rs` (`analyze_iterative`, `analyze_recursive`, `quiescence_search`, the three
table-hit paths, the fail-hard cut-offs, `TranspositionTableMoveIterator`), `weechess-engine/src/eval/mod.rs`
(`mate_in_ply`, `is_terminal`, `POS_INF`, `NEG_INF`).
Model: `Wee/Model/Search.lean` (`quiesce`, `searchNode`, `childLoop`, `runWorker(s)`, `iterStep`, `iterLoop`, `iterate`;
monad `M = ExceptT Stop (StateM St)`), `Wee/Model/Eval.lean`, game-theoretic specification `Wee/Spec/Outcome.lean`
(`Outcome.Win`, `Outcome.Lost` over the model's `legalMoves`, which C01/C02 tie to the rules of chess).

What is proved here (all for every seed / generator state, every cancellation point, every depth):

* `C06_solver_sound` — the executable oracle `forcedMate n` / `lostIn n` is sound for `Win` / `Lost`.
* `C06_static_ok` — a terminal static evaluation is the checkmate branch (before the repair of defect F10: from the C05
  bound `MaterialBounded`; since the heuristic result is clamped: for every state).  The hypotheses `MaterialBounded` /
  `TreeBounded` of the theorems below are REDUNDANT since that repair; the versions without them are the `_all`
  theorems of `Wee/Props/Clamped.lean`.
* `C06_quiesce_sound` — every value of `quiescence_search` is `SoundVal`.
* `C06_search_sound` — every call of `analyze_recursive` started on a sound table (`SoundTT`) keeps the table
  sound — also when it is interrupted or panics — and returns a `SoundVal` value: the complete induction
  (table hits of the three kinds, draw-by-history, stand-pat, cut-offs, "no child searched", the final store).
* `C06_iterate_sound` — `analyze_iterative` (model `iterate`): the table of the returned artifact is sound again;
  every winning `BestMove` report is a true forced win, for any number of workers per iteration (run one after the
  other: the value of each worker is sound, hence their maximum); with ONE worker per iteration the first move of a
  winning report leads to a position that is `Lost` for the opponent (`C06_report_pairing_partial` is the single-iteration form).
* `C06_sound_fresh` — the same from a legal root position and fresh memory, with the domain of positions
  instantiated to the positions reachable from the root.

What is NOT proved here: the pairing "reported first move keeps the mate" for several workers
(`C06_report_pairing_partial` says what is missing; what holds under every schedule is in `Wee/Props/C06Pairing.lean`).
`iterate` runs the workers of an iteration one after the other; the proof of `C06_search_sound` only ever *relies* on
the table invariant at each read and *guarantees* it at each write, and `Wee/Props/Interleave.lean`
(`C06_search_any_schedule`) carries the claims over to every interleaving of the workers' table operations.
`C06_complete_statement` below is not a theorem: its last clause (the reported move keeps the *shortest* mate) is false
of the model and of the engine; without that clause, for one worker per iteration and with the further collision
hypothesis `CollisionFreeN`, it is `C06_complete_one_worker` (`Wee/Props/C06Complete.lean`) — for every table geometry,
and with the absence of a panic proved, not assumed.
-/
namespace Wee.C06
open Wee Wee.Search Wee.Outcome
open Wee.C10 (DisjointBoard)

/-! ## 1. the solver used as oracle -/

/-- **the executable solver is sound**: `forcedMate n s` ⇒ the side to move has a forced mate (`Win s`);
`lostIn n s` ⇒ the side to move is mated or cannot avoid mate (`Lost s`). -/
theorem C06_solver_sound (n : Nat) (s : State) :
    (forcedMate n s = true → Win s) ∧ (lostIn n s = true → Lost s) := solver_sound n s

/-- more plies never lose a forced mate -/
theorem C06_solver_mono (n : Nat) (s : State) :
    (forcedMate n s = true → forcedMate (n + 1) s = true) ∧ (lostIn n s = true → lostIn (n + 1) s = true) :=
  solver_mono n s

/-- `6nk/6pp/8/6N1/8/8/8/K7 w - - 0 1`: White mates in one with `Ng5-f7` (smothered mate; no sliders on the
board, so the kernel can run the move generator without the magic tables) -/
def mateIn1 : State :=
  { pieces := { wk := 0x1, wn := 0x0000004000000000, bk := 0x8000000000000000, bn := 0x4000000000000000,
                bp := 0x00C0000000000000 },
    turn := .white, castleW := .noRights, castleB := .noRights, ep := none, halfmove := 0, fullmove := 1 }

/-- the fifth generated move, `Ng5-f7`, mates -/
theorem mateIn1_forced : forcedMate 1 mateIn1 = true := by
  simp only [forcedMate, List.any_eq_true, lostIn, isMated, legalMoves_fast, isCheck_fast]
  exact ⟨((GenP.legalMoves? .fast mateIn1).getD []).getD 4 default, by decide +kernel, by decide +kernel⟩

set_option maxRecDepth 1000000 in
/-- non-vacuity of `C06_solver_sound`: a concrete forced mate found by the solver, hence `Win` -/
example : forcedMate 1 mateIn1 = true := mateIn1_forced

set_option maxRecDepth 1000000 in
example : Win mateIn1 := (C06_solver_sound 1 mateIn1).1 mateIn1_forced

/-! ## 2. values, the material bound, the static evaluation -/

/-- **`SoundVal s α β r`** (defined in `Wee/Proofs/MateBase.lean`): a returned value `r` that claims a win
(`r ≥ POS_INF`) strictly above the window's `α` is a true forced win for the side to move in `s`; a value that claims
a loss (`r ≤ NEG_INF`) strictly below `β` is a true forced loss. -/
example (s : State) (α β r : Eval) :
    SoundVal s α β r ↔ ((Ev.posInf ≤ r ∧ α < r → Win s) ∧ (r ≤ Ev.negInf ∧ r < β → Lost s)) := Iff.rfl

/-- `MaterialBounded s` is the bound of `C05_nonterminal_partial` for the side to move; `TreeBounded s` asks it of
every position reachable from `s` by legal moves (promotions can raise the material) -/
example (s : State) : MaterialBounded s ↔
    (C05.materialDiff s s.turn).natAbs + C05.positionalDiff s s.turn < 10000 := Iff.rfl
example (s : State) : TreeBounded s ↔ ∀ s', Reachable s s' → MaterialBounded s' := Iff.rfl

/-- **StaticOK.**  `evaluate(state, turn_to_move, depth)` is terminal only in the mate branch: no legal move, in
check, value `-mate_in_ply(depth)`.  The hypothesis `MaterialBounded s` is REDUNDANT since the repair of defect F10
(the heuristic score is clamped to `[NEG_INF+1, POS_INF-1]`); `C06_static_ok_all` (Wee/Props/Clamped.lean) is the
statement without it. -/
theorem C06_static_ok (s : State) (d : Nat) (e : Eval) (_hb : MaterialBounded s)
    (h : evaluate s s.turn d = some e) (ht : Ev.isTerminal e = true) :
    legalMoves? s = some [] ∧ s.isCheck = true ∧ e = - Ev.mateInPly d := static_ok h ht

/-! ## 3. quiescence -/

/-- **C06_quiesce_sound.**  Every value returned by `quiescence_search` (any fuel, any depth, any window
`alpha < beta`) on a position whose reachable tree satisfies the material bound is `SoundVal`.
Cases: no legal move (mate ⇒ `Lost` by `Lost.mated`; stalemate ⇒ a non-terminal value), quiet position and
`normal_eval >= beta` (stand-pat is non-terminal), capture loop (a win claim comes from a capture whose successor
is `Lost`; the result is `beta` or at least the stand-pat value, so the loop never claims a loss).
`TreeBounded s` is redundant since the repair of F10 (`C06_quiesce_sound_all` drops it). -/
theorem C06_quiesce_sound (fuel : Nat) (s : State) (depth : Nat) (α β r : Eval) (_htb : TreeBounded s) (hαβ : α < β)
    (h : quiesce evaluate fuel s depth α β = .ok r) : SoundVal s α β r :=
  quiesce_sound fuel s depth α β r hαβ h

/-! ## 4. the table invariant, the domain of positions, `analyze_recursive` -/

/-- **`SoundEntry s e`**: what a table entry `e` claims about a position `s` with its key — its move is a legal
move of `s`; a value `≥ POS_INF` (of whatever kind) comes with a move into a `Lost` position; a value `≤ NEG_INF` of
an `Exact` or `UpperBound` entry means `s` is `Lost`.  `SoundTT K D tt`: every entry found under the key of a position
of `D` is sound for it.  `TTInv` adds the shape invariant of the table (`TT.AInv`, C15). -/
example (s : State) (e : TT.Entry) : SoundEntry s e ↔
    ((∃ r ∈ legalMoves s, r.1.toNat = e.mv) ∧
     (Ev.posInf ≤ e.eval → ∃ r ∈ legalMoves s, r.1.toNat = e.mv ∧ Lost r.2) ∧
     (e.kind = kindExact ∨ e.kind = kindUpper → e.eval ≤ Ev.negInf → Lost s)) := Iff.rfl
example (K : Keys) (D : State → Prop) (tt : TT.Access) : SoundTT K D tt ↔
    ∀ s e, D s → tt.find (hash K s).toNat = some e → SoundEntry s e := Iff.rfl
example (K : Keys) (D : State → Prop) (L nT nB : Nat) (tt : TT.Access) :
    TTInv K D L nT nB tt ↔ (TT.AInv L nT nB tt ∧ SoundTT K D tt) := Iff.rfl

/-- two positions are interchangeable for the claims of a table entry: every legal move of the first is (as a move
word) a legal move of the second, and `Lost` carries over for the position and for the successors.  True of two
positions that differ only in the halfmove / fullmove counters or in an en-passant target that cannot be used
(the hash ignores these on purpose; that the model's `legalMoves` ignores them too is not proved here). -/
def SameOutcome (s s' : State) : Prop :=
  (Lost s → Lost s') ∧ ∀ r ∈ legalMoves s, ∃ r' ∈ legalMoves s', r'.1 = r.1 ∧ (Lost r.2 → Lost r'.2)

/-- no harmful key collision inside the set `D`: positions of `D` with the same key are interchangeable.
(It cannot be asked of all `State`s: there are more than `2^64` of them.) -/
def CollisionFree (K : Keys) (D : State → Prop) : Prop :=
  ∀ s s', D s → D s' → hash K s = hash K s' → SameOutcome s s'

theorem SameOutcome.entry {s s' : State} (h : SameOutcome s s') {e : TT.Entry} (he : SoundEntry s e) :
    SoundEntry s' e := by
  obtain ⟨⟨r, hr, h1⟩, hw, hl⟩ := he
  refine ⟨?_, fun hp => ?_, fun hk hn => h.1 (hl hk hn)⟩
  · obtain ⟨r', hr', e1, _⟩ := h.2 r hr
    exact ⟨r', hr', by rw [e1]; exact h1⟩
  · obtain ⟨r, hr, h1, hlost⟩ := hw hp
    obtain ⟨r', hr', e1, h2⟩ := h.2 r hr
    exact ⟨r', hr', by rw [e1]; exact h1, h2 hlost⟩

/-- keys that tell the positions of `D` apart collide nowhere, for every reading of "harmful" -/
theorem collisionFree_of_inj {K : Keys} {D : State → Prop}
    (hinj : ∀ s s', D s → D s' → hash K s = hash K s' → s = s') :
    CollisionFree K D ∧ CollisionFreeN K D ∧ ∀ H B, CollH K H D B :=
  ⟨fun s s' hs hs' hk => by rw [hinj s s' hs hs' hk]; exact ⟨id, fun r hr => ⟨r, hr, rfl, id⟩⟩,
   fun s s' hs hs' hk n => by rw [hinj s s' hs hs' hk]; exact ⟨rfl, rfl⟩,
   fun H B s s' hs hs' hk n _ => by rw [hinj s s' hs hs' hk]; exact ⟨rfl, rfl⟩⟩

/-- every position reachable from a legal position (placement without overlaps) is one (C02_closed) -/
theorem reachable_legal {root : State} (hl : LegalPos root = true) (hd : DisjointBoard root.pieces) :
    ∀ s, Reachable root s → LegalPos s = true ∧ DisjointBoard s.pieces :=
  Reachable.least ⟨hl, hd⟩ Region.legal.closed

/-- **the domain of a search from a legal root, no material hypothesis**: the positions reachable from `root` by
legal moves form a `Domain` — closed under legal moves, the move generator does not panic on them (C01/C02), and
colliding positions are interchangeable (`CollisionFree`). -/
theorem Domain.ofRoot_all {K : Keys} {root : State} (hl : LegalPos root = true) (hd : DisjointBoard root.pieces)
    (hcf : CollisionFree K (Reachable root)) : Domain K (Reachable root) where
  closed := fun _ hs r hr => Reachable.step r hs hr
  genOK := fun s hs => by
    obtain ⟨h1, h2⟩ := reachable_legal hl hd s hs
    obtain ⟨_, L, _, hL, _⟩ := legalMoves_spec C02_applyCorrect s h1 h2
    rw [hL]; exact fun h => nomatch h
  coll := fun s s' hs hs' hk e he => (hcf s s' hs hs' (UInt64.toNat_inj.1 hk)).entry he

theorem TTInv.fresh (K : Keys) (D : State → Prop) {nT nB : Nat} (hT : 0 < nT) (hB : 0 < nB) :
    TTInv K D Gen.bucketSize nT nB (TT.Access.new nT nB) :=
  ⟨TT.AInv.new nT nB, fun s e _ hf => by rw [TT.Access.new_find hT hB] at hf; exact nomatch hf⟩

/-- **C06_search_sound** (the full induction; nothing is left open).  Let `D` be a `Domain` for the keys of the
search, the table have `nT > 0` sub-tables of `nB > 0` buckets of `L > 0` slots and satisfy `TTInv` (shape + every
entry sound).  Then for every remaining depth `rem`, every node `a` whose position is in `D` with window
`alpha < beta` and a legal (or no) prioritised move, every state `st` of the worker (table, generator, node and poll
counters) and every history / cancellation point `ctx`: running `analyze_recursive`

* leaves a table that satisfies `TTInv` again — whether the call returns, is interrupted or panics
  (every insert keeps `SoundTT`);
* if it returns `r`, then `SoundVal a.s a.alpha a.beta r`.

Cases covered: the draw-by-history return (`0`), the three table-hit paths (`Exact`; `UpperBound` / `LowerBound`
with the tightened window and the `alpha >= beta` return), quiescence at the horizon, fail-hard cut-off with its
`LowerBound` store, "no child searched" (the static value, via `C06_static_ok`; the node counter is used to show
that a position with a legal move never takes that exit with a loss claim), and the final store of `alpha`. -/
theorem C06_search_sound {K : Keys} {D : State → Prop} {L nT nB : Nat} (g : Geo L nT nB) (dom : Domain K D)
    (ctx : Ctx) (hK : ctx.keys = K) (rem : Nat) (a : NodeArgs) (hD : D a.s) (hab : a.alpha < a.beta)
    (hprio : PrioOK a) (st : St) (htt : TTInv K D L nT nB st.tt) :
    TTInv K D L nT nB ((searchNode ctx rem a).run.run st).2.tt ∧
    ∀ r, ((searchNode ctx rem a).run.run st).1 = .ok r → SoundVal a.s a.alpha a.beta r :=
  searchNode_sound g dom ctx hK rem a hD hab hprio st htt

/-- the root window `(-mate_in_ply(0), mate_in_ply(0)) = (-11000, 11000)` strictly contains every mate score
`±mate_in_ply(d)`, `d < 2^31`, so at the root a winning value is a win and a losing value is a loss -/
theorem C06_root_window (s : State) (r : Eval) (h : SoundVal s (- Ev.mateInPly 0) (Ev.mateInPly 0) r) :
    (Ev.posInf ≤ r → Win s) ∧ (r ≤ Ev.negInf → Lost s) := by
  have h0 := root_window
  rw [h0.1, h0.2] at h
  refine ⟨fun hp => h.1 ⟨hp, ?_⟩, fun hn => h.2 ⟨hn, ?_⟩⟩
  · rw [posInf_eq] at hp; eomega
  · rw [negInf_eq] at hn; eomega

/-! ## 5. the report of an iteration -/

/-- `ClaimTrue root ev`: a `BestMove` report with a winning evaluation is a true forced win of the root;
`MoveKeeps root ev`: moreover its first move leads to a position that is `Lost` for the opponent (so the reported
move keeps the forced mate) -/
example (root : State) (ev : Eval) (line : List Move) :
    (ClaimTrue root (.best ev line) ↔ (Ev.posInf ≤ ev → Win root)) ∧
    (MoveKeeps root (.best ev line) ↔
      (Ev.posInf ≤ ev → ∃ r ∈ legalMoves root, line.head? = some r.1 ∧ Lost r.2)) := ⟨Iff.rfl, Iff.rfl⟩

/-- **C06_report_pairing_partial** (one iteration of `analyze_iterative`, model `iterStep`).
Hypotheses: a `Domain` containing the root, the root's key in the history (as `analyze_iterative` arranges with
`state_history.increment`), and the loop invariant `IterOK` (sound table, the remembered `best_mv` is a legal move of
the root or `None`, a winning remembered `best_eval` is true).  Then the invariant holds again after the iteration,
the events of the iteration are appended to the old ones, and

* for ANY number of workers (run one after the other) every winning report of the iteration is a true forced win
  (each worker's value is `SoundVal` for the root window, hence so is their maximum; on the interrupt path the
  reported evaluation is the root entry's);
* for ONE worker the reported evaluation is paired with the root entry the line starts from: the root call returns
  `alpha` right after storing `(best_move, alpha)` under the root key (or returns a table value / `beta` that is stored
  there), nothing below the root writes under a key of the history (`searchNodeE_frame`), so whatever entry the
  line is read from has a winning value, and its move leads to a `Lost` position (`SoundTT`).

What is missing for several workers: the reported evaluation is the maximum over the workers while the line is read
from the shared table, where every worker whose root probe does not end its call overwrites the root entry when it
finishes, and odd-numbered workers search one ply shallower.  If a worker with a non-winning value writes last, a winning
evaluation is paired with that worker's (possibly non-mating) move, and deepening stops (`best_eval >= POS_INF`).  So
the clause "the reported first move keeps the mate" is NOT claimed here for `workers > 1`; which configurations are
safe under every schedule (a shallow worker is answered by its probe and never writes while the root's bucket has
room) is `Wee/Props/C06Pairing.lean`; the rest stays with the oracle check. -/
theorem C06_report_pairing_partial {K : Keys} {D : State → Prop} {L nT nB : Nat} (g : Geo L nT nB)
    (dom : Domain K D) (ctx : Ctx) (hK : ctx.keys = K) (root : State) (hD : D root)
    (hhist : ctx.history.contains (hash ctx.keys root) = true) (workers depth : Nat) (st : IterSt)
    (h : IterOK K D L nT nB root st) :
    IterOK K D L nT nB root (iterStep ctx root (hash ctx.keys root) workers depth st) ∧
    ∃ new, (iterStep ctx root (hash ctx.keys root) workers depth st).events = st.events ++ new ∧
      (∀ ev ∈ new, ClaimTrue root ev) ∧ (workers = 1 → ∀ ev ∈ new, MoveKeeps root ev) := by
  have hs := Env.iterStep_stepS ctx root (hash ctx.keys root) workers depth st
  by_cases h1 : workers = 1
  · subst h1
    obtain ⟨h2, new, e, c⟩ := Pairing.stepS_keeps_one g dom ctx hK root hD hhist depth st _ h hs
    exact ⟨h2, new, e, fun ev hev => (c ev hev).claim, fun _ => c⟩
  · obtain ⟨h2, new, e, c⟩ := Env.stepS_sound g dom ctx hK root hD _ rfl workers depth st _ h hs
    exact ⟨h2, new, e, c, fun h' => absurd h' h1⟩

/-- **C06_iterate_sound** (`analyze_iterative`, model `iterate`).  Started on an artifact whose table satisfies
`TTInv` for a `Domain` that contains the root: for every generator state, depth limit, cancellation point and number
of workers per iteration, the returned artifact has the same keys and a table that satisfies `TTInv` again (so the
statement applies to the next search of the same game), every winning report is a true forced win of the root, and
if every iteration runs one worker, the first move of every winning report keeps the forced mate. -/
theorem C06_iterate_sound {D : State → Prop} {L nT nB : Nat} (g : Geo L nT nB) (art : Artifact)
    (dom : Domain art.keys.keys D) (root : State) (hD : D root) (htt : TTInv art.keys.keys D L nT nB art.tt)
    (rng0 : Rng.ChaCha8) (maxDepth : Option Nat) (workersOf : Nat → Nat) (cancelAt : Option Nat) (fuelDepth : Nat) :
    TTInv art.keys.keys D L nT nB (iterate root rng0 maxDepth art workersOf cancelAt fuelDepth).artifact.tt ∧
    (iterate root rng0 maxDepth art workersOf cancelAt fuelDepth).artifact.keys = art.keys ∧
    (∀ ev ∈ (iterate root rng0 maxDepth art workersOf cancelAt fuelDepth).events, ClaimTrue root ev) ∧
    ((∀ d, workersOf d = 1) →
      ∀ ev ∈ (iterate root rng0 maxDepth art workersOf cancelAt fuelDepth).events, MoveKeeps root ev) :=
  have hs := Env.iterate_searchS root rng0 maxDepth art workersOf cancelAt fuelDepth
  have h := Env.searchS_sound g art dom root hD htt rng0 maxDepth workersOf cancelAt fuelDepth _ hs
  ⟨h.1, by rfl, h.2, fun hw =>
    Pairing.searchS_keeps_one g art dom root hD htt rng0 maxDepth workersOf hw cancelAt fuelDepth _ hs⟩

/-- **C06_sound_fresh** (soundness half of C06 from fresh memory).  For every legal root position (placement
without overlaps) whose reachable tree satisfies the material bound (redundant since the repair of F10:
`C06_sound_fresh_all`), every key table without harmful collision
among the reachable positions, fresh memory of any geometry, every seed, depth limit, cancellation point and
worker counts: every report with a winning terminal evaluation is a true forced mate for the side to move, and with
one worker per iteration the reported first move leads to a position in which the opponent is `Lost`. -/
theorem C06_sound_fresh (root : State) (hl : LegalPos root = true) (hd : DisjointBoard root.pieces)
    (htb : TreeBounded root) (keys : KeyTable) (hcf : CollisionFree keys.keys (Reachable root))
    (nT nB : Nat) (hT : 0 < nT) (hB : 0 < nB) (history : List UInt64)
    (rng0 : Rng.ChaCha8) (maxDepth : Option Nat) (workersOf : Nat → Nat) (cancelAt : Option Nat) (fuelDepth : Nat) :
    let out := iterate root rng0 maxDepth { keys := keys, tt := TT.Access.new nT nB, history := history }
      workersOf cancelAt fuelDepth
    (∀ ev ∈ out.events, ClaimTrue root ev) ∧ ((∀ d, workersOf d = 1) → ∀ ev ∈ out.events, MoveKeeps root ev) := by
  intro out
  have h := C06_iterate_sound ⟨by decide, hT, hB⟩ { keys := keys, tt := TT.Access.new nT nB, history := history }
    (Domain.ofRoot_all hl hd hcf) root (Reachable.refl root) (TTInv.fresh _ _ hT hB)
    rng0 maxDepth workersOf cancelAt fuelDepth
  exact ⟨h.2.2.1, h.2.2.2⟩

/-! ### non-vacuity of the hypotheses: the knight mate of C05 (`6nk/5Npp/8/8/8/8/8/K7 b`) -/

set_option maxRecDepth 1000000 in
/-- the hypotheses of `C06_sound_fresh` / `Domain.ofRoot_all` hold for a concrete position: legal, no overlaps, the
whole reachable tree (here: the position itself, Black is mated) within the material bound, and no collision for
ANY key table -/
example : LegalPos C05.mateS = true ∧ DisjointBoard C05.mateS.pieces ∧ TreeBounded C05.mateS ∧
    ∀ K : Keys, CollisionFree K (Reachable C05.mateS) := by
  have hno : legalMoves C05.mateS = [] := legalMoves_of_some C05.mateS_moves
  have hself : ∀ s, Reachable C05.mateS s → s = C05.mateS :=
    Reachable.least rfl fun s hs r hr => by rw [hs, hno] at hr; exact nomatch hr
  refine ⟨by rw [legalPos_abs]; decide +kernel, by decide +kernel, fun s hs => ?_,
    fun K => (collisionFree_of_inj fun s s' hs hs' _ => by rw [hself s hs, hself s' hs']).1⟩
  rw [hself s hs]; unfold MaterialBounded; rw [C05.termBound_fast]; decide +kernel

/-- the geometry hypothesis and the table invariant are satisfiable: fresh memory with 2 sub-tables of 4 buckets -/
example (K : Keys) (D : State → Prop) : Geo Gen.bucketSize 2 4 ∧ TTInv K D Gen.bucketSize 2 4 (TT.Access.new 2 4) :=
  ⟨⟨by decide, by decide, by decide⟩, TTInv.fresh K D (by decide) (by decide)⟩

/-- the loop invariant holds at the start of `analyze_iterative` (`best_eval = NEG_INF`, `best_mv = None`) -/
example (K : Keys) (D : State → Prop) (root : State) (rng : Rng.ChaCha8) :
    IterOK K D Gen.bucketSize 2 4 root
      { tt := TT.Access.new 2 4, rng := rng, events := [], nodes := 0, bestEval := Ev.negInf,
        bestMv := Option.none, polls := 0 } :=
  .init (TTInv.fresh K D (by decide) (by decide)) rfl rfl

/-! ## 6. full statements -/

/-- **Full soundness statement of C06** (as in DESIGN.md): for every root in a domain of positions, every artifact with a
sound table,
every seed, worker count and cancellation point, every winning report is a true forced win AND its first move keeps
it.  `C06_iterate_sound` proves it when every iteration uses one worker, and proves the first conjunct for any
number of workers run one after the other.  The second conjunct for `workers > 1` is expected to be FALSE for the code
as it stands (see `C06_report_pairing_partial`; `Wee/Props/C06Pairing.lean` proves it for every schedule when one worker
is deepest and the root's bucket never fills); it is kept here as the statement the oracle comparison checks. -/
def C06_sound_statement : Prop :=
  ∀ (D : State → Prop) (L nT nB : Nat) (_ : Geo L nT nB) (art : Artifact) (_ : Domain art.keys.keys D)
    (root : State) (_ : D root) (_ : TTInv art.keys.keys D L nT nB art.tt)
    (rng0 : Rng.ChaCha8) (maxDepth : Option Nat) (workersOf : Nat → Nat) (cancelAt : Option Nat) (fuelDepth : Nat),
    ∀ ev ∈ (iterate root rng0 maxDepth art workersOf cancelAt fuelDepth).events, MoveKeeps root ev

/-- the one-worker instance of `C06_sound_statement` is a theorem -/
theorem C06_sound_one_worker {D : State → Prop} {L nT nB : Nat} (g : Geo L nT nB) (art : Artifact)
    (dom : Domain art.keys.keys D) (root : State) (hD : D root) (htt : TTInv art.keys.keys D L nT nB art.tt)
    (rng0 : Rng.ChaCha8) (maxDepth : Option Nat) (cancelAt : Option Nat) (fuelDepth : Nat) :
    ∀ ev ∈ (iterate root rng0 maxDepth art (fun _ => 1) cancelAt fuelDepth).events, MoveKeeps root ev :=
  (C06_iterate_sound g art dom root hD htt rng0 maxDepth (fun _ => 1) cancelAt fuelDepth).2.2.2 fun _ => rfl

/-- **Completeness statement of C06** (NOT a theorem: the final clause `lostIn (n - 1) r.2` is false of the model and
of the engine, instances in the head of `Wee/Props/C06Complete.lean`, which proves the rest for one worker per iteration;
the statement is what every run compares with the exhaustive solver `Outcome.forcedMate` on the mate-in-≤5 corpus and
with the retrograde tables of the 3-man families).
From fresh memory (any geometry, any history-free artifact), if the side to move can force mate within `n` plies and
the search is limited to `d ≥ n` iterations, is never cancelled, and does not panic, then some report has a winning
terminal evaluation and the LAST report is winning with a first move into a position where the opponent is lost
within `n - 1` plies.  Stated for every seed and every worker count.
Known obstacles: (1) it is REFUTED on the pinned tree through defect F3 (`k7/8/2K5/8/8/8/8/7R w`, a three-ply mate
not reported at depth 3 or 4) and relies on `C05_mate` after the repair; (2) fail-low nodes are never stored (an
`UpperBound` entry is never written: `evaluation_type` stays `UpperBound` only while `best_move` is `None`, and
nothing is inserted then), table entries are re-used only with at least the remaining depth, and check extensions
keep the remaining depth exact — these are the facts the proof (`Wee/Proofs/MateComplete.lean`) uses; (3) the draw-by-history return makes a
mating line that repeats a position of the game history look like a draw, so the statement is restricted to an empty
game history; (4) a full bucket may displace the root entry, in which case the iteration reports nothing
(`line.is_empty()`) — this is no obstacle to "the last report is winning": `C06_complete_one_worker` and
`C06_complete_some_report_any_workers` (`Wee/Props/C06Complete.lean`) hold for every `nT, nB > 0`.
(`TreeBounded root` among the hypotheses is redundant since the repair of F10.) -/
def C06_complete_statement : Prop :=
  ∀ (root : State) (n d : Nat) (keys : KeyTable) (nT nB : Nat) (rng0 : Rng.ChaCha8) (workersOf : Nat → Nat),
    LegalPos root = true → DisjointBoard root.pieces → TreeBounded root →
    CollisionFree keys.keys (Reachable root) → 0 < nT → 0 < nB →
    forcedMate n root = true → n ≤ d → (∀ k, 0 < workersOf k) →
    let out := iterate root rng0 (some d) { keys := keys, tt := TT.Access.new nT nB, history := [] } workersOf Option.none
    out.panic = Option.none → out.artifact.tt.entries * 2 ≤ out.artifact.tt.maxEntries →
    ∃ ev line, (bestReports out.events).getLast? = some (ev, line) ∧
      Ev.posInf ≤ ev ∧ ∃ r ∈ legalMoves root, line.head? = some r.1 ∧ lostIn (n - 1) r.2 = true

end Wee.C06
