import Wee.Proofs.MateComplete2
import Wee.Props.C06
import Wee.Props.C04
import Wee.Props.C17
/-!
# C06 — completeness: shallow forced mates are found (one worker per iteration); C17 — the consequence for recorded positions

Rust: `weechess-engine/src/searcher.rs` (`analyze_iterative`, `analyze_recursive`, `quiescence_search`,
`TranspositionTableMoveIterator`, `StateHistory`).  Model: `Wee/Model/Search.lean`.  Specification: `Wee/Spec/Outcome.lean`
(`forcedMate n`, `lostIn n`, `Win`, `Lost`).  Proofs: `Wee/Proofs/MateSolver.lean` (the solvers),
`Wee/Proofs/MateComplete.lean` (node level), `Wee/Proofs/MateRoot.lean` (root call), `Wee/Proofs/MateComplete2.lean`
(iteration, deepening loop).

What is proved here (for every seed / generator state, every table geometry, no cancellation; one worker per iteration
unless said otherwise):

* `C06_search_complete` — the node-level induction: `analyze_recursive` with window `(α, β)` and remaining depth `rem`
  returns `≥ min β POS_INF` on a visible forced mate within `rem` plies and `≤ max α NEG_INF` on a visible forced loss
  within `rem` plies, given the table invariant `CompleteTT`; "visible" = the mating strategy avoids the keys recorded
  in the state history (`fmH` / `liH`), because a non-root node with a recorded key is valued as a draw.
* `C06_complete_tt_preserved` — every returning call (hence every worker) re-establishes `CompleteTT`.
* `C06_complete_one_worker` — **completeness from fresh memory and an empty game history**: `forcedMate n root`, depth
  limit `d ≥ n` ⇒ no panic, the LAST `BestMove` report is winning (`≥ POS_INF`), its line is non-empty and starts with a
  legal move of the root into a position that is `Lost` for the opponent.
* `C06_complete_some_report_any_workers` — any number of workers per iteration, run one after the other: no panic
  and the last `BestMove` report is winning (no claim about its first move).  Both are instances of
  `C06_complete_workers`.
* `C17_win` — as `C06_complete_one_worker` (one worker per iteration), with an arbitrary incoming history, for forced
  mates that avoid the recorded positions; the reported first move leads to an unrecorded position.  `C17_win_two_moves` is the shape of `C17_win_statement`
  (a repeating winning move and another winning move: the other one is reported).  `C17_win_statement_vacuous`
  records that `C17_win_statement` as written in `Props/C17.lean` has unsatisfiable hypotheses.

What is NOT proved — and is FALSE of the model and of the real engine: the clause `lostIn (n - 1) r.2` of
`C06_complete_statement` (the reported move keeps the *shortest* mate).  A table entry with a larger remaining depth
may be used at a node with a smaller one (the probe asks `≥`), mate scores are stored without ply adjustment, so
through a tempo-losing transposition the search proves a mate longer than the iteration's depth with the (stale)
score of a shorter one, and `alpha` is only replaced by a strictly larger value.  Replayable instances (one worker,
depth 5 = the mate distance; compiled model `weedriver run` and real engine `weeharness` give identical events):

* `search 3040019196 5 1 - 2 64 0 8/1k6/R7/8/8/8/8/5RK1 w - - 0 1` → last report `best:10400:268481620,…` (Rf1-f6);
  the moves that keep the mate in 5 are 268483204 (Ra6-g6) and 268484228 (Ra6-h6); Rf1-f6 mates in 7
  (`matekeep 5 …` / `matekeep 7 …`); table 512/1024 entries.
* `search 1409875085 5 1 - 4 256 0 3Q4/8/k7/4R3/8/8/8/1K6 w - - 0 1` → last report `best:10500:268475972,…` (Re5-h5),
  not among the four moves keeping the mate in 5; here even the ply encoded in the score (5) is wrong: the oracle
  request `matecheck 10500 268475972 3Q4/8/k7/4R3/8/8/8/1K6 w - - 0 1` answers `first-move-loses-the-mate`.

* `search 548665608 5 1 - 2 64 0 8/6Q1/8/8/4P3/8/8/1k1K4 w - - 0 1` (the table geometry `./check C06` uses; 12127
  nodes) → last report `best:10500:268450661,…`; the moves keeping the mate in 5 are 268473189 and 268486501;
  `matecheck 10500 268450661 8/6Q1/8/8/4P3/8/8/1k1K4 w - - 0 1` answers `first-move-loses-the-mate`.

These runs have 10⁴ … 5·10⁴ nodes and `quiesce` is defined by well-founded recursion, so they cannot be turned into
kernel-checked theorems (`decide +kernel` does not unfold it); they are checked with the compiled model and the real
code only.  What IS proved about the reported move: it leads to a `Lost` position (soundness, `C06.lean`).
For several workers per iteration (run one after the other) only "the last report is winning" is proved
(`C06_complete_some_report_any_workers`), not the first-move clause (`C06_complete_statement` quantifies over
`workersOf` and asks for it).
-/
namespace Wee.C06
open Wee Wee.Search Wee.Outcome
open Wee.C10 (DisjointBoard)

/-! ## 1. the history-aware solver -/

/-- `inHist K H s`: the Zobrist key of `s` is one of the recorded keys `H` (`state_history.lookup(&hash).is_some()`) -/
example (K : Keys) (H : List UInt64) (s : State) : inHist K H s = H.contains (hash K s) := rfl

/-- **`fmH K H n s`** — the side to move can force mate within `n` plies by a strategy all of whose positions after the
first move have unrecorded keys; **`liH K H n s`** — the side to move is mated, or every legal move leads to an
unrecorded position where the opponent has such a strategy within `n - 1` plies.  These are `forcedMate` / `lostIn` of
`Spec/Outcome.lean` with the extra condition `!inHist` on every successor: `analyze_recursive` returns `EVEN` for a
non-root node with a recorded key (C17), so a mate through such a node is invisible to it — and a defence that reaches
such a node refutes the mate in the engine's eyes. -/
example (K : Keys) (H : List UInt64) (n : Nat) (s : State) :
    (fmH K H 0 s = false) ∧
    (fmH K H (n+1) s = (legalMoves s).any fun r => !inHist K H r.2 && liH K H n r.2) ∧
    (liH K H 0 s = isMated s) ∧
    (liH K H (n+1) s = if (legalMoves s).isEmpty then s.isCheck
      else (legalMoves s).all fun r => !inHist K H r.2 && fmH K H n r.2) :=
  ⟨by rw [fmH.eq_1], by rw [fmH.eq_2], by rw [liH.eq_1], by rw [liH.eq_2]⟩

/-- the history-aware solver only finds true forced mates, and more plies never lose one -/
theorem C06_solverH_sound (K : Keys) (H : List UInt64) (n : Nat) (s : State) :
    (fmH K H n s = true → forcedMate n s = true) ∧ (liH K H n s = true → lostIn n s = true) ∧
    (fmH K H n s = true → fmH K H (n+1) s = true) ∧ (liH K H n s = true → liH K H (n+1) s = true) :=
  ⟨(solverH_sub K H n s).1, (solverH_sub K H n s).2, (solverH_mono K H n s).1, (solverH_mono K H n s).2⟩

/-- with an empty history nothing is excluded: the two solvers coincide -/
theorem C06_solverH_nil (K : Keys) (n : Nat) : ∀ s,
    fmH K [] n s = forcedMate n s ∧ liH K [] n s = lostIn n s := solverH_nil K n

/-! ## 2. values, entries, the table invariant -/

/-- **`CVal`**: what completeness asks of the value `r` of a fail-hard node with window `(α, β)` and remaining depth
`rem`: a visible forced mate within `rem` plies gives `r ≥ min β POS_INF`, a visible forced loss within `rem` plies
gives `r ≤ max α NEG_INF` -/
example (K : Keys) (H : List UInt64) (s : State) (rem : Nat) (α β r : Eval) : CVal K H s rem α β r ↔
    ((fmH K H rem s = true → β ≤ r ∨ 10000 ≤ r) ∧ (liH K H rem s = true → r ≤ α ∨ r ≤ -10000)) := Iff.rfl

/-- **`CompleteEntry`**: what a stored entry `e` (remaining depth `R = e.maxDepth - e.depth`) claims about a position
`s` with its key, for depths `k ≤ R` up to the bound `B`: an `Exact` (or `UpperBound`) value is winning if `s` is a
visible forced mate within `k`; an `Exact` or `LowerBound` value is losing if `s` is a visible forced loss within `k`
(a cut-off `ev ≥ β` in such a position forces `β ≤ NEG_INF`).  `UpperBound` entries are never written by
`analyze_recursive` (the kind stays `UpperBound` only while `best_move` is `None`, and then nothing is stored); they get
the symmetric clause so that no invariant about kinds is needed.
**`CompleteTT`**: every entry found under the key of a position of `D` is complete for it. -/
example (K : Keys) (H : List UInt64) (B : Nat) (s : State) (e : TT.Entry) : CompleteEntry K H B s e ↔
    ∀ k, k ≤ e.maxDepth - e.depth → k ≤ B →
      ((e.kind = kindExact ∨ e.kind = kindUpper) → fmH K H k s = true → 10000 ≤ e.eval) ∧
      (e.kind ≠ kindUpper → liH K H k s = true → e.eval ≤ -10000) := Iff.rfl
example (K : Keys) (H : List UInt64) (D : State → Prop) (B : Nat) (tt : TT.Access) : CompleteTT K H D B tt ↔
    ∀ s e, D s → tt.find (hash K s).toNat = some e → CompleteEntry K H B s e := Iff.rfl

/-- **`CollH K H D B`** — no harmful key collision for completeness: positions of `D` with equal keys have the same
visible mate distances up to `B`.  **`CollisionFreeN K D`** — the same for the plain solver and all distances; for
an empty incoming history it implies `CollH` up to the root's mate distance (`collH_single`: along a shortest mate no
position can repeat the root).  Like `CollisionFree` these cannot be asked of all `State`s (more than `2^64`), only of
the positions a search can reach; they are the precise content of "up to 64-bit chance". -/
example (K : Keys) (H : List UInt64) (D : State → Prop) (B : Nat) : CollH K H D B ↔
    ∀ s s', D s → D s' → hash K s = hash K s' → ∀ n, n ≤ B →
      fmH K H n s = fmH K H n s' ∧ liH K H n s = liH K H n s' := Iff.rfl
example (K : Keys) (D : State → Prop) : CollisionFreeN K D ↔
    ∀ s s', D s → D s' → hash K s = hash K s' → ∀ n,
      forcedMate n s = forcedMate n s' ∧ lostIn n s = lostIn n s' := Iff.rfl

/-! ## 3. `analyze_recursive` -/

/-- **C06_search_complete** (node level; nothing is left open).  Let `D` be a `Domain` for the keys `K` of the search,
`H` its state history, the table have positive geometry, satisfy the shape invariant and `CompleteTT … B`, and keys not
collide harmfully (`CollH … B`).  For every remaining depth `rem ≤ B` and node `a` with position in `D`, window
`alpha < beta`, bookkeeping `max_depth = current_depth + rem` (true along the recursion: the check extension is added
to both) and a legal (or no) prioritised move: if the call returns `r` in state `st'`, then

* the table satisfies the shape invariant and `CompleteTT` again, and at least one node was counted;
* if the node is the root (`current_depth = 0`) or its key is not recorded:
  `fmH rem a.s` ⇒ `beta ≤ r ∨ POS_INF ≤ r`, and `liH rem a.s` ⇒ `r ≤ alpha ∨ r ≤ NEG_INF`;
* if it is not the root and its key is recorded, `r = 0` (C17).

Cases covered: draw by history, the three table-hit paths (an entry is only used with at least the remaining depth;
mate scores stored at another ply are still `≥ POS_INF` / `≤ NEG_INF`), quiescence at the horizon (only "mated now"
matters: no legal move ⇒ `-mate_in_ply`), the move loop (the strategy move is in the buffer whatever the order and the
jitter; once it has been searched `alpha ≥ min beta POS_INF` or a cut-off happened; in a lost node every child returns
`≥ min(-alpha, POS_INF)`, so `alpha` never rises above `max alpha₀ NEG_INF` and a cut-off needs `beta ≤ NEG_INF`), the
"no node searched" exit (the node counter strictly grows when a legal move is in the buffer, so the exit is only
taken without legal moves, where the static value is the mate score), the `LowerBound` store of a cut-off and the
final store. -/
theorem C06_search_complete {K : Keys} {H : List UInt64} {D : State → Prop} {B L nT nB : Nat} (g : Geo L nT nB)
    (dom : Domain K D) (coll : CollH K H D B) (ctx : Ctx) (hK : ctx.keys = K) (hH : ctx.history = H)
    (rem : Nat) (a : NodeArgs) (hD : D a.s) (hab : a.alpha < a.beta) (hrem : a.maxDepth = a.curDepth + rem)
    (hB : rem ≤ B) (hprio : PrioOK a) (st : St) (hshape : TT.AInv L nT nB st.tt) (hct : CompleteTT K H D B st.tt)
    (r : Eval) (st' : St) (hrun : (searchNode ctx rem a).run.run st = (.ok r, st')) :
    TT.AInv L nT nB st'.tt ∧ CompleteTT K H D B st'.tt ∧ st.nodes < st'.nodes ∧
    ((a.curDepth = 0 ∨ H.contains (hash K a.s) = false) →
      (fmH K H rem a.s = true → a.beta ≤ r ∨ Ev.posInf ≤ r) ∧
      (liH K H rem a.s = true → r ≤ a.alpha ∨ r ≤ Ev.negInf)) ∧
    (0 < a.curDepth → H.contains (hash K a.s) = true → r = 0) := by
  obtain ⟨h1, h2, h3, h4⟩ := searchNode_complete g dom coll ctx hK hH rem a hD hab hrem hB hprio st.nodes st
    ⟨⟨hshape, hct⟩, Nat.le_refl _⟩ r st' hrun
  exact ⟨h1.1, h1.2, h2, fun h => by rw [posInf_eq, negInf_eq]; exact h3 h, h4⟩

/-- **C06_complete_tt_preserved.**  Every returning call of `analyze_recursive` (same hypotheses) leaves a table that
satisfies `CompleteTT` again: the `LowerBound` entry of a cut-off and the final entry are complete for the node's
position, and by `CollH` for every position of the domain with the same key.  (On the interrupt and panic paths the
table is not inspected here: completeness is about searches that run to their end.) -/
theorem C06_complete_tt_preserved {K : Keys} {H : List UInt64} {D : State → Prop} {B L nT nB : Nat} (g : Geo L nT nB)
    (dom : Domain K D) (coll : CollH K H D B) (ctx : Ctx) (hK : ctx.keys = K) (hH : ctx.history = H)
    (rem : Nat) (a : NodeArgs) (hD : D a.s) (hab : a.alpha < a.beta) (hrem : a.maxDepth = a.curDepth + rem)
    (hB : rem ≤ B) (hprio : PrioOK a) (st : St) (hshape : TT.AInv L nT nB st.tt) (hct : CompleteTT K H D B st.tt)
    (r : Eval) (st' : St) (hrun : (searchNode ctx rem a).run.run st = (.ok r, st')) :
    CompleteTT K H D B st'.tt :=
  (C06_search_complete g dom coll ctx hK hH rem a hD hab hrem hB hprio st hshape hct r st' hrun).2.1

/-- the same for a whole worker (`runWorker` = the root call with the root window), together with its value:
a visible forced mate of the root within the worker's search depth gives a winning value -/
theorem C06_complete_worker {K : Keys} {H : List UInt64} {D : State → Prop} {B L nT nB : Nat} (g : Geo L nT nB)
    (dom : Domain K D) (coll : CollH K H D B) (ctx : Ctx) (hK : ctx.keys = K) (hH : ctx.history = H)
    (root : State) (hD : D root) (depth : Nat) (hdB : depth + 1 ≤ B)
    (best : Option Move) (hbest : BestOK root best) (tt : TT.Access) (htt : TTInv K D L nT nB tt)
    (hct : CompleteTT K H D B tt) (rng : Rng.ChaCha8) (polls : Nat) (e : Eval) (stw : St)
    (hrun : runWorker ctx root (depth + 1) best tt rng polls = (.ok e, stw)) :
    CompleteTT K H D B stw.tt ∧ (fmH K H (depth + 1) root = true → Ev.posInf ≤ e) := by
  rw [posInf_eq]
  exact runWorker_complete g dom coll ctx hK hH root hD depth hdB best hbest tt htt.1 hct rng polls e stw hrun

/-! ## 4. `analyze_iterative`: the last report is winning (any workers); its first move (one worker per iteration) -/

/-- the common statement of `C06_complete_one_worker` and `C06_complete_some_report_any_workers`: with `workersOf k ≥ 1`
workers in iteration `k` (run one after the other) the search does not panic and its last `BestMove` report is
winning; if every iteration has exactly one worker, the reported line starts with a legal move into a `Lost` position.
(No `TreeBounded root` among the hypotheses.) -/
theorem C06_complete_workers (root : State) (n d : Nat) (keys : KeyTable) (nT nB : Nat)
    (rng0 : Rng.ChaCha8) (workersOf : Nat → Nat) (fuelDepth : Nat)
    (hl : LegalPos root = true) (hdj : DisjointBoard root.pieces)
    (hcf : CollisionFree keys.keys (Reachable root)) (hcfn : CollisionFreeN keys.keys (Reachable root))
    (hT : 0 < nT) (hB : 0 < nB) (hw : forcedMate n root = true) (hnd : n ≤ d) (hwk : ∀ k, 0 < workersOf k) :
    let out := iterate root rng0 (some d) { keys := keys, tt := TT.Access.new nT nB, history := [] } workersOf
      Option.none fuelDepth
    out.panic = Option.none ∧
    ∃ ev line, (bestReports out.events).getLast? = some (ev, line) ∧ Ev.posInf ≤ ev ∧
      ((∀ k, workersOf k = 1) → ∃ r ∈ legalMoves root, line.head? = some r.1 ∧ Lost r.2) := by
  intro out
  have hnp : out.panic = Option.none :=
    SearchCtl.C04_no_panic_fresh root rng0 (some d) keys [] workersOf Option.none fuelDepth nT nB hT hB hl hdj
  obtain ⟨n₀, hn₀, hw₀, hmin⟩ := exists_least (fun k => forcedMate k root) n hw
  have dom := Domain.ofRoot_all hl hdj hcf
  have hwH := (solver_hist_equiv dom.closed hcfn (Reachable.refl root) hw₀ hmin n₀ (Nat.le_refl _) root
    (Reachable.refl root)).1.trans hw₀
  have coll := collH_single dom.closed hcfn (Reachable.refl root) hw₀ hmin
  obtain ⟨ev, line, h1, h2, h3⟩ := iterate_complete_workers hT hB keys [] root dom (Reachable.refl root) n₀ d
    coll hwH (by omega) workersOf hwk rng0 fuelDepth hnp
  refine ⟨hnp, ev, line, h1, h2, fun h => ?_⟩
  obtain ⟨r, hr, h4, h5, _⟩ := h3 h
  exact ⟨r, hr, h4, h5⟩

/-- **C06_complete_one_worker** (completeness half of C06 for one worker per iteration).
Hypotheses: a legal root position (placement without overlaps) whose reachable tree satisfies the material bound of
C05 (`TreeBounded root`: REDUNDANT since the repair of defect F10 — `C06_complete_one_worker_all` and
`C06_complete_some_report_any_workers_all` in `Wee/Props/Clamped.lean` drop it, as do `C17_win_all`,
`C17_win_two_moves_all` of §5 for the theorems below); a key table without harmful collision among the positions
reachable from the root — `CollisionFree` (what soundness needs) and `CollisionFreeN` (equal keys ⇒ equal mate distances); fresh memory of any geometry
`nT, nB > 0`; an EMPTY game history; the side to move can force mate within `n` plies; depth limit `d ≥ n`; one worker
per iteration; never cancelled; any generator state.  Then

* the search does not panic (C04);
* there is at least one `BestMove` report and the LAST one has a winning terminal evaluation `ev ≥ POS_INF`
  (the loop ends with it: `best_eval >= POS_INF` breaks);
* its line is non-empty and starts with a legal move `r.1` of the root that leads to a position `r.2` in which the
  opponent is `Lost` (mated or unable to avoid mate).

Proof: let `n₀ ≤ n` be the least distance.  Iterations `depth = 0 … n₀-1` search with `search_depth = depth + 1 ≤ n₀`;
below the root the remaining depth is `< n₀`, so every position where the induction is applied is won/lost in fewer
than `n₀` plies and therefore — by `CollisionFreeN` — has a key different from the root's, the only recorded one
(`solver_hist_equiv`).  `CompleteTT` is preserved by every iteration.  An iteration whose value is `≥ POS_INF` leaves
its root entry (the root's insert is the last write; nothing below the root writes under a recorded key), so the line
is non-empty, the report is emitted and the loop ends; the iteration with `search_depth = n₀` has such a value by
`C06_search_complete` and the root window `(-11000, 11000) ∋ POS_INF`.  The first move: soundness
(`SoundTT`, the pairing of the root's value with the root entry for one worker). -/
theorem C06_complete_one_worker (root : State) (n d : Nat) (keys : KeyTable) (nT nB : Nat) (rng0 : Rng.ChaCha8)
    (fuelDepth : Nat)
    (hl : LegalPos root = true) (hdj : DisjointBoard root.pieces) (htb : TreeBounded root)
    (hcf : CollisionFree keys.keys (Reachable root)) (hcfn : CollisionFreeN keys.keys (Reachable root))
    (hT : 0 < nT) (hB : 0 < nB) (hw : forcedMate n root = true) (hnd : n ≤ d) :
    let out := iterate root rng0 (some d) { keys := keys, tt := TT.Access.new nT nB, history := [] } (fun _ => 1)
      Option.none fuelDepth
    out.panic = Option.none ∧
    ∃ ev line, (bestReports out.events).getLast? = some (ev, line) ∧ Ev.posInf ≤ ev ∧
      ∃ r ∈ legalMoves root, line.head? = some r.1 ∧ Lost r.2 := by
  intro out
  obtain ⟨hnp, ev, line, h1, h2, h3⟩ := C06_complete_workers root n d keys nT nB rng0 (fun _ => 1) fuelDepth hl hdj
    hcf hcfn hT hB hw hnd fun _ => Nat.one_pos
  exact ⟨hnp, ev, line, h1, h2, h3 fun _ => rfl⟩

/-- **C06_complete_some_report_any_workers** ("some winning report" for any number of workers per iteration, run one
after the other as the model runs them).  Same hypotheses as `C06_complete_one_worker`, but `workersOf k ≥ 1` workers
in iteration `k`.  Then the search does not panic and the LAST `BestMove` report has a winning evaluation.
The first-move clause is not claimed here: with several workers the reported evaluation is the maximum over the
workers while the line is read from the shared table (`C06_report_pairing_partial`).
Proof: `CompleteTT` and soundness survive every worker; the entries under the root's key are written by root calls
only (`Exact`, or the `LowerBound` of a cut-off at `beta = mate_in_ply(0)`); in the iteration with
`search_depth = n₀` worker 0 returns `≥ POS_INF` and leaves a root entry with remaining depth `n₀`; every later worker
(search depth `n₀ - 1` or `n₀`) finds it at the root's probe and returns without touching the table, so the line read
afterwards is non-empty and the maximum of the workers' values is `≥ POS_INF`.
`iterate` runs the workers one after the other; completeness under the interleavings of `Wee/Props/Interleave.lean` is
not proved. -/
theorem C06_complete_some_report_any_workers (root : State) (n d : Nat) (keys : KeyTable) (nT nB : Nat)
    (rng0 : Rng.ChaCha8) (workersOf : Nat → Nat) (fuelDepth : Nat)
    (hl : LegalPos root = true) (hdj : DisjointBoard root.pieces) (htb : TreeBounded root)
    (hcf : CollisionFree keys.keys (Reachable root)) (hcfn : CollisionFreeN keys.keys (Reachable root))
    (hT : 0 < nT) (hB : 0 < nB) (hw : forcedMate n root = true) (hnd : n ≤ d) (hwk : ∀ k, 0 < workersOf k) :
    let out := iterate root rng0 (some d) { keys := keys, tt := TT.Access.new nT nB, history := [] } workersOf
      Option.none fuelDepth
    out.panic = Option.none ∧
    ∃ ev line, (bestReports out.events).getLast? = some (ev, line) ∧ Ev.posInf ≤ ev := by
  intro out
  obtain ⟨hnp, ev, line, h1, h2, _⟩ := C06_complete_workers root n d keys nT nB rng0 workersOf fuelDepth hl hdj
    hcf hcfn hT hB hw hnd hwk
  exact ⟨hnp, ev, line, h1, h2⟩

/-! ## 5. C17: winning although a winning move repeats a recorded position -/

/-- **C17_win_all** (general incoming history; no `TreeBounded root`).  As `C06_complete_one_worker`, but the artifact
carries an arbitrary history of recorded keys.  `H` = the root's key followed by that history is what the search runs with.  If the side
to move has a forced mate within `n ≤ d` plies that avoids the recorded keys (`fmH … H n root`) and equal keys mean
equal visible mate distances up to `n` (`CollH`), then the search does not panic, its last `BestMove` report is
winning, and the reported first move leads to a position that is `Lost` for the opponent and whose key is NOT
recorded: the search wins without repeating a position of the game. -/
theorem C17_win_all (root : State) (n d : Nat) (keys : KeyTable) (history : List UInt64) (nT nB : Nat)
    (rng0 : Rng.ChaCha8) (fuelDepth : Nat)
    (hl : LegalPos root = true) (hdj : DisjointBoard root.pieces)
    (hcf : CollisionFree keys.keys (Reachable root))
    (hcoll : CollH keys.keys (hash keys.keys root :: history) (Reachable root) n)
    (hT : 0 < nT) (hB : 0 < nB) (hw : fmH keys.keys (hash keys.keys root :: history) n root = true) (hnd : n ≤ d) :
    let out := iterate root rng0 (some d) { keys := keys, tt := TT.Access.new nT nB, history := history } (fun _ => 1)
      Option.none fuelDepth
    out.panic = Option.none ∧
    ∃ ev line, (bestReports out.events).getLast? = some (ev, line) ∧ Ev.posInf ≤ ev ∧
      ∃ r ∈ legalMoves root, line.head? = some r.1 ∧ Lost r.2 ∧
        (hash keys.keys root :: history).contains (hash keys.keys r.2) = false := by
  intro out
  have hnp : out.panic = Option.none :=
    SearchCtl.C04_no_panic_fresh root rng0 (some d) keys history (fun _ => 1) Option.none fuelDepth nT nB hT hB hl hdj
  obtain ⟨ev, line, r, h1, h2, h3, h4, h5, h6⟩ := iterate_complete hT hB keys history root
    (Domain.ofRoot_all hl hdj hcf) (Reachable.refl root) n d hcoll hw hnd rng0 fuelDepth hnp
  exact ⟨hnp, ev, line, h1, h2, r, h3, h4, h5, h6⟩

/-- **C17_win_two_moves_all** (the situation of `C17_win_statement`; no `TreeBounded root`).  Two legal first moves `r1`,
`r2` of the root; `r1` leads into a position whose key is recorded in the incoming history (so the search values it as a draw although it
may win); `r2` leads to an unrecorded position in which the opponent is lost within `n` plies along lines that avoid
recorded keys (`liH`).  Then the search of depth `d ≥ n + 1` ends with a winning `BestMove` report whose first move is
not the repeating move `r1` (and leads to a `Lost`, unrecorded position). -/
theorem C17_win_two_moves_all (root : State) (n d : Nat) (r1 r2 : Move × State) (keys : KeyTable)
    (history : List UInt64) (nT nB : Nat) (rng0 : Rng.ChaCha8) (fuelDepth : Nat)
    (hl : LegalPos root = true) (hdj : DisjointBoard root.pieces)
    (hcf : CollisionFree keys.keys (Reachable root))
    (hcoll : CollH keys.keys (hash keys.keys root :: history) (Reachable root) (n + 1))
    (hT : 0 < nT) (hB : 0 < nB) (hr1 : r1 ∈ legalMoves root) (hr2 : r2 ∈ legalMoves root)
    (hrec : history.contains (hash keys.keys r1.2) = true)
    (hfree : (hash keys.keys root :: history).contains (hash keys.keys r2.2) = false)
    (hwin : liH keys.keys (hash keys.keys root :: history) n r2.2 = true) (hnd : n + 1 ≤ d) :
    let out := iterate root rng0 (some d) { keys := keys, tt := TT.Access.new nT nB, history := history } (fun _ => 1)
      Option.none fuelDepth
    ∃ ev line, (bestReports out.events).getLast? = some (ev, line) ∧ Ev.posInf ≤ ev ∧ line.head? ≠ some r1.1 ∧
      ∃ r ∈ legalMoves root, line.head? = some r.1 ∧ Lost r.2 := by
  intro out
  have hw : fmH keys.keys (hash keys.keys root :: history) (n + 1) root = true :=
    (fmH_succ_iff _ _ n root).2 ⟨r2, hr2, hfree, hwin⟩
  obtain ⟨_, ev, line, h1, h2, r, h3, h4, h5, h6⟩ := C17_win_all root (n + 1) d keys history nT nB rng0 fuelDepth hl hdj
    hcf hcoll hT hB hw hnd
  refine ⟨ev, line, h1, h2, fun h => ?_, r, h3, h4, h5⟩
  rw [h4] at h
  have h' : r.1 = r1.1 := Option.some.inj h
  have hdom := Domain.ofRoot_all (K := keys.keys) hl hdj hcf
  obtain ⟨ms, hms⟩ := hdom.gen (Reachable.refl root)
  have hrr := legal_unique hms h3 hr1 h'
  rw [hrr, List.contains_cons, hrec, Bool.or_true] at h6
  cases h6

/-- **C17_win**: `C17_win_all` above with the redundant hypothesis `TreeBounded root` (the form of the statement with the
material bound). -/
theorem C17_win (root : State) (n d : Nat) (keys : KeyTable) (history : List UInt64) (nT nB : Nat)
    (rng0 : Rng.ChaCha8) (fuelDepth : Nat)
    (hl : LegalPos root = true) (hdj : DisjointBoard root.pieces) (htb : TreeBounded root)
    (hcf : CollisionFree keys.keys (Reachable root))
    (hcoll : CollH keys.keys (hash keys.keys root :: history) (Reachable root) n)
    (hT : 0 < nT) (hB : 0 < nB) (hw : fmH keys.keys (hash keys.keys root :: history) n root = true) (hnd : n ≤ d) :
    let out := iterate root rng0 (some d) { keys := keys, tt := TT.Access.new nT nB, history := history } (fun _ => 1)
      Option.none fuelDepth
    out.panic = Option.none ∧
    ∃ ev line, (bestReports out.events).getLast? = some (ev, line) ∧ Ev.posInf ≤ ev ∧
      ∃ r ∈ legalMoves root, line.head? = some r.1 ∧ Lost r.2 ∧
        (hash keys.keys root :: history).contains (hash keys.keys r.2) = false :=
  C17_win_all root n d keys history nT nB rng0 fuelDepth hl hdj hcf hcoll hT hB hw hnd

/-- **C17_win_two_moves**: `C17_win_two_moves_all` above with the redundant hypothesis `TreeBounded root`. -/
theorem C17_win_two_moves (root : State) (n d : Nat) (r1 r2 : Move × State) (keys : KeyTable)
    (history : List UInt64) (nT nB : Nat) (rng0 : Rng.ChaCha8) (fuelDepth : Nat)
    (hl : LegalPos root = true) (hdj : DisjointBoard root.pieces) (htb : TreeBounded root)
    (hcf : CollisionFree keys.keys (Reachable root))
    (hcoll : CollH keys.keys (hash keys.keys root :: history) (Reachable root) (n + 1))
    (hT : 0 < nT) (hB : 0 < nB) (hr1 : r1 ∈ legalMoves root) (hr2 : r2 ∈ legalMoves root)
    (hrec : history.contains (hash keys.keys r1.2) = true)
    (hfree : (hash keys.keys root :: history).contains (hash keys.keys r2.2) = false)
    (hwin : liH keys.keys (hash keys.keys root :: history) n r2.2 = true) (hnd : n + 1 ≤ d) :
    let out := iterate root rng0 (some d) { keys := keys, tt := TT.Access.new nT nB, history := history } (fun _ => 1)
      Option.none fuelDepth
    ∃ ev line, (bestReports out.events).getLast? = some (ev, line) ∧ Ev.posInf ≤ ev ∧ line.head? ≠ some r1.1 ∧
      ∃ r ∈ legalMoves root, line.head? = some r.1 ∧ Lost r.2 :=
  C17_win_two_moves_all root n d r1 r2 keys history nT nB rng0 fuelDepth hl hdj hcf hcoll hT hB hr1 hr2 hrec hfree hwin hnd

/-- **`C17_win_statement` is vacuous as written.**  Its hypotheses ask that the key of `r1.2` is recorded and that the
key of every state `q ≠ r1.2` is not.  The Zobrist key does not read the move counters, so `r1.2` with another
half-move clock is a different state with the same key: the hypotheses are contradictory and the statement holds for
every `WinIn` without saying anything about the search.  (Besides, it asks for `events.getLast? = some (.best …)`,
which a trailing saturation warning would falsify, and has no legality hypothesis on the root.)  `C17_win` /
`C17_win_two_moves` above are the non-vacuous form: "recorded" is a property of keys, the mate must avoid them. -/
theorem C17_win_statement_vacuous (WinIn : Nat → State → Prop) : SearchCtl.C17_win_statement WinIn := by
  intro root n r1 r2 rng0 art tables buckets _ _ _ _ _ _ _ _ hrec hother
  exfalso
  have hne : ({ r1.2 with halfmove := r1.2.halfmove + 1 } : State) ≠ r1.2 := by
    intro h
    have := congrArg State.halfmove h
    simp at this
  have := hother _ hne
  have hk : Wee.hash art.keys.keys ({ r1.2 with halfmove := r1.2.halfmove + 1 } : State) =
      Wee.hash art.keys.keys r1.2 := rfl
  rw [hk, hrec] at this
  cases this

/-! ## 6. non-vacuity: a concrete root satisfying all hypotheses, and the theorems instantiated on it -/

/-- `k1n5/PpP5/PPP5/8/8/6p1/6Pp/7K w - - 0 1`: White's only legal moves are `a6xb7#` and `c6xb7#` (no sliders on the
board, so the kernel can run the move generator); the reachable tree is the root and the two mated positions -/
def compRoot : State :=
  { pieces := { wk := 0x80, wp := 0x0005070000004000, bk := 0x0100000000000000, bn := 0x0400000000000000,
                bp := 0x0002000000408000 },
    turn := .white, castleW := .noRights, castleB := .noRights, ep := none, halfmove := 0, fullmove := 1 }

/-- a small key table: side to move (1 / 2) and "white pawn on a6" (4); all other keys 0 -/
def compKeys : KeyTable :=
  { turn := #[1, 2], piece := ((List.range 1024).map fun i => if i = 641 then (4 : UInt64) else 0).toArray,
    castle := #[], epFile := #[] }

/-- the two legal moves with their successors -/
def compA : Move × State := (legalMoves compRoot).getD 0 default
def compC : Move × State := (legalMoves compRoot).getD 1 default

theorem getD_map_range (n : Nat) (f : Nat → UInt64) (i : Nat) :
    ((List.range n).map f).toArray.getD i 0 = if i < n then f i else 0 := by
  by_cases h : i < n <;> simp [Array.getD, h]

/-- the piece keys of `compKeys` as a function, so that hashing with them does not rebuild the array for every piece -/
theorem compKeys_eq : compKeys.keys =
    { compKeys.keys with piece := fun sq c p => if sq * 16 + (c.idx * 8 + p.code) = 641 then 4 else 0 } := by
  have h : compKeys.keys.piece = fun sq c p => if sq * 16 + (c.idx * 8 + p.code) = 641 then 4 else 0 := by
    funext sq c p
    simp only [compKeys, KeyTable.keys, getD_map_range]
    split
    · rfl
    · rw [if_neg (by omega)]
  rw [← h]

/-- `compRoot` after one of the two pawn captures on b7, given the white pawns that result -/
def compAfter (wp : UInt64) : State :=
  { compRoot with pieces := { compRoot.pieces with wp := wp, bp := 0x408000 }, turn := .black }

/-- the move generator on `compRoot`, evaluated: `a6xb7` and `c6xb7` -/
theorem compRoot_moves : legalMoves compRoot =
    [(268551809, compAfter 0x0007060000004000), (268551841, compAfter 0x0007030000004000)] := by
  rw [legalMoves_fast]; decide +kernel

theorem compA_eq : compA = (268551809, compAfter 0x0007060000004000) := by rw [compA, compRoot_moves]; rfl
theorem compC_eq : compC = (268551841, compAfter 0x0007030000004000) := by rw [compC, compRoot_moves]; rfl

theorem compRoot_facts :
    LegalPos compRoot = true ∧ DisjointBoard compRoot.pieces ∧ MaterialBounded compRoot ∧
    forcedMate 1 compRoot = true ∧ legalMoves compRoot = [compA, compC] ∧
    (∀ r ∈ [compA, compC], legalMoves r.2 = [] ∧ r.2.isCheck = true ∧ MaterialBounded r.2) ∧
    hash compKeys.keys compRoot = 5 ∧ hash compKeys.keys compA.2 = 2 ∧ hash compKeys.keys compC.2 = 6 := by
  have hlm : legalMoves compRoot = [compA, compC] := by rw [compA_eq, compC_eq]; exact compRoot_moves
  have hch : ∀ r ∈ [compA, compC], legalMoves r.2 = [] ∧ r.2.isCheck = true ∧ MaterialBounded r.2 := by
    simp only [compA_eq, compC_eq, legalMoves_fast, isCheck_fast, MaterialBounded, C05.termBound_fast]; decide +kernel
  refine ⟨by rw [legalPos_abs]; decide +kernel, by decide +kernel,
    by unfold MaterialBounded; rw [C05.termBound_fast]; decide +kernel, ?_, hlm, hch,
    by rw [compKeys_eq, hash_fast]; decide +kernel, by rw [compKeys_eq, compA_eq, hash_fast]; decide +kernel,
    by rw [compKeys_eq, compC_eq, hash_fast]; decide +kernel⟩
  -- `a6xb7` mates
  obtain ⟨hno, hck, _⟩ := hch compA List.mem_cons_self
  exact (forcedMate_succ_iff 0 compRoot).2 ⟨compA, by rw [hlm]; exact List.mem_cons_self, by rw [lostIn_of_nomoves hno]; exact hck⟩

theorem compRoot_reach (s : State) (h : Reachable compRoot s) : s = compRoot ∨ s = compA.2 ∨ s = compC.2 := by
  obtain ⟨_, _, _, _, hlm, hch, _⟩ := compRoot_facts
  rcases Reachable.depth_one (fun r hr => (hch r (by rw [hlm] at hr; exact hr)).1) s h with h | ⟨r, hr, h⟩
  · exact Or.inl h
  · rw [hlm] at hr
    -- no `rfl` patterns: substituting `compA` would evaluate it
    rcases List.mem_cons.1 hr with h' | h'
    · exact Or.inr (Or.inl (by rw [h, h']))
    · exact Or.inr (Or.inr (by rw [h, List.mem_singleton.1 h']))

/-- positions of the reachable tree with the same key are the same position -/
theorem compRoot_inj (s s' : State) (hs : Reachable compRoot s) (hs' : Reachable compRoot s')
    (hk : hash compKeys.keys s = hash compKeys.keys s') : s = s' := by
  obtain ⟨_, _, _, _, _, _, k0, k1, k2⟩ := compRoot_facts
  -- a position of the tree can be read off its key
  have hsel : ∀ t, Reachable compRoot t → t =
      if hash compKeys.keys t = 5 then compRoot else if hash compKeys.keys t = 2 then compA.2 else compC.2 := by
    intro t ht
    rcases compRoot_reach t ht with h | h | h
    · rw [h, k0, if_pos rfl]
    · rw [h, k1, if_neg (by decide +kernel), if_pos rfl]
    · rw [h, k2, if_neg (by decide +kernel), if_neg (by decide +kernel)]
  exact (hsel s hs).trans (by rw [hk]; exact (hsel s' hs').symm)

/-- all hypotheses of `C06_complete_one_worker` about the position and the keys hold for `compRoot` / `compKeys` -/
theorem compRoot_hyps :
    LegalPos compRoot = true ∧ DisjointBoard compRoot.pieces ∧ TreeBounded compRoot ∧
    CollisionFree compKeys.keys (Reachable compRoot) ∧ CollisionFreeN compKeys.keys (Reachable compRoot) ∧
    forcedMate 1 compRoot = true := by
  obtain ⟨f1, f2, f3, f4, _, hch, _⟩ := compRoot_facts
  obtain ⟨c1, c2, _⟩ := collisionFree_of_inj compRoot_inj
  refine ⟨f1, f2, fun s hs => ?_, c1, c2, f4⟩
  rcases compRoot_reach s hs with h | h | h
  · rw [h]; exact f3
  · rw [h]; exact (hch compA List.mem_cons_self).2.2
  · rw [h]; exact (hch compC (List.mem_cons_of_mem _ List.mem_cons_self)).2.2

/-- **`C06_complete_one_worker` instantiated**: for every table geometry, generator state and depth limit `d ≥ 1` the
search of `compRoot` from fresh memory does not panic and ends with a winning report whose first move mates -/
example (nT nB : Nat) (hT : 0 < nT) (hB : 0 < nB) (rng0 : Rng.ChaCha8) (d : Nat) (hd : 1 ≤ d) :
    let out := iterate compRoot rng0 (some d) { keys := compKeys, tt := TT.Access.new nT nB, history := [] }
      (fun _ => 1) Option.none
    out.panic = Option.none ∧
    ∃ ev line, (bestReports out.events).getLast? = some (ev, line) ∧ Ev.posInf ≤ ev ∧
      ∃ r ∈ legalMoves compRoot, line.head? = some r.1 ∧ Lost r.2 :=
  C06_complete_one_worker compRoot 1 d compKeys nT nB rng0 64 compRoot_hyps.1 compRoot_hyps.2.1 compRoot_hyps.2.2.1
    compRoot_hyps.2.2.2.1 compRoot_hyps.2.2.2.2.1 hT hB compRoot_hyps.2.2.2.2.2 hd

/-- **`C06_complete_some_report_any_workers` instantiated** (e.g. three workers in every iteration) -/
example (nT nB : Nat) (hT : 0 < nT) (hB : 0 < nB) (rng0 : Rng.ChaCha8) (d : Nat) (hd : 1 ≤ d) :
    let out := iterate compRoot rng0 (some d) { keys := compKeys, tt := TT.Access.new nT nB, history := [] }
      (fun _ => 3) Option.none
    out.panic = Option.none ∧ ∃ ev line, (bestReports out.events).getLast? = some (ev, line) ∧ Ev.posInf ≤ ev :=
  C06_complete_some_report_any_workers compRoot 1 d compKeys nT nB rng0 (fun _ => 3) 64 compRoot_hyps.1
    compRoot_hyps.2.1 compRoot_hyps.2.2.1 compRoot_hyps.2.2.2.1 compRoot_hyps.2.2.2.2.1 hT hB compRoot_hyps.2.2.2.2.2 hd
    (fun _ => by decide)

/-- **`C17_win_two_moves` instantiated**: the position after `a6xb7#` is recorded in the history (key 2), the other
mating move `c6xb7#` leads to an unrecorded position (key 6): the search reports a winning line that does not start
with `a6xb7`.  Hypotheses `hrec`, `hfree`, `hwin`, `CollH` are all satisfied. -/
example (nT nB : Nat) (hT : 0 < nT) (hB : 0 < nB) (rng0 : Rng.ChaCha8) (d : Nat) (hd : 1 ≤ d) :
    let out := iterate compRoot rng0 (some d) { keys := compKeys, tt := TT.Access.new nT nB, history := [2] }
      (fun _ => 1) Option.none
    ∃ ev line, (bestReports out.events).getLast? = some (ev, line) ∧ Ev.posInf ≤ ev ∧ line.head? ≠ some compA.1 ∧
      ∃ r ∈ legalMoves compRoot, line.head? = some r.1 ∧ Lost r.2 := by
  obtain ⟨_, _, _, _, hlm, hch, k0, k1, k2⟩ := compRoot_facts
  obtain ⟨h1, h2, h3, h4, _, _⟩ := compRoot_hyps
  refine C17_win_two_moves compRoot 0 d compA compC compKeys [2] nT nB rng0 64 h1 h2 h3 h4
    ((collisionFree_of_inj compRoot_inj).2.2 _ _) hT hB
    (by rw [hlm]; exact List.mem_cons_self) (by rw [hlm]; exact List.mem_cons_of_mem _ List.mem_cons_self)
    (by rw [k1]; decide) (by rw [k0, k2]; decide) ?_ hd
  rw [liH_of_nomoves _ _ (hch compC (List.mem_cons_of_mem _ List.mem_cons_self)).1]
  exact (hch compC (List.mem_cons_of_mem _ List.mem_cons_self)).2.1

/-- the node-level hypotheses are satisfiable: the root call of the first iteration on `compRoot` with fresh memory
(domain = the reachable tree, history = the root's key, bound `B = 1`) -/
example : Domain compKeys.keys (Reachable compRoot) ∧
    CollH compKeys.keys [hash compKeys.keys compRoot] (Reachable compRoot) 1 ∧
    CompleteTT compKeys.keys [hash compKeys.keys compRoot] (Reachable compRoot) 1 (TT.Access.new 2 4) ∧
    fmH compKeys.keys [hash compKeys.keys compRoot] 1 compRoot = true ∧ PrioOK (rootArgs compRoot 1 Option.none) := by
  obtain ⟨h1, h2, _, h4, _, _⟩ := compRoot_hyps
  obtain ⟨_, _, _, _, hlm, hch, k0, k1, _⟩ := compRoot_facts
  obtain ⟨hno, hck, _⟩ := hch compA List.mem_cons_self
  refine ⟨Domain.ofRoot_all h1 h2 h4, (collisionFree_of_inj compRoot_inj).2.2 _ _, fun s e _ hf => ?_,
    (fmH_succ_iff _ _ 0 compRoot).2 ⟨compA, by rw [hlm]; exact List.mem_cons_self, ?_, ?_⟩, fun m hm => nomatch hm⟩
  · rw [TT.Access.new_find (by decide) (by decide)] at hf; cases hf
  · rw [inHist, k0, k1]; decide
  · rw [liH_of_nomoves _ _ hno]; exact hck

end Wee.C06
