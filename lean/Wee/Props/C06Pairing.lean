import Wee.Proofs.PairingLemmas
import Wee.Props.Interleave
/-!
# C06, residue S2: "the reported first move keeps the mate" with several workers, under every schedule

Rust: `weechess-engine/src/searcher.rs`, `Searcher::analyze_iterative`.  After the workers of an iteration are joined, the
reported evaluation is the MAXIMUM of the workers' root values (`evaluations.iter().max()`), while the reported line is read
back from the shared transposition table (`iter_moves`), whose entry under the root key is overwritten by every worker that
was not answered by its first probe, when it finishes its root call.  Odd-numbered workers search one ply shallower.
Model: `Wee/Model/SearchEnv.lean` (`Interleaving`, `StepS`, `joinOf`, `finishStep`); lemmas: `Wee/Proofs/PairingLemmas.lean`.

`MoveKeeps root (.best ev line)` (Wee/Proofs/MateRoot.lean): `ev ≥ POS_INF →` the first move of `line` is a legal move of
the root into a position that is `Lost` (forced mate of ANY length) for the opponent.

## What is decided here (residue S2 of DESIGN.md §0.3, §0.8)

**Theorems — any seeds, any poll offsets, ANY interleaving of the atomic table operations.**

1. `C06_first_move_any_workers_of_winning_root_entry` (any number of workers) — one iteration (`StepData` = `StepS` with
   its schedule visible): if, whenever the iteration completes with a winning maximum, the entry under the root key in
   the joined table has a winning value (`PairedAt`, decidable), then every report of the iteration keeps the mate and the
   loop invariant holds again.  This isolates the whole residue in ONE table lookup: soundness of the table (`SoundTT`,
   proved for every schedule) already makes every winning entry carry a mating move; the only thing that can go wrong is
   that the entry read back is a NON-winning one.
2. `C06_winning_value_is_root_entry_value` (one worker, any environment) — the shape of a root call: first operation =
   probe of the root key; a store under the root key is the LAST operation and carries exactly the returned value
   (`depth = 0`, `max_depth = search_depth`); a winning returned value is the value of the probed entry or of that store;
   an entry that `Answers` ends the run at the probe.  Nothing below the root stores under the root key
   (`searchNodeE_deep_noKey`: the repetition test cuts first).
3. `C06_shallow_workers_never_write_root` (any number of workers) — if the iteration starts with a root entry that answers
   depth `sd`, all workers search at least `sd` deep and the root's bucket is never full (`RootRoomy` at every moment:
   no displacement), every worker of depth exactly `sd` is answered by its probe and never writes.  This is the structural
   explanation of the empty forced-schedule hunt (`tools/hunt_s2.py`), proved for every schedule.  Without any
   hypothesis on buckets, `interleaving_rootAdm` still shows: every store under the root key, by whichever worker,
   answers depth `sd` (rely/guarantee).
4. `C06_first_move_any_workers_one_deep_writer` — the pairing clause itself, every schedule, for "worker 0 deeper, all
   other started workers at depth `sd`": with the layout of `analyze_iterative` this is every iteration `depth ≥ 1` with at
   most two workers.  Hypotheses: root entry at the start answers `sd` and is not winning; root bucket never full.

**Refuted (not kernel-checked; compiled model `weedriver`-level, schedule validated by the executable `Interleaving` check
`okOuts` of `Driver/Interleave.lean`; not replayed on the real engine).**  Hypothesis `RootRoomy` of 3./4. cannot be
dropped: with a ONE-bucket table (`tables = 1, buckets = 1`, 8 slots) worker 0 displaces the root entry, the shallow worker 1
probes after that, searches one ply shallower, and — scheduled last — overwrites worker 0's winning root entry.
`3R4/4p3/8/8/8/8/8/4K2k w - - 0 1` (mate in 2 by `Ke1-f2`), seed 2193639750, depth limit 3, 2 workers, iteration `depth = 2`:
worker 0 performs 22 table operations, worker 1 runs completely except its root store, worker 0 finishes (value 10700,
root entry `Kf2`), worker 1's store (`Exact`, value 536, `Rd8-e8`) lands.  Report: `best:10700:268497844` (`Rd8-e8`), and
`matecheck` answers `first-move-loses-the-mate` (no mate within the claimed distance + 4).  CAVEAT for the formal
predicate: `MoveKeeps` asks `Lost` of ANY length; after `Rd8-e8` White (K+R v K+P) still wins, so this instance
violates the oracle's reading of C06 (the mate the score claims), not `MoveKeeps` as defined.  No instance with a
stalemating or material-losing wrong move is known.

**Open.**
* Several workers of the SAME (deepest) depth — workers 0, 2, 4, … of `analyze_iterative` from 3 workers on.  By 2. the
  entry read back is the store of the even worker that finished last; nothing forces that worker's value to be winning when
  another one's is: same-depth searches can differ through table grafting (an entry stored with more remaining depth is
  re-used at a shallower request; compiled-model runs on `1K6/8/8/3k4/7R/8/8/2Q5 w` find the mate in iteration 5 for some
  seeds and in iteration 6 for others).  No schedule exhibiting a mis-pair WITHOUT displacement is known (coarse
  two-phase schedules and random fine-grained schedules were tried: every store of the loser poisons the winner's graft
  and vice versa).  Neither a theorem nor a counterexample.
* `RootRoomy` is asked at every moment of the iteration; that fullness of a bucket is monotone (so that the condition
  on the joined table suffices) is not proved here.
* Iteration `depth = 0` with two workers (both search depth 1) is outside 3. and 4. (no root entry yet); 1. and 2. apply.
-/
namespace Wee
open Wee.Search Wee.Env Wee.Pairing Wee.C06 Wee.Outcome

/-- **C06_first_move_any_workers_of_winning_root_entry.**  One iteration of `analyze_iterative` with ANY number of workers
under ANY interleaving `d.H` of their table operations (`d : StepData …` is `StepS` with the schedule named).  Hypotheses:
the domain / table / loop invariant of `C06_search_any_schedule`, and the pairing condition `PairedAt` on the joined
results: "if no worker was interrupted and the maximum of the workers' values is winning, then the entry found under the
root key in the joined table has a winning value".  Conclusion: the loop invariant holds after the iteration and every
event it emits satisfies `MoveKeeps` — the first move of a winning report leads to a position in which the opponent is
`Lost`. -/
theorem C06_first_move_any_workers_of_winning_root_entry {K : Keys} {D : State → Prop} {L nT nB : Nat}
    (g : C06.Geo L nT nB) (dom : C06.Domain K D) (ctx : Ctx) (hK : ctx.keys = K) (root : State) (hD : D root)
    (workers depth : Nat) (st st' : IterSt) (h : C06.IterOK K D L nT nB root st)
    (d : StepData ctx root (hash ctx.keys root) workers depth st st')
    (hpair : PairedAt (hash ctx.keys root).toNat d.join st) :
    C06.IterOK K D L nT nB root st' ∧ ∃ new, st'.events = st.events ++ new ∧ ∀ ev ∈ new, C06.MoveKeeps root ev :=
  stepData_keeps g dom ctx hK root hD _ rfl workers depth st st' h d fun _ => hpair

/-- `StepData` is `StepS` with the existential opened -/
example (ctx : Ctx) (root : State) (rootHash : UInt64) (workers depth : Nat) (st st' : IterSt) :
    StepS ctx root rootHash workers depth st st' ↔ Nonempty (StepData ctx root rootHash workers depth st st') :=
  ⟨StepData.of_stepS, fun ⟨d⟩ => d.stepS⟩

/-- **C06_winning_value_is_root_entry_value** (the root call of one worker, ANY environment).  A worker of search depth
`≥ 1` whose root key is in the history (as `analyze_iterative` arranges) first probes the root key (result `r0`: what the
shared table holds after the foreign stores that precede the probe).  Then
* either it stores nothing under the root key, and a winning value it returns is the value of the probed entry,
* or its LAST table operation is the store under the root key of exactly the value it returns, with `depth = 0`,
  `max_depth = search_depth`, kind `Exact` — or `LowerBound` with value `11000`, or after an `UpperBound` probe;
* an entry that `Answers` (enough remaining depth and `Exact`, or a lower bound `≥ 11000`) ends the run with the probe.
So every winning value a worker returns was, at the moment of its probe or right after its last operation, the value of
the entry under the root key of the shared table. -/
theorem C06_winning_value_is_root_entry_value (env : Env) (ctx : Ctx) (root : State) (w : Worker) (tt : TT.Access)
    (hhist : ctx.history.contains (hash ctx.keys root) = true) (hsd : 1 ≤ w.searchDepth) :
    RootShape (hash ctx.keys root).toNat w.searchDepth
      ((applyInserts tt (env.script 0)).find (hash ctx.keys root).toNat) (runWorkerE env ctx root w tt) :=
  runWorkerE_rootShape env ctx root w tt hhist hsd

/-- **C06_shallow_workers_never_write_root** (any number of workers, any schedule): the structural reason why the
forced-schedule hunt on the real engine found nothing, as a theorem.  If the iteration starts with an entry under the root
key that answers depth `sd` (`Answers`: remaining depth `≥ sd` and kind `Exact` — what the previous iteration leaves — or
a lower bound `≥ 11000`), every worker
searches at least `sd` deep, and the root's bucket has a free slot at every moment of the iteration (`RootRoomy`: the root
entry cannot be displaced), then under EVERY interleaving every worker of depth exactly `sd` — the odd-numbered, one ply
shallower workers of `analyze_iterative` — performs exactly one table operation, the probe of the root key, is answered
by it, and returns the value of the shared table's root entry at that moment.  It never writes. -/
theorem C06_shallow_workers_never_write_root {L nT nB : Nat} (g : C06.Geo L nT nB) (ctx : Ctx) (root : State)
    (tt : TT.Access) (ws : List Worker) (H : History) (hI : Interleaving ctx root tt ws H)
    (hhist : ctx.history.contains (hash ctx.keys root) = true) (sd : Nat)
    (hws : ∀ w ∈ ws, 1 ≤ w.searchDepth ∧ sd ≤ w.searchDepth)
    (htt : RootOK L nT nB (hash ctx.keys root).toNat sd tt)
    (h0 : (tt.find (hash ctx.keys root).toNat).isSome = true)
    (hroomy : ∀ n, RootRoomy nT nB (hash ctx.keys root).toNat (History.table tt (H.take n)))
    (i : Nat) (hi : i < ws.length) (hsd : ws[i].searchDepth = sd) :
    ∃ y n, (History.table tt (H.take n)).find (hash ctx.keys root).toNat = some y ∧ Answers sd y ∧
      H.proj i = [TOp.find (hash ctx.keys root).toNat (some y)] ∧
      outcomeOf ctx root tt ws[i] H i = .ok y.eval :=
  shallow_workers_answered g ctx root tt ws H hI hhist sd hws htt h0 hroomy i hi hsd

/-- **C06_first_move_any_workers_one_deep_writer** (one iteration, ANY interleaving): the multi-worker pairing clause as a
theorem for the configuration "worker 0 searches deeper, every other started worker searches exactly the depth `sd` that
the root entry left by the previous iteration answers" — with the worker layout of `analyze_iterative`
(`search_depth = depth - i % 2 + 1`) this is every iteration `depth ≥ 1` run with at most TWO workers (`sd = depth`).
Hypotheses beyond those of `C06_search_any_schedule`:
* `hx0`/`hans`/`hnw`: the iteration starts with an entry `x0` under the root key that answers depth `sd` (remaining depth
  `≥ sd`, kind `Exact` — what the previous iteration's worker 0 stored) and is not winning (otherwise the previous
  iteration would have ended the search);
* `hroomy`: the bucket of the root key has a free slot at every moment of the iteration, so the root entry is never
  displaced (decidable on `(st.tt, d.H)`; always true of the 1 GiB table of the real engine in the first iterations);
* `hbe`: the loop has not yet recorded a winning evaluation.
Conclusion: every report of the iteration keeps the mate (`MoveKeeps`), whatever the schedule — in particular when the
shallow worker is scheduled last: it is answered by its probe and never writes
(`C06_shallow_workers_never_write_root`), so the entry read back is worker 0's own store or the untouched `x0`. -/
theorem C06_first_move_any_workers_one_deep_writer {K : Keys} {D : State → Prop} {L nT nB : Nat}
    (g : C06.Geo L nT nB) (dom : C06.Domain K D) (ctx : Ctx) (hK : ctx.keys = K) (root : State) (hD : D root)
    (hhist : ctx.history.contains (hash ctx.keys root) = true)
    (workers depth : Nat) (st st' : IterSt) (h : C06.IterOK K D L nT nB root st)
    (d : StepData ctx root (hash ctx.keys root) workers depth st st') (sd : Nat)
    (hws : ∀ w ∈ d.started, 1 ≤ w.searchDepth ∧ sd ≤ w.searchDepth)
    (hshallow : ∀ i (hi : i < d.started.length), 1 ≤ i → d.started[i].searchDepth = sd)
    (x0 : TT.Entry) (hx0 : st.tt.find (hash ctx.keys root).toNat = some x0) (hans : Answers sd x0)
    (hnw : x0.eval < 10000)
    (hroomy : ∀ n, RootRoomy nT nB (hash ctx.keys root).toNat (History.table st.tt (d.H.take n)))
    (hbe : st.bestEval < Ev.posInf) :
    C06.IterOK K D L nT nB root st' ∧ ∃ new, st'.events = st.events ++ new ∧ ∀ ev ∈ new, C06.MoveKeeps root ev :=
  stepData_keeps g dom ctx hK root hD _ rfl workers depth st st' h d fun _ =>
    one_deep_writer_paired g ctx root st.tt d.started d.H d.il hhist sd hws hshallow
      ⟨h.1.1, fun y hy => by rw [hx0] at hy; cases hy; exact hans⟩ x0 hx0 hnw hroomy d.polls' st hbe

/-! ## non-vacuity -/

open Wee.InterleaveExample in
set_option maxRecDepth 1000000 in
/-- **the hypothesis of theorem 1 is satisfiable on a genuinely concurrent instance**: the two-worker, non-sequential
execution `ilH` of `Wee/Props/Interleave.lean` (both workers miss on the root before either stores it) is a `StepData`, for
every seed, and its joined results satisfy the pairing condition `PairedAt` — vacuously: both workers return the
stalemate value 0, so nothing winning is reported.  The hypotheses of theorems 3 and 4 (a root entry at the start,
`RootRoomy`) are not witnessed here. -/
example (rng0 : Rng.ChaCha8) : ∃ (st st' : IterSt) (d : StepData ilCtx c03Root (hash c03KeyTable.keys c03Root) 2 0 st st'),
    d.H = ilH ∧ PairedAt (hash c03KeyTable.keys c03Root).toNat d.join st := by
  obtain ⟨a, b, hab⟩ := drawSeeds_two rng0
  have hws : workersOfIteration 0 Option.none (drawSeeds 2 rng0).1 (fun _ => 0) =
      [Worker.ofIteration 0 Option.none 0 a 0, Worker.ofIteration 0 Option.none 1 b 0] := by rw [hab]; rfl
  have hI := il_interleaving_gen (Worker.ofIteration 0 Option.none 0 a 0) (Worker.ofIteration 0 Option.none 1 b 0)
    rfl rfl rfl rfl
  obtain ⟨_, _, je, _⟩ := il_join (Worker.ofIteration 0 Option.none 0 a 0) (Worker.ofIteration 0 Option.none 1 b 0)
    rfl rfl rfl rfl 0
  obtain ⟨st0, hst0⟩ : ∃ s : IterSt, s =
      { tt := ilTT, rng := rng0, events := [], nodes := 0, bestEval := Ev.negInf, bestMv := Option.none, polls := 0 } :=
    ⟨_, rfl⟩
  obtain ⟨st1, hst1⟩ : ∃ s : IterSt, s = finishStep ilCtx c03Root (hash c03KeyTable.keys c03Root) 0 (drawSeeds 2 st0.rng).2
      (joinOf ilCtx c03Root st0.tt [Worker.ofIteration 0 Option.none 0 a 0, Worker.ofIteration 0 Option.none 1 b 0] ilH 0)
      st0 := ⟨_, rfl⟩
  have hrng : st0.rng = rng0 := by rw [hst0]
  have htt : st0.tt = ilTT := by rw [hst0]
  have hbm : st0.bestMv = Option.none := by rw [hst0]
  refine ⟨st0, st1, ⟨fun _ => 0, [Worker.ofIteration 0 Option.none 0 a 0, Worker.ofIteration 0 Option.none 1 b 0], ilH, 0,
      by rw [hbm, hrng, hws]; exact List.Sublist.refl _, fun _ _ => by rw [hbm, hrng, hws], by rw [htt]; exact hI, hst1⟩,
      rfl, ?_⟩
  intro _ hwin
  have hwin' : Ev.posInf ≤ reportedEval (joinOf ilCtx c03Root st0.tt
      [Worker.ofIteration 0 Option.none 0 a 0, Worker.ofIteration 0 Option.none 1 b 0] ilH 0) st0 := hwin
  unfold reportedEval at hwin'
  rw [htt, je] at hwin'
  exact absurd (show Ev.posInf ≤ 0 from hwin') (by decide)

end Wee
