import Wee.Proofs.UciLemmas
import Wee.Props.C14
/-!
# C07 — UCI session: replies, faithful position tracking, one answer per `go`

Rust: `weechess-engine/src/uci.rs` (`Client::exec`, `Search::spawn`, `Search::wait_cancel`).
Model: `Wee/Model/Uci.lean`, `Wee/Model/San.lean` (`parseUciMoveToken`, `performQueries`).

`Uci.step` transcribes one iteration of the `while let Some(Ok(cmd)) = input.next()` loop; `Uci.run` the
loop plus the code after it.  The search and the writer thread are abstracted to *marks* in the output
stream:

* `Out.searchStarted d t reuse` — `Search::spawn(current_position, …, depth, time, previous_artifact.take())`;
* `Out.joinRunning` — `search.wait_cancel()`: send `Stop`, join the search thread, join the writer
  thread.  The writer prints the `bestmove` of that search when its channel closes, i.e. no later than
  this mark (earlier if the search ended by itself on depth/timeout);
* `Out.bookMove` — `info string book move …` and `bestmove …` printed by the loop thread itself.

Proved here: the marks are well bracketed in every session (`C07_bestmove_structure`): a search is
started only when none runs, every started search is joined exactly once — by the next
`go`/`position`/`stop`/`ucinewgame` (before any other output of that command, `C07_join_first`), or
by the code after the loop on `quit`/EOF — and the number of processed `go` lines equals the number
of `searchStarted` + `bookMove` marks.  **Not** proved here, by design of the abstraction: that a
joined search prints *exactly one* `bestmove` and that it names a *legal* move — that is C03/C04 (the
search emits ≥ 1 report with a legal first move on a position with a legal move; the writer prints one
`bestmove` iff it saw a report) and C16 for `bookMove` (book entries hold legal moves of the position
they are keyed by); `Wee/Props/C07Compose.lean` composes them with a model of the writer thread.
The process-level check (`./check C07`) verifies the conjunction on the real
binary: one legal `bestmove` per `go`, `.state` after every `position`, exit status.

The vocabulary of the statements (`scan`, `Balanced`, `starts`, `joins`, `isGo`, `isQuit`, `processed`,
`joinsFirst`, `WFLine`) is defined in `Wee/Proofs/UciLemmas.lean`; `LegalLine s l` (`l = [(m₁,s₁),…,(mₖ,sₖ)]`
with `(mᵢ₊₁,sᵢ₊₁) ∈ legalMoves sᵢ`) and `lineEnd s l = sₖ` in `Wee/Props/C02Closed.lean`.

`WFLine s l` (`SanP.WFMoves`, the hypothesis of C12, for the legal-move list at every position of the
line) is a hypothesis of the `position` theorems of this file; it holds along every legal line from a legal
position without overlaps (`wfLine_legal`, `Wee/Props/C12Closed.lean`, where the theorems are restated
without it).
-/
namespace Wee.Uci
open Wee.C10 (DisjointBoard)

/-- `uci` → exactly `id name …`, `id author …`, `uciok`, in this order (the version strings after
`id name`/`id author` are not modelled); position, running search and artifact untouched -/
theorem C07_reply_uci (hasBook : State → Bool) (s : Sess) (line : String) (rest : List String)
    (h : splitAsciiWs line = "uci" :: rest) :
    step hasBook s line = some (s, [Out.line "id name", Out.line "id author", Out.line "uciok"], false) :=
  step_uci hasBook _ s h

/-- `isready` → `readyok`, whatever `s.searching` is: the arm touches neither `current_search` nor
`current_position`, so it is answered while a search runs and that search keeps running -/
theorem C07_reply_isready (hasBook : State → Bool) (s : Sess) (line : String) (rest : List String)
    (h : splitAsciiWs line = "isready" :: rest) :
    step hasBook s line = some (s, [Out.line "readyok"], false) :=
  step_isready hasBook _ s h

/-- `quit` → `break`: no output of its own, the loop ends -/
theorem C07_reply_quit (hasBook : State → Bool) (s : Sess) (line : String) (rest : List String)
    (h : splitAsciiWs line = "quit" :: rest) :
    step hasBook s line = some (s, [], true) :=
  step_quit hasBook _ s h

/-- after `quit` the remaining input is not read; the code after the loop joins a running search
(`if let Some(search) = current_search { search.wait_cancel() }`) and `exec` returns `Ok(())`:
the model has a value (`some …`), i.e. no panic, i.e. exit status 0 -/
theorem C07_quit_run (hasBook : State → Bool) (s : Sess) (line : String) (rest later : List String)
    (h : splitAsciiWs line = "quit" :: rest) :
    run hasBook s (line :: later) =
      some (if s.searching then ({ s with searching := false }, [Out.joinRunning]) else (s, [])) := by
  rw [run, C07_reply_quit hasBook s line rest h]
  simp only [List.nil_append]

/-- end of input: the same code after the loop -/
theorem C07_eof_run (hasBook : State → Bool) (s : Sess) :
    run hasBook s [] =
      some (if s.searching then ({ s with searching := false }, [Out.joinRunning]) else (s, [])) := rfl

/-- **C07_replies.**  For every session state `s` (in particular with `s.searching = true`):
`uci` is answered by the three lines, `isready` by `readyok`, both leaving `s` exactly as it was;
`quit` (and EOF) end the loop, join a running search and return normally. -/
theorem C07_replies (hasBook : State → Bool) (s : Sess) (line : String) (rest : List String) :
    (splitAsciiWs line = "uci" :: rest →
      step hasBook s line = some (s, [Out.line "id name", Out.line "id author", Out.line "uciok"], false)) ∧
    (splitAsciiWs line = "isready" :: rest →
      step hasBook s line = some (s, [Out.line "readyok"], false)) ∧
    (splitAsciiWs line = "quit" :: rest →
      step hasBook s line = some (s, [], true) ∧
      ∀ later, run hasBook s (line :: later) =
        some (if s.searching then ({ s with searching := false }, [Out.joinRunning]) else (s, []))) ∧
    run hasBook s [] =
      some (if s.searching then ({ s with searching := false }, [Out.joinRunning]) else (s, [])) :=
  ⟨C07_reply_uci hasBook s line rest, C07_reply_isready hasBook s line rest,
   fun h => ⟨C07_reply_quit hasBook s line rest h, fun later => C07_quit_run hasBook s line rest later h⟩,
   C07_eof_run hasBook s⟩

/-- exit status: a session in which every `position` line sets a legal base position ends without a
panic value (restatement of `C14_run_legal`) -/
theorem C07_exit_ok (hasBook : State → Bool) (s : Sess) (lines : List String)
    (h : ∀ line ∈ lines, LegalBase line) : ∃ s' outs, run hasBook s lines = some (s', outs) := by
  cases hr : run hasBook s lines with
  | none => exact absurd hr (C14_run_legal hasBook s lines h)
  | some r => exact ⟨r.1, r.2, rfl⟩

/-- `isready` in the middle of a search: answered, search still running afterwards -/
example : (step (fun _ => false) { Sess.init with searching := true } "isready").map
    (fun r => (r.1.searching, r.2.1)) = some (true, [Out.line "readyok"]) := by decide +kernel

/-- the `position` line as a whole: first the running search is joined (`previous_artifact` keeps its
artifact), then the arm `positionCmd` runs on the joined state; the loop continues -/
theorem C07_position_step (hasBook : State → Bool) (s : Sess) (line : String) (args : List String)
    (h : splitAsciiWs line = "position" :: args) (s' : Sess) (o : List Out)
    (hp : positionCmd (joinKeep s).1 args = some (s', o)) :
    step hasBook s line = some (s', (joinKeep s).2 ++ o, false) := by
  rw [step_position hasBook _ s h, hp]

/-- generic form: base tokens `pre` that set the base position `base`, followed by `moves` and the
coordinate texts of a line of successively legal moves from `base`: the session position becomes the
end of the line, nothing is printed. -/
theorem C07_position_generic (s : Sess) (pre : List String) (hpre : ∀ t ∈ pre, t ≠ "moves") (base : State)
    (hbase : posBase pre = .inl (some base))
    (hl : LegalPos base = true) (hd : DisjointBoard base.pieces)
    (l : List (Move × State)) (hline : LegalLine base l) (hwf : WFLine base l) :
    positionCmd s (pre ++ "moves" :: l.map (fun r => Move.lan r.1)) =
      some ({ s with pos := lineEnd base l }, []) := by
  obtain ⟨qs, hparse, hrun⟩ := performQueries_line l base hl hd hline hwf
  rw [positionCmd_eq, splitMoves_moves pre _ hpre]
  simp only [hbase]
  rw [applyMoves_parsed s base _ qs hparse, hrun]

theorem C07_position_nomoves (s : Sess) (pre : List String) (hpre : ∀ t ∈ pre, t ≠ "moves") (base : State)
    (hbase : posBase pre = .inl (some base)) :
    positionCmd s pre = some ({ s with pos := base }, []) := by
  rw [positionCmd_eq, splitMoves_nomoves pre hpre]
  simp only [hbase]
  rw [applyMoves_parsed s base [] [] rfl]
  rfl

/-- **C07_position (startpos).**  After `position startpos moves m₁ … mₖ`, where the `mᵢ` are the
coordinate texts (`Lan::into_notation`, `Move.lan`) of moves that are successively legal from the
start position (`(mᵢ₊₁, sᵢ₊₁) ∈ legalMoves sᵢ`, `s₀ = startState`), the session position is `sₖ` and
nothing is printed.  By `C07_position_rules` `sₖ` is the position the rules of chess define. -/
theorem C07_position_startpos (s : Sess) (l : List (Move × State))
    (hline : LegalLine startState l) (hwf : WFLine startState l) :
    positionCmd s ("startpos" :: "moves" :: l.map (fun r => Move.lan r.1)) =
      some ({ s with pos := lineEnd startState l }, []) :=
  C07_position_generic s ["startpos"] (by decide) startState rfl startState_legal startState_disjoint l hline hwf

theorem C07_position_startpos_only (s : Sess) :
    positionCmd s ["startpos"] = some ({ s with pos := startState }, []) :=
  C07_position_nomoves s ["startpos"] (by decide) startState rfl

theorem posBase_fen (F : List String) (s0 : State) (hF : parseFen false (" ".intercalate F) = .ok s0) :
    posBase ("fen" :: F) = .inl (some s0) := by
  unfold posBase
  simp only [hF]

theorem fen_no_moves {F : List String} (hnm : ∀ t ∈ F, t ≠ "moves") : ∀ t ∈ "fen" :: F, t ≠ "moves" := by
  intro t ht
  rcases List.mem_cons.1 ht with rfl | h
  · decide
  · exact hnm t h

/-- **C07_position (fen).**  `position fen F₁ … F₆ moves m₁ … mₖ`: if the FEN tokens joined by single
spaces (`pos[1..].join(" ")`) parse to `s₀` (release profile), `s₀` is a legal position without
overlaps, and the `mᵢ` are the coordinate texts of successively legal moves from `s₀`, then the
session position is `sₖ`. -/
theorem C07_position_fen (s : Sess) (F : List String) (hnm : ∀ t ∈ F, t ≠ "moves") (s0 : State)
    (hF : parseFen false (" ".intercalate F) = .ok s0)
    (hl : LegalPos s0 = true) (hd : DisjointBoard s0.pieces)
    (l : List (Move × State)) (hline : LegalLine s0 l) (hwf : WFLine s0 l) :
    positionCmd s ("fen" :: F ++ "moves" :: l.map (fun r => Move.lan r.1)) =
      some ({ s with pos := lineEnd s0 l }, []) :=
  C07_position_generic s ("fen" :: F) (fen_no_moves hnm) s0 (posBase_fen F s0 hF) hl hd l hline hwf

/-- `position fen F₁ … F₆` alone (no legality needed: the position is stored as parsed) -/
theorem C07_position_fen_only (s : Sess) (F : List String) (hnm : ∀ t ∈ F, t ≠ "moves") (s0 : State)
    (hF : parseFen false (" ".intercalate F) = .ok s0) :
    positionCmd s ("fen" :: F) = some ({ s with pos := s0 }, []) :=
  C07_position_nomoves s ("fen" :: F) (fen_no_moves hnm) s0 (posBase_fen F s0 hF)

/-- the end of a line of legal moves is the position the rules define: it is legal, and reads
(`abs`) as the rule-level position obtained by applying, in order, the rule-level moves that the
packed moves read as (restatement of `C02_line`) -/
theorem C07_position_rules (base : State) (hl : LegalPos base = true) (hd : DisjointBoard base.pieces)
    (l : List (Move × State)) (hline : LegalLine base l) :
    LegalPos (lineEnd base l) = true ∧ DisjointBoard (lineEnd base l).pieces ∧
    ∃ sms : List Spec.SMove, l.map (fun r => toSpecMove r.1) = sms.map some ∧
      abs (lineEnd base l) = sms.foldl Spec.applyMove (abs base) :=
  C02_line l base hl hd hline

/-- **Full statement of C07_position** (no well-formedness hypothesis): base tokens setting a legal
base position, then `moves` and the coordinate texts of any line of successively legal moves: the
session position is the end of the line. -/
def C07_position_statement : Prop :=
  ∀ (s : Sess) (pre : List String), (∀ t ∈ pre, t ≠ "moves") → ∀ base : State,
    posBase pre = .inl (some base) → LegalPos base = true → DisjointBoard base.pieces →
    ∀ l : List (Move × State), LegalLine base l →
      positionCmd s (pre ++ "moves" :: l.map (fun r => Move.lan r.1)) =
        some ({ s with pos := lineEnd base l }, [])

/-- **C07_position_invalid** (generic).  All tokens have the move format but `by_performing_moves`
rejects the sequence (some query matches no legal move, or more than one): the loop prints
`info string invalid move` and `continue`s.  The session position is then the **base** position, not
the previous one and not the position before the offending move: `current_position` is assigned in
the "Parse the position string" block, before the moves are applied, and the legal prefix is
discarded with the `Err`. -/
theorem C07_position_invalid (s : Sess) (pre : List String) (hpre : ∀ t ∈ pre, t ≠ "moves") (base : State)
    (hbase : posBase pre = .inl (some base)) (toks : List String) (qs : List MoveQuery)
    (hfmt : toks.map parseUciMoveToken = qs.map (fun q => some (some q))) (e : MoveErr)
    (herr : performQueries base qs = some (.error e)) :
    positionCmd s (pre ++ "moves" :: toks) =
      some ({ s with pos := base }, [Out.line "info string invalid move"]) := by
  rw [positionCmd_eq, splitMoves_moves pre _ hpre]
  simp only [hbase]
  rw [applyMoves_parsed s base _ qs hfmt, herr]

/-- the usual way to get there: a legal line, then a well-formed token whose coordinates match no
legal move of the position reached, then any well-formed tokens -/
theorem C07_position_invalid_after_line (s : Sess) (pre : List String) (hpre : ∀ t ∈ pre, t ≠ "moves")
    (base : State) (hbase : posBase pre = .inl (some base))
    (hl : LegalPos base = true) (hd : DisjointBoard base.pieces)
    (l : List (Move × State)) (hline : LegalLine base l) (hwf : WFLine base l)
    (t : String) (q : MoveQuery) (ht : parseUciMoveToken t = some (some q))
    (hno : (legalMoves (lineEnd base l)).filter (fun r => q.test r.1) = [])
    (rest : List String) (qsr : List MoveQuery)
    (hrest : rest.map parseUciMoveToken = qsr.map (fun q => some (some q))) :
    positionCmd s (pre ++ "moves" :: (l.map (fun r => Move.lan r.1) ++ t :: rest)) =
      some ({ s with pos := base }, [Out.line "info string invalid move"]) := by
  obtain ⟨qs, hparse, hrun⟩ := performQueries_line l base hl hd hline hwf
  obtain ⟨hl', hd', _⟩ := C02_line l base hl hd hline
  have hq := (C02_coords (lineEnd base l) q _ (C02.legalMoves?_eq _ hl' hd')).2.1 hno
  apply C07_position_invalid s pre hpre base hbase _ (qs ++ q :: qsr) _ .unknown
    (C02_coords_reject base (lineEnd base l) qs qsr q .unknown hrun hq)
  simp only [List.map_append, List.map_cons, hparse, ht, hrest]

/-- one token without the move format (too short, bad square, bad promotion letter, multi-byte
character on a slice boundary) anywhere in the list: `info string invalid move format`; again the
session position is the base position -/
theorem C07_position_invalid_format (s : Sess) (pre : List String) (hpre : ∀ t ∈ pre, t ≠ "moves")
    (base : State) (hbase : posBase pre = .inl (some base)) (toks : List String) (t : String)
    (ht : t ∈ toks) (hbad : parseUciMoveToken t = some Option.none) :
    positionCmd s (pre ++ "moves" :: toks) =
      some ({ s with pos := base }, [Out.line "info string invalid move format"]) := by
  rw [positionCmd_eq, splitMoves_moves pre _ hpre]
  simp only [hbase]
  exact applyMoves_bad_format s base toks t ht hbad

/-- a bad FEN or an unknown sub-command: one message, session state unchanged (`continue` before
`current_position` is assigned) -/
theorem C07_position_rejected (s : Sess) (args : List String) (msg : String)
    (h : posBase (args.takeWhile (· != "moves")) = .inr msg) :
    positionCmd s args = some (s, [Out.line msg]) := by
  rw [positionCmd_eq, splitMoves_eq]
  simp only [h]

/-! ### non-vacuity of the `position` theorems: king and pawn against king

`4k3/8/8/8/8/8/4P3/4K3 w - - 0 1`, then `e2e4 e8d7`.  All hypotheses (`parseFen`, `LegalPos`,
`DisjointBoard`, `LegalLine`, `WFLine`) are checked by kernel evaluation of the model — possible here
because the position has no sliding pieces (the magic tables are not touched); for the start position
the kernel cannot evaluate `legalMoves` in reasonable time, so `LegalLine startState l` for `l ≠ []`
is exhibited only through the executable model (`#eval`, and the process-level check).
The data (`kpk…`) are in `Wee/Proofs/UciLemmas.lean`. -/

/-- `position fen 4k3/8/8/8/8/8/4P3/4K3 w - - 0 1 moves e2e4 e8d7` sets the position after 1. e4 Kd7
(instance of `C07_position_fen`, all hypotheses discharged) -/
example (s : Sess) :
    positionCmd s (["fen", "4k3/8/8/8/8/8/4P3/4K3", "w", "-", "-", "0", "1", "moves", "e2e4", "e8d7"]) =
      some ({ s with pos := kpk2 }, []) := by
  have := C07_position_fen s kpkFen (by decide) kpk kpk_parse kpk_legal.1 kpk_legal.2 kpkLine kpk_line kpk_wf
  rw [kpk_text] at this
  exact this

set_option maxRecDepth 1000000 in
/-- `… moves e2e4 e8e1 e4e5`: `e8e1` has the move format but matches no legal move after 1. e4; the
model prints `info string invalid move` and the session position is the FEN position `kpk` — not the
previous session position and not `kpk1` (instance of `C07_position_invalid_after_line`) -/
example (s : Sess) :
    positionCmd s (["fen", "4k3/8/8/8/8/8/4P3/4K3", "w", "-", "-", "0", "1", "moves", "e2e4", "e8e1", "e4e5"]) =
      some ({ s with pos := kpk }, [Out.line "info string invalid move"]) := by
  let q : MoveQuery := { originRank := some 7, originFile := some 4, destRank := some 0, destFile := some 4 }
  let qr : MoveQuery := { originRank := some 3, originFile := some 4, destRank := some 4, destFile := some 4 }
  have hq1 : parseUciMoveToken "e8e1" = some (some q) := by decide +kernel
  have hq2 : (legalMoves kpk1).filter (fun r => q.test r.1) = [] := by rw [legalMoves_fast]; decide +kernel
  have hqr : ["e4e5"].map parseUciMoveToken = [qr].map (fun q => some (some q)) := by decide +kernel
  have := C07_position_invalid_after_line s ("fen" :: kpkFen) (by decide) kpk (posBase_fen kpkFen kpk kpk_parse)
    kpk_legal.1 kpk_legal.2 [kpkLine.head!] ⟨kpk_line.1, trivial⟩ ⟨kpk_wf.1, trivial⟩ "e8e1" q hq1 hq2
    ["e4e5"] [qr] hqr
  have ht : [kpkLine.head!].map (fun r => Move.lan r.1) = ["e2e4"] := by decide +kernel
  rw [ht] at this
  exact this

/-- the same as a whole input line, with a search running: the search is joined first, then the
position is set (instance of `C07_position_step`) -/
example (hasBook : State → Bool) (s : Sess) (hs : s.searching = true) :
    step hasBook s "position fen 4k3/8/8/8/8/8/4P3/4K3 w - - 0 1   moves e2e4\te8d7" =
      some ({ pos := kpk2, searching := false, artifact := s.searchOk, searchOk := s.searchOk }, [Out.joinRunning], false) := by
  have htok : splitAsciiWs "position fen 4k3/8/8/8/8/8/4P3/4K3 w - - 0 1   moves e2e4\te8d7" =
      "position" :: ("fen" :: kpkFen ++ "moves" :: ["e2e4", "e8d7"]) := by decide +kernel
  have hp := C07_position_fen (joinKeep s).1 kpkFen (by decide) kpk kpk_parse kpk_legal.1 kpk_legal.2
    kpkLine kpk_line kpk_wf
  rw [kpk_text] at hp
  rw [C07_position_step hasBook s _ _ htok _ _ hp]
  rw [joinKeep_searching hs]
  rfl

/-- non-vacuity (format error; hypotheses of `C07_position_invalid_format`): the position becomes the
start position although the command is rejected -/
example : ∀ s : Sess, positionCmd s (["startpos"] ++ "moves" :: ["e2e4", "e7"]) =
    some ({ s with pos := startState }, [Out.line "info string invalid move format"]) :=
  fun s => C07_position_invalid_format s ["startpos"] (by decide) startState rfl ["e2e4", "e7"] "e7"
    (by decide +kernel) (by decide +kernel)

example : ∀ s : Sess, positionCmd s ["fen", "not", "a", "fen", "moves", "e2e4"] =
    some (s, [Out.line "info string invalid fen position"]) :=
  fun s => C07_position_rejected s _ _ (by decide +kernel)

example : ∀ s : Sess, positionCmd s ["startposs"] =
    some (s, [Out.line "info string unknown position command"]) :=
  fun s => C07_position_rejected s _ _ (by decide +kernel)

/-- one command: the outputs are a correct bracket sequence from `s.searching` to `s'.searching`;
exactly one `searchStarted`/`bookMove` mark iff the first token is `go`; the loop ends iff the first
token is `quit` -/
theorem C07_step_structure (hasBook : State → Bool) (s s' : Sess) (line : String) (o : List Out) (q : Bool)
    (h : step hasBook s line = some (s', o, q)) :
    scan s.searching o = some s'.searching ∧ starts o = (if isGo line then 1 else 0) ∧ q = isQuit line :=
  step_effect hasBook s s' line o q h

/-- **where the join happens.**  While a search runs: `go`, `position`, `stop`, `ucinewgame` output
the join mark *first* (so the `bestmove` of the old search precedes everything the new command
prints — "unparsable go commands", a book move, the new search's `info` lines, `invalid move`);
every other command outputs no join mark, leaves the search running and the position unchanged. -/
theorem C07_join_first (hasBook : State → Bool) (s s' : Sess) (line : String) (o : List Out) (q : Bool)
    (h : step hasBook s line = some (s', o, q)) (hs : s.searching = true) :
    (joinsFirst line = true → o.head? = some Out.joinRunning) ∧
    (joinsFirst line = false → joins o = 0 ∧ s'.searching = true ∧ s'.pos = s.pos) := by
  have hjk : (joinKeep s).2 = [Out.joinRunning] := by rw [(joinKeep_spec s).2.2.2, hs]; rfl
  obtain ⟨_, hgo | hjoin | hinert⟩ := step_shape hasBook s s' line o q h
  · obtain ⟨_, hj, _, ql, e, _, rfl, _⟩ := hgo
    rw [hj, hjk]; exact ⟨fun _ => rfl, fun h' => nomatch h'⟩
  · obtain ⟨_, hj, _, _, ql, _, rfl⟩ := hjoin
    rw [hj, hjk]; exact ⟨fun _ => rfl, fun h' => nomatch h'⟩
  · obtain ⟨_, hj, rfl, hql⟩ := hinert
    rw [hj]; exact ⟨(fun h' => nomatch h'), fun _ => ⟨(quiet_effect hql).2.2, hs, rfl⟩⟩

/-- **C07_bestmove_structure.**  For every book, every start state `s` and every list of input lines
(arbitrary text), if the session does not panic (`C07_exit_ok`/`C14_run_legal`) then, with `outs` the
whole output stream including the code after the loop:

* `Balanced s.searching outs`: read from left to right, a `searchStarted` mark occurs only when no
  search is running, a `bookMove` mark only when no search is running, a `joinRunning` mark only when
  one is running, and none is running at the end — every started search is joined exactly once, and
  (by `C07_join_first`) at the next `go`/`position`/`stop`/`ucinewgame`, else at `quit`/EOF; this join
  is where its single `bestmove` is printed at the latest;
* the final state has no running search;
* the number of `go` lines read (those before the first `quit`) equals the number of
  `searchStarted` + `bookMove` marks: every `go` is answered by exactly one search or one book move.

Abstracted (see the header): that each `searchStarted … joinRunning` bracket contains exactly one
`bestmove` with a legal move is C03/C04, that `bookMove` prints a legal move is C16. -/
theorem C07_bestmove_structure (hasBook : State → Bool) (s : Sess) (lines : List String) (s' : Sess)
    (outs : List Out) (h : run hasBook s lines = some (s', outs)) :
    Balanced s.searching outs ∧ s'.searching = false ∧
    starts outs = (processed lines).countP isGo :=
  (GenFns.RunsTo_run hasBook lines s s' outs h).effect

/-- in a balanced stream from an idle start there are as many joins as searches started, i.e.
`starts − bookMoves`; stated as: a stream that passes `scan` from `b` to `b'` satisfies
`(if b then 1 else 0) + searchStarted marks = joins + (if b' then 1 else 0)` -/
theorem C07_joins_count (o : List Out) : ∀ (b b' : Bool), scan b o = some b' →
    (if b then 1 else 0) + (o.countP fun x => match x with | .searchStarted _ _ _ => true | _ => false) =
      joins o + (if b' then 1 else 0) := by
  induction o with
  | nil =>
    intro b b' h
    cases h
    exact Nat.add_comm _ _
  | cons x r ih =>
    intro b b' h
    cases x with
    | line m => exact ih b b' h
    | stderrState => exact ih b b' h
    | stderrStatus => exact ih b b' h
    | joinRunning =>
      -- only with a search running; it ends it
      cases b with
      | false => cases h
      | true =>
        have : 0 + List.countP _ r = joins r + _ := ih false b' h
        show 1 + List.countP _ r = joins r + 1 + _
        omega
    | bookMove =>
      cases b with
      | true => cases h
      | false => exact ih false b' h
    | searchStarted d t a =>
      -- only with no search running; it starts one
      cases b with
      | true => cases h
      | false =>
        have : 1 + List.countP _ r = joins r + _ := ih true b' h
        rw [List.countP_cons_of_pos rfl]
        show 0 + (List.countP _ r + 1) = joins r + _
        omega

/-! ### non-vacuity: concrete sessions, evaluated by the kernel -/

/-- no book; a search started by `go depth 3` is still running at `isready` (answered), is joined by
the second `go` *before* that command's own outputs, the second search is joined by `stop`; `quit`
ends the loop and the `go` after it is never read -/
example :
    (run (fun _ => false) Sess.init
      ["uci", "go depth 3", "isready", "go movetime 100 nonsense", "stop", "quit", "go"]).map (·.2) =
    some [Out.line "id name", Out.line "id author", Out.line "uciok",
          Out.searchStarted (some 3) Option.none false,
          Out.line "readyok",
          Out.joinRunning, Out.line "info string unparsable go commands",
          Out.searchStarted Option.none (some 100) true,
          Out.joinRunning] := by decide +kernel

/-- the conclusion of `C07_bestmove_structure` on that stream, computed: balanced, two answers for
the two `go` lines read -/
example :
    let outs := [Out.line "id name", Out.line "id author", Out.line "uciok",
          Out.searchStarted (some 3) Option.none false, Out.line "readyok",
          Out.joinRunning, Out.line "info string unparsable go commands",
          Out.searchStarted Option.none (some 100) true, Out.joinRunning]
    Balanced false outs ∧ starts outs = 2 ∧ joins outs = 2 ∧
    (processed ["uci", "go depth 3", "isready", "go movetime 100 nonsense", "stop", "quit", "go"]).countP isGo = 2 := by
  decide +kernel

/-- EOF while a search runs: the code after the loop joins it -/
example : (run (fun _ => false) Sess.init ["position startpos", "go"]).map (·.2) =
    some [Out.searchStarted Option.none Option.none false, Out.joinRunning] := by decide +kernel

/-- with a book entry for the position every `go` is answered at once and no search is ever running;
`position` with a running search joins it first -/
example : (run (fun _ => true) { Sess.init with searching := true } ["position startpos", "go", "go", ".state"]).map (·.2) =
    some [Out.joinRunning, Out.bookMove, Out.bookMove, Out.stderrState] := by decide +kernel

/-- streams that are *not* balanced (so `Balanced` is a real constraint): a second start without a
join, a join with nothing running, a search left running at the end -/
example : ¬ Balanced false [Out.searchStarted Option.none Option.none false, Out.searchStarted Option.none Option.none false, Out.joinRunning] ∧
    ¬ Balanced false [Out.joinRunning] ∧ ¬ Balanced false [Out.searchStarted Option.none Option.none false] := by decide

end Wee.Uci
