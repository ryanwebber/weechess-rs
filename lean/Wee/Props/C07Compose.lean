import Wee.Proofs.WriterLemmas
import Wee.Props.C03
import Wee.Props.C04
import Wee.Props.C06Complete
import Wee.Props.Interleave
import Wee.Props.C16
import Wee.Props.C12Closed
import Wee.Props.C07
/-!
# C07 — "exactly one legal `bestmove` per `go`", composed from C03 / C04 / C06 / C12 / C16 with a model of the writer thread

Rust: `weechess-engine/src/uci.rs` — `Search::spawn` (the `write_handle` closure), `Client::exec` (`go` arm: book lookup
first, else `Search::spawn`), `Search::wait_cancel`.
Model: `Wee/Proofs/WriterLemmas.lean` (`WLine`, `writerLoop`, `writerTail`, `writerLines`: the writer thread as a function of
the event list of the search), `Wee/Model/Search.lean` (`iterate`, `Event`), `Wee/Model/SearchEnv.lean` (`SearchS`: the
search with every iteration's workers raced in an arbitrary interleaving), `Wee/Model/Book.lean` (`lookup`),
`Wee/Model/Uci.lean` (`step`, `run`).

`Wee/Props/C07.lean` proves that the marks `searchStarted … joinRunning` / `bookMove` of the session model are well
bracketed and that every `go` is answered by exactly one of them; it leaves open what is printed inside a bracket.  This file
closes that gap at the model level.  The writer thread of one search prints at most one `bestmove`, as its last line; it
names a listed legal move of the root and its text resolves back to exactly that move through the UCI token parser,
`MoveQuery::test` and `by_performing_moves` (`LegalToken`); every `info pv` is a non-empty legal line that
`position … moves` replays (`LegalPv`) — for the events of `iterate` under the hypotheses of `C03_reported_lines_legal` (ANY
seed, depth limit, worker counts, cancellation instant, incoming table satisfying the invariant) and for every outcome under
arbitrary interleavings of the workers (`SearchS`).  The book arm prints one legal `bestmove` (`C07_book_bestmove_legal`).
Whole sessions: `C07_session_bestmoves` (at most one `bestmove` per `go` read, each a `LegalToken` of the `Sess.pos` at its
`go`; no search thread panics; the artifact handed from search to search keeps the C03/C04 invariants),
`C07_session_join_barrier` (a search's `bestmove` precedes everything printed after its join mark),
`C07_session_exactly_one`, and `C07_session_transcript_exists` (the specification is satisfiable for every session).

What stays outside (runtime residue, as in `Wee/Props/C07.lean`): that the real writer thread receives exactly the events of
the search in order (one `mpsc` channel whose only sender is owned by the search thread), that `wait_cancel` really joins
both threads, and stdout buffering — checked on the real binary by `./check C07`.  Not in this file: "at least one report"
for re-used memory or several workers in the first iteration (S1 of DESIGN), hence "exactly one" for every `go`; that is
`Wee/Props/C03Report.lean` (`C07_writer_exactly_one_always`, `C07_session_exactly_one_always`), with its instances at fresh
memory in `Wee/Props/C07Report.lean` (`C07_writer_exactly_one`, `C07_writer_exactly_one_any_cancel`), and, without the
evaluation bound, `Wee/Props/Clamped.lean` (`C07_session_exactly_one_unconditional`).
-/
namespace Wee.Uci
open Wee Wee.Search
open Wee.C10 (DisjointBoard)

/-- **`LegalToken p t`** — `t` is the coordinate text (`Lan::into_notation`) of a move `r.1` that
`MoveGenerator::compute_legal_moves(p)` lists (with successor `r.2`), and reading `t` back the way the `position … moves`
arm does gives exactly that move: the token parser accepts `t`, the resulting query passes `MoveQuery::test` for `r.1` and
for no other listed move, `MoveSet::filter` returns `[r.1]`, and `State::by_performing_moves` yields the listed successor. -/
def LegalToken (p : State) (t : String) : Prop :=
  ∃ r ∈ legalMoves p, t = Move.lan r.1 ∧
    ∃ q, parseUciMoveToken t = some (some q) ∧
      (∀ m' ∈ (legalMoves p).map (·.1), (q.test m' = true ↔ m' = r.1)) ∧
      ((legalMoves p).map (·.1)).filter q.test = [r.1] ∧
      performQuery p q = some (.ok r.2)

/-- **`LegalPv p pv`** — `pv` is the list of coordinate texts of a NON-EMPTY line of successively legal moves from `p`, and
`position <p> moves pv…` replays it: every token has the move format and `by_performing_moves` ends in the end of the line. -/
def LegalPv (p : State) (pv : List String) : Prop :=
  ∃ l : List (Move × State), l ≠ [] ∧ LegalLine p l ∧ pv = l.map (fun r => Move.lan r.1) ∧
    ∃ qs : List MoveQuery, pv.map parseUciMoveToken = qs.map (fun q => some (some q)) ∧
      performQueries p qs = some (.ok (lineEnd p l))

/-- what C03 says about the events of a search of `root`: every reported line is non-empty and legal from `root` -/
def ReportsLegal (root : State) (evs : List Event) : Prop :=
  ∀ ev line, Event.best ev line ∈ evs → line ≠ [] ∧ LineLegal root line

/-- a listed legal move gives a legal token (C12) -/
theorem legalToken_of_mem (p : State) (hl : LegalPos p = true) (hd : DisjointBoard p.pieces) (r : Move × State)
    (hr : r ∈ legalMoves p) : LegalToken p (Move.lan r.1) := by
  obtain ⟨q, hq, hsel, hfil⟩ := SanP.C12_lan_legal p hl hd r.1 (List.mem_map_of_mem hr)
  obtain ⟨q', hq', hperf⟩ := performQuery_lan p hl hd (SanP.C12_wf p hl hd) r hr
  have : q' = q := by rw [hq] at hq'; cases hq'; rfl
  subst this
  exact ⟨r, hr, rfl, q', hq, hsel, hfil, hperf⟩

theorem legalLine_of_lineLegal : ∀ (line : List Move) (s : State), LineLegal s line →
    ∃ l : List (Move × State), LegalLine s l ∧ l.map (·.1) = line := by
  intro line
  induction line with
  | nil => intro s _; exact ⟨[], trivial, rfl⟩
  | cons m ms ih =>
    intro s ⟨r, hr, hrm, hrest⟩
    obtain ⟨l, hl, e⟩ := ih r.2 hrest
    exact ⟨r :: l, ⟨hr, hl⟩, by rw [List.map_cons, hrm, e]⟩

theorem legalPv_of_lineLegal (p : State) (hl : LegalPos p = true) (hd : DisjointBoard p.pieces) (line : List Move)
    (hne : line ≠ []) (hline : LineLegal p line) : LegalPv p (line.map Move.lan) := by
  obtain ⟨l, hll, e⟩ := legalLine_of_lineLegal line p hline
  have hlne : l ≠ [] := by rintro rfl; exact hne e.symm
  have htxt : line.map Move.lan = l.map (fun r => Move.lan r.1) := by rw [← e, List.map_map]; rfl
  obtain ⟨qs, h1, h2⟩ := performQueries_line l p hl hd hll (wfLine_legal l p hl hd hll)
  exact ⟨l, hlne, hll, htxt, qs, by rw [htxt]; exact h1, h2⟩

/-! ## the writer thread, for ANY event list -/

/-- **C07_writer_at_most_one_events** (structure of the closure; no hypothesis).  Whatever events the search sends, the writer
prints at most one `bestmove` line, and if it prints one it is its last line (it is printed after the channel has closed). -/
theorem C07_writer_at_most_one_events (evs : List Event) :
    (writerLines evs).countP WLine.isBestmove ≤ 1 ∧
    ∀ t, WLine.bestmove t ∈ writerLines evs → (writerLines evs).getLast? = some (.bestmove t) := by
  rw [← bestmoves_length]
  exact ⟨bestmoves_length_le_one evs, bestmove_is_last evs⟩

theorem writer_of_reportsLegal (root : State) (hl : LegalPos root = true) (hd : DisjointBoard root.pieces)
    (evs : List Event) (h : ReportsLegal root evs) :
    (∀ t, WLine.bestmove t ∈ writerLines evs → LegalToken root t) ∧
    (∀ pv, WLine.infoPv pv ∈ writerLines evs → LegalPv root pv) ∧
    ((writerLines evs).countP WLine.isBestmove = 1 ↔ ∃ ev line, Event.best ev line ∈ evs) := by
  refine ⟨fun t ht => ?_, fun pv hpv => ?_, ?_⟩
  · obtain ⟨ev, line, m, _, hmem, hhead, rfl⟩ := bestmove_from_report ht
    obtain ⟨_, hline⟩ := h ev line hmem
    cases line with
    | nil => cases hhead
    | cons m' rest =>
      cases hhead
      obtain ⟨r, hr, hrm, _⟩ := hline
      rw [← hrm]
      exact legalToken_of_mem root hl hd r hr
  · obtain ⟨ev, line, hmem, rfl⟩ := infoPv_mem_writerLines hpv
    obtain ⟨hne, hline⟩ := h ev line hmem
    exact legalPv_of_lineLegal root hl hd line hne hline
  · rw [← bestmoves_length]
    exact bestmoves_length_one_iff (fun ev line hm => (h ev line hm).1)

theorem writer_exactly_one (root : State) (hl : LegalPos root = true) (hd : DisjointBoard root.pieces)
    (evs : List Event) (h : ReportsLegal root evs) (hrep : ∃ ev line, Event.best ev line ∈ evs) :
    ∃ t, bestmoves (writerLines evs) = [t] ∧ (writerLines evs).getLast? = some (.bestmove t) ∧
      LegalToken root t := by
  have hw := writer_of_reportsLegal root hl hd evs h
  have hone : (bestmoves (writerLines evs)).length = 1 := by rw [bestmoves_length]; exact hw.2.2.2 hrep
  match hb : bestmoves (writerLines evs), hone with
  | [t], _ =>
    have ht : WLine.bestmove t ∈ writerLines evs := mem_bestmoves.1 (by rw [hb]; exact List.mem_singleton.2 rfl)
    exact ⟨t, rfl, bestmove_is_last _ t ht, hw.1 t ht⟩

/-! ## the writer thread on the events of `analyze_iterative`

`out := iterate root rng0 maxDepth art workersOf cancelAt fuelDepth`, hypotheses of `C03_reported_lines_legal`: a region `R`
of legal positions closed under legal moves with `root ∈ R`; the keys of the incoming artifact collision-free on `R`; its
table satisfies the invariant `TInv` (a fresh table does, and so does every table handed back by such a search).  ANY seed
`rng0`, depth limit, worker counts, cancellation instant, history. -/

section iterate
variable {R : State → Prop} (hR : Region R) (root : State) (hroot : R root) (art : Artifact)
  (hcf : CollisionFree art.keys.keys R) (htt : TInv art.keys.keys R art.tt)
  (rng0 : Rng.ChaCha8) (maxDepth : Option Nat) (workersOf : Nat → Nat) (cancelAt : Option Nat) (fuelDepth : Nat)

include hR hroot hcf htt in
theorem iterate_reportsLegal :
    ReportsLegal root (iterate root rng0 maxDepth art workersOf cancelAt fuelDepth).events :=
  fun ev line h => C03_reported_lines_legal hR root hroot art hcf htt rng0 maxDepth workersOf cancelAt fuelDepth ev line h

/-- **C07_writer_at_most_one.**  The writer thread of a search prints at most one `bestmove` line, and it is the last
line it prints.  (True of every event list, `C07_writer_at_most_one_events`; stated for the search for reference.) -/
theorem C07_writer_at_most_one :
    (writerLines (iterate root rng0 maxDepth art workersOf cancelAt fuelDepth).events).countP WLine.isBestmove ≤ 1 ∧
    ∀ t, WLine.bestmove t ∈ writerLines (iterate root rng0 maxDepth art workersOf cancelAt fuelDepth).events →
      (writerLines (iterate root rng0 maxDepth art workersOf cancelAt fuelDepth).events).getLast? = some (.bestmove t) :=
  C07_writer_at_most_one_events _

include hR hroot hcf htt in
/-- **C07_writer_bestmove_legal.**  If the writer prints `bestmove t`, then `t` is the coordinate text of a move that
`compute_legal_moves(root)` lists, and `t` read back by the UCI token parser + `MoveQuery::test` selects exactly that move
(`LegalToken`).  In particular the case "`best_line` is empty, nothing is printed although something was reported" does not
arise: reported lines are never empty (C03), and `best_line` is the line of the LAST report. -/
theorem C07_writer_bestmove_legal (t : String)
    (h : WLine.bestmove t ∈ writerLines (iterate root rng0 maxDepth art workersOf cancelAt fuelDepth).events) :
    LegalToken root t :=
  (writer_of_reportsLegal root (hR.good root hroot).1 (hR.good root hroot).2 _
    (iterate_reportsLegal hR root hroot art hcf htt rng0 maxDepth workersOf cancelAt fuelDepth)).1 t h

include hR hroot hcf htt in
/-- **C07_writer_pv_legal.**  Every `info pv` line of the writer is the list of coordinate texts of a non-empty line of
moves, each legal in the position reached so far, and `position <root> moves <pv>` replays it token by token (`LegalPv`). -/
theorem C07_writer_pv_legal (pv : List String)
    (h : WLine.infoPv pv ∈ writerLines (iterate root rng0 maxDepth art workersOf cancelAt fuelDepth).events) :
    LegalPv root pv :=
  (writer_of_reportsLegal root (hR.good root hroot).1 (hR.good root hroot).2 _
    (iterate_reportsLegal hR root hroot art hcf htt rng0 maxDepth workersOf cancelAt fuelDepth)).2.1 pv h

include hR hroot hcf htt in
theorem C07_writer_one_iff_reported :
    (writerLines (iterate root rng0 maxDepth art workersOf cancelAt fuelDepth).events).countP WLine.isBestmove = 1 ↔
      ∃ ev line, Event.best ev line ∈ (iterate root rng0 maxDepth art workersOf cancelAt fuelDepth).events :=
  (writer_of_reportsLegal root (hR.good root hroot).1 (hR.good root hroot).2 _
    (iterate_reportsLegal hR root hroot art hcf htt rng0 maxDepth workersOf cancelAt fuelDepth)).2.2

end iterate

/-- the writer's `reports` (`Proofs/WriterLemmas.lean`, below the search stack) and C06's `bestReports` are one function -/
theorem reports_eq_bestReports (evs : List Event) : reports evs = C06.bestReports evs := rfl

/-- **C07_writer_exactly_one_mate** (hypotheses of `C06_complete_one_worker`).  A legal root with a forced mate within
`n ≤ d` plies, fresh memory, empty game history, one worker per iteration, no cancellation, keys without harmful collision
on the reachable tree, any seed.  Then the search thread does not panic and the writer prints exactly one `bestmove`, as its
last line; it is a `LegalToken` of the root, and the move it names leads to a position that is `Lost` for the opponent:
**the printed move keeps the forced mate**. -/
theorem C07_writer_exactly_one_mate (root : State) (n d : Nat) (keys : KeyTable) (nT nB : Nat) (rng0 : Rng.ChaCha8)
    (fuelDepth : Nat)
    (hl : LegalPos root = true) (hdj : DisjointBoard root.pieces) (htb : C06.TreeBounded root)
    (hcf : C06.CollisionFree keys.keys (C06.Reachable root)) (hcfn : C06.CollisionFreeN keys.keys (C06.Reachable root))
    (hT : 0 < nT) (hB : 0 < nB) (hw : Outcome.forcedMate n root = true) (hnd : n ≤ d) :
    let out := iterate root rng0 (some d) { keys := keys, tt := TT.Access.new nT nB, history := [] } (fun _ => 1)
      Option.none fuelDepth
    out.panic = Option.none ∧
    ∃ r ∈ legalMoves root, bestmoves (writerLines out.events) = [Move.lan r.1] ∧
      (writerLines out.events).getLast? = some (.bestmove (Move.lan r.1)) ∧
      LegalToken root (Move.lan r.1) ∧ Outcome.Lost r.2 := by
  intro out
  obtain ⟨hnp, ev, line, hlast, _, r, hr, hhead, hlost⟩ :=
    C06.C06_complete_one_worker root n d keys nT nB rng0 fuelDepth hl hdj htb hcf hcfn hT hB hw hnd
  have hb : bestmoves (writerLines out.events) = [Move.lan r.1] := bestmoves_of_last_report (ev := ev) (by rw [reports_eq_bestReports]; exact hlast) hhead
  have ht : WLine.bestmove (Move.lan r.1) ∈ writerLines out.events :=
    mem_bestmoves.1 (by rw [hb]; exact List.mem_singleton.2 rfl)
  exact ⟨hnp, r, hr, hb, bestmove_is_last _ _ ht, legalToken_of_mem root hl hdj r hr, hlost⟩

/-- **C07_writer_terminal_root.**  A root without legal moves (mate or stalemate) is not searched (repair of F2): the search
thread does not panic, and the writer prints NO `bestmove` line — at most the saturation warning of the incoming table.
For every artifact, seed, depth limit, worker counts, cancellation instant. -/
theorem C07_writer_terminal_root (root : State) (rng0 : Rng.ChaCha8) (maxDepth : Option Nat) (art : Artifact)
    (workersOf : Nat → Nat) (cancelAt : Option Nat) (fuelDepth : Nat) (h : legalMoves root = []) :
    let out := iterate root rng0 maxDepth art workersOf cancelAt fuelDepth
    out.panic = Option.none ∧ bestmoves (writerLines out.events) = [] ∧
    (∀ t, WLine.bestmove t ∉ writerLines out.events) ∧
    (writerLines out.events = [] ∨ writerLines out.events = [.infoWarning]) := by
  intro out
  obtain ⟨hnp, _, hnb, hnpr⟩ := SearchCtl.C04_terminal_root root rng0 maxDepth art workersOf cancelAt fuelDepth h
  have hb : bestmoves (writerLines out.events) = [] := bestmoves_of_no_report hnb
  refine ⟨hnp, hb, fun t ht => ?_, ?_⟩
  · have := mem_bestmoves.2 ht; rw [hb] at this; cases this
  · -- the loop is not entered: the events are those of `iterInit`, none or the saturation warning
    have heq : out.events = (iterate root rng0 maxDepth art workersOf cancelAt fuelDepth).events := rfl
    rw [iterate_eq] at heq
    simp only [SearchCtl.iterFinal_nil h] at heq
    unfold SearchCtl.iterInit at heq
    split at heq
    · right
      rw [heq]
      rfl
    · left
      rw [heq]
      rfl

/-! ## every schedule of the workers (`SearchS`)

`out` is ANY outcome of `analyze_iterative` when in every iteration the workers race in an arbitrary interleaving of their
atomic table operations (`Wee/Props/Interleave.lean`); hypotheses of `C03_search_any_schedule` (depth-graded: collision
freedom and the table invariant only for the positions within `D` plies of the root, `D` ≥ the depth limit). -/

section anySchedule
variable {G : Nat → State → Prop} (hG : Graded G) (D : Nat) (root : State) (hroot : G 0 root)
  (art : Artifact) (hcf : CollisionFree art.keys.keys (upTo G D)) (htt : TInv art.keys.keys (upTo G D) art.tt)
  (rng0 : Rng.ChaCha8) (maxDepth : Option Nat) (workersOf : Nat → Nat) (cancelAt : Option Nat) (fuelDepth : Nat)
  (hD : maxDepth.getD fuelDepth ≤ D) (out : Outcome)
  (hout : SearchS root rng0 maxDepth art workersOf cancelAt fuelDepth out)

include hG hroot hcf htt hD hout in
theorem searchS_reportsLegal : ReportsLegal root out.events :=
  (C03_search_any_schedule hG D root hroot art hcf htt rng0 maxDepth workersOf cancelAt fuelDepth hD out hout).2.2

theorem C07_writer_at_most_one_any_schedule (out : Outcome) :
    (writerLines out.events).countP WLine.isBestmove ≤ 1 ∧
    ∀ t, WLine.bestmove t ∈ writerLines out.events → (writerLines out.events).getLast? = some (.bestmove t) :=
  C07_writer_at_most_one_events _

include hG hroot hcf htt hD hout in
/-- **C07_writer_bestmove_legal, any schedule**: whatever the interleaving of the workers in every iteration, a printed
`bestmove` names a legal move of the root and resolves back to it -/
theorem C07_writer_bestmove_legal_any_schedule (t : String) (h : WLine.bestmove t ∈ writerLines out.events) :
    LegalToken root t :=
  (writer_of_reportsLegal root (hG.good 0 root hroot).1 (hG.good 0 root hroot).2 _
    (searchS_reportsLegal hG D root hroot art hcf htt rng0 maxDepth workersOf cancelAt fuelDepth hD out hout)).1 t h

include hG hroot hcf htt hD hout in
theorem C07_writer_pv_legal_any_schedule (pv : List String) (h : WLine.infoPv pv ∈ writerLines out.events) :
    LegalPv root pv :=
  (writer_of_reportsLegal root (hG.good 0 root hroot).1 (hG.good 0 root hroot).2 _
    (searchS_reportsLegal hG D root hroot art hcf htt rng0 maxDepth workersOf cancelAt fuelDepth hD out hout)).2.1 pv h

end anySchedule

/-- the search thread does not panic under any schedule either (C04), so the artifact is handed back (`searchOk`) -/
theorem C07_search_no_panic_any_schedule (root : State) (rng0 : Rng.ChaCha8) (maxDepth : Option Nat) (art : Artifact)
    (workersOf : Nat → Nat) (cancelAt : Option Nat) (fuelDepth : Nat) (tables buckets : Nat)
    (hT : 0 < tables) (hB : 0 < buckets) (hl : LegalPos root = true) (hdj : DisjointBoard root.pieces)
    (hdep : art.tt.All SearchCtl.DepthOK) (hinv : TT.AInv Gen.bucketSize tables buckets art.tt)
    (hprio : SearchCtl.PrioritizedOK art root) (out : Outcome)
    (hout : SearchS root rng0 maxDepth art workersOf cancelAt fuelDepth out) : out.panic = Option.none :=
  (C04_search_any_schedule root rng0 maxDepth art workersOf cancelAt fuelDepth tables buckets hT hB hl hdj hdep hinv hprio
    out hout).1

/-- **C07_book_bestmove_legal.**  The book built from ANY corpus with ANY key table (`C16_build`), a legal position `p`
with which no recorded position collides (`Book.CollisionFree`, the hypothesis of `C16_legal`), and `lookup(p) = Some(ms)`.
Then

* `ms` is not empty — the range `0..moves.len()` of `gen_range` is not empty and the index it returns is in bounds, so the
  book arm does not panic — and has no duplicates;
* whatever order the `HashSet` is iterated in (`order` any permutation of `ms`) and whatever index `i < len` is drawn:
  the chosen move is one of `compute_legal_moves(p)`, the arm prints `info string book move …` and
  `bestmove <Move.lan m>` — exactly one `bestmove` —, and that token resolves back to exactly `m` (`LegalToken`). -/
theorem C07_book_bestmove_legal (K : Keys) (games : List String) (t : Book.Table)
    (ht : Book.buildBookGames K games = .ok t) (p : State) (hp : LegalPos p = true) (hd : DisjointBoard p.pieces)
    (hK : Book.CollisionFree K games p) (ms : List Move) (h : Book.lookup K t p = some ms) :
    0 < ms.length ∧ ms.Nodup ∧
    ∀ order : List Move, order.Perm ms → ∀ (i : Nat) (hi : i < order.length),
      order[i] ∈ (legalMoves p).map (·.1) ∧
      bookLines order[i] = [.infoBook, .bestmove (Move.lan order[i])] ∧
      bestmoves (bookLines order[i]) = [Move.lan order[i]] ∧
      LegalToken p (Move.lan order[i]) := by
  obtain ⟨hnd, hne⟩ := Book.C16_answer_is_set K games t ht p ms h
  refine ⟨List.length_pos_iff.2 hne, hnd, fun order hperm i hi => ?_⟩
  have hmem : order[i] ∈ ms := hperm.mem_iff.1 (List.getElem_mem hi)
  have hleg : order[i] ∈ (legalMoves p).map (·.1) := Book.C16_legal K games t ht p hp hK _ ⟨ms, h, hmem⟩
  obtain ⟨r, hr, e⟩ := List.mem_map.1 hleg
  refine ⟨hleg, rfl, rfl, ?_⟩
  rw [← e]
  exact legalToken_of_mem p hp hd r hr

/-! ## whole sessions

`Uci.run` produces the stream of marks; `runT` (`Wee/Proofs/WriterLemmas.lean`) is `run` with every mark tagged by the
session position before its command (`runT_untag`: forgetting the tags gives `run`; `go_position`: a
`searchStarted`/`bookMove` mark is produced by a `go` line, which does not move the position, so the tag is the position
the search is spawned on / the book is asked about).  `Transcript A …` (same file) refines a tagged stream by the lines
actually printed: the lines of the command loop where the model has `Out.line`; for `bookMove` the two lines of a book
answer; for `searchStarted` the writer lines of a search, emitted one by one at ARBITRARY moments while the search runs
(thread scheduling), but all of them before the `joinRunning` mark of that search is passed (`wait_cancel` joins the
writer thread).  The memory is threaded: a search started with the model's `reusesArtifact` flag set runs on the artifact
handed back by the most recently joined search, otherwise on fresh memory.

`sessionAnswers Fresh Q QB K tbl` instantiates the answers: a search answer is `writerLines out.events` for ANY outcome
`out` of `analyze_iterative` under ANY schedule of its workers (`SearchS`), any seed, worker counts, cancellation instant
(the timer thread and `stop` are cancellation instants), with the depth limit of the `go` line, on the incoming artifact or
— if there is none — on any artifact satisfying `Fresh`; a book answer is `bookLines m` for any element `m` of
`lookup(p)`.  `Q` / `QB` are extra facts recorded about each answer (`True` in the specification, the conclusions of
C03/C04/C16 in the theorem). -/

/-- what a search memory must satisfy for the theorems to apply: keys collision-free on the region, the C03 table
invariant, and `depth ≤ max_depth` for every entry (C04).  A fresh table satisfies the last two for every key table. -/
def ArtOK (R : State → Prop) (a : Artifact) : Prop :=
  CollisionFree a.keys.keys R ∧ TInv a.keys.keys R a.tt ∧ a.tt.All SearchCtl.DepthOK

theorem ArtOK.fresh {R : State → Prop} (keys : KeyTable) (history : List UInt64) (nT nB : Nat) (hT : 0 < nT)
    (hB : 0 < nB) (hcf : CollisionFree keys.keys R) :
    ArtOK R { keys := keys, tt := TT.Access.new nT nB, history := history } :=
  ⟨hcf, C03_TTInv_new keys.keys R hT hB, TT.Access.All.new _ _ _⟩

/-- what C03 + C04 give for one search of the session -/
def SearchGood (R : State → Prop) (p : State) (art : Artifact) (out : Outcome) : Prop :=
  out.panic = Option.none ∧ ArtOK R art ∧ ArtOK R out.artifact ∧ ReportsLegal p out.events

def sessionAnswers (Fresh : Artifact → Prop) (Q : State → Artifact → Outcome → Prop) (QB : State → Move → Prop)
    (K : Keys) (tbl : Book.Table) : Answers Artifact where
  search mem p d ws m :=
    ∃ (art : Artifact) (rng0 : Rng.ChaCha8) (workersOf : Nat → Nat) (cancelAt : Option Nat) (fuelDepth : Nat)
      (out : Outcome),
      (match mem with | some a => art = a | Option.none => Fresh art) ∧
      SearchS p rng0 d art workersOf cancelAt fuelDepth out ∧ Q p art out ∧
      ws = writerLines out.events ∧ m = out.artifact
  book p ws :=
    ∃ (ms order : List Move) (i : Nat) (hi : i < order.length),
      Book.lookup K tbl p = some ms ∧ order.Perm ms ∧ QB p order[i] ∧ ws = bookLines order[i]

/-- the specification: nothing extra recorded -/
abbrev sessionSpec (Fresh : Artifact → Prop) (K : Keys) (tbl : Book.Table) : Answers Artifact :=
  sessionAnswers Fresh (fun _ _ _ => True) (fun _ _ => True) K tbl

/-- what the theorem establishes for every answer of the session -/
abbrev sessionProved (R : State → Prop) (Fresh : Artifact → Prop) (K : Keys) (tbl : Book.Table) : Answers Artifact :=
  sessionAnswers Fresh (SearchGood R) (fun p m => m ∈ (legalMoves p).map (·.1) ∧ LegalToken p (Move.lan m)) K tbl

/-- what is claimed of a tagged output line: a `bestmove` names a legal move of the position it is tagged with and
resolves back to it; an `info pv` is a replayable non-empty legal line from that position -/
def LineOK (q : State) : WLine → Prop
  | .bestmove t => LegalToken q t
  | .infoPv pv => LegalPv q pv
  | _ => True

/-- C03 (+ artifact hand-over) and C04 for one search under any schedule, in the closed-region form -/
theorem searchS_good {R : State → Prop} (hR : Region R) (p : State) (hp : R p) (art : Artifact) (ha : ArtOK R art)
    (rng0 : Rng.ChaCha8) (d : Option Nat) (workersOf : Nat → Nat) (cancelAt : Option Nat) (fuelDepth : Nat)
    (out : Outcome) (hout : SearchS p rng0 d art workersOf cancelAt fuelDepth out) : SearchGood R p art out := by
  obtain ⟨hcf, htt, hdep⟩ := ha
  have hup : ∀ s, upTo (fun _ => R) (d.getD fuelDepth) s ↔ R s := upTo_const _
  obtain ⟨hk, htt', hrep⟩ := C03_search_any_schedule hR.graded (d.getD fuelDepth) p hp art
    (hcf.congr (fun s hs => (hup s).1 hs)) (htt.congr (fun s hs => (hup s).1 hs)) rng0 d workersOf cancelAt fuelDepth
    (Nat.le_refl _) out hout
  obtain ⟨nT, nB, hT, hB, hinv⟩ := htt.1
  have hprio : SearchCtl.PrioritizedOK art p := fun e he => htt.2 _ e he p hp rfl
  obtain ⟨hnp, hdep', _, _⟩ := C04_search_any_schedule p rng0 d art workersOf cancelAt fuelDepth nT nB hT hB
    (hR.good p hp).1 (hR.good p hp).2 hdep hinv hprio out hout
  refine ⟨hnp, ⟨hcf, htt, hdep⟩, ⟨?_, ?_, hdep'⟩, hrep⟩
  · rw [hk]; exact hcf
  · rw [hk]; exact htt'.congr (fun s hs => (hup s).2 hs)

theorem searchGood_lines {R : State → Prop} (hR : Region R) (p : State) (hp : R p) (art : Artifact) (out : Outcome)
    (h : SearchGood R p art out) : ∀ w ∈ writerLines out.events, LineOK p w := by
  have hw := writer_of_reportsLegal p (hR.good p hp).1 (hR.good p hp).2 out.events h.2.2.2
  intro w hm
  cases w with
  | bestmove t => exact hw.1 t hm
  | infoPv pv => exact hw.2.1 pv hm
  | _ => trivial

section session
variable {R : State → Prop} (hR : Region R) (Fresh : Artifact → Prop) (hfresh : ∀ a, Fresh a → ArtOK R a)
  (K : Keys) (games : List String) (tbl : Book.Table) (hbuild : Book.buildBookGames K games = .ok tbl)
  (hbcf : ∀ p, R p → Book.CollisionFree K games p)

include hR hfresh hbuild hbcf in
/-- **C07_session_refined** (the invariant carried through a session).  Every transcript of the specification
(`sessionSpec`) — from a state whose stored and running artifacts are `ArtOK` — over a mark stream whose `go` positions lie
in the region is a transcript of `sessionProved`: EVERY search of the session ends without a panic of the search thread
(so the model's `searchOk` is true and the artifact is handed on), runs on an `ArtOK` artifact and hands back an `ArtOK`
artifact (C03 / C04 chained through the `previous_artifact` hand-over, whatever was searched before), reports only
non-empty legal lines; EVERY book move is a legal move of its position.  The artifact left at the end is `ArtOK`. -/
theorem C07_session_refined {last pend outs t last' pend'}
    (h : Transcript (sessionSpec Fresh K tbl) last pend outs t last' pend')
    (hP : ∀ o p, (o, p) ∈ outs → o.isStart = true → R p)
    (hlast : ∀ m0, last = some m0 → ArtOK R m0) (hpend : ∀ q ws m, pend = some (q, ws, m) → ArtOK R m) :
    Transcript (sessionProved R Fresh K tbl) last pend outs t last' pend' ∧
    (∀ m0, last' = some m0 → ArtOK R m0) ∧ (∀ q ws m, pend' = some (q, ws, m) → ArtOK R m) := by
  refine Transcript.strengthen R (ArtOK R) ?_ ?_ h hP hlast hpend
  · rintro mem p d ws m hp hmem ⟨art, rng0, workersOf, cancelAt, fuelDepth, out, hart, hout, _, rfl, rfl⟩
    have ha : ArtOK R art := by
      cases mem with
      | none => exact hfresh art hart
      | some a =>
        have e : art = a := hart
        rw [e]; exact hmem a rfl
    have hg := searchS_good hR p hp art ha rng0 d workersOf cancelAt fuelDepth out hout
    exact ⟨⟨art, rng0, workersOf, cancelAt, fuelDepth, out, hart, hout, hg, rfl, rfl⟩, hg.2.2.1⟩
  · rintro p ws hp ⟨ms, order, i, hi, hl, hperm, _, rfl⟩
    obtain ⟨_, _, hall⟩ := C07_book_bestmove_legal K games tbl hbuild p (hR.good p hp).1 (hR.good p hp).2 (hbcf p hp) ms hl
    obtain ⟨h1, _, _, h4⟩ := hall order hperm i hi
    exact ⟨ms, order, i, hi, hl, hperm, ⟨h1, h4⟩, rfl⟩

include hR in
theorem sessionProved_lines {last pend outs t last' pend'}
    (h : Transcript (sessionProved R Fresh K tbl) last pend outs t last' pend')
    (hP : ∀ o p, (o, p) ∈ outs → o.isStart = true → R p)
    (hp : ∀ q ws m, pend = some (q, ws, m) → ∀ w ∈ ws, LineOK q w) :
    (∀ w q, (w, q) ∈ t → LineOK q w) ∧
    Transcript.nbest t + Transcript.pendBest pend' ≤ starts (outs.map (·.1)) + Transcript.pendBest pend := by
  -- the region hypothesis is needed inside the answers: strengthen once more with "the root is in the region"
  have hstr := Transcript.strengthen (A := sessionProved R Fresh K tbl)
    (A' := { search := fun mem p d ws m => (sessionProved R Fresh K tbl).search mem p d ws m ∧ R p,
             book := fun p ws => (sessionProved R Fresh K tbl).book p ws ∧ R p })
    R (fun _ => True) (fun mem p d ws m hp _ hs => ⟨⟨hs, hp⟩, trivial⟩) (fun p ws hp hb => ⟨hb, hp⟩) h hP
    (fun _ _ => trivial) (fun _ _ _ _ => trivial)
  refine ⟨?_, ?_⟩
  · refine Transcript.lines_ok LineOK ?_ ?_ (fun _ _ => trivial) hstr.1 hp
    · rintro mem p d ws m ⟨⟨art, rng0, workersOf, cancelAt, fuelDepth, out, _, _, hg, rfl, rfl⟩, hp⟩
      exact searchGood_lines hR p hp art out hg
    · rintro p ws ⟨⟨ms, order, i, hi, _, _, ⟨_, h4⟩, rfl⟩, _⟩ w hw
      simp only [bookLines, List.mem_cons, List.not_mem_nil, or_false] at hw
      rcases hw with rfl | rfl
      · trivial
      · exact h4
  · have hcnt := (Transcript.count_between 0 1 ?_ ?_ h).2
    · rwa [Nat.one_mul] at hcnt
    · rintro mem p d ws m ⟨art, rng0, workersOf, cancelAt, fuelDepth, out, _, _, _, rfl, rfl⟩
      exact ⟨Nat.zero_le _, bestmoves_length_le_one _⟩
    · rintro p ws ⟨ms, order, i, hi, _, _, _, rfl⟩
      exact ⟨Nat.zero_le _, Nat.le_refl _⟩

include hR hfresh hbuild hbcf in
/-- **C07_session_bestmoves.**  A whole session of the real command loop, at the model level.

*Setting.*  A region `R` of legal positions closed under legal moves; the artifacts a search may create when it is given
none (`Fresh`) have keys that are collision-free on `R` and a fresh table (`ArtOK`); the book is built from any corpus with
any key table and no recorded position collides with a position of `R`.  The session starts in a state `s` (without running
search and without stored artifact, e.g. `Sess.init`: the transcript starts from the empty state `none none`, and for other
`s` no such transcript exists — `C07_session_refined` is the form for arbitrary initial states), reads ANY list of input
lines (arbitrary text), the book predicate of the loop is `lookup(p).is_some()`, and the loop does not panic:
`runT … = some (s', touts)`.  Every `go` is issued in a
position of `R` (`hpos`).  `t` is ANY transcript of the specification `sessionSpec` for the tagged marks `touts`: every
search replaced by the writer lines of any outcome of `analyze_iterative` (any schedule of the workers, seed, worker
counts, cancellation instant; memory handed on as the loop does), every book mark by a book answer, writer lines
interleaved with the loop's lines in any way that respects the join.

*Conclusion.*
1. the number of `bestmove` lines is at most the number of `go` lines read (those before the first `quit`);
2. every `bestmove` line names a legal move of the position it is tagged with and resolves back to exactly that move
   through the UCI token parser and `MoveQuery::test` (`LegalToken`); that position is the `Sess.pos` at a `go` of the
   session — the tag of a `searchStarted`/`bookMove` mark of `touts` (`go_position`);
3. every `info pv` line is a non-empty legal line from the position of its `go`, replayable by `position … moves`;
4. the transcript is one of `sessionProved`: no search thread of the session panics, every search runs on and hands back an
   `ArtOK` artifact, every book move is legal; the artifact stored at the end is `ArtOK`.

That each `bestmove` is printed before the output of the next joining command is `C07_session_join_barrier` (with
`C07_join_first`: the join mark is the first output of `go`/`position`/`stop`/`ucinewgame`). -/
theorem C07_session_bestmoves (s : Sess) (lines : List String) (s' : Sess)
    (touts : List (Out × State))
    (hrun : runT (fun p => (Book.lookup K tbl p).isSome) s lines = some (s', touts))
    (hpos : ∀ o p, (o, p) ∈ touts → o.isStart = true → R p)
    (t : List (WLine × State)) (last' : Option Artifact)
    (htr : Transcript (sessionSpec Fresh K tbl) Option.none Option.none touts t last' Option.none) :
    Transcript.nbest t ≤ (processed lines).countP isGo ∧
    (∀ tok q, (WLine.bestmove tok, q) ∈ t → LegalToken q tok ∧ ∃ o, (o, q) ∈ touts ∧ o.isStart = true) ∧
    (∀ pv q, (WLine.infoPv pv, q) ∈ t → LegalPv q pv) ∧
    Transcript (sessionProved R Fresh K tbl) Option.none Option.none touts t last' Option.none ∧
    (∀ m0, last' = some m0 → ArtOK R m0) := by
  obtain ⟨hprov, hl', _⟩ := C07_session_refined hR Fresh hfresh K games tbl hbuild hbcf htr hpos
    (fun _ e => nomatch e) (fun _ _ _ e => nomatch e)
  obtain ⟨hok, hcnt⟩ := sessionProved_lines hR Fresh K tbl hprov hpos (fun _ _ _ e => nomatch e)
  have hrun' := runT_untag (fun p => (Book.lookup K tbl p).isSome) lines s
  rw [hrun] at hrun'
  obtain ⟨_, _, hstarts⟩ := C07_bestmove_structure _ s lines s' (touts.map (·.1)) hrun'.symm
  refine ⟨?_, fun tok q hm => ⟨hok _ q hm, ?_⟩, fun pv q hm => hok _ q hm, hprov, hl'⟩
  · simp only [Transcript.pendBest, Nat.add_zero] at hcnt
    rw [← hstarts]; exact hcnt
  · rcases Transcript.line_origin htr _ q hm with ⟨_, e⟩ | ⟨_, _, e, _⟩ | ⟨_, h3⟩
    · cases e
    · cases e
    · exact h3

end session

/-- **C07_session_join_barrier.**  Cut the tagged mark stream of a session at ANY `joinRunning` mark.  Every transcript
splits at that point into the lines printed before the mark is passed and those printed after; when the mark is passed the
joined search has printed all its lines.  Hence the `bestmove` of a search precedes every line the joining command prints
after its join mark — by `C07_join_first` all its output — and every line of all later commands.  (For any answers `A`.) -/
theorem C07_session_join_barrier {μ : Type} {A : Answers μ} {last pend last' pend'} (o₁ o₂ : List (Out × State))
    (p : State) (t : List (WLine × State))
    (h : Transcript A last pend (o₁ ++ (.joinRunning, p) :: o₂) t last' pend') :
    ∃ t₁ t₂ last₁ q m, t = t₁ ++ t₂ ∧ Transcript A last pend o₁ t₁ last₁ (some (q, [], m)) ∧
      Transcript A (some m) Option.none o₂ t₂ last' pend' :=
  Transcript.split_join o₁ h

/-- **exactly one per `go`.**  If every search of the session reports (e.g. by `C07_writer_exactly_one`: every answer has
exactly one `bestmove`), the number of `bestmove` lines EQUALS the number of `go` lines read.  (For any answers `A`.) -/
theorem C07_session_exactly_one {μ : Type} {A : Answers μ}
    (hS : ∀ mem p d ws m, A.search mem p d ws m → (bestmoves ws).length = 1)
    (hB : ∀ p ws, A.book p ws → (bestmoves ws).length = 1)
    (hasBook : State → Bool) (s : Sess) (lines : List String) (s' : Sess) (touts : List (Out × State))
    (hrun : runT hasBook s lines = some (s', touts)) (t : List (WLine × State)) (last last' : Option μ)
    (htr : Transcript A last Option.none touts t last' Option.none) :
    Transcript.nbest t = (processed lines).countP isGo := by
  have hrun' := runT_untag hasBook lines s
  rw [hrun] at hrun'
  obtain ⟨_, _, hstarts⟩ := C07_bestmove_structure _ s lines s' (touts.map (·.1)) hrun'.symm
  have := Transcript.count_between 1 1 (fun mem p d ws m h => by rw [hS mem p d ws m h]; exact ⟨Nat.le_refl 1, Nat.le_refl 1⟩)
    (fun p ws h => by rw [hB p ws h]; exact ⟨Nat.le_refl 1, Nat.le_refl 1⟩) htr
  simp only [Transcript.pendBest, Nat.add_zero, Nat.one_mul] at this
  rw [← hstarts]; exact Nat.le_antisymm this.2 this.1

/-- **the specification is satisfiable for every session**: from a state without running search and without stored
artifact (e.g. `Sess.init`) every tagged stream of `runT` has a transcript, as soon as some fresh artifact exists — in
particular the side condition of `Transcript.start` (an artifact is re-used only if one was handed back since the previous
start) holds in every such session (`run_artOK`).  So `C07_session_bestmoves` never holds vacuously. -/
theorem C07_session_transcript_exists (Fresh : Artifact → Prop) (a0 : Artifact) (h0 : Fresh a0) (K : Keys)
    (tbl : Book.Table) (s : Sess) (hs : s.searching = false) (hsa : s.artifact = false) (lines : List String) (s' : Sess)
    (touts : List (Out × State))
    (hrun : runT (fun p => (Book.lookup K tbl p).isSome) s lines = some (s', touts)) :
    ∃ t last', Transcript (sessionSpec Fresh K tbl) Option.none Option.none touts t last' Option.none := by
  have hrun' := runT_untag (fun p => (Book.lookup K tbl p).isSome) lines s
  rw [hrun] at hrun'
  obtain ⟨hbal, _, _⟩ := C07_bestmove_structure _ s lines s' (touts.map (·.1)) hrun'.symm
  rw [hs] at hbal
  have hart : artOK false (touts.map (·.1)) = true :=
    run_artOK _ lines s s' _ hrun'.symm false (fun e => by rw [hsa] at e; cases e)
  refine Transcript.exists_of_scan ?_ touts false hbal ?_ Option.none Option.none rfl hart
  · intro mem p d
    cases mem with
    | none =>
      exact ⟨_, _, a0, default, fun _ => 1, Option.none, 64, _, h0,
        Interleave_iterate_is_schedule p default d a0 (fun _ => 1) Option.none 64, trivial, rfl, rfl⟩
    | some a =>
      exact ⟨_, _, a, default, fun _ => 1, Option.none, 64, _, rfl,
        Interleave_iterate_is_schedule p default d a (fun _ => 1) Option.none 64, trivial, rfl, rfl⟩
  · intro p hm
    have hb := (runT_marks _ lines s s' touts hrun _ p hm rfl).1 rfl
    cases hl : Book.lookup K tbl p with
    | none => rw [hl] at hb; cases hb
    | some ms =>
      cases ms with
      | nil => exact absurd rfl (Book.lookup_eq_some K tbl p [] hl).2
      | cons m rest =>
        exact ⟨_, m :: rest, m :: rest, 0, Nat.succ_pos _, hl, List.Perm.refl _, trivial, rfl⟩

/-! ## non-vacuity

The example position of `Wee/Props/C03.lean` (`c03Root`: White Kh1 Pg2 Pa6 Pc6, Black Ka8 Pa7 Pg3 Ph2, White to move; the only
legal move c6-c7 stalemates Black; region `c03R`, toy key table `c03KeyTable`, fresh 2 × 4 table `c03Art`), the mate-in-one
position of `Wee/Props/C06Complete.lean` (`compRoot`), the mated position of C05, the two-game book of
`Wee/Props/C16.lean`, and a concrete session.  Everything is kernel-checked. -/

section examples
open Wee.Book (toyGames)

theorem c03Move_lan : Move.lan c03Move = "c6c7" := by decide +kernel

set_option maxRecDepth 1000000 in
/-- the writer on a typical event sequence of a depth-1 search of the example -/
example : writerLines [.progress 1 3, .best 0 [c03Move], .warning] =
    [.infoTime 1 3, .infoScore 0, .infoPv ["c6c7"], .infoWarning, .bestmove "c6c7"] := by decide +kernel

/-- `best_line` is overwritten by every `BestMove` event: only the LAST report counts … -/
example (m m' : Move) : bestmoves (writerLines [.best 5 [m], .progress 2 9, .best 7 [m', m]]) = [Move.lan m'] := rfl

/-- … and if the last report carried an empty line the writer would print NO `bestmove` although a move was reported before:
this is the case that `C03_reported_lines_legal` (lines are never empty) excludes -/
example (m : Move) : bestmoves (writerLines [.best 5 [m], .best 7 []]) = [] := rfl

/-! ### `C07_writer_bestmove_legal`, `C07_writer_pv_legal`: all hypotheses discharged -/

example (rng0 : Rng.ChaCha8) (maxDepth : Option Nat) (workersOf : Nat → Nat) (cancelAt : Option Nat) (fuelDepth : Nat) :
    (∀ t, WLine.bestmove t ∈ writerLines (iterate c03Root rng0 maxDepth c03Art workersOf cancelAt fuelDepth).events →
      LegalToken c03Root t) ∧
    (∀ pv, WLine.infoPv pv ∈ writerLines (iterate c03Root rng0 maxDepth c03Art workersOf cancelAt fuelDepth).events →
      LegalPv c03Root pv) :=
  ⟨C07_writer_bestmove_legal c03_region c03Root (Or.inl rfl) c03Art c03_collisionFree
     (C03_TTInv_new _ _ (by decide) (by decide)) rng0 maxDepth workersOf cancelAt fuelDepth,
   C07_writer_pv_legal c03_region c03Root (Or.inl rfl) c03Art c03_collisionFree
     (C03_TTInv_new _ _ (by decide) (by decide)) rng0 maxDepth workersOf cancelAt fuelDepth⟩

theorem c03_legalToken (t : String) (h : LegalToken c03Root t) : t = "c6c7" := by
  obtain ⟨r, hr, rfl, _⟩ := h
  rw [c03_moves_root, List.mem_singleton] at hr
  subst hr
  exact c03Move_lan

theorem comp_lan : Move.lan C06.compA.1 = "a6b7" ∧ Move.lan C06.compC.1 = "c6b7" := by decide +kernel

/-- **`C07_writer_exactly_one_mate` instantiated** (`k1n5/PpP5/PPP5/8/8/6p1/6Pp/7K w - - 0 1`, mate in one by a6xb7 or
c6xb7): for every table geometry, seed and depth limit ≥ 1 the writer prints exactly one `bestmove`, it is `a6b7` or
`c6b7`, and the move mates -/
example (nT nB : Nat) (hT : 0 < nT) (hB : 0 < nB) (rng0 : Rng.ChaCha8) (d : Nat) (hd : 1 ≤ d) :
    let out := iterate C06.compRoot rng0 (some d) { keys := C06.compKeys, tt := TT.Access.new nT nB, history := [] }
      (fun _ => 1) Option.none 64
    out.panic = Option.none ∧
    (bestmoves (writerLines out.events) = ["a6b7"] ∨ bestmoves (writerLines out.events) = ["c6b7"]) := by
  intro out
  obtain ⟨hnp, r, hr, hb, _, _, _⟩ := C07_writer_exactly_one_mate C06.compRoot 1 d C06.compKeys nT nB rng0 64
    C06.compRoot_hyps.1 C06.compRoot_hyps.2.1 C06.compRoot_hyps.2.2.1 C06.compRoot_hyps.2.2.2.1
    C06.compRoot_hyps.2.2.2.2.1 hT hB C06.compRoot_hyps.2.2.2.2.2 hd
  refine ⟨hnp, ?_⟩
  rw [C06.compRoot_facts.2.2.2.2.1] at hr
  rcases List.mem_cons.1 hr with h1 | hr
  · rw [h1, comp_lan.1] at hb
    exact Or.inl hb
  · rw [List.mem_singleton.1 hr, comp_lan.2] at hb
    exact Or.inr hb

/-- **`C07_writer_terminal_root` instantiated**: the mated and the stalemated position of C05 -/
example (rng0 : Rng.ChaCha8) (maxDepth : Option Nat) (art : Artifact) (workersOf : Nat → Nat) (cancelAt : Option Nat) :
    bestmoves (writerLines (iterate C05.mateS rng0 maxDepth art workersOf cancelAt).events) = [] ∧
    bestmoves (writerLines (iterate C05.staleS rng0 maxDepth art workersOf cancelAt).events) = [] :=
  ⟨(C07_writer_terminal_root C05.mateS rng0 maxDepth art workersOf cancelAt 64
     (legalMoves_of_some C05.mateS_moves)).2.1,
   (C07_writer_terminal_root C05.staleS rng0 maxDepth art workersOf cancelAt 64
     (legalMoves_of_some C05.staleS_moves)).2.1⟩

/-! ### any schedule: the two-worker execution of `Wee/Props/Interleave.lean` that is NOT sequential -/

/-- for every seed there is an outcome of the search of the example under a non-sequential schedule of two workers
(`il_searchS`); all hypotheses of the `…_any_schedule` theorems hold for it, and its writer prints exactly `bestmove c6c7` -/
example (rng0 : Rng.ChaCha8) :
    ∃ out, SearchS c03Root rng0 (some 1) InterleaveExample.ilArt (fun _ => 2) Option.none 64 out ∧
      bestmoves (writerLines out.events) = ["c6c7"] ∧ ∀ pv, WLine.infoPv pv ∈ writerLines out.events → LegalPv c03Root pv := by
  obtain ⟨out, hout, _, hev⟩ := InterleaveExample.il_searchS rng0
  have hG : Graded (fun _ : Nat => c03R) := c03_region.graded
  have hup : ∀ s, upTo (fun _ => c03R) 1 s → c03R s := fun s hs => (upTo_const 1 s).1 hs
  have hcf : CollisionFree InterleaveExample.ilArt.keys.keys (upTo (fun _ => c03R) 1) := c03_collisionFree.congr hup
  have htt : TInv InterleaveExample.ilArt.keys.keys (upTo (fun _ => c03R) 1) InterleaveExample.ilArt.tt :=
    (C03_TTInv_new c03KeyTable.keys c03R (by decide) (by decide)).congr hup
  have hrep := searchS_reportsLegal hG 1 c03Root (Or.inl rfl) InterleaveExample.ilArt hcf htt rng0 (some 1) (fun _ => 2)
    Option.none 64 (Nat.le_refl _) out hout
  obtain ⟨t, hb, _, ht⟩ := writer_exactly_one c03Root c03_legal_root (by decide) out.events hrep ⟨_, _, hev⟩
  rw [c03_legalToken t ht] at hb
  exact ⟨out, hout, hb, fun pv h =>
    C07_writer_pv_legal_any_schedule hG 1 c03Root (Or.inl rfl) InterleaveExample.ilArt hcf htt rng0 (some 1) (fun _ => 2)
      Option.none 64 (Nat.le_refl _) out hout pv h⟩

/-! ### the book arm: the two-game corpus of C16, for EVERY key table -/

/-- what is recorded in `["1. e4 1-0", "1.d4 1/2-1/2"]`: two moves from the initial position -/
theorem toy_recorded (q : State) (m : Move) (h : Book.Recorded toyGames q m) : q = startState := by
  obtain ⟨me, hpe, _⟩ := Book.toy_e4
  obtain ⟨md, hpd, _⟩ := Book.toy_d4
  exact ((Book.toy_recorded_iff hpe hpd q m).1 h).1

/-- **`C07_book_bestmove_legal` instantiated**: for every key table the toy book builds, answers for the initial position
with a non-empty duplicate-free set, and whichever element is drawn, the arm prints a `bestmove` that is a `LegalToken` of
the initial position -/
example (K : Keys) : ∃ t ms, Book.buildBookGames K toyGames = .ok t ∧ Book.lookup K t startState = some ms ∧
    0 < ms.length ∧ ms.Nodup ∧
    ∀ order : List Move, order.Perm ms → ∀ (i : Nat) (hi : i < order.length),
      bestmoves (bookLines order[i]) = [Move.lan order[i]] ∧ LegalToken startState (Move.lan order[i]) := by
  obtain ⟨t, me, md, ht, _, _, hall⟩ := Book.toy_book K
  obtain ⟨ms, hms, _⟩ := ((hall startState rfl).1 me).2 (Or.inl rfl)
  have hcf : Book.CollisionFree K toyGames startState := fun q m hr _ => by rw [toy_recorded q m hr]
  obtain ⟨h1, h2, h3⟩ := C07_book_bestmove_legal K toyGames t ht startState startState_legal startState_disjoint hcf ms hms
  exact ⟨t, ms, ht, hms, h1, h2, fun order hp i hi => ⟨(h3 order hp i hi).2.2.1, (h3 order hp i hi).2.2.2⟩⟩

/-! ### a whole session

`position fen k7/p7/P1P5/8/8/6p1/6Pp/7K w - - 0 1`, `go depth 1`, `isready` (answered while the search runs),
`go depth 2` (joins the first search, then searches again ON THE ARTIFACT THE FIRST SEARCH HANDED BACK:
`reusesArtifact = true`), `stop`.  Empty book (so the loop always searches); fresh artifacts = `c03Art`; region `c03R`. -/

def exLines : List String :=
  ["position fen k7/p7/P1P5/8/8/6p1/6Pp/7K w - - 0 1", "go depth 1", "isready", "go depth 2", "stop"]

def exTouts : List (Out × State) :=
  [(.searchStarted (some 1) Option.none false, c03Root), (.line "readyok", c03Root), (.joinRunning, c03Root),
   (.searchStarted (some 2) Option.none true, c03Root), (.joinRunning, c03Root)]

theorem lookup_empty (K : Keys) (p : State) : Book.lookup K (∅ : Book.Table) p = Option.none := by
  rw [Book.lookup_eq, Book.movesAt_empty]
  rfl

theorem ex_runT (K : Keys) :
    (runT (fun p => (Book.lookup K (∅ : Book.Table) p).isSome) Sess.init exLines).map (·.2) = some exTouts := by
  have : (fun p => (Book.lookup K (∅ : Book.Table) p).isSome) = fun _ => false := by
    funext p; rw [lookup_empty]; rfl
  rw [this]
  decide +kernel

/-- **`C07_session_bestmoves` instantiated.**  The session above has transcripts (`C07_session_transcript_exists`), and for
EVERY transcript `t` of the specification — whatever the seeds, schedules, cancellation instants of the two searches and
however the writer lines interleave with `readyok` — all hypotheses of `C07_session_bestmoves` hold.  Hence: at most two
`bestmove` lines for the two `go` lines; each of them is `bestmove c6c7`; no search thread panics; the second search runs on
the artifact handed back by the first. -/
example (K : Keys) :
    (∃ t last', Transcript (sessionSpec (· = c03Art) K ∅) Option.none Option.none exTouts t last' Option.none) ∧
    ∀ t last', Transcript (sessionSpec (· = c03Art) K ∅) Option.none Option.none exTouts t last' Option.none →
      Transcript.nbest t ≤ 2 ∧ (∀ tok q, (WLine.bestmove tok, q) ∈ t → q = c03Root ∧ tok = "c6c7") ∧
      Transcript (sessionProved c03R (· = c03Art) K ∅) Option.none Option.none exTouts t last' Option.none := by
  cases hrun : runT (fun p => (Book.lookup K (∅ : Book.Table) p).isSome) Sess.init exLines with
  | none => have := ex_runT K; rw [hrun] at this; cases this
  | some r =>
    obtain ⟨s', touts⟩ := r
    have ht : touts = exTouts := by have := ex_runT K; rw [hrun] at this; exact Option.some.inj this
    subst ht
    have hfresh : ∀ a, a = c03Art → ArtOK c03R a := by
      rintro a rfl
      exact ArtOK.fresh c03KeyTable [] 2 4 (by decide) (by decide) c03_collisionFree
    have hpos : ∀ o p, (o, p) ∈ exTouts → o.isStart = true → c03R p := by
      intro o p hm _
      simp only [exTouts, List.mem_cons, Prod.mk.injEq, List.not_mem_nil, or_false] at hm
      rcases hm with ⟨_, rfl⟩ | ⟨_, rfl⟩ | ⟨_, rfl⟩ | ⟨_, rfl⟩ | ⟨_, rfl⟩ <;> exact Or.inl rfl
    refine ⟨C07_session_transcript_exists (· = c03Art) c03Art rfl K ∅ Sess.init rfl rfl exLines s' exTouts hrun, ?_⟩
    intro t last' htr
    obtain ⟨h1, h2, _, h4, _⟩ := C07_session_bestmoves c03_region (· = c03Art) hfresh K [] ∅ rfl
      (fun p _ q m hr => by obtain ⟨g, hg, _⟩ := hr; cases hg) Sess.init exLines s' exTouts hrun hpos t last' htr
    refine ⟨?_, fun tok q hm => ?_, h4⟩
    · have hc : (processed exLines).countP isGo = 2 := by decide +kernel
      rw [hc] at h1; exact h1
    · obtain ⟨hlt, o, ho, _⟩ := h2 tok q hm
      have hq : q = c03Root := by
        simp only [exTouts, List.mem_cons, Prod.mk.injEq, List.not_mem_nil, or_false] at ho
        rcases ho with ⟨_, rfl⟩ | ⟨_, rfl⟩ | ⟨_, rfl⟩ | ⟨_, rfl⟩ | ⟨_, rfl⟩ <;> rfl
      subst hq
      exact ⟨rfl, c03_legalToken tok hlt⟩

/-- the join barrier on the example: cut at the first `joinRunning` (the one the second `go` prints first): everything the
first search's writer prints is in the first part, the second search's lines in the second -/
example (K : Keys) (t : List (WLine × State)) (last' : Option Artifact)
    (htr : Transcript (sessionSpec (· = c03Art) K ∅) Option.none Option.none exTouts t last' Option.none) :
    ∃ t₁ t₂ last₁ q m, t = t₁ ++ t₂ ∧
      Transcript (sessionSpec (· = c03Art) K ∅) Option.none Option.none
        [(.searchStarted (some 1) Option.none false, c03Root), (.line "readyok", c03Root)] t₁ last₁ (some (q, [], m)) ∧
      Transcript (sessionSpec (· = c03Art) K ∅) (some m) Option.none
        [(.searchStarted (some 2) Option.none true, c03Root), (.joinRunning, c03Root)] t₂ last' Option.none :=
  C07_session_join_barrier [(.searchStarted (some 1) Option.none false, c03Root), (.line "readyok", c03Root)] _ c03Root t htr

end examples

end Wee.Uci
