import Wee.Props.C03Report
/-!
# C07 — exactly one `bestmove` for a search on fresh memory

The search on FRESH memory with one worker in its first iteration, without cancellation and for every cancellation
instant: the instances at `MemOK.fresh` of `C07_writer_exactly_one_always`
(`Wee/Props/C03Report.lean`: any memory satisfying `MemOK`, any number of workers).
-/
namespace Wee.Uci
open Wee Wee.Search
open Wee.C10 (DisjointBoard)

/-- **C07_writer_exactly_one** (hypotheses of `C03_at_least_one_report_of_eval_bound`, the panic hypothesis discharged by
C04).  One worker in the first iteration, fresh memory of any shape, no cancellation, a root with a legal move, depth limit
`d ≥ 1`, static evaluations of the region strictly inside the mate window; any seed, any history, any worker counts for the
later iterations.  Then the search thread does not panic and the writer prints EXACTLY ONE `bestmove` line; it is its last
line and a `LegalToken` of the root. -/
theorem C07_writer_exactly_one {R : State → Prop} (hR : Region R) (hE : EvalBelowMate R)
    (root : State) (hroot : R root) (hmoves : legalMoves root ≠ [])
    (keys : KeyTable) (history : List UInt64) (nT nB : Nat) (hT : 0 < nT) (hB : 0 < nB)
    (hcf : CollisionFree keys.keys R) (rng0 : Rng.ChaCha8) (d : Nat) (hd : 1 ≤ d) (workersOf : Nat → Nat)
    (h1 : workersOf 0 = 1) (fuelDepth : Nat) :
    let out := iterate root rng0 (some d) { keys := keys, tt := TT.Access.new nT nB, history := history } workersOf
      Option.none fuelDepth
    out.panic = Option.none ∧
    ∃ t, bestmoves (writerLines out.events) = [t] ∧ (writerLines out.events).getLast? = some (.bestmove t) ∧
      LegalToken root t :=
  C07_writer_exactly_one_always hR hE root hroot hmoves _ (MemOK.fresh keys history nT nB hT hB hcf) rng0 (some d)
    fuelDepth hd workersOf (by rw [h1]; exact Nat.one_pos) Option.none

/-- **C07_writer_exactly_one_any_cancel.**  As `C07_writer_exactly_one`, for EVERY cancellation instant (`go` followed by
`stop`, by another `go`, by `position`, by `quit`, or by the timer, at any moment): the search thread does not panic and the
writer prints EXACTLY ONE `bestmove` line, as its last line, naming a legal move of the root that resolves back to it.
This is the instance at fresh memory of `C07_writer_exactly_one_always` (`Wee/Props/C03Report.lean`), whose argument is: in a
UCI session every search that is joined by a later command IS cancelled (`wait_cancel` sends `Stop`), possibly at once, but
`analyze_recursive` polls the flag only when its node counter reaches a multiple of 10000, and the single worker of the
first iteration counts at most `1 + #legal moves` nodes — fewer than that in every position of a region (`legalMoves_few`) —
so the first iteration runs to its end whenever `Stop` arrives, and reports.  The hypothesis `hfew` states that bound for
the root and is redundant: it follows from `hR` and `hroot`.  `C07_writer_exactly_one` is the instance `cancelAt := none`. -/
theorem C07_writer_exactly_one_any_cancel {R : State → Prop} (hR : Region R) (hE : EvalBelowMate R)
    (root : State) (hroot : R root) (hmoves : legalMoves root ≠ [])
    (hfew : (legalMoves root).length + 1 < Gen.pollInterval)
    (keys : KeyTable) (history : List UInt64) (nT nB : Nat) (hT : 0 < nT) (hB : 0 < nB)
    (hcf : CollisionFree keys.keys R) (rng0 : Rng.ChaCha8) (d : Nat) (hd : 1 ≤ d) (workersOf : Nat → Nat)
    (h1 : workersOf 0 = 1) (cancelAt : Option Nat) (fuelDepth : Nat) :
    let out := iterate root rng0 (some d) { keys := keys, tt := TT.Access.new nT nB, history := history } workersOf
      cancelAt fuelDepth
    out.panic = Option.none ∧
    ∃ t, bestmoves (writerLines out.events) = [t] ∧ (writerLines out.events).getLast? = some (.bestmove t) ∧
      LegalToken root t :=
  C07_writer_exactly_one_always hR hE root hroot hmoves _ (MemOK.fresh keys history nT nB hT hB hcf) rng0 (some d)
    fuelDepth hd workersOf (by rw [h1]; exact Nat.one_pos) cancelAt

/-! ## non-vacuity: the example position of `Wee/Props/C03.lean` -/

/-- **`C07_writer_exactly_one` instantiated**: for every seed, depth limit ≥ 1, history and table shape the search of the
example does not panic and its writer prints exactly one `bestmove`, namely `bestmove c6c7`, as its last line -/
example (rng0 : Rng.ChaCha8) (d : Nat) (hd : 1 ≤ d) (history : List UInt64) (nT nB : Nat) (hT : 0 < nT) (hB : 0 < nB) :
    let out := iterate c03Root rng0 (some d) { keys := c03KeyTable, tt := TT.Access.new nT nB, history := history }
      (fun _ => 1) Option.none 64
    out.panic = Option.none ∧ bestmoves (writerLines out.events) = ["c6c7"] ∧
      (writerLines out.events).getLast? = some (.bestmove "c6c7") := by
  intro out
  obtain ⟨hnp, t, h1, h2, h3⟩ := C07_writer_exactly_one c03_region c03_evalBelowMate c03Root (Or.inl rfl)
    (by rw [c03_moves_root]; exact List.cons_ne_nil _ _) c03KeyTable history nT nB hT hB c03_collisionFree rng0 d hd
    (fun _ => 1) rfl 64
  have := c03_legalToken t h3
  subst this
  exact ⟨hnp, h1, h2⟩

/-- **`C07_writer_exactly_one_any_cancel` instantiated**: whenever `Stop` arrives — `cancelAt` arbitrary, e.g. `some 0`:
the flag is already set at the first poll — the search of the example prints exactly `bestmove c6c7` -/
example (rng0 : Rng.ChaCha8) (d : Nat) (hd : 1 ≤ d) (history : List UInt64) (nT nB : Nat) (hT : 0 < nT) (hB : 0 < nB)
    (cancelAt : Option Nat) :
    let out := iterate c03Root rng0 (some d) { keys := c03KeyTable, tt := TT.Access.new nT nB, history := history }
      (fun _ => 1) cancelAt 64
    out.panic = Option.none ∧ bestmoves (writerLines out.events) = ["c6c7"] := by
  intro out
  obtain ⟨hnp, t, h1, _, h3⟩ := C07_writer_exactly_one_any_cancel c03_region c03_evalBelowMate c03Root (Or.inl rfl)
    (by rw [c03_moves_root]; exact List.cons_ne_nil _ _) (by rw [c03_moves_root]; decide) c03KeyTable history nT nB hT hB
    c03_collisionFree rng0 d hd (fun _ => 1) rfl cancelAt 64
  have := c03_legalToken t h3
  subst this
  exact ⟨hnp, h1⟩

end Wee.Uci
