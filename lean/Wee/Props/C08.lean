import Wee.Proofs.HashLemmas
/-!
# C08 — the position hash depends on, and separates, everything rule-relevant

Rust: `ZobristHasher::hash` (`weechess-core/src/hasher.rs`, after the repair of defect F1: castling rights
and an *available* en-passant capture are hashed as well).  Model: `Wee.hash K s` (`Wee/Model/Hash.lean`).

All theorems are generic in the key table `K : Keys`, i.e. they hold for every value of the 1038 random
keys, hence for every hasher seed (`C08_all_seeds` instantiates them with `ZobristHasher::with(rng)`).

Vocabulary (defined in `Wee/Proofs/HashLemmas.lean`):
* `Atom` — a feature of a position: `piece sq c p`, `turn c`, `castle c side`, `ep file`;
* `keyOf K a` — the random key the hasher holds for the atom;
* `atoms s` — the atoms of `s`, in the order in which the code xors their keys
  (`Color::ALL × Piece::ALL_INCLUDING_NONE × iter_ones`, side to move, `Color::ALL × Side::ALL` rights held,
  file of the en-passant target if a pawn of the side to move attacks it);
* `xorL f l` — `l.foldl (fun h a => h ^^^ f a) 0`;
* `symmDiff l₁ l₂` — the elements of `l₁` not in `l₂` followed by the elements of `l₂` not in `l₁`;
* `key s` — `(pieces, turn, castleW, castleB, epFile? s)` where `epFile? s` is the file of the en-passant
  target when a capture there is pseudo-legally available (`epCapturable`).

The statement "differ ⇒ hash differently (up to 64-bit chance)" is made exact by `C08_features`
(the atom *set* is in bijection with the rule-relevant key) together with `C08_xor` (the xor of two hashes
is the xor of the keys of the atoms in which the positions differ): a collision between positions with
different keys needs a non-empty set of distinct random keys to xor to zero.
-/
namespace Wee

/-! ## the hash is the xor of the keys of the atoms -/

/-- `ZobristHasher::hash(state)` is the xor, starting from 0, of the keys of the atoms of `state`,
taken in the order of `atoms`. -/
theorem C08_hash_eq_xor_atoms (K : Keys) (s : State) :
    hash K s = (atoms s).foldl (fun h a => h ^^^ keyOf K a) 0 :=
  hash_eq_xorL K s

/-- Which atoms a position has: a `piece` atom for exactly the set bits of the piece bitboards (none for the
`Piece::None` indices, whose bitboards are constantly zero), the `turn` atom of the side to move, a
`castle` atom for exactly the rights held, and an `ep` atom for the file of a capturable en-passant target. -/
theorem C08_mem_atoms (s : State) :
    (∀ sq c p, Atom.piece sq c p ∈ atoms s ↔ test (s.pieces.get c p) sq = true) ∧
    (∀ sq c, Atom.piece sq c .none ∉ atoms s) ∧
    (∀ c, Atom.turn c ∈ atoms s ↔ s.turn = c) ∧
    (∀ c sd, Atom.castle c sd ∈ atoms s ↔ (s.castle c).forSide sd = true) ∧
    (∀ f, Atom.ep f ∈ atoms s ↔ (epCapturable s).map fileOf = some f) :=
  ⟨piece_mem_atoms s, none_not_mem_atoms s, turn_mem_atoms s, castle_mem_atoms s, ep_mem_atoms s⟩

/-- Every key is xored at most once: the atom list of *any* state is duplicate-free
(no well-formedness of the board is needed; overlapping bitboards give distinct atoms). -/
theorem C08_atoms_nodup (s : State) : (atoms s).Nodup := nodup_atoms s

/-- The order of the loops in `hash` is immaterial: any permutation of the atoms xors to the hash. -/
theorem C08_order_irrelevant (K : Keys) (s : State) (l : List Atom) (h : l.Perm (atoms s)) :
    hash K s = l.foldl (fun h a => h ^^^ keyOf K a) 0 := by
  rw [hash_eq_xorL]
  exact (xorL_perm (keyOf K) h).symm

example : ([Atom.turn .white, Atom.piece 4 .white .king]).Perm
    (atoms { (default : State) with pieces := { wk := 0x10 }, turn := .white,
                                    castleW := .noRights, castleB := .noRights, ep := Option.none }) := by
  decide +kernel

/-! ## equal rule-relevant data ⇒ equal hash -/

/-- Same piece bitboards, side to move, castling rights and en-passant target.
The counters `halfmove` / `fullmove` are not part of it, nor is any history. -/
def SameKey (s t : State) : Prop :=
  s.pieces = t.pieces ∧ s.turn = t.turn ∧ s.castleW = t.castleW ∧ s.castleB = t.castleB ∧ s.ep = t.ep

/-- As `SameKey`, but only the *capturable* en-passant target has to agree. -/
def SameKeyCapturable (s t : State) : Prop :=
  s.pieces = t.pieces ∧ s.turn = t.turn ∧ s.castleW = t.castleW ∧ s.castleB = t.castleB ∧
    epCapturable s = epCapturable t

theorem SameKey.capturable {s t : State} (h : SameKey s t) : SameKeyCapturable s t := by
  obtain ⟨h1, h2, h3, h4, h5⟩ := h
  refine ⟨h1, h2, h3, h4, ?_⟩
  unfold epCapturable
  rw [h1, h2, h5]

theorem SameKeyCapturable.key_eq {s t : State} (h : SameKeyCapturable s t) : key s = key t := by
  obtain ⟨h1, h2, h3, h4, h5⟩ := h
  simp only [key, epFile?, h1, h2, h3, h4, h5]

/-- Strongest form: positions with the same `key` (placement, side, rights, *file* of an available
en-passant capture) have the same atom list and therefore the same hash. -/
theorem C08_equal_key (K : Keys) (s t : State) (h : key s = key t) : hash K s = hash K t := by
  rw [hash_eq_xorL, hash_eq_xorL, atoms_eq_of_key h]

/-- Two positions with the same piece placement, side to move, castling rights and en-passant target
always hash equal — whatever their move counters are and however they were reached
(`hash` is a function of the `State` value alone, so the history cannot enter). -/
theorem C08_equal (K : Keys) (s t : State) (h : SameKey s t) : hash K s = hash K t :=
  C08_equal_key K s t h.capturable.key_eq

/-- …and it is enough that the *available* en-passant capture agrees (an en-passant target on which no pawn
of the side to move can capture does not influence the hash). -/
theorem C08_equal_capturable (K : Keys) (s t : State) (h : SameKeyCapturable s t) :
    hash K s = hash K t :=
  C08_equal_key K s t h.key_eq

/-- the starting position with clocks 0/1 and with clocks 37/112 -/
example : SameKey
    { pieces := { wp := 0xFF00, wn := 0x42, wb := 0x24, wr := 0x81, wq := 0x08, wk := 0x10,
                  bp := 0x00FF000000000000, bn := 0x4200000000000000, bb := 0x2400000000000000,
                  br := 0x8100000000000000, bq := 0x0800000000000000, bk := 0x1000000000000000 },
      turn := .white, castleW := .both, castleB := .both, ep := Option.none, halfmove := 0, fullmove := 1 }
    { pieces := { wp := 0xFF00, wn := 0x42, wb := 0x24, wr := 0x81, wq := 0x08, wk := 0x10,
                  bp := 0x00FF000000000000, bn := 0x4200000000000000, bb := 0x2400000000000000,
                  br := 0x8100000000000000, bq := 0x0800000000000000, bk := 0x1000000000000000 },
      turn := .white, castleW := .both, castleB := .both, ep := Option.none, halfmove := 37, fullmove := 112 } :=
  ⟨rfl, rfl, rfl, rfl, rfl⟩

/-- The move counters are not hashed. -/
theorem C08_counters_irrelevant (K : Keys) (s : State) (h f : Nat) :
    hash K { s with halfmove := h, fullmove := f } = hash K s :=
  C08_equal K _ _ ⟨rfl, rfl, rfl, rfl, rfl⟩

/-! ## the atom set is in bijection with the rule-relevant key -/

/-- The atoms of two positions are the same *set* iff the positions have the same key: the same twelve piece
bitboards, side to move, castling rights of both colours, and file of an available en-passant capture. -/
theorem C08_features (s t : State) : (∀ a, a ∈ atoms s ↔ a ∈ atoms t) ↔ key s = key t :=
  ⟨key_eq_of_mem_atoms, fun h => by rw [atoms_eq_of_key h]; exact fun _ => Iff.rfl⟩

/-- The same with "equal up to permutation" … -/
theorem C08_features_perm (s t : State) : (atoms s).Perm (atoms t) ↔ key s = key t := by
  rw [List.perm_ext_iff_of_nodup (nodup_atoms s) (nodup_atoms t)]
  exact C08_features s t

/-- … and with equality of the lists (`atoms` lists the atoms in a canonical order). -/
theorem C08_features_eq (s t : State) : atoms s = atoms t ↔ key s = key t :=
  ⟨fun h => (C08_features s t).1 (by rw [h]; exact fun _ => Iff.rfl), atoms_eq_of_key⟩

/-- `key s = key t` spelled out bit by bit: every square holds the same coloured piece kind
(bitboards agree in all 64 bits), same side to move, same four castling rights, and an en-passant capture is
available on the same file or on none. -/
theorem C08_key_iff (s t : State) :
    key s = key t ↔
      (∀ c p sq, sq < 64 → test (s.pieces.get c p) sq = test (t.pieces.get c p) sq) ∧
      s.turn = t.turn ∧
      (∀ c sd, (s.castle c).forSide sd = (t.castle c).forSide sd) ∧
      (epCapturable s).map fileOf = (epCapturable t).map fileOf := by
  constructor
  · intro h
    simp only [key, Prod.mk.injEq] at h
    obtain ⟨h1, h2, h3, h4, h5⟩ := h
    refine ⟨fun c p sq _ => by rw [h1], h2, fun c sd => ?_, h5⟩
    cases c
    · show s.castleW.forSide sd = t.castleW.forSide sd
      rw [h3]
    · show s.castleB.forSide sd = t.castleB.forSide sd
      rw [h4]
  · rintro ⟨h1, h2, h3, h4⟩
    simp only [key, Prod.mk.injEq]
    exact ⟨C02.ext_get fun c p => ext _ _ (h1 c p), h2,
      CastleRights.ext_forSide (h3 .white), CastleRights.ext_forSide (h3 .black), h4⟩

/-- a different key is visible in the atoms: some atom belongs to exactly one of the two positions -/
theorem C08_features_differ (s t : State) (h : key s ≠ key t) : symmDiff (atoms s) (atoms t) ≠ [] :=
  fun hn => h ((C08_features s t).1 ((symmDiff_eq_nil _ _).1 hn))

/-! ## the xor of two hashes is the xor over the atoms that differ -/

/-- `hash K s ^^^ hash K t` is the xor of the keys of the atoms in the symmetric difference of the two atom
sets: keys of common atoms cancel, every atom in which the positions differ contributes its key once. -/
theorem C08_xor (K : Keys) (s t : State) :
    hash K s ^^^ hash K t = (symmDiff (atoms s) (atoms t)).foldl (fun h a => h ^^^ keyOf K a) 0 := by
  rw [hash_eq_xorL, hash_eq_xorL]
  exact xorL_symmDiff (keyOf K) (nodup_atoms s) (nodup_atoms t)

/-- A collision happens exactly when the keys of the differing atoms xor to zero. -/
theorem C08_collision_iff (K : Keys) (s t : State) :
    hash K s = hash K t ↔ xorL (keyOf K) (symmDiff (atoms s) (atoms t)) = 0 := by
  rw [← UInt64.xor_eq_zero_iff, C08_xor]
  rfl

/-- If the positions differ in exactly one atom `a`, their hashes differ by exactly `keyOf K a`;
so they hash differently iff that key is non-zero (probability `1 - 2⁻⁶⁴` for a uniform key). -/
theorem C08_single_atom (K : Keys) (s t : State) (a : Atom)
    (h : symmDiff (atoms s) (atoms t) = [a]) :
    hash K s ^^^ hash K t = keyOf K a ∧ (hash K s ≠ hash K t ↔ keyOf K a ≠ 0) := by
  have hx : hash K s ^^^ hash K t = keyOf K a := by
    rw [C08_xor, h]
    exact xorL_singleton (keyOf K) a
  refine ⟨hx, ?_⟩
  rw [← hx, Ne, Ne, UInt64.xor_eq_zero_iff]

/-! ## separation under xor-independent keys -/

/-- `K` is *xor-independent* on the set `U` of atoms: no non-empty duplicate-free list of atoms of `U`
has keys that xor to zero.  This is the precise content of "up to 64-bit chance" — for uniformly random
keys and a fixed non-empty `d` the xor is uniform, so it vanishes with probability `2⁻⁶⁴`.

The universe of atoms that can occur has `64·12 + 2 + 4 + 8 = 782` elements.  No table of 64-bit keys is
independent on all of it (any 65 vectors of `GF(2)⁶⁴` are linearly dependent), so independence is stated
relative to a set `U`; `C08_separates_under_independent` only needs `U` to contain the atoms in which the
two given positions differ. -/
def Keys.IndependentOn (K : Keys) (U : Atom → Prop) : Prop :=
  ∀ d : List Atom, d ≠ [] → d.Nodup → (∀ a ∈ d, U a) → xorL (keyOf K) d ≠ 0

/-- If the keys are xor-independent on (a set containing) the atoms in which `s` and `t` differ, then
positions with different keys — differing in placement, side to move, a castling right or the
availability/file of an en-passant capture — hash differently. -/
theorem C08_separates_under_independent (K : Keys) (U : Atom → Prop) (hK : K.IndependentOn U)
    (s t : State) (hU : ∀ a ∈ symmDiff (atoms s) (atoms t), U a) (hne : key s ≠ key t) :
    hash K s ≠ hash K t := by
  rw [Ne, C08_collision_iff]
  exact hK _ (C08_features_differ s t hne) (nodup_symmDiff (nodup_atoms s) (nodup_atoms t)) hU

/-- Under the same hypothesis the hash decides equality of keys. -/
theorem C08_hash_eq_iff_key_eq (K : Keys) (U : Atom → Prop) (hK : K.IndependentOn U)
    (s t : State) (hU : ∀ a ∈ symmDiff (atoms s) (atoms t), U a) :
    hash K s = hash K t ↔ key s = key t :=
  ⟨fun h => Classical.byContradiction fun hne =>
      C08_separates_under_independent K U hK s t hU hne h,
   C08_equal_key K s t⟩

/-! ### non-vacuity: an independent key table on a 64-atom universe

`toyU`: both `turn` atoms, the four `castle` atoms, the eight `ep` files and the two kings on the squares
with index `< 25` (`a1 … h3`, `a4`): `2 + 4 + 8 + 2·25 = 64` atoms, each with its own single-bit key. -/

def toyIdx : Atom → Nat
  | .turn c => c.idx
  | .castle c sd => 2 + c.idx * 2 + sd.idx
  | .ep f => 6 + f
  | .piece sq c _ => 14 + c.idx * 25 + sq

def toyU : Atom → Prop
  | .turn _ => True
  | .castle _ _ => True
  | .ep f => f < 8
  | .piece sq _ p => p = .king ∧ sq < 25

def toyKeys : Keys where
  turn c := bit (toyIdx (.turn c))
  piece sq c p := bit (toyIdx (.piece sq c p))
  castle c sd := bit (toyIdx (.castle c sd))
  epFile f := bit (toyIdx (.ep f))

/-- the four kinds of atom occupy disjoint ranges of indices -/
theorem toyIdx_range (x : Atom) (hx : toyU x) : match x with
    | .turn _ => toyIdx x < 2
    | .castle _ _ => 2 ≤ toyIdx x ∧ toyIdx x < 6
    | .ep _ => 6 ≤ toyIdx x ∧ toyIdx x < 14
    | .piece _ _ _ => 14 ≤ toyIdx x ∧ toyIdx x < 64 := by
  cases x with
  | turn c => exact c.idx_lt
  | castle c sd => have := c.idx_lt; have := sd.idx_lt; simp only [toyIdx]; omega
  | ep f => have : f < 8 := hx; simp only [toyIdx]; omega
  | piece sq c p => have := c.idx_lt; have : sq < 25 := hx.2; simp only [toyIdx]; omega

theorem toyIdx_inj (a b : Atom) (ha : toyU a) (hb : toyU b) (h : toyIdx a = toyIdx b) : a = b := by
  have hra := toyIdx_range a ha
  have hrb := toyIdx_range b hb
  cases a <;> cases b <;> simp only [toyIdx] at h hra hrb
  case turn.turn c c' => rw [Color.idx_inj h]
  case castle.castle c sd c' sd' =>
    have := sd.idx_lt; have := sd'.idx_lt
    rw [Color.idx_inj (c := c) (c' := c') (by omega), Side.idx_inj (s := sd) (s' := sd') (by omega)]
  case ep.ep f f' => rw [show f = f' by omega]
  case piece.piece sq c p sq' c' p' =>
    have : sq < 25 := ha.2
    have : sq' < 25 := hb.2
    rw [Color.idx_inj (c := c) (c' := c') (by omega), show sq = sq' by omega, ha.1, hb.1]
  all_goals omega

theorem toyKeys_independent : toyKeys.IndependentOn toyU := by
  intro d hne hd hU h0
  obtain ⟨a, l, rfl⟩ := List.exists_cons_of_ne_nil hne
  have ha := hU a List.mem_cons_self
  have hk : ∀ a, toyU a → toyIdx a < 64 ∧ keyOf toyKeys a = bit (toyIdx a) := fun a ha =>
    ⟨by have := toyIdx_range a ha; cases a <;> simp only at this <;> omega, by cases a <;> rfl⟩
  have := test_xorL_bits toyKeys toyU toyIdx hk toyIdx_inj (a :: l) hd hU a ha
  rw [h0, test_zero] at this
  simp at this

/-- white Ke1 (+ right `K`) against black Ke3, and the same without the right: the toy keys separate them
by the theorem (and, of course, by evaluation). -/
example :
    let s : State := { pieces := { wk := 0x10, bk := 0x100000 }, turn := .white,
                       castleW := ⟨true, false⟩, castleB := .noRights, ep := Option.none,
                       halfmove := 0, fullmove := 1 }
    let t : State := { s with castleW := .noRights }
    hash toyKeys s ≠ hash toyKeys t := by
  intro s t
  apply C08_separates_under_independent toyKeys toyU toyKeys_independent s t
  · have : symmDiff (atoms s) (atoms t) = [Atom.castle .white .king] := by decide +kernel
    rw [this]
    intro a ha
    rw [List.mem_singleton] at ha
    subst ha
    trivial
  · decide +kernel

/-! ## concrete pairs differing in exactly one component -/

namespace C08Examples

/-- `4k3/8/8/8/8/8/8/4K2R w K - 0 1` -/
def kr : State :=
  { pieces := { wk := 0x10, wr := 0x80, bk := 0x1000000000000000 }, turn := .white,
    castleW := ⟨true, false⟩, castleB := .noRights, ep := Option.none, halfmove := 0, fullmove := 1 }

/-- `4k3/8/8/3pP3/8/8/8/4K3 w - d6 0 2` : the white pawn e5 can capture en passant on d6 -/
def epYes : State :=
  { pieces := { wk := 0x10, wp := 0x1000000000, bp := 0x800000000, bk := 0x1000000000000000 },
    turn := .white, castleW := .noRights, castleB := .noRights, ep := some 43, halfmove := 0, fullmove := 2 }

/-- `4k3/8/8/3p4/8/4P3/8/4K3 w - d6 0 2` : en-passant target set, but no white pawn attacks d6 -/
def epNoCapturer : State :=
  { pieces := { wk := 0x10, wp := 0x100000, bp := 0x800000000, bk := 0x1000000000000000 },
    turn := .white, castleW := .noRights, castleB := .noRights, ep := some 43, halfmove := 0, fullmove := 2 }

/-- the pinned tree's deterministic collision `…/4K2R w K -` vs `…/4K2R w - -` is gone:
the two positions differ in exactly the atom `castle white king` … -/
theorem kr_castle : symmDiff (atoms kr) (atoms { kr with castleW := .noRights }) = [Atom.castle .white .king] := by
  decide +kernel

example : symmDiff (atoms kr) (atoms { kr with castleW := .noRights }) = [Atom.castle .white .king] := kr_castle

/-- … so for every key table their hashes differ by exactly that key -/
example (K : Keys) : hash K kr ^^^ hash K { kr with castleW := .noRights } = K.castle .white .king :=
  (C08_single_atom K kr { kr with castleW := .noRights } (Atom.castle .white .king) kr_castle).1

/-- side to move: exactly the two `turn` atoms differ -/
theorem kr_turn : symmDiff (atoms kr) (atoms { kr with turn := .black }) = [Atom.turn .white, Atom.turn .black] := by
  decide +kernel

example : symmDiff (atoms kr) (atoms { kr with turn := .black }) = [Atom.turn .white, Atom.turn .black] := kr_turn

example (K : Keys) :
    hash K kr ^^^ hash K { kr with turn := .black } = K.turn .white ^^^ K.turn .black := by
  rw [C08_xor, kr_turn]
  simp [keyOf]

/-- an available en-passant capture: exactly the atom `ep d` differs -/
theorem epYes_ep : symmDiff (atoms epYes) (atoms { epYes with ep := Option.none }) = [Atom.ep 3] := by
  decide +kernel

example : symmDiff (atoms epYes) (atoms { epYes with ep := Option.none }) = [Atom.ep 3] := epYes_ep

example (K : Keys) : hash K epYes ^^^ hash K { epYes with ep := Option.none } = K.epFile 3 :=
  (C08_single_atom K epYes { epYes with ep := Option.none } (Atom.ep 3) epYes_ep).1

/-- an en-passant target nobody can capture on changes neither the legal moves nor the hash -/
example : atoms epNoCapturer = atoms { epNoCapturer with ep := Option.none } := by decide +kernel

example (K : Keys) : hash K epNoCapturer = hash K { epNoCapturer with ep := Option.none } :=
  C08_equal_capturable K _ _ ⟨rfl, rfl, rfl, rfl, by decide +kernel⟩

/-- placement: moving the rook h1 → g1 changes exactly two `piece` atoms -/
example : symmDiff (atoms kr) (atoms { kr with pieces := { kr.pieces with wr := 0x40 } })
    = [Atom.piece 7 .white .rook, Atom.piece 6 .white .rook] := by
  decide +kernel

end C08Examples

/-! ## all seeds -/

/-- The hasher built by `ZobristHasher::with(rng)` from *any* generator state satisfies all of the above;
here the two headline facts for it. -/
theorem C08_all_seeds (r : Rng.ChaCha8) (s t : State) :
    let K := (KeyTable.ofRng r).1.keys
    (SameKey s t → hash K s = hash K t) ∧
    hash K s ^^^ hash K t = xorL (keyOf K) (symmDiff (atoms s) (atoms t)) :=
  ⟨C08_equal _ s t, C08_xor _ s t⟩

end Wee
