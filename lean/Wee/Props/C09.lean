import Wee.Proofs.Sweep
import Wee.Proofs.AttackLeapers
import Wee.Props.C09.Rook0
import Wee.Props.C09.Rook1
import Wee.Props.C09.Rook2
import Wee.Props.C09.Rook3
import Wee.Props.C09.Rook4
import Wee.Props.C09.Rook5
import Wee.Props.C09.Rook6
import Wee.Props.C09.Rook7
import Wee.Props.C09.Bishop
import Wee.Spec.Abs
/-!
# C09 — Attack lookup tables equal board geometry for every square and occupancy

Rust anchors: `AttackGenerator::compute_{rook,bishop,queen,knight,king,pawn}_attacks`, the lazily built
`ROOK/BISHOP_MAGIC_TABLE`, `*_MAGICS`, `*_MAGIC_INDEXES`, `*_SLIDE_MASKS` (`attacks.rs`), and
`BitBoard::shift` (`board.rs`).

The reference is `Wee/Spec/Chess.lean`: `Spec.step` (coordinate arithmetic, no bit tricks),
`Spec.slideDir` / `Spec.slide` (walk each ray up to and including the first occupied square) and
`Spec.attacksFrom`.  A bitboard `x` "equals" a list of squares `l` when `test x t = l.contains t` for every `t`.

Proof structure for the sliders: (1) kernel checks of all 128 tables, rank by rank (`Wee/Props/C09/Rook0..7.lean`,
`Bishop.lean`): for every blocker subset of the relevance mask, the slot it hashes to (wrapping multiply,
shift) lies in the table and no other subset with a different ray walk hashes to the same slot
(`rookFits`, `Wee/Proofs/MagicCheck.lean`); (2) `Wee/Proofs/Sweep.lean`: this implies the direct check
`checkRook` of the table built by the ascending fold with later-writes-win over
`compute_blockers_from_index`; (3) `Wee/Proofs/Slow.lean`: `compute_*_attacks_unoptimized`, which fills the
table, is the ray walk; (4) the lifting lemmas of `Wee/Proofs/Slide.lean`, general in the occupancy: the ray
walk ignores bits outside the relevance mask, every subset of the mask is
`compute_blockers_from_index b mask` for some `b < 2^popcount mask ≤ 2^bits`.
-/
namespace Wee
open Gen

/-! ## sliders -/

/-- every rook square passes the direct (definitional) exhaustive check `checkRook` -/
theorem C09_rook_checked (sq : Nat) (hsq : sq < 64) :
    checkRook sq (rookMagics.getD sq 0) (rookBitsTab.getD sq 0) = true := by
  have hr : rookRankFits (sq / 8) = true := by
    match h : sq / 8 with
    | 0 => exact C09.rook_rank0
    | 1 => exact C09.rook_rank1
    | 2 => exact C09.rook_rank2
    | 3 => exact C09.rook_rank3
    | 4 => exact C09.rook_rank4
    | 5 => exact C09.rook_rank5
    | 6 => exact C09.rook_rank6
    | 7 => exact C09.rook_rank7
    | n+8 => omega
  have := List.all_eq_true.1 hr (sq % 8) (List.mem_range.2 (Nat.mod_lt _ (by decide)))
  rw [Nat.div_add_mod] at this
  exact rookFits_sound sq hsq _ _ this

/-- every bishop square passes the direct exhaustive check `checkBishop` -/
theorem C09_bishop_checked (sq : Nat) (hsq : sq < 64) :
    checkBishop sq (bishopMagics.getD sq 0) (bishopBitsTab.getD sq 0) = true := by
  have hr := List.all_eq_true.1 C09.bishop_ranks (sq / 8) (List.mem_range.2 (by omega))
  have := List.all_eq_true.1 hr (sq % 8) (List.mem_range.2 (Nat.mod_lt _ (by decide)))
  rw [Nat.div_add_mod] at this
  exact bishopFits_sound sq hsq _ _ this

/-- `compute_rook_attacks_unoptimized(sq, blockers)` (rays cut with `first_one`/`last_one`) is the union of the
four ray walks, for every square and EVERY blocker set. -/
theorem C09_rookSlow (sq : Nat) (hsq : sq < 64) (blockers : UInt64) :
    rookSlow sq blockers = rookWalk sq blockers :=
  rookSlow_eq_walk sq hsq blockers

/-- `compute_bishop_attacks_unoptimized(sq, blockers)` is the union of the four diagonal ray walks. -/
theorem C09_bishopSlow (sq : Nat) (hsq : sq < 64) (blockers : UInt64) :
    bishopSlow sq blockers = bishopWalk sq blockers :=
  bishopSlow_eq_walk sq hsq blockers

/-- The magic look-up of `compute_rook_attacks` never indexes past the 4096-entry table (`Vec` indexing
would panic), whatever the occupancy. -/
theorem C09_rook_index_in_range (sq : Nat) (hsq : sq < 64) (occ : UInt64) :
    magicIndex (occ &&& rookMask sq) (rookMagics.getD sq 0) (rookBitsTab.getD sq 0) < rookTableSize :=
  (rookAttacks_eq_walk sq hsq (C09_rook_checked sq hsq) occ).1

/-- The magic look-up of `compute_bishop_attacks` never indexes past the 4096-entry table. -/
theorem C09_bishop_index_in_range (sq : Nat) (hsq : sq < 64) (occ : UInt64) :
    magicIndex (occ &&& bishopMask sq) (bishopMagics.getD sq 0) (bishopBitsTab.getD sq 0) < bishopTableSize :=
  (bishopAttacks_eq_walk sq hsq (C09_bishop_checked sq hsq) occ).1

/-- bitboard form: the table look-up equals the bitboard-valued ray walk, for EVERY occupancy -/
theorem C09_rook_walk (sq : Nat) (hsq : sq < 64) (occ : UInt64) : rookAttacks sq occ = rookWalk sq occ :=
  (rookAttacks_eq_walk sq hsq (C09_rook_checked sq hsq) occ).2

theorem C09_bishop_walk (sq : Nat) (hsq : sq < 64) (occ : UInt64) : bishopAttacks sq occ = bishopWalk sq occ :=
  (bishopAttacks_eq_walk sq hsq (C09_bishop_checked sq hsq) occ).2

/-- **C09 (rook).** For every square and EVERY 64-bit occupancy (not only subsets of the relevance mask), bit `t`
of `AttackGenerator::compute_rook_attacks(sq, occ)` — mask, wrapping multiply by `ROOK_MAGICS[sq]`, shift by
`64 - ROOK_MAGIC_INDEXES[sq]`, look-up in the table filled by `compute_rook_magic_table` — is set exactly when
`t` is reached by walking one of the four orthogonal rays from `sq` up to and including the first occupied
square. -/
theorem C09_rook (sq : Nat) (hsq : sq < 64) (occ : UInt64) (t : Nat) :
    test (rookAttacks sq occ) t = (Spec.slide (fun n => test occ n) Spec.rookDirs sq).contains t := by
  rw [C09_rook_walk sq hsq occ, test_rookWalk]

/-- **C09 (bishop).** Same for `compute_bishop_attacks` and the four diagonal rays. -/
theorem C09_bishop (sq : Nat) (hsq : sq < 64) (occ : UInt64) (t : Nat) :
    test (bishopAttacks sq occ) t = (Spec.slide (fun n => test occ n) Spec.bishopDirs sq).contains t := by
  rw [C09_bishop_walk sq hsq occ, test_bishopWalk]

/-- **C09 (queen).** `compute_queen_attacks = rook | bishop` equals the walk along all eight rays. -/
theorem C09_queen (sq : Nat) (hsq : sq < 64) (occ : UInt64) (t : Nat) :
    test (queenAttacks sq occ) t =
      (Spec.slide (fun n => test occ n) (Spec.rookDirs ++ Spec.bishopDirs) sq).contains t := by
  rw [queenAttacks, test_or, C09_rook sq hsq, C09_bishop sq hsq, slide_append]
  simp

/-- the hypotheses of the theorems above at a sample square -/
example : (27 : Nat) < 64 := by decide

/-! ## leapers: the tables, compared with the coordinate patterns of the specification

`Spec.step` refuses a step whose file or rank leaves `0..7`, so "no wrap-around" is part of the
right-hand sides.  The tables are those of `C10.test_leaper` (`Wee/Proofs/AttackLeapers.lean`): the model sets
one bit per existing `Square::offset`, with the offsets of the specification. -/

theorem C09_knight_table : ∀ sq t : Fin 64, test (knightAttacks sq) t =
    (Spec.attacksFrom (fun _ => false) .white .knight sq).contains t.val :=
  C10.knight_table

theorem C09_king_table : ∀ sq t : Fin 64, test (kingAttacks sq) t =
    (Spec.attacksFrom (fun _ => false) .white .king sq).contains t.val :=
  C10.king_table

theorem C09_pawn_table_white : ∀ sq t : Fin 64, test (pawnAttacks .white sq) t =
    (Spec.attacksFrom (fun _ => false) .white .pawn sq).contains t.val :=
  C10.pawn_table true

theorem C09_pawn_table_black : ∀ sq t : Fin 64, test (pawnAttacks .black sq) t =
    (Spec.attacksFrom (fun _ => false) .black .pawn sq).contains t.val :=
  C10.pawn_table false

/-- **C09 (knight).** `KNIGHT_ATTACKS[sq]` has exactly the bits of the eight knight jumps that stay on the
board (for any occupancy and colour: the specification ignores both for a knight). -/
theorem C09_knight (occupied : Nat → Bool) (c : Spec.Color) (sq t : Nat) (hsq : sq < 64) (ht : t < 64) :
    test (knightAttacks sq) t = (Spec.attacksFrom occupied c .knight sq).contains t :=
  C09_knight_table ⟨sq, hsq⟩ ⟨t, ht⟩

/-- **C09 (king).** `KING_ATTACKS[sq]` has exactly the bits of the eight neighbouring squares on the board. -/
theorem C09_king (occupied : Nat → Bool) (c : Spec.Color) (sq t : Nat) (hsq : sq < 64) (ht : t < 64) :
    test (kingAttacks sq) t = (Spec.attacksFrom occupied c .king sq).contains t :=
  C09_king_table ⟨sq, hsq⟩ ⟨t, ht⟩

/-- **C09 (pawn).** `PAWN_ATTACKS[c][sq]` has exactly the two forward-diagonal squares (for colour `c`) that
stay on the board — both colours. -/
theorem C09_pawn (occupied : Nat → Bool) (c : Color) (sq t : Nat) (hsq : sq < 64) (ht : t < 64) :
    test (pawnAttacks c sq) t = (Spec.attacksFrom occupied (absColor c) .pawn sq).contains t := by
  cases c
  · exact C09_pawn_table_white ⟨sq, hsq⟩ ⟨t, ht⟩
  · exact C09_pawn_table_black ⟨sq, hsq⟩ ⟨t, ht⟩

/-- the hypotheses of the theorems above at a sample square -/
example : (0 : Nat) < 64 ∧ (10 : Nat) < 64 := by decide

/-- **C09 (dispatch).** `AttackGenerator::compute(piece, sq, occ)` equals `Spec.attacksFrom` for all six piece
kinds, both colours, every square and every occupancy. -/
theorem C09_compute (c : Color) (p : Piece) (k : Spec.Kind) (hk : absKind p = some k)
    (sq t : Nat) (hsq : sq < 64) (ht : t < 64) (occ : UInt64) :
    test (attacksOf c p sq occ) t =
      (Spec.attacksFrom (fun n => test occ n) (absColor c) k sq).contains t := by
  cases p with
  | none => cases hk
  | pawn => cases hk; exact C09_pawn _ c sq t hsq ht
  | knight => cases hk; exact C09_knight _ _ sq t hsq ht
  | bishop => cases hk; exact C09_bishop sq hsq occ t
  | rook => cases hk; exact C09_rook sq hsq occ t
  | queen => cases hk; exact C09_queen sq hsq occ t
  | king => cases hk; exact C09_king _ _ sq t hsq ht

/-- the hypotheses of the theorems above at a sample square -/
example : absKind .queen = some .queen ∧ (35 : Nat) < 64 ∧ (7 : Nat) < 64 := by decide

/-! ## `BitBoard::shift`: the file-masked one-step shifts never wrap -/

/-- east step `(bb & !FILE_H) << 1`: bit `t` comes from bit `t-1`, and file A receives nothing -/
theorem C09_shiftE (b : UInt64) (t : Nat) (ht : t < 64) :
    test (shiftE b) t = (decide (t % 8 ≠ 0) && test b (t - 1)) := test_shiftE b t ht

/-- west step `(bb & !FILE_A) >> 1`: bit `t` comes from bit `t+1`, and file H receives nothing -/
theorem C09_shiftW (b : UInt64) (t : Nat) (ht : t < 64) :
    test (shiftW b) t = (decide (t % 8 ≠ 7) && test b (t + 1)) := test_shiftW b t ht

/-- north step `bb << 8`: bit `t` comes from bit `t-8`; rank 1 receives nothing, rank 8 falls off -/
theorem C09_shiftN (b : UInt64) (t : Nat) (ht : t < 64) :
    test (shiftN b) t = (decide (8 ≤ t) && test b (t - 8)) := test_shiftN b t ht

/-- south step `bb >> 8`: bit `t` comes from bit `t+8` (rank 8 receives nothing since bits `≥ 64` are clear) -/
theorem C09_shiftS (b : UInt64) (t : Nat) (ht : t < 64) :
    test (shiftS b) t = test b (t + 8) := test_shiftS b t ht

/-- the hypotheses of the theorems above at a sample square -/
example : (63 : Nat) < 64 := by decide

/-- **C09 (shift, coordinate form).** The result of a one-step shift is exactly the image of the input under
the coordinate step of the specification: a piece on the edge file/rank does not reappear on the other side. -/
theorem C09_shift_step (b : UInt64) (t : Nat) (ht : t < 64) :
    (test (shiftE b) t = true ↔ ∃ s, test b s = true ∧ Spec.step s 1 0 = some t) ∧
    (test (shiftW b) t = true ↔ ∃ s, test b s = true ∧ Spec.step s (-1) 0 = some t) ∧
    (test (shiftN b) t = true ↔ ∃ s, test b s = true ∧ Spec.step s 0 1 = some t) ∧
    (test (shiftS b) t = true ↔ ∃ s, test b s = true ∧ Spec.step s 0 (-1) = some t) := by
  refine ⟨?_, ?_, ?_, ?_⟩
  · rw [test_shiftE b t ht]
    exact shift_image b t (t - 1) _ 1 0 fun s _ => by rw [step_eq_some]; omega
  · rw [test_shiftW b t ht]
    exact shift_image b t (t + 1) _ (-1) 0 fun s _ => by rw [step_eq_some]; omega
  · rw [test_shiftN b t ht]
    exact shift_image b t (t - 8) _ 0 1 fun s _ => by rw [step_eq_some]; omega
  · rw [test_shiftS b t ht, ← Bool.true_and (test b (t + 8)), ← decide_true]
    exact shift_image b t (t + 8) True 0 (-1) fun s hs => by rw [step_eq_some, true_and]; omega

end Wee
