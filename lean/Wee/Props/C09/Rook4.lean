import Wee.Proofs.MagicCheck
import Wee.Proofs.BitsFast
namespace Wee.C09

theorem rook_rank4 : rookRankFits 4 = true := by
  unfold rookRankFits rookFits tabsOf tabOf popcount; rw [sweep_eq_sweepR, bitsOf_eq_bitsFast]; decide +kernel

end Wee.C09
