import Wee.Proofs.AttackLemmas
import Wee.Proofs.AttackLeapers
import Wee.Proofs.RulesFast
import Wee.Proofs.MoveGenFast
/-!
# C10 — check detection and attacked-square sets are correct

Rust: `board.rs` (`AttackMap::from_occupancy`, `Board::{new, attack_map, colored_attacks,
colored_pawn_attacks, is_check}`, `#[derive(Clone)] struct Board` with
`colored_attack_map : ArrayMap<Color, OnceCell<AttackMap>>`), `state.rs` (`State::is_check`),
`attacks.rs` (`AttackGenerator::compute`).
Model: `Wee/Model/Board.lean` (`attackMap`, `coloredAttacks`, `coloredPawnAttacks`, `isCheckB`,
`State.isCheck`), `Wee/Model/AttackCache.lean` (`CachedBoard`, `Query`, `step`, `run`, `Heap`).
Spec: `Wee/Spec/Chess.lean` (`attacksFrom`, `Pos.attackedBy`, `Pos.inCheck`) through `Wee/Spec/Abs.lean`.

Two layers.

* **Cache** (`C10_cache*`, no hypotheses beyond "the object was made by `Board::new` or cloned from
  such an object" — stated as `CacheInv b`, which `C10_cache_new` proves of `Board::new`): whatever sequence of `colored_attacks / colored_pawn_attacks / is_check / clone`
  is performed, on the object or on any of its clones, every cell is empty or holds the pure value
  and every answer is the pure function of the placement.  What makes this inductive is that no
  operation writes `piece_occupancy` (`step_spec`: `(b.step q).1.pieces = b.pieces`).
* **Values** (`C10_attacks`, `C10_pawn`, `C10_check`): the pure functions are the rules of chess on
  the mailbox abstraction.  Hypotheses: `AttackTablesCorrect` (= property C09: each table lookup is
  the coordinate-geometry list) and `DisjointBoard m` (no square holds two different pieces; true of
  every board built from a mailbox — `Board::from(&ArrayMap<Square, PieceIndex>)` — and preserved by
  legal moves; without it `piece_at`, hence the abstraction, sees only the first of two stacked
  pieces while `from_occupancy` lets both attack).
-/
namespace Wee.C10

/-! ## the cache -/

/-- **C10_cache.**  Take a `Board` whose cells are sound (`CacheInv`: each `OnceCell` is empty or
holds `AttackMap::from_occupancy` of the board's own placement — in particular a fresh `Board::new`,
see `C10_cache_new`).  After ANY sequence of calls `colored_attacks(c)`, `colored_pawn_attacks(c)`,
`is_check(c)`, `clone()` on that object
* the placement is unchanged and the cells are still sound,
* the answers, in order, are exactly the pure answers (`coloredAttacks`, `coloredPawnAttacks`,
  `isCheckB` of the placement; for `clone` the same placement),
* every board handed out by `clone` has the same placement and sound cells (so the theorem applies
  to it again). -/
theorem C10_cache (b : CachedBoard) (h : CacheInv b) (qs : List Query) :
    (b.run qs).1.pieces = b.pieces ∧ CacheInv (b.run qs).1 ∧
    (b.run qs).2.map Answer.obs = qs.map (pureAnswer b.pieces) ∧
    ∀ b', Answer.board b' ∈ (b.run qs).2 → b'.pieces = b.pieces ∧ CacheInv b' :=
  run_spec qs b h

/-- the same, started from `Board::new(piece_occupancy)` -/
theorem C10_cache_new (m : PieceMap) (qs : List Query) :
    CacheInv ((CachedBoard.new m).run qs).1 ∧
    ((CachedBoard.new m).run qs).2.map Answer.obs = qs.map (pureAnswer m) := by
  obtain ⟨_, h2, h3, _⟩ := run_spec qs (CachedBoard.new m) (cacheInv_new m)
  exact ⟨h2, h3⟩

/-- one call (the induction step): `get_or_init` never changes the placement, keeps the cells sound
and returns the pure value whether the cell was empty or filled. -/
theorem C10_cache_step (b : CachedBoard) (h : CacheInv b) (q : Query) :
    (b.step q).1.pieces = b.pieces ∧ CacheInv (b.step q).1 ∧ AnswerOK b.pieces q (b.step q).2 :=
  step_spec b q h

/-- **Order independence.**  The answer to a query does not depend on what was asked before it:
after any two histories `qs₁`, `qs₂` on a fresh board the same query gets the same answer. -/
theorem C10_cache_history_independent (m : PieceMap) (qs₁ qs₂ : List Query) (q : Query) :
    Answer.obs (((CachedBoard.new m).run qs₁).1.step q).2 =
    Answer.obs (((CachedBoard.new m).run qs₂).1.step q).2 := by
  obtain ⟨p1, i1, _, _⟩ := run_spec qs₁ (CachedBoard.new m) (cacheInv_new m)
  obtain ⟨p2, i2, _, _⟩ := run_spec qs₂ (CachedBoard.new m) (cacheInv_new m)
  rw [(step_spec _ q i1).2.2.1, (step_spec _ q i2).2.2.1, p1, p2]

/-- **Order independence, permutation form.**  Asking the same queries in a different order gives the
same answers, permuted the same way. -/
theorem C10_cache_perm (m : PieceMap) (qs₁ qs₂ : List Query) (hp : qs₁.Perm qs₂) :
    (((CachedBoard.new m).run qs₁).2.map Answer.obs).Perm (((CachedBoard.new m).run qs₂).2.map Answer.obs) := by
  rw [(C10_cache_new m qs₁).2, (C10_cache_new m qs₂).2]
  exact hp.map _

/-- **Clones.**  Start with one fresh board and perform any sequence of operations, each addressed to
any object that exists at that time (the original or any clone, clones of clones included; `clone`
creates a new object that copies the cells as they are at that moment).  Every object always has the
original placement and sound cells, and every answer is the pure answer — so it does not matter
whether a board was cloned before or after a query was made on it. -/
theorem C10_cache_clones (m : PieceMap) (ops : List (Nat × Query)) :
    HeapInv m (Heap.run [CachedBoard.new m] ops).1 ∧
    (Heap.run [CachedBoard.new m] ops).2.length = ops.length ∧
    ∀ p ∈ ops.zip (Heap.run [CachedBoard.new m] ops).2, ∀ x, p.2 = some x →
      Answer.obs x = pureAnswer m p.1.2 :=
  heap_run_spec m ops [CachedBoard.new m]
    (by intro b hb; simp at hb; subst hb; exact ⟨rfl, cacheInv_new m⟩)

/-- a filled cell is never overwritten (`OnceCell` semantics) -/
theorem C10_cache_once (b : CachedBoard) (c c' : Color) (v : UInt64 × UInt64)
    (hv : b.cell c' = some v) : (b.attackMapCached c).1.cell c' = some v := by
  unfold CachedBoard.attackMapCached
  cases hc : b.cell c with
  | some w => exact hv
  | none =>
    simp only [cell_setCell]
    by_cases e : c' = c
    · subst e; rw [hc] at hv; cases hv
    · simp [if_neg e, hv]

/-! ### non-vacuity of the cache theorems -/

/-- `CacheInv` is satisfiable: every fresh board -/
example (m : PieceMap) : CacheInv (CachedBoard.new m) := cacheInv_new m

/-- a concrete 4-call history with a clone in the middle, on an arbitrary placement:
`is_check(White)` fills the BLACK cell only; the clone taken then carries exactly that; the later
`colored_attacks(White)` fills the white cell of the original but not of the clone. -/
example (m : PieceMap) :
    (CachedBoard.new m).run [.isCheck .white, .clone, .attacks .white, .pawnAttacks .black] =
      (⟨m, some (attackMap m .white), some (attackMap m .black)⟩,
       [.bool (isCheckB m .white),
        .board ⟨m, Option.none, some (attackMap m .black)⟩,
        .bb (coloredAttacks m .white),
        .bb (coloredPawnAttacks m .black)]) := by rfl

/-- the same calls with the clone taken first: the clone's cells differ (both empty), the answers do not -/
example (m : PieceMap) :
    ((CachedBoard.new m).run [.clone, .isCheck .white, .attacks .white, .pawnAttacks .black]).2 =
       [.board ⟨m, Option.none, Option.none⟩,
        .bool (isCheckB m .white),
        .bb (coloredAttacks m .white),
        .bb (coloredPawnAttacks m .black)] := by rfl

/-- heap form: query the original, clone it, query the clone (object 1), clone the clone -/
example (m : PieceMap) :
    (Heap.run [CachedBoard.new m] [(0, .attacks .black), (0, .clone), (1, .isCheck .white), (1, .clone), (2, .pawnAttacks .white)]).1 =
      [⟨m, Option.none, some (attackMap m .black)⟩,
       ⟨m, Option.none, some (attackMap m .black)⟩,
       ⟨m, some (attackMap m .white), some (attackMap m .black)⟩] := by rfl

/-- Observation recorded in DESIGN.md (not part of the property): the derived `PartialEq` of `Board`
compares the cells, so a queried board is unequal to a fresh board of the same placement. -/
example (m : PieceMap) (c : Color) : ((CachedBoard.new m).step (.attacks c)).1 ≠ CachedBoard.new m := by
  cases c <;> simp [CachedBoard.step, CachedBoard.attacks, CachedBoard.attackMapCached, CachedBoard.new,
    CachedBoard.cell, CachedBoard.setCell]

/-! ## the values -/

/-- **C10_attacks.**  Assume the attack tables are right (C09) and no square holds two pieces.  Then
for every colour `c` and square `t`, bit `t` of `Board::colored_attacks(c)` is set exactly when
some piece of colour `c` (standing on `s`, of kind `k`, as the mailbox reading `absCell` of the board
shows it) attacks `t` according to the rules (`Spec.attacksFrom`, with "occupied" = the mailbox cell
is not empty), and `t` does not hold a piece of colour `c`. -/
theorem C10_attacks (T : AttackTablesCorrect) (m : PieceMap) (hd : DisjointBoard m) (c : Color)
    (t : Nat) (ht : t < 64) :
    test (coloredAttacks m c) t = true ↔
      (∃ s, s < 64 ∧ ∃ k, absCell m s = some (absColor c, k) ∧
        t ∈ Spec.attacksFrom (fun n => (absCell m n).isSome) (absColor c) k s) ∧
      ¬ ∃ k, absCell m t = some (absColor c, k) :=
  attacks_abs T hd c t ht

/-- bits 64.. do not exist: the attack set is a set of squares -/
theorem C10_attacks_range (m : PieceMap) (c : Color) (t : Nat) (ht : 64 ≤ t) :
    test (coloredAttacks m c) t = false ∧ test (coloredPawnAttacks m c) t = false :=
  ⟨test_ge _ t ht, test_ge _ t ht⟩

/-- **C10_attacks, against the specification predicate.**  For a game state `st`:
`colored_attacks(c)` has `t` ⇔ `Pos.attackedBy (abs st) c t` and `t` is not an own piece. -/
theorem C10_attacks_spec (T : AttackTablesCorrect) (st : State) (hd : DisjointBoard st.pieces) (c : Color)
    (t : Nat) (ht : t < 64) :
    test (coloredAttacks st.pieces c) t = true ↔
      (abs st).attackedBy (absColor c) t = true ∧ ¬ ∃ k, (abs st).at t = some (absColor c, k) := by
  rw [attackedBy_iff, abs_occupied, C10_attacks T st.pieces hd c t ht]
  simp only [abs_at]

/-- **C10_pawn.**  `Board::colored_pawn_attacks(c)` has `t` exactly when some pawn of colour `c`
attacks `t` by the rules and `t` does not hold a piece of colour `c`. -/
theorem C10_pawn (T : AttackTablesCorrect) (m : PieceMap) (hd : DisjointBoard m) (c : Color)
    (t : Nat) (ht : t < 64) :
    test (coloredPawnAttacks m c) t = true ↔
      (∃ s, s < 64 ∧ absCell m s = some (absColor c, Spec.Kind.pawn) ∧
        t ∈ Spec.attacksFrom (fun n => (absCell m n).isSome) (absColor c) Spec.Kind.pawn s) ∧
      ¬ ∃ k, absCell m t = some (absColor c, k) := by
  rw [test_coloredPawnAttacks m c t ht, test_colorOcc_abs hd, ← occ_abs]
  apply and_congr_left'
  constructor
  · rintro ⟨s, hs, ha⟩
    obtain ⟨hs64, hts⟩ := (mem_bitsOf _ _).1 hs
    refine ⟨s, hs64, (absCell_iff hd s c _).2 ⟨.pawn, rfl, hts⟩, ?_⟩
    rw [attacksOf_spec T c .pawn .pawn rfl s hs64 m.occ t ht] at ha
    simpa using ha
  · rintro ⟨s, hs64, hc, hmem⟩
    obtain ⟨p, hk, hts⟩ := (absCell_iff hd s c _).1 hc
    have : p = Piece.pawn := absKind_inj p .pawn .pawn hk rfl
    subst this
    refine ⟨s, (mem_bitsOf _ _).2 ⟨hs64, hts⟩, ?_⟩
    rw [attacksOf_spec T c .pawn .pawn rfl s hs64 m.occ t ht]
    simpa using hmem

/-- **C10_check.**  `Board::is_check(c)` is true exactly when some square holding a king of colour
`c` is attacked, by the rules, by a piece of the other colour. -/
theorem C10_check (T : AttackTablesCorrect) (m : PieceMap) (hd : DisjointBoard m) (c : Color) :
    isCheckB m c = true ↔
      ∃ s, s < 64 ∧ absCell m s = some (absColor c, Spec.Kind.king) ∧
        ∃ s', s' < 64 ∧ ∃ k, absCell m s' = some ((absColor c).opp, k) ∧
          s ∈ Spec.attacksFrom (fun n => (absCell m n).isSome) (absColor c).opp k s' := by
  rw [isCheckB_iff]
  constructor
  · rintro ⟨s, hs, hk, ha⟩
    have := (attacks_abs T hd c.opp s hs).1 ha
    rw [absColor_opp] at this
    exact ⟨s, hs, (absCell_iff hd s c _).2 ⟨.king, rfl, hk⟩, this.1⟩
  · rintro ⟨s, hs, hk, hatt⟩
    obtain ⟨p, hp, hts⟩ := (absCell_iff hd s c _).1 hk
    have : p = Piece.king := absKind_inj p .king .king hp rfl
    subst this
    refine ⟨s, hs, hts, (attacks_abs T hd c.opp s hs).2 ⟨?_, ?_⟩⟩
    · rw [absColor_opp]; exact hatt
    · rintro ⟨k, hk'⟩
      rw [hk] at hk'
      exact absColor_opp_ne c (congrArg Prod.fst (Option.some.inj hk')).symm

/-- **C10_check, against the specification predicate**: `Board::is_check(c)` = `Pos.inCheck (abs st) c`. -/
theorem C10_check_spec (T : AttackTablesCorrect) (st : State) (hd : DisjointBoard st.pieces) (c : Color) :
    isCheckB st.pieces c = (abs st).inCheck (absColor c) := by
  rw [Bool.eq_iff_iff, C10_check T st.pieces hd c, inCheck_iff]
  simp only [attackedBy_iff, abs_occupied, abs_at]

/-- `State::is_check()` = the side to move is in check by the rules. -/
theorem C10_state_check (T : AttackTablesCorrect) (st : State) (hd : DisjointBoard st.pieces) :
    st.isCheck = (abs st).inCheck (abs st).turn :=
  C10_check_spec T st hd st.turn

/-- what the cached object answers is therefore the rules of chess: e.g. `is_check(c)` asked at any
point of any history on a board of a disjoint placement -/
theorem C10_check_cached (T : AttackTablesCorrect) (st : State) (hd : DisjointBoard st.pieces)
    (qs : List Query) (c : Color) :
    (((CachedBoard.new st.pieces).run qs).1.step (.isCheck c)).2 = .bool ((abs st).inCheck (absColor c)) := by
  obtain ⟨p1, i1, _, _⟩ := run_spec qs (CachedBoard.new st.pieces) (cacheInv_new _)
  have h := (step_spec _ (.isCheck c) i1).2.2.1
  rw [p1] at h
  rw [← C10_check_spec T st hd c]
  generalize (((CachedBoard.new st.pieces).run qs).1.step (.isCheck c)).2 = a at h
  cases a <;> simp [Answer.obs, pureAnswer, CachedBoard.new] at h ⊢
  exact h

/-! ### non-vacuity of the value theorems -/

/-- the placement of the initial position -/
def startPieces : PieceMap :=
  { wp := 0x000000000000FF00, wn := 0x0000000000000042, wb := 0x0000000000000024,
    wr := 0x0000000000000081, wq := 0x0000000000000008, wk := 0x0000000000000010,
    bp := 0x00FF000000000000, bn := 0x4200000000000000, bb := 0x2400000000000000,
    br := 0x8100000000000000, bq := 0x0800000000000000, bk := 0x1000000000000000 }

/-- the start position is a `DisjointBoard` -/
example : DisjointBoard startPieces := by decide +kernel

/-- `DisjointBoard` is a real restriction: two pieces on one square are rejected -/
example : ¬ DisjointBoard { wk := 0x10, bq := 0x10 } := by decide +kernel

/-- ... and it is needed: a white pawn and a black knight stacked on e4, white king on f2.  The
engine lets the hidden knight give check; the mailbox reading (`piece_at` returns the first match,
the white pawn) has no black knight, so by the rules there is no check. -/
def stackedState : State :=
  { pieces := { wk := 0x2000, wp := 0x10000000, bn := 0x10000000, bk := 0x1000000000000000 }
    turn := .white, castleW := .noRights, castleB := .noRights, ep := Option.none, halfmove := 0, fullmove := 1 }

example : ¬ DisjointBoard stackedState.pieces ∧ isCheckB stackedState.pieces .white = true ∧
    (abs stackedState).inCheck .white = false := by
  rw [inCheck_abs]; decide +kernel

/-- the model computes: white king e1, black knight f3, black king e8 — white is in check, black is not -/
example : isCheckB { wk := 0x10, bn := 0x200000, bk := 0x1000000000000000 } .white = true ∧
    isCheckB { wk := 0x10, bn := 0x200000, bk := 0x1000000000000000 } .black = false := by
  decide +kernel

/-- `AttackTablesCorrect` is the statement of C09.  Its three leaper fields are proved outright, without
evaluating a table (`C10.test_leaper`, `Wee/Proofs/AttackLeapers.lean`); the two slider fields are C09_rook /
C09_bishop.  So the hypothesis `T` of the theorems above can be replaced by the two slider facts. -/
theorem C10_tables_of_sliders
    (rook : ∀ sq, sq < 64 → ∀ (occ : UInt64) (t : Nat), t < 64 →
      test (rookAttacks sq occ) t = (Spec.slide (fun n => test occ n) Spec.rookDirs sq).contains t)
    (bishop : ∀ sq, sq < 64 → ∀ (occ : UInt64) (t : Nat), t < 64 →
      test (bishopAttacks sq occ) t = (Spec.slide (fun n => test occ n) Spec.bishopDirs sq).contains t) :
    AttackTablesCorrect where
  rook := rook
  bishop := bishop
  knight := fun sq hs t ht => knight_table ⟨sq, hs⟩ ⟨t, ht⟩
  king := fun sq hs t ht => king_table ⟨sq, hs⟩ ⟨t, ht⟩
  pawn := fun c sq hs t ht => by
    cases c
    · exact pawn_table true ⟨sq, hs⟩ ⟨t, ht⟩
    · exact pawn_table false ⟨sq, hs⟩ ⟨t, ht⟩

end Wee.C10
