import Wee.Props.C10
import Wee.Props.C09
/-!
# C10 closed over C09: the hypothesis `AttackTablesCorrect` is discharged by the C09 theorems,
so the C10 statements hold outright for every disjoint placement.
-/
namespace Wee.C10
open Wee

/-- the attack tables of the model (magic sliders with the constants regenerated from the Rust
source, leaper tables) are correct: this is C09 -/
theorem tablesCorrect : AttackTablesCorrect :=
  C10_tables_of_sliders (fun sq h occ t _ => C09_rook sq h occ t) (fun sq h occ t _ => C09_bishop sq h occ t)

/-- **C10 (attacked squares)**, no hypothesis on the tables left -/
theorem C10_attacks_closed (st : State) (hd : DisjointBoard st.pieces) (c : Color) (t : Nat) (ht : t < 64) :
    test (coloredAttacks st.pieces c) t = true ↔
      (abs st).attackedBy (absColor c) t = true ∧ ¬ ∃ k, (abs st).at t = some (absColor c, k) :=
  C10_attacks_spec tablesCorrect st hd c t ht

/-- **C10 (check)**: `Board::is_check(c)` is exactly "the king of `c` is attacked" per the rules -/
theorem C10_check_closed (st : State) (hd : DisjointBoard st.pieces) (c : Color) :
    isCheckB st.pieces c = (abs st).inCheck (absColor c) :=
  C10_check_spec tablesCorrect st hd c

/-- **C10 (`State::is_check`)**: the test without a colour argument is "the side to move is in check" per the rules -/
theorem C10_state_check_closed (st : State) (hd : DisjointBoard st.pieces) :
    st.isCheck = (abs st).inCheck (abs st).turn :=
  C10_state_check tablesCorrect st hd

/-- **C10 (order/clone independence + correctness)**: whatever was asked or cloned before, the cached
object answers `is_check(c)` by the rules of chess -/
theorem C10_check_cached_closed (st : State) (hd : DisjointBoard st.pieces) (qs : List Query) (c : Color) :
    (((CachedBoard.new st.pieces).run qs).1.step (.isCheck c)).2 = .bool ((abs st).inCheck (absColor c)) :=
  C10_check_cached tablesCorrect st hd qs c

end Wee.C10
