import Wee.Proofs.FenLemmas
/-!
# C11 — FEN text and positions round-trip

Rust: `weechess-core/src/notation.rs`, `mod fen` — `impl IntoNotation<State> for Fen` (the writer,
walking ranks 8..1 and merging empty runs), `impl TryFromNotation<State> for Fen` (the reader:
`FEN_REGEX` gate, `Board::try_parse`, per-field parsers), `Board::from(&ArrayMap<Square,PieceIndex>)`,
`From<&Board> for ArrayMap<Square,PieceIndex>` and `Board::piece_at` in `board.rs`.
Model: `Wee/Model/Fen.lean` (`writeFen`, `parseFen`); independent canonical grammar:
`Wee/Spec/Fen.lean` (`Spec.writeFen`, `Spec.readFen`).

`parseFen checked` models both build profiles (`checked = true`: overflow checks on); every theorem
here holds for both.

Position → text → position is the identity on every *representable* position (`ReprPos`; no legality
is needed); canonical text → position → text reproduces the text character for character, and the
engine's writer agrees with the independent canonical one on every mailbox position.

`parseFenChars` gates the text with a hand-written recogniser, not a regex engine;
`fenRegex_is_modelled` only says that the literal in the Rust source is the one it was written for.  That
the recogniser accepts what `FEN_REGEX` matches and computes what the field parsers compute on its groups
is `FenRegex_recogniser` (`Wee/Props/FenRegex.lean`, where the theorems of this file are restated over the
regex pipeline).
-/
namespace Wee

/-- A position the engine's `State` can hold and print: the twelve piece bitboards are pairwise
disjoint (so that the mailbox view `piece_at` loses nothing), the en-passant target, if any, is a
square, and both counters fit a 64-bit `usize`.  Nothing else — in particular no legality. -/
def ReprPos (s : State) : Prop :=
  FenL.Disjoint s.pieces ∧
  (match s.ep with | some t => t < 64 | Option.none => True) ∧
  s.halfmove < 2^64 ∧ s.fullmove < 2^64

instance (s : State) : Decidable (ReprPos s) := by
  unfold ReprPos
  cases s.ep <;> infer_instance

/-- **C11 (1)**: for every representable position `s`, `try_from_notation::<State, Fen>` applied to
the text produced by `into_notation::<State, Fen>` succeeds (no `Err`, no panic, with or without
overflow checks) and returns exactly `s`: the same twelve bitboards, side to move, castling
rights, en-passant target and counters.  Hence the re-read position has the same legal moves,
hash and evaluation, and prints the same FEN. -/
theorem C11_parse_write (checked : Bool) (s : State) (h : ReprPos s) :
    parseFen checked (writeFen s) = .ok s := by
  obtain ⟨hd, hep', hh, hf⟩ := h
  have hep : ∀ t, s.ep = some t → t < 64 := fun t ht => by rw [ht] at hep'; exact hep'
  obtain ⟨cells, hcells, hmail⟩ := FenL.parse_writeBoard checked s.pieces
  have t1 := FenL.turnChars_written s.turn
  obtain ⟨c1, c2⟩ := FenL.castleChars_written s.castleW s.castleB
  obtain ⟨e1, e2⟩ := FenL.epChars_written s.ep hep
  obtain ⟨h1, h2, h3⟩ := FenL.counter_written s.halfmove hh
  obtain ⟨f1, f2, f3⟩ := FenL.counter_written s.fullmove hf
  have hsp : isRegexSpace ' ' = true := by decide
  -- the six fields hold no separator, so the text splits back into them
  have hsplit := FenL.splitFields_six _ _ _ _ _ _ ' ' ' ' ' ' ' ' ' ' hsp hsp hsp hsp hsp
    (FenL.writeBoard_no_space s.pieces) (FenL.noSpace_side t1) (FenL.noSpace_castle c1) (FenL.noSpace_ep e1) h3 f3
  have hgate : gateOk (writeBoard s.pieces) (FenL.turnChars s.turn) (FenL.castleChars s.castleW s.castleB)
      (FenL.epChars s.ep) (toString s.halfmove).toList (toString s.fullmove).toList = true := by
    unfold gateOk
    rw [FenL.boardFieldOk_writeBoard, t1, c1, e1, h1, f1]
    rfl
  rw [← FenL.toList_writeFen] at hsplit
  unfold parseFen
  rw [parseFenChars_six checked _ _ _ _ _ _ _ hsplit, hgate]
  have hst : s = State.mk (piecesOfCells cells) s.turn s.castleW s.castleB (FenL.epOf (FenL.epChars s.ep)) s.halfmove
      s.fullmove := by
    rw [e2, FenL.piecesOfCells_eq, FenL.buildMap_pieceAt hd _ hmail]
  exact (if_neg Bool.false_ne_true).trans
    (afterGate_eq_ok.2 ⟨cells, s.turn, s.castleW, s.castleB, s.halfmove, s.fullmove, hcells, rfl, c2, h2, f2, hst⟩)

theorem C11_writeFen_injective (s₁ s₂ : State) (h₁ : ReprPos s₁) (h₂ : ReprPos s₂)
    (h : writeFen s₁ = writeFen s₂) : s₁ = s₂ := by
  have e₁ := C11_parse_write true s₁ h₁
  rw [h, C11_parse_write true s₂ h₂] at e₁
  exact (Res.ok.inj e₁).symm

/-- writing the re-read position gives the same text again -/
theorem C11_write_parse_write (checked : Bool) (s : State) (h : ReprPos s) :
    ∃ s', parseFen checked (writeFen s) = .ok s' ∧ writeFen s' = writeFen s :=
  ⟨s, C11_parse_write checked s h, rfl⟩

/-! ### non-vacuity of (1) -/

/-- after 1. e4 with Black's queen-side right removed: asymmetric board, en-passant square, partial rights -/
def c11AfterE4 : State :=
  ⟨{ c11Start.pieces with wp := 0x1000EF00 }, .black, .both, ⟨true, false⟩, some 20, 0, 1⟩

set_option maxRecDepth 100000 in
example : ReprPos c11Start := by decide +kernel
set_option maxRecDepth 100000 in
example : ReprPos c11AfterE4 := by decide +kernel

set_option maxRecDepth 100000 in
example : startState = c11Start := startState_eq
set_option maxRecDepth 100000 in
/-- `Fen::DEFAULT` round-trips (evaluated, independently of the theorem) -/
example : parseFen true Gen.fenDefault = .ok c11Start ∧ writeFen c11Start = Gen.fenDefault :=
  ⟨parse_fenDefault, by decide +kernel⟩
set_option maxRecDepth 100000 in
example : writeFen c11AfterE4 = "rnbqkbnr/pppppppp/8/8/4P3/8/PPPP1PPP/RNBQKBNR b KQk e3 0 1" ∧
    parseFen false "rnbqkbnr/pppppppp/8/8/4P3/8/PPPP1PPP/RNBQKBNR b KQk e3 0 1" = .ok c11AfterE4 := by decide +kernel
/-- extreme counters are representable -/
example : ReprPos { c11Start with halfmove := 2^64 - 1, fullmove := 2^64 - 1 } := by
  refine ⟨by decide, trivial, by decide, by decide⟩

/-! ### text → position → text -/

/-- **the two writers agree**: for every mailbox position `p` (no well-formedness needed), the
engine's writer applied to the bitboard form of `p` and the independent canonical writer
`Spec.writeFen` produce the same string. -/
theorem C11_spec_writer_agrees (p : Spec.Pos) : writeFen (conc p) = Spec.writeFen p :=
  FenL.spec_writer_agrees p

theorem reprPos_conc (p : Spec.Pos) (hep : ∀ e, p.ep = some e → e < 64)
    (hh : p.halfmove < 2^64) (hf : p.fullmove < 2^64) : ReprPos (conc p) := by
  refine ⟨FenL.disjoint_concPieces p, ?_, hh, hf⟩
  show match p.ep with | some t => t < 64 | Option.none => True
  cases h : p.ep with
  | none => trivial
  | some t => exact hep t h

/-- **C11 (2), writer form**: for every string generated by the independent canonical writer from
a mailbox position `p` (en-passant square on the board, counters fitting `usize`; all 16 right
sets, both en-passant ranks, any placement), the engine reads it (`Ok`, no panic) and writes it
back character for character. -/
theorem C11_write_parse_writer (checked : Bool) (p : Spec.Pos) (hep : ∀ e, p.ep = some e → e < 64)
    (hh : p.halfmove < 2^64) (hf : p.fullmove < 2^64) :
    parseFen checked (Spec.writeFen p) = .ok (conc p) ∧ writeFen (conc p) = Spec.writeFen p := by
  refine ⟨?_, C11_spec_writer_agrees p⟩
  rw [← C11_spec_writer_agrees p]
  exact C11_parse_write checked (conc p) (reprPos_conc p hep hh hf)

/-- canonical FEN text: accepted by the strict reader `Spec.readFen`, reproduced by the canonical
writer, with counters that fit the engine's `usize` (the strict reader itself accepts decimal
numbers of any size) -/
def CanonicalFen (t : String) : Prop :=
  ∃ p, Spec.readFen t = some p ∧ Spec.writeFen p = t ∧ p.halfmove < 2^64 ∧ p.fullmove < 2^64

/-- **C11 (2)**: every canonical FEN string is read by the engine (`Ok`, no panic, either build
profile) and the position read writes back the same string, character for character. -/
theorem C11_write_parse (checked : Bool) (t : String) (h : CanonicalFen t) :
    ∃ s, parseFen checked t = .ok s ∧ writeFen s = t := by
  obtain ⟨p, hr, hw, hh, hf⟩ := h
  obtain ⟨h1, h2⟩ := C11_write_parse_writer checked p (FenL.readFen_ep_lt t p hr) hh hf
  rw [hw] at h1 h2
  exact ⟨conc p, h1, h2⟩

/-! ### non-vacuity of (2)

`C11_write_parse_writer` is the form with checkable hypotheses (example below).  `CanonicalFen t`
for a concrete `t` cannot be evaluated by the kernel: `Spec.readFen` is built from `String.splitOn`,
`String.all`, `String.contains`, `String.toNat?`, which do not reduce under `decide`; it is
executable, and `Spec.readFen Gen.fenDefault == some (abs startState)` evaluates to `true` with
`#eval`. -/

/-- a mailbox position with an en-passant square and partial rights -/
def c11SpecPos : Spec.Pos :=
  { cells := (Array.replicate 64 Option.none).set! 4 (some (.white, .king)) |>.set! 60 (some (.black, .king))
      |>.set! 28 (some (.white, .pawn)) |>.set! 27 (some (.black, .pawn)),
    turn := .black, wk := true, wq := false, bk := false, bq := true, ep := some 20,
    halfmove := 0, fullmove := 2^64 - 1 }

example : (∀ e, c11SpecPos.ep = some e → e < 64) ∧ c11SpecPos.halfmove < 2^64 ∧ c11SpecPos.fullmove < 2^64 := by
  refine ⟨?_, by decide, by decide⟩
  intro e he
  have : e = 20 := (Option.some.inj he).symm
  omega

/-- the regex gate modelled in `parseFenChars` is the literal `FEN_REGEX` of `notation.rs`
(`Wee.Gen.fenRegex` is re-extracted from the Rust source on every run) -/
theorem fenRegex_is_modelled : Wee.Gen.fenRegex = Wee.modelledFenRegex := rfl

end Wee
