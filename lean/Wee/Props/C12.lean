import Wee.Proofs.SanLemmas
import Wee.Proofs.ListLemmas
/-!
# C12 — move text resolves to exactly the intended move

Rust: `notation.rs` (`mod san`: `San::try_from_notation` → `MoveQuery`; `mod lan`: `Lan::into_notation`),
`moves.rs` (`MoveQuery::test`, `MoveSet::find/filter`), `uci.rs` (move tokens of `position … moves`).
Model: `Wee/Model/San.lean` (`parseSan`, `MoveQuery.test`, `parseUciMoveToken`), `Wee/Model/Move.lean`
(`Move.lan`, accessors).
Independent SAN writer: `Wee/Spec/San.lean`; packed move → spec move: `toSpecMove` (`Wee/Spec/Abs.lean`).

All theorems are generic in the list `L` of legal moves: they use only the structural facts collected
in `WFMoves L` (`Wee/Proofs/SanLemmas.lean`), never the move generator.  That legal move lists of
legal positions without overlapping bitboards satisfy `WFMoves` is `C12_wf` in
`Wee/Props/C12Closed.lean` (from C01); `C12_wf_statement` below, which asks it of every `LegalPos`,
is refuted there.  `WFMoves` is decidable and is checked by evaluation for concrete lists (examples at
the end).

`WFMoves L` speaks of the packed moves of `L` through the Rust accessors: every move is
accessor-consistent (`AccOK`); a move is determined by (piece, origin, destination, promotion); whether
a move captures (`capFn`), and whether it promotes (`promoFn`), is a function of (piece kind,
destination) — NOT of the destination alone: with an en-passant square `d6`, `exd6` captures and `Nd6`
does not; and not merely of (piece, origin, destination): the query of `Nd5` carries no origin; one piece
per origin square; all king moves start on one square (`oneKing`); at most one castling move per side.

`capFn`, `promoFn`, `oneKing` are needed because `MoveQuery::test` is more lenient than SAN: a query
without `x` does not constrain the capture flag, a query without promotion suffix does not constrain
the promotion (`e8` matches `e8=Q`, `e8=R`, …), a query with promotion `Q` also matches a
non-promoting *queen* move (`promotion().unwrap_or(piece())`), and `Kg1` matches the castling move
`O-O` (a king move to g1).  None of this produces a second match inside a chess move list, which is
exactly what the three hypotheses record.
-/
namespace Wee.SanP
open Wee

/-! ## 1. The scanner reads back what the independent writer wrote -/

/-- **C12_parse_written.**  For all SAN parts `s` (any piece kind, optional origin file `< 8`,
optional origin rank `< 8`, capture flag, destination `< 64`, optional promotion to Q/R/B/N —
`WFParts s`), with or without `=` before the promotion letter, followed by nothing, `+` or `#`:
`San::try_from_notation` succeeds on the text written by `Spec.partsText` and returns exactly the
query with these fields (piece = the kind, `pawn` when no letter is written; castle unset;
`is_capture = Some(true)` iff an `x` was written, otherwise unset). -/
theorem C12_parse_written (s : Spec.SanParts) (hs : WFParts s) (eqSign : Bool) (mark : String)
    (hmark : mark = "" ∨ mark = "+" ∨ mark = "#") :
    parseSan (Spec.partsText s eqSign ++ mark) =
      some { piece := some (kindPiece s.kind)
             originRank := s.fromRank
             originFile := s.fromFile
             destRank := some (s.dst / 8)
             destFile := some (s.dst % 8)
             promotion := s.promo.map kindPiece
             castle := Option.none
             isCapture := if s.capture then some true else Option.none } :=
  parse_written s hs eqSign mark hmark

example : WFParts { kind := .knight, fromFile := some 2, fromRank := Option.none, capture := true,
                    dst := 35, promo := Option.none } :=
  ⟨fun f h => (by cases h; decide), fun r h => (by cases h), (by decide), fun k h => (by cases h)⟩

/-- the same on `List Char` (the form the scanner works on) -/
theorem C12_parse_written_chars (s : Spec.SanParts) (hs : WFParts s) (eqSign : Bool)
    (mark : List Char) (hmark : mark = [] ∨ mark = ['+'] ∨ mark = ['#']) :
    parseSanChars ((Spec.partsText s eqSign).toList ++ mark) = some (expectedQuery s) := by
  rw [partsText_toList]; exact parse_written_chars s hs eqSign mark hmark

theorem C12_parse_castle (mark : String) (hmark : mark = "" ∨ mark = "+" ∨ mark = "#") :
    parseSan ("O-O" ++ mark) = some { castle := some .king } ∧
    parseSan ("O-O-O" ++ mark) = some { castle := some .queen } := by
  rcases hmark with rfl | rfl | rfl <;> exact ⟨by decide, by decide⟩

/-! ## 2. The parsed query selects exactly the spelled move -/

/-- **C12_unique_parts.**  `L` well-formed, `m ∈ L` reads as the spec move `sm`, and the
SAN parts denote — by the SAN rules `Spec.denotes`, among the spec readings of `L` — exactly `sm`.
Then the text of these parts (either promotion style, any check mark) parses, and the resulting
query matches `m` and no other move of `L`.  Covers every disambiguation, including over-full ones. -/
theorem C12_unique_parts (L : List Move) (hwf : WFMoves L) (m : Move) (hm : m ∈ L)
    (sm : Spec.SMove) (hsm : toSpecMove m = some sm) (parts : Spec.SanParts)
    (hden : Spec.denotes (L.filterMap toSpecMove) parts = [sm])
    (eqSign : Bool) (mark : String) (hmark : mark = "" ∨ mark = "+" ∨ mark = "#") :
    ∃ q, parseSan (Spec.partsText parts eqSign ++ mark) = some q ∧
      ∀ m' ∈ L, (q.test m' = true ↔ m' = m) := by
  obtain ⟨hwfp, hsel⟩ := unique_parts L hwf m hm sm hsm parts hden
  exact ⟨_, parse_written parts hwfp eqSign mark hmark, hsel⟩

/-- castling: `O-O` / `O-O-O` select exactly the castling move of that side -/
theorem C12_unique_castle (L : List Move) (hwf : WFMoves L) (m : Move) (hm : m ∈ L)
    (sm : Spec.SMove) (hsm : toSpecMove m = some sm) (kingSide : Bool)
    (hc : sm.castle = some kingSide)
    (mark : String) (hmark : mark = "" ∨ mark = "+" ∨ mark = "#") :
    ∃ q, parseSan ((if kingSide then "O-O" else "O-O-O") ++ mark) = some q ∧
      ∀ m' ∈ L, (q.test m' = true ↔ m' = m) := by
  have hcast := (toSpecMove_fields hsm).2.2.2.2.2
  rw [hc] at hcast
  have hside := isCastle_of_spec m kingSide hcast.symm
  have key : ∀ s, Move.isCastle m s = true → ∀ m' ∈ L, (Move.isCastle m' s = true ↔ m' = m) := by
    intro s hs m' hm'
    refine ⟨fun h => ?_, fun e => e ▸ hs⟩
    unfold Move.isCastle at h hs
    have h1 : Move.castleSide m' = some s := eq_of_beq h
    have h2 : Move.castleSide m = some s := eq_of_beq hs
    exact hwf.castle m' hm' m hm (by rw [h1]; simp) (h1.trans h2.symm)
  cases kingSide with
  | true =>
    refine ⟨_, (C12_parse_castle mark hmark).1, fun m' hm' => ?_⟩
    rw [test_castle]; exact key _ hside m' hm'
  | false =>
    refine ⟨_, (C12_parse_castle mark hmark).2, fun m' hm' => ?_⟩
    rw [test_castle]; exact key _ hside m' hm'

theorem C12_spellings_generic (p : Spec.Pos) (m : Spec.SMove) :
    Spec.spellings p m = spellingsIn (Spec.legalMoves p) (Spec.checkMark p m) m := rfl

/-- **C12_unique.**  Every admissible spelling `t` of `m` produced by the independent writer
(`spellingsIn` = `Spec.spellings` with the legal list and the check mark as parameters: minimal /
file / rank / full disambiguation kept only if it denotes `m` alone, `x`, `=Q` or `Q`, optional
`+`/`#`, `O-O`, `O-O-O`) parses, and the query matches `m` and no other move of `L`.  Hence
`MoveSet::filter` yields exactly `[m]` and `State::by_performing_moves` performs `m`. -/
theorem C12_unique (L : List Move) (hwf : WFMoves L) (m : Move) (hm : m ∈ L)
    (sm : Spec.SMove) (hsm : toSpecMove m = some sm)
    (mark : String) (hmark : mark = "" ∨ mark = "+" ∨ mark = "#")
    (t : String) (ht : t ∈ spellingsIn (L.filterMap toSpecMove) mark sm) :
    ∃ q, parseSan t = some q ∧ ∀ m' ∈ L, (q.test m' = true ↔ m' = m) := by
  unfold spellingsIn at ht
  split at ht
  next hc =>
    rcases mem_withMarks _ _ _ ht with rfl | rfl
    · exact C12_unique_castle L hwf m hm sm hsm true hc "" (Or.inl rfl)
    · exact C12_unique_castle L hwf m hm sm hsm true hc mark hmark
  next hc =>
    rcases mem_withMarks _ _ _ ht with rfl | rfl
    · exact C12_unique_castle L hwf m hm sm hsm false hc "" (Or.inl rfl)
    · exact C12_unique_castle L hwf m hm sm hsm false hc mark hmark
  next hc =>
    rw [List.mem_flatMap] at ht
    obtain ⟨s, hs, ht⟩ := ht
    rw [List.mem_filter] at hs
    have hden : Spec.denotes (L.filterMap toSpecMove) s = [sm] := eq_of_beq hs.2
    rw [List.mem_flatMap] at ht
    obtain ⟨u, hu, ht⟩ := ht
    have hu' : u = Spec.partsText s true ∨ u = Spec.partsText s false := by
      split at hu <;> simp at hu <;> simp [hu]
    rcases hu' with rfl | rfl <;> rcases mem_withMarks _ _ _ ht with rfl | rfl
    · exact C12_unique_parts L hwf m hm sm hsm s hden true "" (Or.inl rfl)
    · exact C12_unique_parts L hwf m hm sm hsm s hden true mark hmark
    · exact C12_unique_parts L hwf m hm sm hsm s hden false "" (Or.inl rfl)
    · exact C12_unique_parts L hwf m hm sm hsm s hden false mark hmark

theorem checkMark_cases (p : Spec.Pos) (m : Spec.SMove) :
    Spec.checkMark p m = "" ∨ Spec.checkMark p m = "+" ∨ Spec.checkMark p m = "#" := by
  unfold Spec.checkMark
  simp only
  split
  · split
    · exact Or.inr (Or.inr rfl)
    · exact Or.inr (Or.inl rfl)
  · exact Or.inl rfl

/-- **C12_unique_pos**: `C12_unique` for the writer `Spec.spellings` itself: if the packed list `L`
reads as the legal moves of the spec position `p` (C01), every spelling the independent writer
produces for `m` in `p` resolves to `m` alone. -/
theorem C12_unique_pos (L : List Move) (hwf : WFMoves L) (p : Spec.Pos)
    (hL : L.filterMap toSpecMove = Spec.legalMoves p) (m : Move) (hm : m ∈ L)
    (sm : Spec.SMove) (hsm : toSpecMove m = some sm)
    (t : String) (ht : t ∈ Spec.spellings p sm) :
    ∃ q, parseSan t = some q ∧ ∀ m' ∈ L, (q.test m' = true ↔ m' = m) := by
  rw [C12_spellings_generic, ← hL] at ht
  exact C12_unique L hwf m hm sm hsm _ (checkMark_cases p sm) t ht

/-- the filter of `MoveSet::filter` / `State::by_performing_moves` then returns exactly `[m]`
(if `L` has no duplicates) -/
theorem C12_unique_filter (L : List Move) (hnd : L.Nodup) (m : Move) (hm : m ∈ L) (q : MoveQuery)
    (hq : ∀ m' ∈ L, (q.test m' = true ↔ m' = m)) : L.filter q.test = [m] :=
  filter_eq_singleton q.test L m hnd hm hq

/-! ## 3. Negative cases -/

/-- **C12_negative.**  `sm` is a non-castling move that is not (the reading of) any move of `L`
and whose attributes are sane relative to `L` (`NegOK L sm`: squares on the board, promotion only
Q/R/B/N by a pawn, `L` has no *other* move with the same kind/origin/destination/promotion, and no
move of `L` of that kind to that destination promotes if `sm` does not).  Then its fully
disambiguated spelling parses and the query matches NO move of `L` (`by_performing_moves` answers
`Unknown`).  `WFMoves` is only used for accessor consistency. -/
theorem C12_negative (L : List Move) (hwf : WFMoves L) (sm : Spec.SMove)
    (hnot : ∀ m' ∈ L, toSpecMove m' ≠ some sm) (hok : NegOK L sm)
    (mark : String) (hmark : mark = "" ∨ mark = "+" ∨ mark = "#") :
    ∃ q, parseSan (Spec.fullSpelling sm ++ mark) = some q ∧ ∀ m' ∈ L, q.test m' = false := by
  obtain ⟨hwfp, hsel⟩ := negative_parts L hwf.acc sm hnot hok
  rw [fullSpelling_eq sm hok.noCastle]
  exact ⟨_, parse_written (fullParts sm) hwfp true mark hmark, hsel⟩

/-! ## 4. Coordinate notation -/

/-- **C12_lan_text.**  `Lan::into_notation` writes origin square, destination square and the
lower-case promotion letter (nothing when the move does not promote). -/
theorem C12_lan_text (m : Move) :
    Move.lan m = sqName (Move.origin m) ++ sqName (Move.dest m) ++ lanSuffix (Move.promotion m) := by
  rw [lan_eq, lanText]

/-- **C12_lan_parse.**  The UCI token parser (`uci.rs`, `position … moves`) does not panic on that
text, accepts it, and produces the query "origin = …, destination = …, promotion = …" -/
theorem C12_lan_parse (m : Move) (hacc : AccOK m) :
    parseUciMoveToken (Move.lan m) =
      some (some { originRank := some (Move.origin m / 8), originFile := some (Move.origin m % 8),
                   destRank := some (Move.dest m / 8), destFile := some (Move.dest m % 8),
                   promotion := Move.promotion m }) := by
  have hpr := hacc.promotion
  have ho := Move.origin_lt m
  have hd := Move.dest_lt m
  rw [lan_eq]
  generalize Move.promotion m = pr at hpr ⊢
  generalize Move.origin m = o at ho ⊢
  generalize Move.dest m = d at hd ⊢
  obtain ⟨so, po, lo⟩ := sqName_facts o ho
  obtain ⟨sd, pd, ld⟩ := sqName_facts d hd
  have h1 : sliceBytes (lanText o d pr) 0 2 = some (sqName o) := by
    have := sliceBytes_append "" (sqName o) (sqName d ++ lanSuffix pr)
    rw [so] at this
    simpa [lanText, String.append_assoc] using this
  have h2 : sliceBytes (lanText o d pr) 2 4 = some (sqName d) := by
    have := sliceBytes_append (sqName o) (sqName d) (lanSuffix pr)
    rw [so, sd] at this
    exact this
  have h3 : (lanText o d pr).toList[4]? = (lanSuffix pr).toList[0]? := by
    simp only [lanText, String.toList_append]
    rw [List.getElem?_append_right (by simp [lo, ld])]
    simp [lo, ld]
  unfold parseUciMoveToken
  rw [h1, h2]
  simp only [po, pd, h3]
  simp only [lanPromos, List.mem_cons, List.not_mem_nil, or_false] at hpr
  rcases hpr with rfl | rfl | rfl | rfl | rfl <;> rfl

theorem C12_lan_test (m m' : Move) :
    (lanQuery (Move.origin m) (Move.dest m) (Move.promotion m)).test m' = true ↔
      Move.origin m' = Move.origin m ∧ Move.dest m' = Move.dest m ∧
      (∀ p, Move.promotion m = some p → p = (Move.promotion m').getD (Move.piece m')) :=
  lanQuery_test_iff _ _ _ m'

/-- **C12_lan.**  The coordinate text written for a move of a well-formed list selects that move
again, and only it. -/
theorem C12_lan (L : List Move) (hwf : WFMoves L) (m : Move) (hm : m ∈ L) :
    ∃ q, parseUciMoveToken (Move.lan m) = some (some q) ∧ ∀ m' ∈ L, (q.test m' = true ↔ m' = m) :=
  ⟨_, C12_lan_parse m (hwf.acc m hm), lan_unique L hwf m hm⟩

/-- castling is written as the king's two-square move -/
theorem C12_lan_castle :
    Move.lan (Move.byCastling .white .king) = "e1g1" ∧ Move.lan (Move.byCastling .white .queen) = "e1c1" ∧
    Move.lan (Move.byCastling .black .king) = "e8g8" ∧ Move.lan (Move.byCastling .black .queen) = "e8c8" ∧
    (∀ c s, Move.piece (Move.byCastling c s) = .king ∧ Move.isCastle (Move.byCastling c s) s = true ∧
       Move.promotion (Move.byCastling c s) = none) := by
  refine ⟨by decide +kernel, by decide +kernel, by decide +kernel, by decide +kernel, ?_⟩
  intro c s; cases c <;> cases s <;> decide +kernel

/-! ## 5. Link to the generator (in `Wee/Props/C12Closed.lean`) -/

/-- "legal move lists of legal positions are well-formed".  FALSE
(`C12_wf_statement_false`: `LegalPos` reads the board through `abs`, which does not see two pieces
stacked on one square); with `DisjointBoard s.pieces` added it is `C12_wf`, from the C01
characterisation of `legalMoves` (each legal move is generated once, with consistent attributes). -/
def C12_wf_statement : Prop :=
  ∀ s : State, LegalPos s = true → WFMoves ((legalMoves s).map (·.1))

/-! ## 6. Non-vacuity: the hypotheses hold for real move lists

The lists below are `(legalMoves s).map (·.1)` for the given FEN, computed with `#eval` on the model
(`Wee/Props/C12Closed.lean` has examples where the kernel evaluates `legalMoves` itself). -/

/-- start position, 20 moves -/
def startMoves : List Move :=
  [268451969, 268453009, 268454049, 268455089, 268456129, 268457169, 268458209, 268459249, 302014593,
   302015633, 302016673, 302017713, 302018753, 302019793, 302020833, 302021873, 268451858, 268453906,
   268457058, 268459106]

/-- `r3k2r/1P6/8/3pP3/8/2N3N1/8/R3K2R w KQkq d6 0 1`: 49 moves with both castlings, an en-passant
capture, promotions with and without capture, two knights reaching the same squares -/
def richMoves : List Move :=
  [268481089, 273737489, 272688913, 271640337, 270591761, 273998609, 272950033, 271901457, 270852881,
   285322817, 268436770, 268438818, 268443938, 268448034, 268460322, 268464418, 268469538, 268537122,
   268440930, 268448098, 268464482, 268473698, 268475746, 268438598, 268440646, 268446790, 268447814,
   268448838, 402659398, 335546438, 268436484, 268437508, 268438532, 268443652, 268451844, 268460036,
   268468228, 268476420, 268484612, 268754948, 268440692, 268441716, 268450932, 268459124, 268467316,
   268475508, 268483700, 268491892, 268762228]

/-- `4k3/8/8/8/4r3/8/4N3/4K3 w - - 0 1`: the knight is pinned, only four king moves are legal -/
def pinMoves : List Move := [268438598, 268440646, 268446790, 268448838]

set_option maxRecDepth 1000000 in
example : WFMoves startMoves := by decide +kernel

theorem richMoves_wf : WFMoves richMoves := by decide +kernel

theorem pinMoves_wf : WFMoves pinMoves := by decide +kernel

/-- the move `Nc3-e4` of `richMoves` (the other knight can also go to e4) -/
def nce4 : Spec.SMove := { color := .white, kind := .knight, src := 18, dst := 28 }

set_option maxRecDepth 1000000 in
/-- hypotheses of `C12_unique` hold for `Nce4+` (and `Ne4` is *not* among the spellings) -/
example : (268464418 : Move) ∈ richMoves ∧ toSpecMove 268464418 = some nce4 ∧
    "Nce4+" ∈ spellingsIn (richMoves.filterMap toSpecMove) "+" nce4 ∧
    "Ne4" ∉ spellingsIn (richMoves.filterMap toSpecMove) "+" nce4 := by decide +kernel

/-- so `Nce4+` resolves to exactly that move in `richMoves` -/
example : ∃ q, parseSan "Nce4+" = some q ∧ ∀ m' ∈ richMoves, (q.test m' = true ↔ m' = 268464418) :=
  C12_unique richMoves richMoves_wf 268464418 (by decide) nce4 (by decide +kernel) "+"
    (Or.inr (Or.inl rfl)) "Nce4+" (by decide +kernel)

set_option maxRecDepth 1000000 in
/-- hypotheses of `C12_unique_castle` hold for `O-O` in `richMoves` -/
example : (402659398 : Move) ∈ richMoves ∧
    (toSpecMove 402659398).map (·.castle) = some (some true) := by decide +kernel

/-- the coordinate text of the capture-promotion `b7xa8=N` selects it again -/
example : Move.lan 270852881 = "b7a8n" ∧
    ∃ q, parseUciMoveToken (Move.lan 270852881) = some (some q) ∧
      ∀ m' ∈ richMoves, (q.test m' = true ↔ m' = 270852881) :=
  ⟨by decide +kernel, C12_lan richMoves richMoves_wf 270852881 (by decide)⟩

/-- the pinned knight's pseudo-legal move `Ne2-c3` -/
def nc3 : Spec.SMove := { color := .white, kind := .knight, src := 12, dst := 18 }

set_option maxRecDepth 1000000 in
/-- hypotheses of `C12_negative` hold for the pinned knight's move -/
example : (∀ m' ∈ pinMoves, toSpecMove m' ≠ some nc3) ∧ NegOK pinMoves nc3 := by
  refine ⟨by decide +kernel, ⟨rfl, by decide, by decide, fun k h => (by cases h), ?_, ?_⟩⟩
  · exact det_of_noMatch pinMoves nc3 (by decide +kernel)
  · intro _; decide +kernel

end Wee.SanP
