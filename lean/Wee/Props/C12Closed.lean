import Wee.Proofs.WfMoves
import Wee.Props.C07
/-!
# C12 closed (and with it C07_position): legal move lists are well-formed

`Wee/Props/C12.lean` proves that move text resolves to exactly the intended move for every move list
`L` with `WFMoves L`.  Here the lists `compute_legal_moves` returns are shown to be of that kind
(`C12_wf`), from C01 (`C01_moves`, `C01_legal_results`: the generated list read through the accessors
is a duplicate-free permutation of the legal moves of the rules) and from the shape of the rules' own
generator (`Wee/Proofs/WfMoves.lean`: in `Spec.pseudoMoves P` every attribute of a move is a function
of kind, origin, destination and promotion; capture-ness and promotion-ness are functions of kind and
destination; one piece per origin; one king; one castling move per side).

The side condition `DisjointBoard s.pieces` of `C12_wf` is the one of C01/C02 (it holds for the start
position, for every parsed FEN and for every successor).  It cannot be dropped:
`C12_wf_statement_false` refutes the statement of `C12.lean` that has only `LegalPos s` (a knight and a
pawn stacked on c3 read as a legal position, but both move from c3).

With `C12_wf` the C12 theorems hold for `L := (legalMoves s).map (·.1)` with no well-formedness
hypothesis and with the SAN writer reading the rules' list `Spec.legalMoves (abs s)`, and the `position`
theorems of `Wee/Props/C07.lean` hold without `WFLine` (`C07_position`).
-/
namespace Wee.SanP
open Wee
open Wee.C10 (DisjointBoard)

/-! ## 1. well-formedness of generated legal-move lists -/

/-- **C12_wf.**  For every legal position (`LegalPos`: one king each, side not to move not in check,
no pawns on the back ranks, castling rights only with king and rook at home, sane en-passant target)
whose bitboards do not overlap, the moves returned by `MoveGenerator::compute_legal_moves`, read
through the `Move` accessors, form a well-formed list (`WFMoves`, spelled out in the header of
`Wee/Props/C12.lean`). -/
theorem C12_wf (s : State) (hl : LegalPos s = true) (hd : DisjointBoard s.pieces) :
    WFMoves ((legalMoves s).map (·.1)) :=
  WfM.wfMoves_legal s hl hd

theorem C12_wf_acc (s : State) (hl : LegalPos s = true) (hd : DisjointBoard s.pieces) :
    ∀ m ∈ (legalMoves s).map (·.1), AccOK m := (C12_wf s hl hd).acc

theorem C12_wf_inj (s : State) (hl : LegalPos s = true) (hd : DisjointBoard s.pieces) :
    ∀ m ∈ (legalMoves s).map (·.1), ∀ m' ∈ (legalMoves s).map (·.1),
      Move.piece m = Move.piece m' → Move.origin m = Move.origin m' →
      Move.dest m = Move.dest m' → Move.promotion m = Move.promotion m' → m = m' := (C12_wf s hl hd).inj

/-- the statement of `C12.lean` with the side condition of C01/C02 -/
def C12_wf_closed_statement : Prop :=
  ∀ s : State, LegalPos s = true → DisjointBoard s.pieces → WFMoves ((legalMoves s).map (·.1))

theorem C12_wf_closed : C12_wf_closed_statement := C12_wf

/-- White Ke1, Black Ke8, and a white knight AND a white pawn both on c3 (the bitboards overlap).
`abs` reads one piece on c3, so this is a `LegalPos`; the generator moves both pieces. -/
def stacked : State :=
  { pieces := { wk := 0x10, wn := 0x40000, wp := 0x40000, bk := 0x1000000000000000 }
    turn := .white, castleW := .noRights, castleB := .noRights, ep := Option.none, halfmove := 0, fullmove := 1 }

theorem stacked_legal : LegalPos stacked = true := by rw [legalPos_abs]; decide +kernel

theorem stacked_not_wf : ¬ WFMoves ((legalMoves stacked).map (·.1)) := by rw [legalMoves_fast]; decide +kernel

/-- **`DisjointBoard` is necessary**: the statement of `C12.lean` (`LegalPos` only) is false. -/
theorem C12_wf_statement_false : ¬ C12_wf_statement :=
  fun h => stacked_not_wf (h stacked stacked_legal)

/-- the hypotheses of `C12_wf` are satisfiable (18 moves, promotions, en passant): -/
example : WFMoves ((legalMoves C01_example).map (·.1)) :=
  C12_wf C01_example C01_example_legal C01_example_disjoint

/-! ## 2. move text in legal positions -/

theorem C12_nodup_legal (s : State) (hl : LegalPos s = true) (hd : DisjointBoard s.pieces) :
    ((legalMoves s).map (·.1)).Nodup := by
  have h := (C02.legalMoves_perm s hl hd).2
  rw [← List.map_map] at h
  exact List.Pairwise.of_map toSpecMove (fun a b hab e => hab (e ▸ rfl)) h

/-- **C12_unique_legal.**  `s` a legal position (no overlaps), `m` one of the moves
`compute_legal_moves` returns, `sm` its reading through the accessors.  Every SAN spelling `t` that
the independent writer `Spec.spellings` produces for `sm` **from the rules' own legal-move list of
`abs s`** (every admissible disambiguation, `x`, `=Q`/`Q`, optional `+`/`#`, `O-O`, `O-O-O`) is
accepted by `San::try_from_notation`, and the resulting query matches `m` and no other generated
move; `MoveSet::filter` returns exactly `[m]`. -/
theorem C12_unique_legal (s : State) (hl : LegalPos s = true) (hd : DisjointBoard s.pieces)
    (m : Move) (hm : m ∈ (legalMoves s).map (·.1)) (sm : Spec.SMove) (hsm : toSpecMove m = some sm)
    (t : String) (ht : t ∈ Spec.spellings (abs s) sm) :
    ∃ q, parseSan t = some q ∧ (∀ m' ∈ (legalMoves s).map (·.1), (q.test m' = true ↔ m' = m)) ∧
      ((legalMoves s).map (·.1)).filter q.test = [m] := by
  rw [C12_spellings_generic, ← WfM.spellingsIn_perm (WfM.filterMap_perm s hl hd)] at ht
  obtain ⟨q, hq, hsel⟩ := C12_unique _ (C12_wf s hl hd) m hm sm hsm _ (checkMark_cases _ _) t ht
  exact ⟨q, hq, hsel, C12_unique_filter _ (C12_nodup_legal s hl hd) m hm q hsel⟩

/-- **C12_unique_rules**, from the side of the rules: every legal move `sm` of the rules in `abs s`
is the reading of exactly one generated move `m`, and every spelling of `sm` resolves to `m`. -/
theorem C12_unique_rules (s : State) (hl : LegalPos s = true) (hd : DisjointBoard s.pieces)
    (sm : Spec.SMove) (hsm : sm ∈ Spec.legalMoves (abs s)) :
    ∃ m ∈ (legalMoves s).map (·.1), toSpecMove m = some sm ∧
      (∀ m' ∈ (legalMoves s).map (·.1), toSpecMove m' = some sm → m' = m) ∧
      ∀ t ∈ Spec.spellings (abs s) sm, ∃ q, parseSan t = some q ∧
        ((legalMoves s).map (·.1)).filter q.test = [m] := by
  obtain ⟨m, hm, e⟩ := WfM.exists_packed s hl hd sm hsm
  refine ⟨m, hm, e, fun m' hm' e' => WfM.toSpec_inj s hl hd m' hm' m hm (e'.trans e.symm), fun t ht => ?_⟩
  obtain ⟨q, hq, _, hf⟩ := C12_unique_legal s hl hd m hm sm e t ht
  exact ⟨q, hq, hf⟩

/-- **C12_lan_legal.**  The coordinate text `Lan::into_notation` writes for a generated legal move is
accepted by the UCI token parser, and the query selects that move and no other generated move. -/
theorem C12_lan_legal (s : State) (hl : LegalPos s = true) (hd : DisjointBoard s.pieces)
    (m : Move) (hm : m ∈ (legalMoves s).map (·.1)) :
    ∃ q, parseUciMoveToken (Move.lan m) = some (some q) ∧
      (∀ m' ∈ (legalMoves s).map (·.1), (q.test m' = true ↔ m' = m)) ∧
      ((legalMoves s).map (·.1)).filter q.test = [m] := by
  obtain ⟨q, hq, hsel⟩ := C12_lan _ (C12_wf s hl hd) m hm
  exact ⟨q, hq, hsel, C12_unique_filter _ (C12_nodup_legal s hl hd) m hm q hsel⟩

/-- **C12_negative_legal.**  A non-castling move that is pseudo-legal by the rules in `abs s` but
leaves the own king attacked (`Spec.illegalPseudo`): its fully disambiguated spelling parses and the
query matches NO generated move (`by_performing_moves` answers `Unknown`). -/
theorem C12_negative_legal (s : State) (hl : LegalPos s = true) (hd : DisjointBoard s.pieces)
    (sm : Spec.SMove) (hill : sm ∈ Spec.illegalPseudo (abs s)) (hnc : sm.castle = Option.none)
    (mark : String) (hmark : mark = "" ∨ mark = "+" ∨ mark = "#") :
    ∃ q, parseSan (Spec.fullSpelling sm ++ mark) = some q ∧
      ∀ m' ∈ (legalMoves s).map (·.1), q.test m' = false :=
  C12_negative _ (C12_wf s hl hd) sm (WfM.illegal_not_listed s hl hd sm hill)
    (WfM.negOK_pseudo s hl hd sm (List.mem_filter.1 hill).1 hnc) mark hmark

/-- **castling that the rules do not allow**: if no legal move of the rules in `abs s` castles on the
given side (no right, pieces in between, king in check, crossing or landing on an attacked square),
`O-O` / `O-O-O` parses and the query matches NO generated move. -/
theorem C12_negative_castle_legal (s : State) (hl : LegalPos s = true) (hd : DisjointBoard s.pieces)
    (kingSide : Bool) (hno : ∀ sm ∈ Spec.legalMoves (abs s), sm.castle ≠ some kingSide)
    (mark : String) (hmark : mark = "" ∨ mark = "+" ∨ mark = "#") :
    ∃ q, parseSan ((if kingSide then "O-O" else "O-O-O") ++ mark) = some q ∧
      ∀ m' ∈ (legalMoves s).map (·.1), q.test m' = false := by
  have key : ∀ sd : Side, (sd == Side.king) = kingSide →
      ∀ m' ∈ (legalMoves s).map (·.1), Move.isCastle m' sd = false := by
    intro sd hsd m' hm'
    cases ht : Move.isCastle m' sd with
    | false => rfl
    | true =>
      exfalso
      obtain ⟨sm', hsm', hleg, _, _⟩ := WfM.mem_data s hl hd m' hm'
      obtain ⟨_, _, _, _, _, b6⟩ := toSpecMove_fields hsm'
      have h1 : Move.castleSide m' = some sd := eq_of_beq ht
      exact hno sm' hleg (by rw [b6, h1]; simp [hsd])
  cases kingSide with
  | true =>
    refine ⟨_, (C12_parse_castle mark hmark).1, fun m' hm' => ?_⟩
    rw [test_castle]; exact key .king rfl m' hm'
  | false =>
    refine ⟨_, (C12_parse_castle mark hmark).2, fun m' hm' => ?_⟩
    rw [test_castle]; exact key .queen rfl m' hm'

/-! ### non-vacuity -/

/-- `4k3/8/8/8/4r3/8/4N3/4K3 w - - 0 1` (the position of `pinMoves`): the knight on e2 is pinned -/
def pinState : State :=
  { pieces := { wk := 0x10, wn := 0x1000, bk := 0x1000000000000000, br := 0x10000000 }
    turn := .white, castleW := .noRights, castleB := .noRights, ep := Option.none, halfmove := 0, fullmove := 1 }

theorem pinState_ok : LegalPos pinState = true ∧ DisjointBoard pinState.pieces :=
  ⟨by rw [legalPos_abs]; decide +kernel, by decide +kernel⟩

/-- the pinned knight's move `Ne2-c3` is an illegal pseudo-legal move of the rules there -/
theorem nc3_illegal : nc3 ∈ Spec.illegalPseudo (abs pinState) :=
  List.mem_filter.2 ⟨by rw [pseudoMoves_abs]; decide +kernel, by rw [isLegalAfter_abs]; decide +kernel⟩

/-- so `Ne2c3` matches no generated move of that position -/
example : ∃ q, parseSan (Spec.fullSpelling nc3 ++ "") = some q ∧
    ∀ m' ∈ (legalMoves pinState).map (·.1), q.test m' = false :=
  C12_negative_legal pinState pinState_ok.1 pinState_ok.2 nc3 nc3_illegal rfl "" (Or.inl rfl)

/-- by the rules only a side that holds a castling right castles -/
theorem castle_needs_right (P : Spec.Pos) (sm : Spec.SMove) (h : sm ∈ Spec.legalMoves P) (hc : sm.castle ≠ none) :
    (P.turn = .white → P.wk = true ∨ P.wq = true) ∧ (P.turn = .black → P.bk = true ∨ P.bq = true) := by
  have key : ∀ kingSide, P.right P.turn kingSide = true →
      (P.turn = .white → P.wk = true ∨ P.wq = true) ∧ (P.turn = .black → P.bk = true ∨ P.bq = true) := by
    intro kingSide r
    cases hc : P.turn <;> rw [hc] at r <;> cases kingSide
    · exact ⟨fun _ => .inr r, fun h => by cases h⟩
    · exact ⟨fun _ => .inl r, fun h => by cases h⟩
    · exact ⟨fun h => (by cases h), fun _ => .inr r⟩
    · exact ⟨fun h => (by cases h), fun _ => .inl r⟩
  cases ((Spec.mem_legalMoves_iff P sm).1 h).1 with
  | castleK r => exact key _ r
  | castleQ r => exact key _ r
  | _ => exact absurd rfl hc

set_option maxRecDepth 1000000 in
/-- no castling in `C01_example` (no rights): `O-O` matches nothing there -/
example : ∃ q, parseSan ("O-O" ++ "") = some q ∧ ∀ m' ∈ (legalMoves C01_example).map (·.1), q.test m' = false :=
  C12_negative_castle_legal C01_example C01_example_legal C01_example_disjoint true
    (fun sm hsm hc =>
      absurd ((castle_needs_right _ sm hsm (by rw [hc]; exact Option.some_ne_none _)).1 rfl) (by decide))
    "" (Or.inl rfl)

set_option maxRecDepth 1000000 in
/-- hypotheses of `C12_unique_legal` / `C12_lan_legal` on `C01_example`: the en-passant capture
`exd6` (packed move read back as a rule move, spelled by the writer) -/
example : ∃ m ∈ (legalMoves C01_example).map (·.1), ∃ sm, toSpecMove m = some sm ∧ sm.ep = true ∧
    "exd6" ∈ Spec.spellings (abs C01_example) sm := by
  -- the writer may read the generated list instead of the rules' own, which is far slower to evaluate
  simp only [C12_spellings_generic, ← WfM.spellingsIn_perm (WfM.filterMap_perm C01_example C01_example_legal C01_example_disjoint),
    legalMoves_fast]
  decide +kernel

end Wee.SanP

namespace Wee.Uci
open Wee
open Wee.C10 (DisjointBoard)

/-! ## 3. C07_position without the well-formedness hypothesis -/

/-- along every line of legal moves from a legal position the move lists are well-formed -/
theorem wfLine_legal (l : List (Move × State)) :
    ∀ s : State, LegalPos s = true → DisjointBoard s.pieces → LegalLine s l → WFLine s l := by
  induction l with
  | nil => intro _ _ _ _; trivial
  | cons r rs ih =>
    intro s hl hd hline
    exact ⟨SanP.C12_wf s hl hd,
      ih r.2 (C02_closed s hl hd r hline.1) (C02_successor_invariants s hl hd r hline.1).1 hline.2⟩

/-- **C07_position** (full statement of `Wee/Props/C07.lean`).  `position <base> moves m₁ … mₖ`, where
the base tokens set a legal position `base` without overlaps (`startpos`, or a FEN that parses to such
a position) and the `mᵢ` are the coordinate texts of successively legal moves: the session position
becomes the end of the line — by `C07_position_rules` the position the rules of chess define — and
nothing is printed. -/
theorem C07_position : C07_position_statement :=
  fun s pre hpre base hbase hl hd l hline =>
    C07_position_generic s pre hpre base hbase hl hd l hline (wfLine_legal l base hl hd hline)

/-- the full statement follows from `SanP.C12_wf_statement`.  That hypothesis is false
(`SanP.C12_wf_statement_false`: it lacks `DisjointBoard`), so this
implication says nothing; the full statement itself is `C07_position`, from `SanP.C12_wf`. -/
theorem C07_position_partial (hwf : SanP.C12_wf_statement) : C07_position_statement :=
  C07_position

theorem C07_position_startpos_closed (s : Sess) (l : List (Move × State)) (hline : LegalLine startState l) :
    positionCmd s ("startpos" :: "moves" :: l.map (fun r => Move.lan r.1)) =
      some ({ s with pos := lineEnd startState l }, []) :=
  C07_position_startpos s l hline (wfLine_legal l startState startState_legal startState_disjoint hline)

theorem C07_position_fen_closed (s : Sess) (F : List String) (hnm : ∀ t ∈ F, t ≠ "moves") (s0 : State)
    (hF : parseFen false (" ".intercalate F) = .ok s0)
    (hl : LegalPos s0 = true) (hd : DisjointBoard s0.pieces)
    (l : List (Move × State)) (hline : LegalLine s0 l) :
    positionCmd s ("fen" :: F ++ "moves" :: l.map (fun r => Move.lan r.1)) =
      some ({ s with pos := lineEnd s0 l }, []) :=
  C07_position_fen s F hnm s0 hF hl hd l hline (wfLine_legal l s0 hl hd hline)

/-- a legal line, then a well-formed token that matches no legal move: `info string invalid move`,
session position = base position -/
theorem C07_position_invalid_after_line_closed (s : Sess) (pre : List String) (hpre : ∀ t ∈ pre, t ≠ "moves")
    (base : State) (hbase : posBase pre = .inl (some base))
    (hl : LegalPos base = true) (hd : DisjointBoard base.pieces)
    (l : List (Move × State)) (hline : LegalLine base l)
    (t : String) (q : MoveQuery) (ht : parseUciMoveToken t = some (some q))
    (hno : (legalMoves (lineEnd base l)).filter (fun r => q.test r.1) = [])
    (rest : List String) (qsr : List MoveQuery)
    (hrest : rest.map parseUciMoveToken = qsr.map (fun q => some (some q))) :
    positionCmd s (pre ++ "moves" :: (l.map (fun r => Move.lan r.1) ++ t :: rest)) =
      some ({ s with pos := base }, [Out.line "info string invalid move"]) :=
  C07_position_invalid_after_line s pre hpre base hbase hl hd l hline (wfLine_legal l base hl hd hline)
    t q ht hno rest qsr hrest

/-- the hypotheses are satisfiable: the king-and-pawn line of `Wee/Proofs/UciLemmas.lean` -/
example (s : Sess) :
    positionCmd s ("fen" :: kpkFen ++ "moves" :: kpkLine.map (fun r => Move.lan r.1)) =
      some ({ s with pos := lineEnd kpk kpkLine }, []) :=
  C07_position_fen_closed s kpkFen (by decide) kpk kpk_parse kpk_legal.1 kpk_legal.2 kpkLine kpk_line

end Wee.Uci
