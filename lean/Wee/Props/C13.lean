import Wee.Proofs.EvalLemmas
import Wee.Proofs.EvalMirror
import Wee.Proofs.EvalFast
/-!
# C13 — evaluation is colour-symmetric

Rust: `weechess-engine/src/eval/mod.rs` (`Evaluator::evaluate`, `impl Mul<f32> for Evaluation`,
`StateVariation::from`), `evaluate_piece_worths.rs`, `evaluate_piece_squares.rs`,
`evaluate_force_king_to_edge.rs`, `evaluate_bad_pawns.rs`.
Model: `Wee/Model/Eval.lean` (`evaluate`, `evalHeuristic`, the four evaluators, `Ev.mulF`),
`Wee/Model/F32.lean` (binary32 soft-float on `Rat`).

* `C13_round32_neg … C13_mulF_neg` — the floating-point layer is odd: `round32`, `*`, `i32 as f32`
  unconditionally, `f32 as i32` and hence `Evaluation * f32` on the non-saturating range (the
  side conditions are stated and are discharged for the engine's values below).
* `C13_neg_heuristic'`, `C13_neg` — **no hypotheses**: for every `State` whatsoever (legal or not),
  the score from White's perspective is the negation of the score from Black's perspective, and
  the evaluator panics for one perspective iff it panics for the other.  (The clamp of the heuristic
  result added by the repair of defect F10 has symmetric bounds `NEG_INF + 1 = -(POS_INF - 1)`, so it
  commutes with negation: `clampHeuristic_neg`.)
* `C13_mirror_heuristic_partial` — the heuristic score of the colour-mirrored position from the
  mirrored perspective equals the original one; only hypothesis: at most one king per side.
* `C13_mirror` — the same for the whole evaluator, under `MirrorTerminalAgree s` (the terminal
  tests agree on `s` and its mirror; discharged for legal positions in `Wee/Props/C13Closed.lean`,
  `C13_mirror_closed`).
* `C13_i32_partial` — every value computed in `i32` stays far inside `i32`.
-/
namespace Wee.C13
open Gen

/-! ## 1. the floating-point layer is odd -/

/-- IEEE round-to-nearest-even at 24 bits is odd (sign-magnitude rounding). -/
theorem C13_round32_neg (q : Rat) : F32.round32 (-q) = - F32.round32 q := F32.round32_neg q

/-- `(-a) * b = -(a * b)` in `f32`. -/
theorem C13_mul_neg_left (a b : Rat) : F32.mul (-a) b = - F32.mul a b := F32.mul_neg_left a b

/-- `(-i) as f32 = -(i as f32)`. -/
theorem C13_ofInt_neg (i : Int) : F32.ofInt (-i) = - F32.ofInt i := F32.ofInt_neg i

/-- `(-x) as i32 = -(x as i32)` for `|x| ≤ 2^31 - 1`.  Without the bound it is false:
`2^31 as i32 = 2^31 - 1` but `-2^31 as i32 = -2^31` (Rust's saturating cast). -/
theorem C13_toI32_neg {q : Rat} (h1 : -2147483647 ≤ q) (h2 : q ≤ 2147483647) :
    F32.toI32 (-q) = - F32.toI32 q := F32.toI32_neg h1 h2

/-- the bound in `C13_toI32_neg` cannot be dropped -/
example : F32.toI32 (-(2147483648 : Rat)) ≠ - F32.toI32 (2147483648 : Rat) := by decide +kernel
/-- the hypotheses of `C13_toI32_neg` are satisfiable by a non-integral value -/
example : (-2147483647 : Rat) ≤ 7/2 ∧ (7/2 : Rat) ≤ 2147483647 ∧ F32.toI32 (-(7/2 : Rat)) = -3 := by
  decide +kernel

/-- `impl Mul<f32> for Evaluation` is odd in the evaluation: `(-e) * w = -(e * w)` whenever
`|e| ≤ E < 2^24`, `|w| ≤ W` and `E·W < 2^24` (then `e as f32` is within the integers that `f32`
separates and the product cannot reach the saturation of `as i32`). -/
theorem C13_mulF_neg {e : Int} {w : Rat} {E W : Nat} (hE : E < 16777216) (hEW : E * W < 16777216)
    (he1 : -(E : Int) ≤ e) (he2 : e ≤ (E : Int)) (hw1 : -(W : Rat) ≤ w) (hw2 : w ≤ (W : Rat)) :
    Ev.mulF (-e) w = - Ev.mulF e w := Ev.mulF_neg hE hEW he1 he2 hw1 hw2

/-- the four generated evaluator weights (1.0, 0.8, 1.0, 0.2 as `f32` literals) satisfy `|w| ≤ 1` -/
theorem C13_weights_bounded : ∀ w ∈ evaluatorWeights, -1 ≤ w ∧ w ≤ 1 := by decide +kernel

/-- non-vacuity of `C13_mulF_neg` at an engine-sized value with the weight 0.8 -/
example : Ev.mulF (-(12345 : Int)) (mkRat 13421773 16777216) = -9876 ∧
    Ev.mulF (12345 : Int) (mkRat 13421773 16777216) = 9876 := by decide +kernel

/-! ## 2. the heuristic part -/

/-- bounds that make the side conditions hold for EVERY state: each evaluator's value is small
(`popcount ≤ 64`, table entries within ±50, `|end_game_weight| ≤ 19`). -/
theorem C13_evaluator_bounds (s : State) (c : Color) :
    (0 ≤ evalWorths (Variation.of s) c ∧ evalWorths (Variation.of s) c ≤ (777600 : Int)) ∧
    (-(748800 : Int) ≤ evalSquares (Variation.of s) c ∧ evalSquares (Variation.of s) c ≤ (748800 : Int)) ∧
    (-(1140 : Int) ≤ evalKingEdge (Variation.of s) c ∧ evalKingEdge (Variation.of s) c ≤ (1140 : Int)) ∧
    (-(720 : Int) ≤ evalBadPawns (Variation.of s) c ∧ evalBadPawns (Variation.of s) c ≤ 0) :=
  ⟨evalWorths_bounds _ c, evalSquares_bounds _ c (egw_bounded s), evalKingEdge_bounds _ c (egw_bounded s),
    evalBadPawns_bounds _ c⟩

/-- **C13_neg_heuristic'** (no hypotheses).  The weighted sum computed by `Evaluator::evaluate`
after the terminal checks satisfies `score(c.opp) = -score(c)` for every state: each term is
`((e1 - e2) as f32 * w) as i32`, swapping the perspective negates `e1 - e2`, and
`x ↦ (x as f32 * w) as i32` is odd on the range the evaluators can reach. -/
theorem C13_neg_heuristic' (s : State) (c : Color) :
    evalHeuristic (Variation.of s) c.opp = - evalHeuristic (Variation.of s) c := by
  have := evalHeuristic_neg _ (egw_bounded s) c.opp
  rwa [opp_opp] at this

/-! ## 3. the whole evaluator -/

/-- **C13_neg** (no hypotheses).  `Evaluator::evaluate(state, White, d) = -Evaluator::evaluate(state,
Black, d)` for every state and depth, including the mate (`∓mate_in_ply d`) and stalemate (`0`)
branches; `none` (= the Rust code panics: no king of the side to move, or the move generator
panics) on one side iff `none` on the other. -/
theorem C13_neg (s : State) (d : Nat) :
    evaluate s .white d = (evaluate s .black d).map (- ·) :=
  evaluate_neg d (by cases s.turn <;> rfl) (C13_neg_heuristic' s .black)

/-- **C13_neg**, arbitrary perspective. -/
theorem C13_neg' (s : State) (c : Color) (d : Nat) :
    evaluate s c.opp d = (evaluate s c d).map (- ·) :=
  evaluate_neg d (by cases s.turn <;> cases c <;> rfl) (C13_neg_heuristic' s c)

/-! ## 4. mirror symmetry -/

/-- the position used in the examples: `4k3/8/8/8/8/8/4P3/4K3 w - - 0 1` -/
def exS : State :=
  { pieces := { wk := 0x10, wp := 0x1000, bk := 0x1000000000000000 },
    turn := .white, castleW := .noRights, castleB := .noRights, ep := none, halfmove := 0, fullmove := 1 }

/-- `mirrorState` really is the colour mirror: `4k3/4p3/8/8/8/8/8/4K3 b - - 0 1` -/
example : mirrorState exS =
    { pieces := { bk := 0x1000000000000000, bp := 0x0010000000000000, wk := 0x10 },
      turn := .black, castleW := .noRights, castleB := .noRights, ep := none, halfmove := 0, fullmove := 1 } := by
  decide

/-- `mirrorState` is an involution (on states whose en-passant square, if any, is a square) -/
theorem mirrorState_involutive (s : State) (hep : ∀ t, s.ep = some t → t < 64) :
    mirrorState (mirrorState s) = s := by
  cases s with
  | mk pieces turn cw cb ep hm fm =>
    cases pieces
    simp only [mirrorState, mirrorPieces, bswap_bswap, opp_opp]
    congr 1
    cases ep with
    | none => rfl
    | some t => simp [flipRank_flipRank (hep t rfl)]

/-- **C13_mirror_heuristic_partial.**  For every state with at most one king per side, the
heuristic (non-terminal) score of the mirrored position from the mirrored perspective equals the
score of the position: `StateVariation::from` (counts, end-game weight) and each of the four
evaluators are equivariant — sums over `iter_ones` of a byte-swapped board are re-indexed sums,
`evaluate_piece_square` flips the rank for Black, file masks, Manhattan and edge distances are
flip-invariant.  This is `C13_mirror` for all positions in which the terminal branches are not
taken (see `C13_mirror`). -/
theorem C13_mirror_heuristic_partial (s : State) (hk : OneKing s) (c : Color) :
    evalHeuristic (Variation.of (mirrorState s)) c.opp = evalHeuristic (Variation.of s) c := by
  have h1 := evalWorths_mirror s; have h2 := evalSquares_mirror s
  have h3 := evalKingEdge_mirror s hk; have h4 := evalBadPawns_mirror s
  have a1 := h1 c.opp; have a2 := h2 c.opp; have a3 := h3 c.opp; have a4 := h4 c.opp
  rw [opp_opp] at a1 a2 a3 a4
  rw [evalHeuristic_eq, evalHeuristic_eq, h1 c, h2 c, h3 c, h4 c, opp_opp, a1, a2, a3, a4]

/-- `OneKing` is satisfiable, and the statement is not trivially `0 = 0` -/
example : OneKing exS ∧ evalHeuristic (Variation.of exS) .white = 125 ∧
    evalHeuristic (Variation.of (mirrorState exS)) .black = 125 := by
  refine ⟨?_, ?_, ?_⟩
  · intro c; cases c <;> decide
  · rw [variationOf_fast, evalHeuristic_fast]; decide +kernel
  · rw [variationOf_fast, evalHeuristic_fast]; decide +kernel

/-- two white kings (a1, a2) against a black king h8: the illegal state showing that `OneKing`
cannot be dropped — `first_one` picks a1 before the flip and a7 (= flipped a2) after it, so the
king-distance differs by one. -/
def twoKings : State :=
  { pieces := { wk := 0x0101, bk := 0x8000000000000000 },
    turn := .white, castleW := .noRights, castleB := .noRights, ep := none, halfmove := 0, fullmove := 1 }

theorem C13_mirror_needs_OneKing :
    evalHeuristic (Variation.of (mirrorState twoKings)) .black ≠ evalHeuristic (Variation.of twoKings) .white := by
  simp only [variationOf_fast, evalHeuristic_fast]; decide +kernel

/-- what `C13_mirror` still needs from the move generator: the terminal tests of
`Evaluator::evaluate` give the same answers on a position and on its mirror.  All three follow
from mirror-equivariance of the attack tables and of `compute_legal_moves` (`C13_terminal_agree` in
`Wee/Props/C13Closed.lean`, for legal positions). -/
structure MirrorTerminalAgree (s : State) : Prop where
  /-- the `king_has_move` shortcut (king square, king attacks, opponent attack map) agrees -/
  khm : kingHasMove (mirrorState s) = kingHasMove s
  /-- `State::is_check` agrees -/
  chk : (mirrorState s).isCheck = s.isCheck
  /-- `compute_legal_moves` panics / is empty on the mirror iff it does / is on the position -/
  moves : (legalMoves? (mirrorState s)).map List.isEmpty = (legalMoves? s).map List.isEmpty

/-- **C13_mirror** (relative to `MirrorTerminalAgree`).  `evaluate(mirror p, !c, d) = evaluate(p, c, d)`
for every depth, terminal branches included. -/
theorem C13_mirror (s : State) (hk : OneKing s) (hm : MirrorTerminalAgree s) (c : Color) (d : Nat) :
    evaluate (mirrorState s) c.opp d = evaluate s c d :=
  evaluate_congr d hm.khm hm.chk hm.moves
    (show (s.turn.opp == c.opp) = _ by cases s.turn <;> cases c <;> rfl) (C13_mirror_heuristic_partial s hk c)

/-- the hypotheses of `C13_mirror` hold for a concrete position (and both sides evaluate to 125) -/
example : OneKing exS ∧ MirrorTerminalAgree exS ∧ evaluate exS .white 0 = some 125 := by
  refine ⟨?_, ⟨?_, ?_, ?_⟩, ?_⟩
  · intro c; cases c <;> decide
  · simp only [kingHasMove_fast]; decide +kernel
  · simp only [isCheck_fast]; decide +kernel
  · simp only [legalMoves?_fast]; decide +kernel
  · rw [evaluate_fast]; decide +kernel

/-- the statement of `C13_mirror` without the generator hypothesis, for every state with `OneKing` (NOT proved in
this generality: the terminal branch needs a position on which `compute_legal_moves` is specified; for legal
positions it is `C13_mirror_closed` in `Wee/Props/C13Closed.lean`) -/
def C13_mirror_statement : Prop :=
  ∀ (s : State) (c : Color) (d : Nat), OneKing s → evaluate (mirrorState s) c.opp d = evaluate s c d

/-! ## 5. `i32` range -/

/-- **C13_i32_partial.**  For every state and perspective the values the evaluator computes in
`i32` are far inside `i32` (so modelling `Evaluation(i32)` by `Int` loses nothing): the four
evaluator results (`C13_evaluator_bounds`), their differences `e1 - e2`, the weighted terms
`(e1 - e2) * w`, the final sum, and the mate score for plies below `2^31` (for `ply as i32 <
-2147483637` the Rust expression `10 - (ply as i32)` itself overflows `i32`, which the `Int` model
does not show; unreachable, plies are search depths).  All `f32 → i32` casts stay below `2^24`, so
none saturates.  NOT covered (hence `_partial`): the running partial sums inside each evaluator's
loop (they obey the same fold bounds but are not stated), `Evaluator::estimate`, and the `u8`
counters of `StateVariation` (`color_counts[c] += count` is `u8` arithmetic: it cannot overflow
when no square holds two pieces, ≤ 64 per colour, but the model's `Nat` would hide an overflow on a
placement with more than 255 stacked pieces of one colour). -/
theorem C13_i32_partial (s : State) (c : Color) (d : Nat) :
    (∀ f ∈ evaluators, -(1497600 : Int) ≤ f (Variation.of s) c - f (Variation.of s) c.opp ∧
        f (Variation.of s) c - f (Variation.of s) c.opp ≤ (1497600 : Int)) ∧
    (∀ fw ∈ evaluators.zip evaluatorWeights,
        -(1497600 : Int) ≤ Ev.mulF (fw.1 (Variation.of s) c - fw.1 (Variation.of s) c.opp) fw.2 ∧
        Ev.mulF (fw.1 (Variation.of s) c - fw.1 (Variation.of s) c.opp) fw.2 ≤ (1497600 : Int)) ∧
    (-(2278200 : Int) ≤ evalHeuristic (Variation.of s) c ∧ evalHeuristic (Variation.of s) c ≤ (2278200 : Int)) ∧
    (d < 2^31 → (10000 : Int) ≤ Ev.mateInPly d ∧ Ev.mateInPly d ≤ (11000 : Int)) := by
  obtain ⟨⟨a1, a2⟩, ⟨b1, b2⟩, ⟨c1, c2⟩, ⟨d1, d2⟩⟩ := evaluator_diff_bounds (Variation.of s) (egw_bounded s) c
  obtain ⟨⟨w1, w1'⟩, ⟨w2, w2'⟩, ⟨w3, w3'⟩⟩ := weight_bounds
  refine ⟨?_, ?_, evalHeuristic_bounds _ (egw_bounded s) c, ?_⟩
  · intro f hf
    simp only [evaluators, List.mem_cons, List.not_mem_nil, or_false] at hf
    rcases hf with rfl | rfl | rfl | rfl <;> constructor <;> eomega
  · intro fw hfw
    simp only [evaluators, evaluatorWeights, List.zip_cons_cons, List.zip_nil_right, List.mem_cons,
      List.not_mem_nil, or_false] at hfw
    rcases hfw with rfl | rfl | rfl | rfl
    · have := mulF_abs_le (e := evalWorths (Variation.of s) c - evalWorths (Variation.of s) c.opp) (by eomega) w1 w1'
      constructor <;> (dsimp only; eomega)
    · have := mulF_abs_le (e := evalSquares (Variation.of s) c - evalSquares (Variation.of s) c.opp) (by eomega) w2 w2'
      constructor <;> (dsimp only; eomega)
    · have := mulF_abs_le (e := evalKingEdge (Variation.of s) c - evalKingEdge (Variation.of s) c.opp) (by eomega) w1 w1'
      constructor <;> (dsimp only; eomega)
    · have := mulF_abs_le (e := evalBadPawns (Variation.of s) c - evalBadPawns (Variation.of s) c.opp) (by eomega) w3 w3'
      constructor <;> (dsimp only; eomega)
  · intro hd
    unfold Ev.mateInPly Ev.posInf Ev.onePawn Gen.onePawn Gen.posInfFactor Gen.mateBonusPlies Gen.mateBonusFloor
    dsimp only
    constructor <;> eomega

end Wee.C13
