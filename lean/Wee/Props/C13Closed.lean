import Wee.Props.C13
import Wee.Props.C01
import Wee.Proofs.MirrorRules
/-!
# C13 closed: the evaluator is mirror-symmetric, terminal branches included

`Wee/Props/C13.lean` proves `C13_mirror` relative to `MirrorTerminalAgree s` (the three terminal tests of
`Evaluator::evaluate` — the `king_has_move` shortcut, `State::is_check`, emptiness of `compute_legal_moves` — agree
on a position and on its colour mirror).  Here that hypothesis is discharged for every legal position without
stacked pieces:

* the rules of chess are mirror-symmetric (`Wee/Proofs/MirrorRules.lean`: `Spec.step`, `attacksFrom`, `attackedBy`,
  `inCheck`, the pseudo-legal generators, `applyMove`, `isLegalAfter`, `legalMoves`, `LegalPos` are equivariant under
  `Spec.mirrorPos`);
* the abstraction commutes with the mirrors: `abs (mirrorState s) = Spec.mirrorPos (abs s)`;
* C10 (`colored_attacks`, `is_check` = rule-level attacked squares / check) and C01 (`compute_legal_moves` = rule-level
  legal moves) transport the symmetry to the engine's bitboard code.

Rust: `weechess-engine/src/eval/mod.rs` (`Evaluator::evaluate`, `king_has_move`), `weechess-core/src/movegen.rs`
(`compute_legal_moves`), `weechess-core/src/board.rs` (`colored_attacks`, `is_check`).
-/
namespace Wee.C13
open Wee.C10 (DisjointBoard)

/-! ## 1. the rules are mirror-symmetric (specification level) -/

/-- `Spec.step` is equivariant: from the flipped square, with the rank direction negated, one reaches the flipped
square (or leaves the board in both cases). -/
theorem C13_step_flip {sq : Nat} (h : sq < 64) (df dr : Int) :
    Spec.step (Spec.flip sq) df (-dr) = (Spec.step sq df dr).map Spec.flip := Spec.step_flip h df dr

/-- `Spec.attacksFrom` is equivariant: if a piece `(c, k)` on `s` attacks `t`, the piece `(c.opp, k)` on `flip s`
attacks `flip t` when the occupancy is flipped (pawn directions flip with the colour, knight/king offsets and slider
directions are closed under rank negation, rays are walked square by square). -/
theorem C13_attacksFrom_flip (occP occQ : Nat → Bool) (hocc : ∀ n, n < 64 → occQ (Spec.flip n) = occP n)
    (c : Spec.Color) (k : Spec.Kind) {s t : Nat} (hs : s < 64) (h : t ∈ Spec.attacksFrom occP c k s) :
    Spec.flip t ∈ Spec.attacksFrom occQ c.opp k (Spec.flip s) :=
  Spec.mem_attacksFrom_flip occP occQ hocc c k hs h

/-- "attacked by colour `c`" on the mirror = "attacked by the other colour" on the position, at the flipped square -/
theorem C13_attackedBy_mirror (p : Spec.Pos) (c : Spec.Color) {t : Nat} (ht : t < 64) :
    (Spec.mirrorPos p).attackedBy c.opp (Spec.flip t) = p.attackedBy c t := Spec.attackedBy_mirrorPos p c ht

/-- check is mirror-symmetric (any position whatsoever) -/
theorem C13_inCheck_mirror (p : Spec.Pos) (c : Spec.Color) : (Spec.mirrorPos p).inCheck c.opp = p.inCheck c :=
  Spec.inCheck_mirrorPos p c

/-- legality of positions is mirror-symmetric (64-cell boards; `mirrorPos` always builds 64 cells) -/
theorem C13_legalPos_mirror (p : Spec.Pos) (hsz : p.cells.size = 64) :
    Spec.LegalPos (Spec.mirrorPos p) = Spec.LegalPos p := Spec.legalPos_mirrorPos p hsz

/-- **the legal moves of the rules are mirror-symmetric**: for a legal position, the legal moves of the mirrored
position are, up to order, the mirrored legal moves (colour swapped, origin and destination flipped, all other
attributes kept); in particular there are equally many, and one list is empty iff the other is. -/
theorem C13_legalMoves_mirror (p : Spec.Pos) (hl : Spec.LegalPos p = true) :
    (Spec.legalMoves (Spec.mirrorPos p)).Perm ((Spec.legalMoves p).map Spec.mirrorMove) ∧
    (Spec.legalMoves (Spec.mirrorPos p)).length = (Spec.legalMoves p).length ∧
    (Spec.legalMoves (Spec.mirrorPos p)).isEmpty = (Spec.legalMoves p).isEmpty :=
  ⟨Spec.legalMoves_perm_mirror (Spec.mirror_of_legal hl), Spec.legalMoves_length_mirror (Spec.mirror_of_legal hl),
    Spec.legalMoves_isEmpty_mirror (Spec.mirror_of_legal hl)⟩

/-- make-move is mirror-symmetric on the cells: after a pseudo-legal move and after the mirrored move on the
mirrored board, cell `flip sq` of one is the colour-swapped cell `sq` of the other -/
theorem C13_applyMove_mirror (p : Spec.Pos) (hsz : p.cells.size = 64) (m : Spec.SMove) (hm : m ∈ Spec.pseudoMoves p)
    {sq : Nat} (hsq : sq < 64) :
    (Spec.applyMove (Spec.mirrorPos p) (Spec.mirrorMove m)).at (Spec.flip sq) =
      Spec.mirrorCell ((Spec.applyMove p m).at sq) := by
  obtain ⟨hs, hd, hc⟩ := Spec.pseudo_wf ((Spec.pseudo_iff _ _).1 hm)
  exact Spec.applyMove_mirrorAt (Spec.mirrorAt_mirrorPos p) hsz (by simp [Spec.mirrorPos]) m hs hd hc sq hsq

/-! ## 2. the abstraction commutes with the mirrors -/

/-- **`abs (mirrorState s) = Spec.mirrorPos (abs s)`**: reading the byte-swapped, colour-swapped bitboards as a
mailbox gives the mirrored mailbox.  Needs a placement without stacked pieces (`Board::piece_at` scans White first,
so a square holding a white and a black piece would be read differently before and after the swap). -/
theorem C13_abs_mirror (s : State) (hd : DisjointBoard s.pieces) :
    abs (mirrorState s) = Spec.mirrorPos (abs s) := abs_mirrorState s hd

/-- no stacked pieces on the mirror iff none on the position -/
theorem C13_disjoint_mirror (s : State) : DisjointBoard (mirrorState s).pieces ↔ DisjointBoard s.pieces :=
  disjointBoard_mirror s.pieces

/-- the mirror of a legal position is a legal position -/
theorem C13_legal_mirror (s : State) (hl : LegalPos s = true) (hd : DisjointBoard s.pieces) :
    LegalPos (mirrorState s) = true := legalPos_mirrorState s hl hd

/-- `Board::colored_attacks` of the mirror is the byte-swapped `colored_attacks` of the other colour -/
theorem C13_attacks_mirror (s : State) (hd : DisjointBoard s.pieces) (c : Color) :
    coloredAttacks (mirrorState s).pieces c.opp = bswap (coloredAttacks s.pieces c) := coloredAttacks_mirror s hd c

/-! ## 3. the terminal tests agree -/

/-- `State::is_check` agrees (C10 + equivariance of `inCheck`); no legality needed -/
theorem C13_check_agree (s : State) (hd : DisjointBoard s.pieces) : (mirrorState s).isCheck = s.isCheck := by
  have hd' : DisjointBoard (mirrorState s).pieces := (disjointBoard_mirror s.pieces).2 hd
  rw [C10.C10_state_check_closed _ hd', C10.C10_state_check_closed s hd]
  have : (abs (mirrorState s)).turn = (abs s).turn.opp := C10.absColor_opp s.turn
  rw [this]
  exact (mirrorAt_abs s hd).inCheck _

/-- the `king_has_move` shortcut agrees (C10 for the opponent's attack map, the king-attack table is symmetric,
occupancy is byte-swapped); needs at most one king per side because `first_one` is taken of the king bitboard -/
theorem C13_khm_agree (s : State) (hd : DisjointBoard s.pieces) (hk : OneKing s) :
    kingHasMove (mirrorState s) = kingHasMove s := by
  unfold kingHasMove
  have h1 : (mirrorState s).pieces.get (mirrorState s).turn .king = bswap (s.pieces.get s.turn .king) :=
    mirrorPieces_get s.pieces s.turn .king
  have h2 : coloredAttacks (mirrorState s).pieces (mirrorState s).turn.opp =
      bswap (coloredAttacks s.pieces s.turn.opp) := coloredAttacks_mirror s hd s.turn.opp
  have h3 : (mirrorState s).pieces.occ = bswap s.pieces.occ := mirrorPieces_occ s.pieces
  rw [h1, firstOne_bswap _ (hk s.turn), h2, h3]
  cases hf : firstOne (s.pieces.get s.turn .king) with
  | none => rfl
  | some k =>
    have hk64 := firstOne_lt _ _ hf
    simp only [Option.map_some]
    rw [kingAttacks_flip hk64, ← bswap_not, ← bswap_not, ← bswap_and, ← bswap_and, bbAny_bswap]

/-- the generated move count agrees (perft depth 1 is mirror-symmetric) -/
theorem C13_move_count_mirror (s : State) (hl : LegalPos s = true) (hd : DisjointBoard s.pieces) :
    (legalMoves (mirrorState s)).length = (legalMoves s).length := by
  rw [C01_count s hl hd, C01_count _ (legalPos_mirrorState s hl hd) ((disjointBoard_mirror s.pieces).2 hd)]
  exact Spec.legalMoves_length_mirror (mirror_abs s hl hd)

/-- `compute_legal_moves` neither panics on a legal position nor on its mirror, and returns an empty list on one
iff on the other (C01 twice + equivariance of the rule-level legal moves) -/
theorem C13_moves_agree (s : State) (hl : LegalPos s = true) (hd : DisjointBoard s.pieces) :
    (legalMoves? (mirrorState s)).map List.isEmpty = (legalMoves? s).map List.isEmpty := by
  have hlen := C13_move_count_mirror s hl hd
  rw [C02.legalMoves?_eq s hl hd, C02.legalMoves?_eq _ (legalPos_mirrorState s hl hd) ((disjointBoard_mirror s.pieces).2 hd)]
  generalize legalMoves s = L at hlen ⊢
  generalize legalMoves (mirrorState s) = L' at hlen ⊢
  cases L <;> cases L' <;> simp at hlen ⊢

/-- **the hypothesis of `C13_mirror` holds for every legal position without stacked pieces** -/
theorem C13_terminal_agree (s : State) (hl : LegalPos s = true) (hd : DisjointBoard s.pieces) :
    MirrorTerminalAgree s where
  khm := C13_khm_agree s hd (oneKing_of_legal s hl hd)
  chk := C13_check_agree s hd
  moves := C13_moves_agree s hl hd

/-! ## 4. the closed property -/

/-- **C13_mirror_closed.**  For every legal position whose bitboards do not overlap, every perspective and every
depth: `Evaluator::evaluate(mirror(state), !perspective, depth) = Evaluator::evaluate(state, perspective, depth)`,
where `mirror` reverses the ranks (`swap_bytes` on every bitboard), swaps the colours of all pieces, the side to move
and the castling rights, and flips the en-passant square.  All branches are covered: checkmate (`∓mate_in_ply`),
stalemate (`0`), and the weighted heuristic sum; neither side panics.  No hypothesis on the move generator or the
attack tables is left (C01, C09, C10 are used as theorems). -/
theorem C13_mirror_closed (s : State) (hl : LegalPos s = true) (hd : DisjointBoard s.pieces) (c : Color) (d : Nat) :
    evaluate (mirrorState s) c.opp d = evaluate s c d :=
  C13_mirror s (oneKing_of_legal s hl hd) (C13_terminal_agree s hl hd) c d

/-- **C13_neg** (restated from `Wee/Props/C13.lean`; no hypotheses at all): the score from one perspective is the
negation of the score from the other, panic iff panic. -/
theorem C13_neg_closed (s : State) (c : Color) (d : Nat) :
    evaluate s c.opp d = (evaluate s c d).map (- ·) := C13_neg' s c d

/-- both symmetries together: the mirrored position seen from the SAME colour has the negated score -/
theorem C13_mirror_neg (s : State) (hl : LegalPos s = true) (hd : DisjointBoard s.pieces) (c : Color) (d : Nat) :
    evaluate (mirrorState s) c d = (evaluate s c d).map (- ·) := by
  have h1 := C13_mirror_closed s hl hd c.opp d
  rw [opp_opp] at h1
  rw [h1]; exact C13_neg' s c d

/-- the full statement announced in `C13.lean` (`C13_mirror_statement` quantifies over all states with one king per
side; the terminal branch needs a position on which the move generator is specified, i.e. a legal one) -/
def C13_mirror_closed_statement : Prop :=
  ∀ (s : State) (c : Color) (d : Nat), LegalPos s = true → DisjointBoard s.pieces →
    evaluate (mirrorState s) c.opp d = evaluate s c d

theorem C13_mirror_closed_holds : C13_mirror_closed_statement :=
  fun s c d hl hd => C13_mirror_closed s hl hd c d

/-! ## 5. non-vacuity -/

/-- the hypotheses hold for `4k3/8/8/8/8/8/4P3/4K3 w - - 0 1` (`exS` of `C13.lean`) … -/
example : DisjointBoard exS.pieces := by decide
set_option maxRecDepth 1000000 in
example : LegalPos exS = true := by rw [legalPos_abs]; decide +kernel

/-- … and the theorem instantiated there: both sides are `some 125` (kernel evaluation, independent of the proof) -/
example : evaluate (mirrorState exS) .black 0 = evaluate exS .white 0 :=
  C13_mirror_closed exS (by rw [legalPos_abs]; decide +kernel) (by decide) .white 0
example : evaluate exS .white 0 = some 125 ∧ evaluate (mirrorState exS) .black 0 = some 125 := by
  simp only [evaluate_fast]; decide +kernel

/-- a position in which the TERMINAL branch is taken (no sliders, so the kernel can evaluate it):
`8/8/8/8/8/k1n5/p7/K7 w - - 0 1` — White Ka1; Black Ka3, Pa2, Nc3; White to move is stalemated
(b1 is attacked by the pawn and the knight, b2 by the king, the pawn a2 is defended by the king). -/
def staleNP : State :=
  { pieces := { wk := 0x1, bk := 0x10000, bp := 0x100, bn := 0x40000 },
    turn := .white, castleW := .noRights, castleB := .noRights, ep := none, halfmove := 0, fullmove := 1 }

example : DisjointBoard staleNP.pieces := by decide
set_option maxRecDepth 1000000 in
example : LegalPos staleNP = true := by rw [legalPos_abs]; decide +kernel
set_option maxRecDepth 1000000 in
/-- stalemate: value 0 on both sides, through the terminal branch (`king_has_move` is false) -/
example : kingHasMove staleNP = some false ∧ evaluate staleNP .white 3 = some 0 ∧
    evaluate (mirrorState staleNP) .black 3 = some 0 := by
  simp only [kingHasMove_fast, evaluate_fast]; decide +kernel
example (c : Color) (d : Nat) : evaluate (mirrorState staleNP) c.opp d = evaluate staleNP c d :=
  C13_mirror_closed staleNP (by rw [legalPos_abs]; decide +kernel) (by decide) c d

end Wee.C13
