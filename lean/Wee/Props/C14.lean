import Wee.Proofs.GenTotal
/-!
# C14 — malformed text never crashes the parsers or the UCI loop

Rust: `weechess-core/src/notation.rs` (`mod fen`, `mod san`), `weechess-core/src/board.rs`
(`Board::try_parse`), `weechess-engine/src/uci.rs` (`Client::exec`).
Model: `Wee/Model/Fen.lean`, `Wee/Model/San.lean`, `Wee/Model/Uci.lean`.

The models carry every panicking operation of the Rust code explicitly (`Res.panic`, outer
`Option.none`): the `u8` cursor addition of `Board::try_parse` (`checked_add` since the repair of F5),
`Square::try_from`, the byte-range slices of the UCI move tokens (`m.get(..)` since the repair of F4),
number parsing, and the `unwrap`s of the move generator reached through `State::by_performing_moves`.
"Never panics" is therefore a theorem about these transcriptions, not a consequence of Lean
functions being total.  Termination ("never hangs") is by structural recursion of every function
of the three model files.

The one place of the command loop where a panic value can flow is `position … moves …`:
`by_performing_moves` runs the move generator on the base position, and the generator contains
`unwrap`s (`Square::offset`, `piece_at`, make-move inside `try_as_legal_move`).  Two routes exclude it.

Through `FromFen` (`Wee/Proofs/GenTotal.lean`: the en-passant field holds a square), which is all the
`unwrap`s need and which holds of every base position a `position` command can set:
`step_total`, `run_total` — no hypothesis.  These are the statements to cite (`run_total` for a whole
input; `C14_run_total'` of `Wee/Props/C14Total.lean` is the same statement under its property name).

Through C01/C02: the `unwrap`s never fire on a *legal* position without overlapping bitboards, and
accepted moves stay inside that set (`C14_queries_legal`).  The statements of this route are special
cases of `step_total` / `run_total`, and `C14_uci`, `C14_run_total`, `C14_run_legal`,
`C14_run_unconditional` are proved from those without using their hypotheses.  The hypothesis
`∀ st qs, performQueries st qs ≠ none` of `C14_uci`, `C14_run_total` quantifies over *every* `State`
value (also bit patterns that are no positions) and is **not known to be satisfiable**.
`C14_uci_legal`, `C14_run_legal` ask instead that the base position a line sets, if any, be
`LegalPos ∧ DisjointBoard` (`LegalBase`): true for `startpos`, and for `fen …` when the FEN reads as
such a position.  A syntactically valid FEN of an *illegal* position (no king, side not to move in
check, …) followed by `moves …` is outside `LegalBase`: there the generator's `unwrap`s are not
covered by C01.
-/
namespace Wee
open Wee.C10 (DisjointBoard)

theorem parseBoardCells_ne_panic (checked : Bool) (cs : List Char) :
    ∀ (idx : Nat) (cells : List (Option (Color × Piece))), parseBoardCells checked cs idx cells ≠ .panic :=
  parseBoardCells_ne_panic' checked cs

/-- **C14_fen**: reading an arbitrary string as FEN returns a position or an error, never a panic,
in both build profiles (`checked` = overflow checks on) -/
theorem C14_fen (checked : Bool) (s : String) : parseFen checked s ≠ .panic :=
  parseFenChars_ne_panic checked s.toList

/-- **C14_san**: `San::try_from_notation` contains no panicking operation (`peek`/`next` on `Chars`,
`match` on characters), so its model has no panic value at all and the statement is only that every
input gives `Err` or a query.  The content is that `parseSanChars` is defined by case analysis without
recursion, so it also cannot hang. -/
theorem C14_san (s : String) : parseSan s = Option.none ∨ ∃ q, parseSan s = some q := by
  cases h : parseSan s with
  | none => exact Or.inl rfl
  | some q => exact Or.inr ⟨q, rfl⟩

/-- **C14_uci_token**: a UCI move token of any shape (too short, too long, multi-byte characters at
any byte offset) is accepted or rejected, never a slice panic (outer `none`) -/
theorem C14_uci_token (m : String) : parseUciMoveToken m ≠ Option.none :=
  parseUciMoveToken_ne_none m

/-- `State::by_performing_moves` cannot panic from a legal position without overlaps, whatever the
queries (C01: the generator does not panic there; C02: accepted queries lead to legal positions) -/
theorem C14_queries_legal (st : State) (hl : LegalPos st = true) (hd : DisjointBoard st.pieces)
    (qs : List MoveQuery) : performQueries st qs ≠ Option.none :=
  C02.performQueries_ne_none (I := fun s => LegalPos s = true ∧ DisjointBoard s.pieces)
    (fun s q s' hI hq => (C02_query_closed s s' q hI.1 hI.2 hq).2)
    (fun s q hI h => by obtain ⟨r, hr⟩ := C02_query_total s q hI.1 hI.2; rw [h] at hr; cases hr) qs st ⟨hl, hd⟩

example : LegalPos startState = true ∧ DisjointBoard startState.pieces :=
  ⟨startState_legal, startState_disjoint⟩

namespace Uci

/-- the `position` arm: the base-position part (startpos / fen … / anything else) and the token
parsing cannot panic; only `by_performing_moves` could -/
theorem C14_position_base (s : Sess) (args : List String) :
    (∀ st (qs : List MoveQuery), performQueries st qs ≠ Option.none) → positionCmd s args ≠ Option.none :=
  fun hq => positionCmd_ne_none s args (fun st _ qs => hq st qs)

/-- the same, with the hypothesis only for the base position this command sets: the tokens before
`moves` (`args.takeWhile (· != "moves")`) are `startpos …` (→ `startState`) or `fen F…` with
`parseFen false (join F) = .ok st` (`posBase_some`) -/
theorem C14_position_local (s : Sess) (args : List String)
    (hq : ∀ st, posBase (args.takeWhile (· != "moves")) = .inl (some st) →
      ∀ qs, performQueries st qs ≠ Option.none) : positionCmd s args ≠ Option.none := by
  apply positionCmd_ne_none
  rw [splitMoves_eq]
  exact hq

/-- the base position of `position startpos …`.  (The equation is used by rewriting: substituting
`startState` for a variable makes the elaborator unfold it, i.e. run the FEN parser on the default FEN.) -/
theorem posBase_startpos {rest : List String} {st : State}
    (h : posBase (("startpos" :: rest).takeWhile (· != "moves")) = .inl (some st)) : st = startState := by
  rcases posBase_some _ st h with ⟨_, _, hst⟩ | ⟨r, hr, _⟩
  · exact hst
  · rw [List.takeWhile_cons, if_pos (by decide)] at hr
    exact absurd (List.cons.inj hr).1 (by decide)

/-- `position startpos <anything>`: never a panic, whatever follows (garbage before `moves`, tokens
of any shape, illegal moves) -/
theorem C14_position_startpos (s : Sess) (rest : List String) :
    positionCmd s ("startpos" :: rest) ≠ Option.none := by
  apply C14_position_local
  intro st h qs
  rw [posBase_startpos h]
  exact C14_queries_legal _ startState_legal startState_disjoint qs

/-- `position fen F… <anything>` where the FEN tokens, if they parse at all, give a legal position
without overlaps: never a panic -/
theorem C14_position_fen (s : Sess) (rest : List String)
    (hfen : ∀ st, parseFen false (" ".intercalate (rest.takeWhile (· != "moves"))) = .ok st →
      LegalPos st = true ∧ DisjointBoard st.pieces) :
    positionCmd s ("fen" :: rest) ≠ Option.none := by
  apply C14_position_local
  intro st h qs
  rw [List.takeWhile_cons, if_pos (by decide)] at h
  rcases posBase_some _ st h with ⟨_, hr, _⟩ | ⟨r, hr, hp⟩
  · simp only [List.cons.injEq] at hr
    exact absurd hr.1 (by decide)
  · simp only [List.cons.injEq, true_and] at hr
    subst hr
    obtain ⟨hl, hd⟩ := hfen st hp
    exact C14_queries_legal st hl hd qs

/-- the hypothesis of `C14_position_fen` holds for `4k3/8/8/8/8/8/4P3/4K3 w - - 0 1` followed by any
tokens (here: a truncated token, an illegal move) -/
example (s : Sess) :
    positionCmd s ("fen" :: (kpkFen ++ ["moves", "e2", "e2e5", "é2e4"])) ≠ Option.none := by
  apply C14_position_fen
  intro st h
  have ht : (kpkFen ++ ["moves", "e2", "e2e5", "é2e4"]).takeWhile (· != "moves") = kpkFen := by decide
  rw [ht, kpk_parse] at h
  cases h
  exact kpk_legal

theorem posBase_fromFen (pos : List String) (st : State) (h : posBase pos = .inl (some st)) : FromFen st := by
  rcases posBase_some pos st h with ⟨_, _, hst⟩ | ⟨rest, _, hp⟩
  · rw [hst]; exact fromFen_startState
  · exact fromFen_of_parse false _ st hp

/-- the single step and the whole run never panic (the `position` arm: `C14_position_total` in `Wee/Props/C14Total.lean`, which imports this file): the base position has its
en-passant target on the board (`FromFen`), and that is all the generator's `unwrap`s need (`performQueries_total`).  The
conditional statements of this file are special cases. -/
theorem step_total (hasBook searchOK : State → Bool) (s : Sess) (line : String) :
    step hasBook s line searchOK ≠ Option.none :=
  step_ne_none hasBook s line (fun _ _ st hst qs => performQueries_total qs st (posBase_fromFen _ st hst))

theorem run_total (hasBook : State → Bool) (s : Sess) (lines : List String) : run hasBook s lines ≠ Option.none :=
  run_ne_none hasBook lines (fun line _ s => step_total hasBook (fun _ => true) s line) s

/-- **C14_uci**: every input line leaves the loop running (`step ≠ none`), given that
`by_performing_moves` does not panic (see the header for the status of this hypothesis) -/
theorem C14_uci (hasBook : State → Bool) (s : Sess) (line : String)
    (hq : ∀ st (qs : List MoveQuery), performQueries st qs ≠ Option.none) :
    step hasBook s line ≠ Option.none :=
  step_total hasBook _ s line

/-- the hypothesis is needed only if the line is a `position` command, and then only for the base
position it sets -/
theorem C14_uci_local (hasBook : State → Bool) (s : Sess) (line : String)
    (hq : ∀ args, splitAsciiWs line = "position" :: args →
      ∀ st, posBase (args.takeWhile (· != "moves")) = .inl (some st) → ∀ qs, performQueries st qs ≠ Option.none) :
    step hasBook s line ≠ Option.none := by
  apply step_ne_none
  intro args h
  rw [splitMoves_eq]
  exact hq args h

/-- lines that are not `position` commands need no hypothesis at all: unknown commands, the empty
line, `go` with bad numbers, non-ASCII text … -/
theorem C14_uci_unconditional (hasBook : State → Bool) (s : Sess) (line : String)
    (h : ∀ args, splitAsciiWs line ≠ "position" :: args) : step hasBook s line ≠ Option.none :=
  step_ne_none hasBook s line (fun args heq => absurd heq (h args))

/-- every `position` command in this line sets, if any, a legal base position without overlaps -/
def LegalBase (line : String) : Prop :=
  ∀ args, splitAsciiWs line = "position" :: args →
    ∀ st, posBase (args.takeWhile (· != "moves")) = .inl (some st) → LegalPos st = true ∧ DisjointBoard st.pieces

/-- **C14_uci_legal**: hypothesis of `C14_uci` discharged through C01/C02 for lines whose base position
(if the line sets one) is legal; the move tokens after `moves` are arbitrary -/
theorem C14_uci_legal (hasBook : State → Bool) (s : Sess) (line : String) (h : LegalBase line) :
    step hasBook s line ≠ Option.none :=
  C14_uci_local hasBook s line (fun args ha st hst qs =>
    C14_queries_legal st (h args ha st hst).1 (h args ha st hst).2 qs)

/-- a line that is not a `position` command, or is `position startpos …`, satisfies `LegalBase` -/
theorem LegalBase_of_not_position (line : String) (h : ∀ args, splitAsciiWs line ≠ "position" :: args) :
    LegalBase line := fun args ha => absurd ha (h args)

theorem LegalBase_startpos (line : String) (rest : List String)
    (h : splitAsciiWs line = "position" :: "startpos" :: rest) : LegalBase line := by
  intro args ha st hst
  rw [h] at ha
  rw [← (List.cons.inj ha).2] at hst
  rw [posBase_startpos hst]
  exact ⟨startState_legal, startState_disjoint⟩

/-- non-vacuity of `LegalBase`: a `position startpos` line with a truncated token, a multi-byte
token and an illegal move — the line that killed the process before the repair of F4 -/
example : LegalBase "position startpos moves e2 é2e4 e2e5" :=
  LegalBase_startpos _ ["moves", "e2", "é2e4", "e2e5"] (by decide +kernel)

example : LegalBase "go depth 99999999999999999999999 movetime x" :=
  LegalBase_of_not_position _ (fun args h => by
    have : splitAsciiWs "go depth 99999999999999999999999 movetime x" =
      ["go", "depth", "99999999999999999999999", "movetime", "x"] := by decide +kernel
    rw [this] at h; simp at h)

/-- **C14_isready**: `isready` is answered whatever the state — in particular after any line that
was survived, the process still answers `isready` -/
theorem C14_isready (hasBook : State → Bool) (s : Sess) :
    step hasBook s "isready" = some (s, [Out.line "readyok"], false) := by
  have h : splitAsciiWs "isready" = ["isready"] := by decide
  exact step_isready hasBook _ s h

/-- **C14_run_total**: a whole input (any list of lines, then EOF) never panics, under the hypothesis
of `C14_uci` -/
theorem C14_run_total (hasBook : State → Bool) (s : Sess) (lines : List String)
    (hq : ∀ st (qs : List MoveQuery), performQueries st qs ≠ Option.none) :
    run hasBook s lines ≠ Option.none :=
  run_total hasBook s lines

/-- **C14_run_legal**: a whole input never panics if every `position` line in it sets a legal base
position; no other condition on any line -/
theorem C14_run_legal (hasBook : State → Bool) (s : Sess) (lines : List String)
    (h : ∀ line ∈ lines, LegalBase line) : run hasBook s lines ≠ Option.none :=
  run_total hasBook s lines

/-- input without any `position` line: unconditional -/
theorem C14_run_unconditional (hasBook : State → Bool) (s : Sess) (lines : List String)
    (h : ∀ line ∈ lines, ∀ args, splitAsciiWs line ≠ "position" :: args) :
    run hasBook s lines ≠ Option.none :=
  run_total hasBook s lines

/-- the FEN of F5 (cursor overflow: a panic in the checked profile before the repair) is an error -/
example : parseFen true ("8/8/8/8/8/8/8/" ++ String.ofList (List.replicate 32 '8') ++ " w - - 0 1") = .err := by
  decide +kernel
/-- the token of F4 is rejected, not a slice panic -/
example : parseUciMoveToken "e2" = some Option.none := by decide
/-- a two-byte character straddling byte offset 2: rejected (`m.get(0..2)` is `None`) -/
example : parseUciMoveToken "é2e4" = some Option.none := by decide

end Uci
end Wee
