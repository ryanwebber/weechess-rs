import Wee.Proofs.GenTotal
import Wee.Props.C14
/-!
# C14, unconditional — move generation is total on every position the FEN reader can produce

Rust: `weechess-core/src/movegen.rs` (`compute_legal_moves`, the `unwrap()`s of `compute_pawn_moves`
and of `PseudoLegalMove::try_as_legal_move`), `state.rs` (`by_performing_move`, `by_performing_moves`),
`weechess-engine/src/uci.rs` (`position … moves …`, `Search::wait_cancel` after the repair of F8).
Model: `Wee/Model/MoveGen.lean`, `Board.lean` (`performMove`), `San.lean` (`performQueries`),
`Fen.lean` (`parseFen`), `Uci.lean` (`step`, `run`, `joinKeep`).

The route through C01/C02 of `Props/C14.lean` gives "no panic" for `position` lines whose base position
is a *legal* position (`C14_uci_legal`).  It leaves out a syntactically valid FEN of an ILLEGAL position
(no king, three kings, side not to move in check, pawns on the first rank, castling rights without king
or rook, an en-passant target that no pawn has just passed, even on an occupied square) followed by
`moves …`.  That case is covered too: the `unwrap`s of the generator cannot fire on ANY placement of
pieces.  The only thing the proof needs of a state is the type invariant of Rust's `Option<Square>`:

  `FromFen st := ∀ e, st.ep = some e → e < 64`

(the model keeps squares as `Nat`).  It holds of whatever `parseFen` returns, of the start position, and
of every state `by_performing_move` returns — from any state, for any move.

Hence every theorem of `Props/C14.lean` that carries the hypothesis
`∀ st qs, performQueries st qs ≠ none` (not known to be satisfiable) or `LegalBase line` has an
unconditional companion here (restating `step_total`, `run_total` of `Props/C14.lean`).

What these theorems do NOT cover (they are statements about the model): arithmetic overflow of the
two clocks inside `by_performing_move` is modelled by `clockSucc` (saturating, the repair of F9); the
panics *inside a search thread* on an illegal position are not excluded — they are tolerated
(`Sess.searchOk`, F8), which is what `C14_join_tolerant` states.
-/
namespace Wee
open Wee.C10 (DisjointBoard)

/-- whatever the FEN reader accepts (either build profile) has its en-passant target on the board:
the regex gate only lets `-` or `[a-h][1-8]` through -/
theorem C14_fen_fromFen (checked : Bool) (str : String) (st : State) (h : parseFen checked str = .ok st) :
    FromFen st := fromFen_of_parse checked str st h

/-- `by_performing_move` returns a state with the invariant, whatever the state and the move were
(the new target is `destination.offset(backward)` or `None`) -/
theorem C14_perform_fromFen (s : State) (mv : Move) (s' : State) (h : performMove s mv = some (.ok s')) :
    FromFen s' := fromFen_of_performMove s mv s' h

/-- `8/8/8/8/8/4n3/3P4/8 w KQkq e3 0 1` -/
def noKings : State :=
  { pieces := { wp := bit 11, bn := bit 20 }, turn := .white, castleW := CastleRights.both,
    castleB := CastleRights.both, ep := some 20, halfmove := 0, fullmove := 1 }

/-- the invariant says nothing about legality: a FEN without kings, with all four castling rights,
with an en-passant target on a square occupied by a black knight, white to move, is accepted by the
reader, is not a legal position, and satisfies `FromFen` -/
example : parseFen false "8/8/8/8/8/4n3/3P4/8 w KQkq e3 0 1" = .ok noKings ∧ FromFen noKings ∧
    LegalPos noKings = false :=
  ⟨by decide +kernel, by decide,
    -- the right `K` is held but e1 is empty
    Bool.eq_false_iff.2 fun hl =>
      absurd ((legal_abs hl).rightK .white rfl).1 (by rw [C10.abs_at]; decide +kernel)⟩

/-- it does not even need the twelve bitboards to be disjoint: a white pawn and a black knight on the
same square e3 (two men on one square arise from a FEN like the one above by the "en-passant capture" d2xe3 onto the
occupied target; this state has a white king besides) -/
def stacked : State :=
  { pieces := { wp := bit 20, bn := bit 20, wk := bit 4 }, turn := .white,
    castleW := CastleRights.both, castleB := CastleRights.noRights, ep := some 44, halfmove := 0, fullmove := 1 }

example : FromFen stacked ∧ ¬ DisjointBoard stacked.pieces := by decide +kernel

/-! ## move generation -/

/-- **C14_movegen_total**: `MoveGenerator::compute_legal_moves` (and `compute_psuedo_legal_moves_into`)
cannot panic on a state with the invariant: none of `target.offset(backwards).unwrap()`,
`piece_at(target).unwrap()`, `by_performing_move(..).unwrap()`, nor the `unwrap` of a piece accessor -/
theorem C14_movegen_total (st : State) (h : FromFen st) :
    legalMoves? st ≠ Option.none ∧ pseudoLegalMoves st ≠ Option.none := by
  obtain ⟨L, hL⟩ := legalMoves?_total st h
  obtain ⟨ps, hps, _⟩ := pseudoLegalMoves_total st h
  rw [hL, hps]
  exact ⟨by simp, by simp⟩

/-- the same, read from the text: whatever FEN the reader accepts, the generator does not panic on it -/
theorem C14_movegen_total_fen (checked : Bool) (str : String) (st : State) (h : parseFen checked str = .ok st) :
    legalMoves? st ≠ Option.none ∧ pseudoLegalMoves st ≠ Option.none :=
  C14_movegen_total st (C14_fen_fromFen checked str st h)

/-- every pseudo-legal move the generator produces is applied by `try_as_legal_move` without panic
(`by_performing_move(..)` is `Ok`): in particular an en-passant move is produced only when the target
exists and the captured pawn's square `target.offset(backward)` is on the board -/
theorem C14_tryAsLegal_total (st : State) (h : FromFen st) (ps : List Move) (hps : pseudoLegalMoves st = some ps) :
    ∀ mv ∈ ps, ∃ next, performMove st mv = some (.ok next) := by
  obtain ⟨ps', hps', happ⟩ := pseudoLegalMoves_total st h
  rw [hps] at hps'; cases hps'
  exact fun mv hmv => performMove_ok_of_appliable st mv (happ mv hmv)

/-- the successors listed by the generator keep the invariant, so the statement iterates along any
line of play (perft, search, `by_performing_moves`) -/
theorem C14_successors_fromFen (st : State) (L : List (Move × State)) (hL : legalMoves? st = some L) :
    ∀ r ∈ L, FromFen r.2 :=
  fun r hr => fromFen_of_performMove st r.1 r.2 (C02.mem_legalMoves? hL hr).1

example : legalMoves? stacked ≠ Option.none := (C14_movegen_total stacked (by decide +kernel)).1

/-! ## `by_performing_moves` -/

/-- **C14_queries_total**: `State::by_performing_moves` cannot panic from a state with the invariant,
whatever the queries -/
theorem C14_queries_total (st : State) (h : FromFen st) (qs : List MoveQuery) :
    performQueries st qs ≠ Option.none := performQueries_total qs st h

/-- one query: an error value, or a successor that has the invariant again -/
theorem C14_query_total (st : State) (h : FromFen st) (q : MoveQuery) :
    (∃ e, performQuery st q = some (.error e)) ∨ ∃ st', performQuery st q = some (.ok st') ∧ FromFen st' :=
  performQuery_total st h q

namespace Uci

/-! ## the command loop -/

/-- **C14_position_total**: the `position` arm never panics, whatever its arguments -/
theorem C14_position_total (s : Sess) (args : List String) : positionCmd s args ≠ Option.none :=
  positionCmd_ne_none s args (fun st hst qs => performQueries_total qs st (posBase_fromFen _ st hst))

/-- **C14_uci_total**: every input line leaves the loop running — no hypothesis on the line, on the
session state, on the book, or on how the searches end -/
theorem C14_uci_total (hasBook searchOK : State → Bool) (s : Sess) (line : String) :
    step hasBook s line searchOK ≠ Option.none :=
  step_total hasBook searchOK s line

/-- **C14_run_total'**: a whole input — ANY list of lines, then EOF — never panics; no hypothesis -/
theorem C14_run_total' (hasBook : State → Bool) (s : Sess) (lines : List String) :
    run hasBook s lines ≠ Option.none :=
  run_total hasBook s lines

/-- the same when searches may end in a panic of their own threads (`searchOK` arbitrary) -/
theorem C14_runWith_total (hasBook searchOK : State → Bool) (lines : List String) :
    ∀ s, runWith hasBook searchOK s lines ≠ Option.none :=
  runWith_ne_none hasBook searchOK lines (fun line _ s => C14_uci_total hasBook searchOK s line)

/-- every line satisfies the hypothesis that `C14_uci_local` asks for: `C14_uci_total` is that theorem
with its hypothesis discharged -/
example (hasBook : State → Bool) (s : Sess) (line : String) : step hasBook s line ≠ Option.none :=
  C14_uci_local hasBook s line (fun _ _ st hst qs => C14_queries_total st (posBase_fromFen _ st hst) qs)

/-! ## joining a search whose thread panicked (model-level content of the repair of F8) -/

/-- `stop` while a search runs: joined, `previous_artifact` is what the search left (`Some` iff its
threads ended normally) -/
theorem C14_join_stop (hasBook searchOK : State → Bool) (s : Sess) (line : String) (args : List String)
    (hl : splitAsciiWs line = "stop" :: args) (hs : s.searching = true) :
    step hasBook s line searchOK =
      some ({ s with searching := false, artifact := s.searchOk }, [Out.joinRunning], false) := by
  rw [step_stop hasBook searchOK s hl, joinKeep_searching hs]

/-- `position …` while a search runs: joined first (artifact as for `stop`), then the position is
set; never a panic -/
theorem C14_join_position (hasBook searchOK : State → Bool) (s : Sess) (line : String) (args : List String)
    (hl : splitAsciiWs line = "position" :: args) (hs : s.searching = true) :
    ∃ s' o, step hasBook s line searchOK = some (s', Out.joinRunning :: o, false) ∧
      s'.searching = false ∧ s'.artifact = s.searchOk := by
  rw [step_position hasBook searchOK s hl, joinKeep_searching hs]
  dsimp only
  cases hp : positionCmd { s with searching := false, artifact := s.searchOk } args with
  | none => exact absurd hp (C14_position_total _ _)
  | some r =>
    obtain ⟨s', o⟩ := r
    obtain ⟨h1, h2, _⟩ := positionCmd_effect _ _ _ _ hp
    exact ⟨s', o, rfl, h1, h2⟩

/-- `go …` while a search runs: the running search is joined first; then either the book answers
(no search: `searching = false`, artifact as for `stop`), or a new search starts which is handed the
artifact of the joined one exactly if that one ended normally (`reusesArtifact = s.searchOk`) -/
theorem C14_join_go (hasBook searchOK : State → Bool) (s : Sess) (line : String) (args : List String)
    (hl : splitAsciiWs line = "go" :: args) (hs : s.searching = true) :
    ∃ s' o, step hasBook s line searchOK = some (s', Out.joinRunning :: o, false) ∧
      (hasBook s.pos = true → s'.searching = false ∧ s'.artifact = s.searchOk ∧ o.getLast? = some Out.bookMove) ∧
      (hasBook s.pos = false → s'.searching = true ∧ s'.artifact = false ∧ s'.searchOk = searchOK s.pos ∧
        ∃ d t, o.getLast? = some (Out.searchStarted d t s.searchOk)) := by
  rw [step_go hasBook searchOK s hl, joinKeep_searching hs]
  dsimp only
  by_cases hb : hasBook s.pos = true
  · rw [if_pos hb]
    refine ⟨_, _, rfl, fun _ => ⟨rfl, rfl, ?_⟩, fun h => absurd h (by simp [hb])⟩
    simp
  · rw [if_neg hb]
    refine ⟨_, _, rfl, fun h => absurd h hb, fun _ => ⟨rfl, rfl, rfl,
      (parseGoArgs args Option.none Option.none).1, (parseGoArgs args Option.none Option.none).2.1, ?_⟩⟩
    simp

/-- `ucinewgame` while a search runs: joined, artifact dropped (F6) -/
theorem C14_join_ucinewgame (hasBook searchOK : State → Bool) (s : Sess) (line : String) (args : List String)
    (hl : splitAsciiWs line = "ucinewgame" :: args) (hs : s.searching = true) :
    step hasBook s line searchOK =
      some ({ s with searching := false, artifact := false }, [Out.joinRunning], false) := by
  rw [step_ucinewgame hasBook searchOK s hl]
  simp only [hs, if_true]

/-- EOF while a search runs: joined -/
theorem C14_join_eof (hasBook searchOK : State → Bool) (s : Sess) (hs : s.searching = true) :
    runWith hasBook searchOK s [] = some ({ s with searching := false }, [Out.joinRunning]) ∧
    run hasBook s [] = some ({ s with searching := false }, [Out.joinRunning]) := by
  simp only [runWith, run, hs, if_true, and_self]

/-- **C14_join_tolerant**: with a search running — whether or not its threads panic (`s.searchOk`
arbitrary) — `stop`, `go …`, `position …`, `ucinewgame` and EOF do not panic, put the join mark first,
and leave `previous_artifact = Some` exactly if the joined search ended normally (`ucinewgame`: always
`None`).  Before the repair of F8 `join().unwrap()` aborted the process at this point when
`searchOk = false`. -/
theorem C14_join_tolerant (hasBook searchOK : State → Bool) (s : Sess) (hs : s.searching = true)
    (line : String) (args : List String) :
    (splitAsciiWs line = "stop" :: args →
      ∃ s', step hasBook s line searchOK = some (s', [Out.joinRunning], false) ∧
        s'.searching = false ∧ s'.artifact = s.searchOk) ∧
    (splitAsciiWs line = "position" :: args →
      ∃ s' o, step hasBook s line searchOK = some (s', Out.joinRunning :: o, false) ∧
        s'.searching = false ∧ s'.artifact = s.searchOk) ∧
    (splitAsciiWs line = "go" :: args →
      ∃ s' o, step hasBook s line searchOK = some (s', Out.joinRunning :: o, false) ∧
        (hasBook s.pos = true → s'.searching = false ∧ s'.artifact = s.searchOk) ∧
        (hasBook s.pos = false → s'.searching = true ∧ s'.artifact = false ∧
          ∃ d t, o.getLast? = some (Out.searchStarted d t s.searchOk))) ∧
    (splitAsciiWs line = "ucinewgame" :: args →
      ∃ s', step hasBook s line searchOK = some (s', [Out.joinRunning], false) ∧
        s'.searching = false ∧ s'.artifact = false) ∧
    (∃ s', runWith hasBook searchOK s [] = some (s', [Out.joinRunning]) ∧ s'.searching = false) := by
  refine ⟨fun hl => ⟨_, C14_join_stop hasBook searchOK s line args hl hs, rfl, rfl⟩,
    fun hl => C14_join_position hasBook searchOK s line args hl hs, fun hl => ?_,
    fun hl => ⟨_, C14_join_ucinewgame hasBook searchOK s line args hl hs, rfl, rfl⟩,
    ⟨_, (C14_join_eof hasBook searchOK s hs).1, rfl⟩⟩
  obtain ⟨s', o, h, hb, hn⟩ := C14_join_go hasBook searchOK s line args hl hs
  exact ⟨s', o, h, fun x => ⟨(hb x).1, (hb x).2.1⟩, fun x => ⟨(hn x).1, (hn x).2.1, (hn x).2.2.2⟩⟩

/-- the hypothesis `searching = true` with `searchOk = false` is satisfiable (a session in which a search dies: `C14_f8_session`) -/
example : ∃ s : Sess, s.searching = true ∧ s.searchOk = false := ⟨{ Sess.init with searching := true, searchOk := false }, rfl, rfl⟩

/-! ## the session of F8, in the model -/

/-- `k7/8/8/8/8/8/8/7R w - - 0 1`: no white king (an illegal position the FEN reader accepts) -/
def f8State : State :=
  { pieces := { bk := bit 56, wr := bit 7 }, turn := .white, castleW := CastleRights.noRights,
    castleB := CastleRights.noRights, ep := Option.none, halfmove := 0, fullmove := 1 }

def f8Lines : List String := ["position fen k7/8/8/8/8/8/8/7R w - - 0 1", "go depth 1", "isready", "stop"]

/-- the session that killed the process before the repair of F8 (the search thread panics on this
position: `searchOK = fun _ => false`; not in the book): it runs to completion, `isready` is answered
while the doomed search runs, `stop` joins it, and no artifact is kept -/
theorem C14_f8_session :
    (runWith (fun _ => false) (fun _ => false) Sess.init f8Lines).map
        (fun r => (r.1.pos, r.1.searching, r.1.artifact, r.1.searchOk, r.2)) =
      some (f8State, false, false, false,
        [Out.searchStarted (some 1) Option.none false, Out.line "readyok", Out.joinRunning]) := by
  decide +kernel

/-- the position is not legal, so the session is outside `LegalBase` (`C14_run_legal`); it has the invariant -/
example : LegalPos f8State = false ∧ FromFen f8State := by
  refine ⟨Bool.eq_false_iff.2 fun hl => ?_, by decide⟩
  -- a legal position has a white king somewhere; the white-king bitboard here is 0
  obtain ⟨q, _, hq, _⟩ := (legal_abs hl).king .white
  have ht := test_of_at (by decide +kernel) q .white .king .king rfl hq
  rw [show f8State.pieces.get .white .king = 0 from rfl, test_zero] at ht
  cases ht

/-- a `position` line with an illegal base position and moves (outside `LegalBase`): the model answers
`invalid move` for `d2e3`, which is ambiguous between the capture of the knight and the "en-passant"
capture onto the same square; no panic (by `C14_uci_total`; here also computed) -/
example :
    (step (fun _ => false) Sess.init "position fen 8/8/8/8/8/4n3/3P4/8 w KQkq e3 0 1 moves d2e3").map
        (fun r => (r.2.1, r.2.2)) = some ([Out.line "info string invalid move"], false) := by
  decide +kernel

end Uci
end Wee
