import Wee.Proofs.TTLemmas
/-!
# C15 — the transposition table is a faithful bounded map

Rust: `searcher.rs`, `TranspositionBucket::{find, insert_or_replace}`, `TranspositionTable::{find,
insert, entries, max_entries}`, `TranspositionTableAccess::{insert, find, entries, max_entries}`.
Model: `Wee/Model/TT.lean` (`Wee.TT.insertB`, `findB`, `Table`, `Access`).

All theorems quantify over ARBITRARY sequences of operations applied to a fresh access layer of any
shape `tables × buckets` with `tables ≥ 1`, `buckets ≥ 1` (Rust: `with_tables` asserts
`tables.len() > 0`; `buckets = 0` makes `hash % 0` panic) and buckets of `Gen.bucketSize` (= 8) slots.

## Concurrency

In Rust every `TranspositionTableAccess::{insert, find}` computes `index = hash % tables.len()`
(pure, no shared state) and then runs the whole `TranspositionTable::{insert, find}` — bucket scan,
slot write and the `used_slots` update — under ONE `RwLock` guard (`write()` resp. `read()`) of ONE
sub-table; the result of `find` is copied out before the guard is dropped.  `entries`/`max_entries`
take the read locks one after the other and only read.  Therefore a concurrent history of inserts
and finds is linearizable: it is equivalent to the sequential history obtained by ordering the
operations by the moment they held their guard (the "ticket order" recorded inside the critical
section by the harness).  That sequential history is one of the `ops : List Op` quantified over
below, so `C15_find`, `C15_inv`, `C15_count`, `C15_retained`, `C15_no_overflow` hold for every
interleaving of every number of threads.  Moreover operations on different sub-tables commute
(`C15_insert_comm`, `C15_find_insert_comm`), so any two linearizations that agree on the per-lock
order — in particular the ticket-ordered log replayed on the model — produce the same state and
the same results.  What is trusted: `RwLock` mutual exclusion; lock poisoning is out of scope.
-/
namespace Wee.TT

inductive Op
  | insert (k : Nat) (e : Entry)
  | find (k : Nat)
deriving DecidableEq, Repr

/-- effect of one operation on the state (a `find` does not change the state; its result in state
`a` is `a.find k`) -/
def step (a : Access) : Op → Access
  | .insert k e => a.insert k e
  | .find _ => a

/-- state after a sequence of operations (head of the list = oldest operation) -/
def run (a : Access) (ops : List Op) : Access := ops.foldl step a

/-- the entry carried by an operation if it is an insert under exactly key `k` -/
def Op.entryFor (k : Nat) : Op → Option Entry
  | .insert k' e => if k' = k then some e else none
  | .find _ => none

/-- abstract history spec: the entry of the most recent `insert` under exactly key `k` -/
def latest (ops : List Op) (k : Nat) : Option Entry := ops.reverse.findSome? (Op.entryFor k)

theorem run_snoc (a : Access) (ops : List Op) (op : Op) :
    run a (ops ++ [op]) = step (run a ops) op := by
  simp [run, List.foldl_append]

theorem run_append (a : Access) (ops ops' : List Op) :
    run a (ops ++ ops') = run (run a ops) ops' := by
  simp [run, List.foldl_append]

/-- the most recent insert under `k` after one more operation: that operation's own entry for `k`, else what it was -/
theorem latest_snoc (ops : List Op) (op : Op) (k : Nat) :
    latest (ops ++ [op]) k = (op.entryFor k).or (latest ops k) := by
  unfold latest
  rw [List.reverse_append]
  cases h : op.entryFor k <;> simp [h]

theorem latest_snoc_insert (ops : List Op) (k' : Nat) (e : Entry) (k : Nat) :
    latest (ops ++ [.insert k' e]) k = if k' = k then some e else latest ops k := by
  rw [latest_snoc]
  by_cases h : k' = k <;> simp [Op.entryFor, h]

theorem latest_snoc_find (ops : List Op) (k' : Nat) (k : Nat) :
    latest (ops ++ [.find k']) k = latest ops k := latest_snoc ops (.find k') k

theorem latest_some_mem {ops : List Op} {k : Nat} {e : Entry} (h : latest ops k = some e) :
    Op.insert k e ∈ ops := by
  obtain ⟨op, hm, hop⟩ := List.exists_of_findSome?_eq_some h
  rw [List.mem_reverse] at hm
  cases op with
  | find k' => simp [Op.entryFor] at hop
  | insert k' e' =>
    simp only [Op.entryFor] at hop
    split at hop
    · rename_i hk; subst hk; cases hop; exact hm
    · cases hop

theorem step_inv {L nT nB : Nat} {a : Access} (h : AInv L nT nB a) (hL : 0 < L) (hT : 0 < nT)
    (hB : 0 < nB) (op : Op) : AInv L nT nB (step a op) := by
  cases op with
  | find k => exact h
  | insert k e => exact h.insert hL hT hB k e

/-- every reachable state satisfies the access-layer invariant -/
theorem run_inv {tables buckets : Nat} (hT : 0 < tables) (hB : 0 < buckets) (ops : List Op) :
    AInv Gen.bucketSize tables buckets (run (Access.new tables buckets) ops) :=
  ops.foldlRecOn step (AInv.new tables buckets) fun _ h op _ => step_inv h (by decide) hT hB op

/-- **C15 (faithfulness).** After any sequence of operations on a fresh `tables × buckets` access
layer, `find k` returns either nothing or the entry of the MOST RECENT insert under exactly the key
`k` — never an entry stored under another key, never an older entry of the same key.  Because `ops`
is arbitrary this also covers every intermediate `find`: the result of a `find k` executed after the
prefix `pre` of a history is `(run init pre).find k`. -/
theorem C15_find (tables buckets : Nat) (hT : 0 < tables) (hB : 0 < buckets) (ops : List Op)
    (k : Nat) :
    (run (Access.new tables buckets) ops).find k = none ∨
    (run (Access.new tables buckets) ops).find k = latest ops k := by
  induction ops using snoc_induction with
  | nil => exact Or.inl (Access.new_find hT hB k)
  | snoc ops op ih =>
    rw [run_snoc]
    cases op with
    | find k' => rw [latest_snoc_find]; exact ih
    | insert k' e =>
      have hinv := run_inv hT hB ops
      rw [latest_snoc_insert]
      by_cases hk : k' = k
      · subst hk
        rw [if_pos rfl]
        exact Or.inr (hinv.find_insert_self (by decide) hT hB k' e)
      · rw [if_neg hk]
        rcases hinv.find_insert_other (by decide) hT hB k' e k (Ne.symm hk) with h | h
        · exact Or.inl h
        · show (Access.insert _ k' e).find k = none ∨ (Access.insert _ k' e).find k = latest ops k
          rw [h]; exact ih

example : (run (Access.new 2 3) [.insert 7 default, .insert 13 { (default : Entry) with depth := 4 },
    .find 7, .insert 7 { (default : Entry) with depth := 9 }]).find 7
    = some { (default : Entry) with depth := 9 } := by decide +kernel

/-- what the invariant says about bucket `j` of sub-table `i` -/
structure BucketOK (tables buckets i j : Nat) (b : List Slot) : Prop where
  /-- `BUCKET_SIZE` slots -/
  length : b.length = Gen.bucketSize
  /-- no two slots hold the same key -/
  noDup : ∀ (p q k : Nat) (x y : Entry),
    b[p]? = some (some (k, x)) → b[q]? = some (some (k, y)) → p = q
  /-- occupied slots form a prefix -/
  occupiedPrefix : ∃ (l : List (Nat × Entry)) (n : Nat), b = l.map some ++ List.replicate n none
  /-- every stored key routes to this sub-table and this bucket -/
  routed : ∀ (p k : Nat) (x : Entry), b[p]? = some (some (k, x)) →
    k % tables = i ∧ k % buckets = j

/-- a `find` that returns an entry returns the one of the most recent insert under the key -/
theorem C15_find_some {tables buckets : Nat} (hT : 0 < tables) (hB : 0 < buckets) {ops : List Op} {k : Nat} {e : Entry}
    (h : (run (Access.new tables buckets) ops).find k = some e) : latest ops k = some e := by
  rcases C15_find tables buckets hT hB ops k with h' | h'
  · rw [h'] at h; cases h
  · rw [← h']; exact h

/-- **C15 (reachable-state invariant).** In every reachable state there are `tables` sub-tables of
`buckets` buckets; every bucket has `bucketSize` slots, holds no key twice, its occupied slots form
a prefix, and every stored key routes (`k % tables`, `k % buckets`) to the place where it is stored. -/
theorem C15_inv (tables buckets : Nat) (hT : 0 < tables) (hB : 0 < buckets) (ops : List Op) :
    (run (Access.new tables buckets) ops).tables.length = tables ∧
    ∀ i, i < tables →
      ((run (Access.new tables buckets) ops).tables.getD i default).buckets.length = buckets ∧
      ∀ j, j < buckets →
        BucketOK tables buckets i j ((run (Access.new tables buckets) ops).bucketAt i j) := by
  have h := run_inv hT hB ops
  refine ⟨h.len, fun i hi => ⟨(h.tinv i hi).len, fun j hj => ?_⟩⟩
  have hb := (h.tinv i hi).inv j hj
  refine ⟨(h.tinv i hi).blen j hj, nodup_keys_index hb.2, hb.1.exists_eq, ?_⟩
  intro p k x hp
  exact (h.tinv i hi).route j hj k (mem_keys_of_mem (List.mem_of_getElem? hp))

/-- **C15 (accounting).** `entries()` (the sum of the `used_slots` counters) equals the number of
occupied slots over all sub-tables and buckets; `max_entries()` is `tables · buckets · bucketSize`;
and `entries() ≤ max_entries()`. -/
theorem C15_count (tables buckets : Nat) (hT : 0 < tables) (hB : 0 < buckets) (ops : List Op) :
    (run (Access.new tables buckets) ops).entries =
      ((run (Access.new tables buckets) ops).tables.map fun t =>
        (t.buckets.map fun b => b.countP (fun s => s.isSome)).sum).sum ∧
    (run (Access.new tables buckets) ops).maxEntries = tables * buckets * Gen.bucketSize ∧
    (run (Access.new tables buckets) ops).entries ≤
      (run (Access.new tables buckets) ops).maxEntries := by
  have h := run_inv hT hB ops
  refine ⟨h.entries_eq, h.maxEntries_eq, ?_⟩
  rw [h.maxEntries_eq]
  exact h.entries_le

/-- inserting `(k', e')` in state `a` hits the slot of key `k` under conditions (a)–(d):
(a) same sub-table and bucket, (b) different key, (c) the bucket is full, (d) the replacement index
`(k' ^^^ e'.mv) % bucketSize` is the slot holding `k`. -/
structure Displaces (tables buckets : Nat) (a : Access) (k' : Nat) (e' : Entry) (k : Nat) :
    Prop where
  sameTable : k' % tables = k % tables
  sameBucket : k' % buckets = k % buckets
  ne : k' ≠ k
  full : ∀ s, s ∈ a.bucketAt (k % tables) (k % buckets) → s ≠ none
  hit : ∃ x, (a.bucketAt (k % tables) (k % buckets))[(k' ^^^ e'.mv) % Gen.bucketSize]?
    = some (some (k, x))

/-- none of the inserts of `ops`, executed from state `a`, satisfies (a)–(d) against key `k` -/
def NoDisplace (tables buckets k : Nat) : Access → List Op → Prop
  | _, [] => True
  | a, .insert k' e' :: rest =>
    ¬ Displaces tables buckets a k' e' k ∧ NoDisplace tables buckets k (a.insert k' e') rest
  | a, .find _ :: rest => NoDisplace tables buckets k a rest

theorem retained_aux {tables buckets : Nat} (hT : 0 < tables) (hB : 0 < buckets) (k : Nat) :
    ∀ (post : List Op) (a : Access), AInv Gen.bucketSize tables buckets a →
      (a.find k).isSome → NoDisplace tables buckets k a post → ((run a post).find k).isSome := by
  intro post
  induction post with
  | nil => intro a _ hs _; exact hs
  | cons op rest ih =>
    intro a hinv hs hnd
    cases op with
    | find k' => exact ih a hinv hs hnd
    | insert k' e' =>
      obtain ⟨hnd1, hnd2⟩ := hnd
      refine ih (a.insert k' e') (hinv.insert (by decide) hT hB k' e') ?_ hnd2
      by_cases hk : k' = k
      · subst hk
        rw [hinv.find_insert_self (by decide) hT hB k' e']; rfl
      · rw [hinv.find_insert_frame (by decide) hT hB k' e' k (Ne.symm hk)]
        · exact hs
        · intro h1 h2 hf _ x hx
          exact hnd1 ⟨h1, h2, hk, hf, ⟨x, hx⟩⟩

/-- **C15 (retention).** After `insert k e`, as long as no later insert (a) routes to `k`'s bucket
(b) with a different key (c) while that bucket is full (d) with replacement index
`(k' ^^^ e'.mv) % bucketSize` equal to `k`'s slot, `find k` returns the latest entry inserted for
`k` (and that is an actual entry: `k` is still retrievable). -/
theorem C15_retained (tables buckets : Nat) (hT : 0 < tables) (hB : 0 < buckets)
    (pre post : List Op) (k : Nat) (e : Entry)
    (hnd : NoDisplace tables buckets k
      (run (Access.new tables buckets) (pre ++ [.insert k e])) post) :
    (run (Access.new tables buckets) (pre ++ .insert k e :: post)).find k =
      latest (pre ++ .insert k e :: post) k ∧
    (latest (pre ++ .insert k e :: post) k).isSome := by
  have heq : pre ++ Op.insert k e :: post = (pre ++ [.insert k e]) ++ post := by simp
  have hinv := run_inv hT hB (pre ++ [.insert k e])
  have hself : ((run (Access.new tables buckets) (pre ++ [.insert k e])).find k).isSome := by
    rw [run_snoc]
    show ((Access.insert _ k e).find k).isSome
    rw [(run_inv hT hB pre).find_insert_self (by decide) hT hB k e]; rfl
  have hsome := retained_aux hT hB k post _ hinv hself hnd
  rw [← run_append, ← heq] at hsome
  rcases C15_find tables buckets hT hB (pre ++ .insert k e :: post) k with h | h
  · rw [h] at hsome; cases hsome
  · exact ⟨h, by rw [← h]; exact hsome⟩

/-- hypotheses of `C15_retained` are satisfiable: an insert of another key into the non-full bucket
of `k`, and an insert routed elsewhere -/
example : NoDisplace 2 2 5 (run (Access.new 2 2) ([.insert 1 default] ++ [.insert 5 default]))
    [.insert 9 default, .find 5, .insert 4 default] := by
  refine ⟨fun h => ?_, fun h => ?_, trivial⟩
  · exact absurd (h.full none (by decide)) (by simp)
  · exact absurd h.sameTable (by decide)

/-- **C15 (the condition of `C15_retained` is tight).** `C15_retained` says that displacement is
the only way to lose an entry; conversely, if an insert of a key `k'` that is not currently stored
satisfies (a)–(d) against `k`, then `k` is no longer found afterwards. -/
theorem C15_displaced (tables buckets : Nat) (hT : 0 < tables) (hB : 0 < buckets)
    (ops : List Op) (k' : Nat) (e' : Entry) (k : Nat)
    (habs : (run (Access.new tables buckets) ops).find k' = none)
    (hd : Displaces tables buckets (run (Access.new tables buckets) ops) k' e' k) :
    (run (Access.new tables buckets) (ops ++ [.insert k' e'])).find k = none := by
  have hinv := run_inv hT hB ops
  rw [run_snoc]
  obtain ⟨x, hx⟩ := hd.hit
  refine hinv.find_insert_displaced (by decide) hT hB k' e' k x hd.sameTable hd.sameBucket
    hd.full ?_ hx
  rw [← hd.sameTable, ← hd.sameBucket]
  exact (hinv.find_eq_none_iff hT k').1 habs

/-- **C15 (no overflow ⇒ exact map).** If all keys ever inserted into bucket `(i, j)` come from a
set `S` of at most `bucketSize` keys (i.e. fewer than `bucketSize + 1` distinct keys were routed to
the bucket), then the bucket behaves as an exact map: for every key routed there, `find` returns
precisely the latest inserted entry (`none` iff the key was never inserted). -/
theorem C15_no_overflow (tables buckets : Nat) (hT : 0 < tables) (hB : 0 < buckets)
    (i j : Nat) (S : List Nat) (hS : S.length ≤ Gen.bucketSize) (ops : List Op)
    (hall : ∀ k' e', Op.insert k' e' ∈ ops → k' % tables = i → k' % buckets = j → k' ∈ S)
    (k : Nat) (hi : k % tables = i) (hj : k % buckets = j) :
    (run (Access.new tables buckets) ops).find k = latest ops k := by
  induction ops using snoc_induction generalizing k with
  | nil => exact Access.new_find hT hB k
  | snoc ops op ih =>
    have ih' := ih (fun k' e' hm => hall k' e' (List.mem_append_left _ hm))
    rw [run_snoc]
    cases op with
    | find k' => rw [latest_snoc_find]; exact ih' k hi hj
    | insert k' e' =>
      have hinv := run_inv hT hB ops
      rw [latest_snoc_insert]
      by_cases hk : k' = k
      · subst hk
        rw [if_pos rfl]
        exact hinv.find_insert_self (by decide) hT hB k' e'
      · rw [if_neg hk]
        show (Access.insert _ k' e').find k = latest ops k
        rw [hinv.find_insert_frame (by decide) hT hB k' e' k (Ne.symm hk)]
        · exact ih' k hi hj
        · -- the bucket cannot be full of keys different from `k'`: that would be
          -- `bucketSize + 1` distinct keys inside `S`
          intro h1 h2 hf habs
          exfalso
          have hiT : k % tables < tables := Nat.mod_lt _ hT
          have hjB : k % buckets < buckets := Nat.mod_lt _ hB
          obtain ⟨hbinv, hblen⟩ := hinv.bucket_inv hiT hjB
          have hnd : (k' :: keys ((run (Access.new tables buckets) ops).bucketAt
              (k % tables) (k % buckets))).Nodup := List.nodup_cons.2 ⟨habs, hbinv.2⟩
          have hsub : (k' :: keys ((run (Access.new tables buckets) ops).bucketAt
              (k % tables) (k % buckets))) ⊆ S := by
            intro k'' hm
            rcases List.mem_cons.1 hm with rfl | hm
            · exact hall k'' e' (by simp) (by rw [h1, hi]) (by rw [h2, hj])
            · obtain ⟨r1, r2⟩ := (hinv.tinv _ hiT).route _ hjB k'' hm
              have hl := ih' k'' (by rw [r1, hi]) (by rw [r2, hj])
              cases hf' : (run (Access.new tables buckets) ops).find k'' with
              | none => exact absurd (r1 ▸ r2 ▸ hm) ((hinv.find_eq_none_iff hT k'').1 hf')
              | some x =>
                rw [hf'] at hl
                exact hall k'' x (List.mem_append_left _ (latest_some_mem hl.symm))
                  (by rw [r1, hi]) (by rw [r2, hj])
          have hlen := hnd.length_le_of_subset hsub
          have hfull : Full ((run (Access.new tables buckets) ops).bucketAt
              (k % tables) (k % buckets)) := hf
          rw [List.length_cons, hfull.keys_length, hblen] at hlen
          omega

/-- hypotheses of `C15_no_overflow` are satisfiable (two keys in the single bucket of a 1×1 table) -/
example : ∀ k' e', Op.insert k' e' ∈
      [Op.insert 3 default, .find 4, .insert 11 default, .insert 3 { (default : Entry) with eval := 5 }] →
    k' % 1 = 0 → k' % 1 = 0 → k' ∈ [3, 11] := by
  intro k' e' hm _ _
  simp at hm
  rcases hm with h | h | h <;> simp [h.1]

/-! ## Concurrency: operations on different sub-tables commute -/

/-- Inserts that lock different sub-tables commute (state equality), stated for the reachable states
`run (Access.new tables buckets) ops` (for every state it is `TT.Access.insert_comm`).  Together with the fact that each
operation runs entirely under the lock of its sub-table this justifies replaying the ticket-ordered
log: any total order compatible with the per-lock orders yields the same state. -/
theorem C15_insert_comm (tables buckets : Nat) (hT : 0 < tables) (hB : 0 < buckets)
    (ops : List Op) (k1 k2 : Nat) (e1 e2 : Entry) (hne : k1 % tables ≠ k2 % tables) :
    ((run (Access.new tables buckets) ops).insert k1 e1).insert k2 e2 =
    ((run (Access.new tables buckets) ops).insert k2 e2).insert k1 e1 := by
  apply Access.insert_comm
  rw [(run_inv hT hB ops).len]
  exact hne

/-- A `find` on one sub-table returns the same result whether it is ordered before or after an
insert into a different sub-table. -/
theorem C15_find_insert_comm (tables buckets : Nat) (hT : 0 < tables) (hB : 0 < buckets)
    (ops : List Op) (k1 k2 : Nat) (e1 : Entry) (hne : k1 % tables ≠ k2 % tables) :
    ((run (Access.new tables buckets) ops).insert k1 e1).find k2 =
    (run (Access.new tables buckets) ops).find k2 := by
  apply Access.find_insert_of_ne_table
  rw [(run_inv hT hB ops).len]
  exact hne

/-- the hypothesis of the commutation lemmas is satisfiable (keys 7 and 4 with 2 sub-tables) -/
example : 7 % 2 ≠ 4 % 2 := by decide +kernel

/-! ## Non-vacuity: a concrete history that fills a bucket and displaces an entry -/

/-- entry with raw move `m` and depth `d` -/
def mkE (m d : Nat) : Entry := { kind := 0, mv := m, depth := d, maxDepth := d, eval := 0 }

/-- 1 sub-table, 1 bucket: keys 10..17 fill the bucket (slots 0..7) -/
def fill8 : List Op := (List.range 8).map fun i => Op.insert (10 + i) (mkE 0 i)

-- all eight keys are retrievable, the counter says 8 = capacity
example : (List.range 8).map (fun i => (run (Access.new 1 1) fill8).find (10 + i)) =
    (List.range 8).map (fun i => some (mkE 0 i)) := by decide +kernel
example : (run (Access.new 1 1) fill8).entries = 8 ∧ (run (Access.new 1 1) fill8).maxEntries = 8 := by
  decide +kernel
-- a ninth key `21` with raw move `0` goes to slot `(21 ^^^ 0) % 8 = 5`, displacing key `15` only
example : (run (Access.new 1 1) (fill8 ++ [.insert 21 (mkE 0 99)])).find 21 = some (mkE 0 99) := by
  decide +kernel
example : (run (Access.new 1 1) (fill8 ++ [.insert 21 (mkE 0 99)])).find 15 = none := by decide +kernel
example : (run (Access.new 1 1) (fill8 ++ [.insert 21 (mkE 0 99)])).find 14 = some (mkE 0 4) := by
  decide +kernel
example : (run (Access.new 1 1) (fill8 ++ [.insert 21 (mkE 0 99)])).entries = 8 := by decide +kernel
-- the same key with raw move `3` goes to slot `(21 ^^^ 3) % 8 = 6` instead
example : (run (Access.new 1 1) (fill8 ++ [.insert 21 (mkE 3 99)])).find 16 = none ∧
    (run (Access.new 1 1) (fill8 ++ [.insert 21 (mkE 3 99)])).find 15 = some (mkE 0 5) := by decide +kernel
-- same-key overwrite in a full bucket does not displace anybody and does not count
example : (run (Access.new 1 1) (fill8 ++ [.insert 12 (mkE 7 42)])).find 12 = some (mkE 7 42) ∧
    (run (Access.new 1 1) (fill8 ++ [.insert 12 (mkE 7 42)])).entries = 8 := by decide +kernel
-- `latest` is the spec: the displaced key's latest entry still exists in the history
example : latest (fill8 ++ [.insert 21 (mkE 0 99)]) 15 = some (mkE 0 5) := by decide +kernel
-- routing: in a 2×3 layout key 7 lives in sub-table 1, bucket 1
example : ((run (Access.new 2 3) [.insert 7 (mkE 1 1)]).bucketAt 1 1).head? = some (some (7, mkE 1 1)) := by
  decide +kernel
-- inserts into the SAME sub-table do not commute in general (both go to slot 5 of the full bucket):
-- the hypothesis of `C15_insert_comm` is needed
example :
    (((run (Access.new 1 1) fill8).insert 21 (mkE 0 1)).insert 29 (mkE 0 2)).find 21 = none ∧
    (((run (Access.new 1 1) fill8).insert 29 (mkE 0 2)).insert 21 (mkE 0 1)).find 21
      = some (mkE 0 1) := by decide +kernel
/-- the `Displaces` hypothesis of `C15_displaced` is satisfiable -/
example : Displaces 1 1 (run (Access.new 1 1) fill8) 21 (mkE 0 99) 15 := by
  refine ⟨rfl, rfl, by decide, by decide, ⟨mkE 0 5, by decide⟩⟩

end Wee.TT
