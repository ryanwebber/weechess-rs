import Wee.Proofs.BookLemmas
import Wee.Proofs.UciLemmas
import Wee.Proofs.SanLemmas
import Wee.Props.C08
/-!
# C16 — the opening book offers exactly the recorded, legal moves

Rust: `weechess-engine/build.rs` (`generate_book_data`: every file of `book/`,
`trim().split("\n\n").map(trim_start).filter(starts_with("1."))`, `parse_movetext(..).take(BOOK_DEPTH)`,
`book.append(hash, &[mov])`), `weechess-core/src/book.rs` (`Book`, `BookParser::parse_movetext`),
`weechess-engine/src/book.rs` (`OpeningBook::lookup`), `weechess-core/src/hasher.rs`.
Model: `Wee/Model/Book.lean`.

All theorems are generic in the key table `K` (any seed) and in the corpus (any list of games /
files); the concrete `book/` directory is handled by the correspondence check (`tools/c16.py`:
model book = spec book = real embedded book on all 4948 positions).

`C16_build`: after `buildBook`, `lookup(p)` answers exactly the moves recorded (within the first
`BOOK_DEPTH` plies of some game) from positions with the same hash as `p`.  `C16_exact`: if no recorded
position collides with `p` under `K` (C08: `hash` equal ⇒ `key` equal), these are the moves recorded from
positions with the rule-relevant key of `p` (placement, side to move, castling rights, availability+file
of an en-passant capture).  `C16_legal`: every offered move is then a legal move in `p`, whatever history
led to `p`: the recorded move was found among the legal moves of the recorded position, and legal moves
are a function of the key (`C16_legal_moves_of_key`).
-/
namespace Wee.Book
open Wee
open Wee.C10 (DisjointBoard)

/-- `Recorded games q m`: some game of the corpus, replayed by `parse_movetext`, is in position `q` within its first
`BOOK_DEPTH` plies and continues with `m` (`m` = first legal move passing the SAN query of the token) -/
def Recorded (games : List String) (q : State) (m : Move) : Prop :=
  ∃ g ∈ games, ∃ l, playMovetext g = .ok l ∧ (q, m) ∈ l

/-- `Offers K b p m`: `OpeningBook::lookup(p)` returns a set containing `m` -/
def Offers (K : Keys) (b : Table) (p : State) (m : Move) : Prop :=
  ∃ ms, lookup K b p = some ms ∧ m ∈ ms

/-- no position recorded in the corpus collides with `p` without having the key of `p` (the converse always
holds, `C08_equal_key`).  Follows from xor-independence of the key table (`C16_collisionFree_of_independent`). -/
def CollisionFree (K : Keys) (games : List String) (p : State) : Prop :=
  ∀ q m, Recorded games q m → hash K q = hash K p → key q = key p

/-! ## what "recorded" means, spelled out -/

/-- the recorded pairs of a game are the pairs `(position, move)` of its replay from the initial position over the
first `BOOK_DEPTH` move strings (`Plays`: each step is `stepToken` = SAN parse + FIRST match in generation order) -/
theorem C16_recorded_iff (games : List String) (q : State) (m : Move) :
    Recorded games q m ↔ ∃ g ∈ games, ∃ l, Plays startState (bookTokens g) l ∧ (q, m) ∈ l := by
  unfold Recorded playMovetext
  constructor
  · rintro ⟨g, hg, l, hl, hm⟩; exact ⟨g, hg, l, (playTokens_ok_iff _ _).1 hl, hm⟩
  · rintro ⟨g, hg, l, hl, hm⟩; exact ⟨g, hg, l, (playTokens_ok_iff _ _).2 hl, hm⟩

/-- `playMovetext` is literally `parse_movetext(..).take(BOOK_DEPTH).collect::<Result<Vec<_>,_>>()` (the model
applies `take` to the token list because the iterator is lazy) -/
theorem C16_play_is_take_collect (movetext : String) :
    playMovetext movetext = collect ((parseMovetext movetext).take Gen.bookDepth) :=
  playMovetext_eq movetext

/-- a recorded pair sits at a ply `i < BOOK_DEPTH` of its game -/
theorem C16_recorded_depth (games : List String) (q : State) (m : Move) (h : Recorded games q m) :
    ∃ g ∈ games, ∃ l i, playMovetext g = .ok l ∧ i < Gen.bookDepth ∧ l[i]? = some (q, m) := by
  obtain ⟨g, hg, l, hl, hm⟩ := h
  obtain ⟨i, hi, he⟩ := List.mem_iff_getElem.1 hm
  refine ⟨g, hg, l, i, hl, ?_, by rw [List.getElem?_eq_getElem hi, he]⟩
  have h1 := ((playTokens_ok_iff _ _).1 hl).length
  have h2 := length_bookTokens g
  omega

/-- the recorded move is the FIRST legal move (generation order of `compute_legal_moves`) that passes the query
parsed from a token of the game -/
theorem C16_recorded_first_match (games : List String) (q : State) (m : Move) (h : Recorded games q m) :
    ∃ g ∈ games, ∃ t ∈ bookTokens g, ∃ qr, parseSanChars t = some qr ∧
      ((legalMoves q).find? (fun r => qr.test r.1)).map (·.1) = some m := by
  obtain ⟨g, hg, l, hl, hm⟩ := h
  obtain ⟨t, ht, qr, hp, hf⟩ := ((playTokens_ok_iff _ _).1 hl).first_match hm
  exact ⟨g, hg, t, ht, qr, hp, hf⟩

/-- first match = the only match whenever the SAN text is unambiguous (C12: a SAN spelling written by the rules
matches exactly one legal move, `C12_unique_filter`) -/
theorem C16_first_match_unique (L : List (Move × State)) (f : Move × State → Bool) (r : Move × State)
    (h : L.filter f = [r]) : L.find? f = some r := by
  induction L with
  | nil => cases h
  | cons a L ih =>
    rw [List.filter_cons] at h
    by_cases ha : f a = true
    · rw [if_pos ha] at h
      rw [List.find?_cons, ha]
      rw [(List.cons.inj h).1]
    · rw [if_neg ha] at h
      simp only [Bool.not_eq_true] at ha
      rw [List.find?_cons, ha]
      exact ih h

/-- the build succeeds exactly when every game is readable over its first `BOOK_DEPTH` move strings (otherwise
`generate_book_data().unwrap()` panics and there is no binary) -/
theorem C16_build_succeeds (K : Keys) (games : List String) :
    (∃ t, buildBookGames K games = .ok t) ↔ ∀ g ∈ games, ∃ l, playMovetext g = .ok l := by
  unfold buildBookGames
  constructor
  · rintro ⟨t, ht⟩ g hg
    exact (buildFromPlayed_ok K _ ∅ t ht).1 _ (List.mem_map.2 ⟨g, hg, rfl⟩)
  · intro h
    apply buildFromPlayed_isOk
    intro p hp
    obtain ⟨g, hg, rfl⟩ := List.mem_map.1 hp
    exact h g hg

/-- **C16_build.**  For ANY list of games and ANY key table: after a successful build, `lookup(p)` contains `m`
iff `m` was recorded — within the first `BOOK_DEPTH` plies of some game — from a position `q` whose hash
equals the hash of `p`. -/
theorem C16_build (K : Keys) (games : List String) (t : Table) (ht : buildBookGames K games = .ok t)
    (p : State) (m : Move) :
    Offers K t p m ↔ ∃ q, Recorded games q m ∧ hash K q = hash K p := by
  unfold Offers
  rw [mem_lookup]
  unfold buildBookGames at ht
  rw [(buildFromPlayed_ok K _ ∅ t ht).2, movesAt_empty]
  unfold Recorded
  constructor
  · rintro (h | ⟨l, hl, q, hq, hh⟩)
    · cases h
    · obtain ⟨g, hg, e⟩ := List.mem_map.1 hl
      exact ⟨q, ⟨g, hg, l, e, hq⟩, hh⟩
  · rintro ⟨q, ⟨g, hg, l, e, hq⟩, hh⟩
    exact Or.inr ⟨l, List.mem_map.2 ⟨g, hg, e⟩, q, hq, hh⟩

/-- the same for the files of the book directory (`generate_book_data`) -/
theorem C16_build_files (K : Keys) (files : List String) (t : Table) (ht : buildBook K files = .ok t)
    (p : State) (m : Move) :
    Offers K t p m ↔ ∃ q, Recorded (files.flatMap gamesOfFile) q m ∧ hash K q = hash K p :=
  C16_build K _ t ht p m

/-- `lookup` answers `None` exactly for positions whose hash was never recorded -/
theorem C16_none (K : Keys) (games : List String) (t : Table) (ht : buildBookGames K games = .ok t) (p : State) :
    lookup K t p = Option.none ↔ ¬ ∃ q m, Recorded games q m ∧ hash K q = hash K p := by
  rw [lookup_eq_none]
  constructor
  · intro h ⟨q, m, hr, hh⟩
    have := (mem_lookup K t p m).1 ((C16_build K games t ht p m).2 ⟨q, hr, hh⟩)
    rw [h] at this; cases this
  · intro h
    cases hm : movesAt t (hash K p) with
    | nil => rfl
    | cons m rest =>
      exfalso
      have : m ∈ movesAt t (hash K p) := by rw [hm]; simp
      obtain ⟨q, hr, hh⟩ := (C16_build K games t ht p m).1 ((mem_lookup K t p m).2 this)
      exact h ⟨q, m, hr, hh⟩

/-- the answer is a set: no move is listed twice (`HashSet<Move>`), and it is never empty -/
theorem C16_answer_is_set (K : Keys) (games : List String) (t : Table) (ht : buildBookGames K games = .ok t)
    (p : State) (ms : List Move) (h : lookup K t p = some ms) : ms.Nodup ∧ ms ≠ [] := by
  obtain ⟨e, hne⟩ := lookup_eq_some K t p ms h
  refine ⟨?_, hne⟩
  rw [e]
  unfold buildBookGames at ht
  exact buildFromPlayed_nodup K _ ∅ t ht _ (by rw [movesAt_empty]; exact List.nodup_nil)

/-- the order of the games (hence of the files: `read_dir` order is unspecified) does not matter -/
theorem C16_order_irrelevant (K : Keys) (games games' : List String) (hperm : games.Perm games')
    (t t' : Table) (ht : buildBookGames K games = .ok t) (ht' : buildBookGames K games' = .ok t')
    (p : State) (m : Move) : Offers K t p m ↔ Offers K t' p m := by
  rw [C16_build K games t ht, C16_build K games' t' ht']
  apply exists_congr; intro q
  apply and_congr_left; intro _
  unfold Recorded
  constructor
  · rintro ⟨g, hg, r⟩; exact ⟨g, hperm.mem_iff.1 hg, r⟩
  · rintro ⟨g, hg, r⟩; exact ⟨g, hperm.mem_iff.2 hg, r⟩

/-- …and a permuted corpus builds iff the original does -/
theorem C16_order_irrelevant_succeeds (K : Keys) (games games' : List String) (hperm : games.Perm games') :
    (∃ t, buildBookGames K games = .ok t) ↔ ∃ t', buildBookGames K games' = .ok t' := by
  rw [C16_build_succeeds, C16_build_succeeds]
  constructor
  · intro h g hg; exact h g (hperm.mem_iff.2 hg)
  · intro h g hg; exact h g (hperm.mem_iff.1 hg)

/-- **C16_exact.**  If no recorded position collides with `p`, the book offers for `p` exactly the moves recorded
from positions with the same rule-relevant key as `p` (same placement, side to move, castling rights and
available en-passant capture) — in particular the same set for `p` reached by any move order, with any clocks. -/
theorem C16_exact (K : Keys) (games : List String) (t : Table) (ht : buildBookGames K games = .ok t)
    (p : State) (hK : CollisionFree K games p) (m : Move) :
    Offers K t p m ↔ ∃ q, Recorded games q m ∧ key q = key p := by
  rw [C16_build K games t ht]
  constructor
  · rintro ⟨q, hr, hh⟩; exact ⟨q, hr, hK q m hr hh⟩
  · rintro ⟨q, hr, hk⟩; exact ⟨q, hr, C08_equal_key K q p hk⟩

/-- `CollisionFree` from the hypothesis of `C08_hash_eq_iff_key_eq`: the key table is xor-independent on a set of
atoms that contains the atoms in which `p` differs from the recorded positions -/
theorem C16_collisionFree_of_independent (K : Keys) (U : Atom → Prop) (hK : K.IndependentOn U)
    (games : List String) (p : State)
    (hU : ∀ q m, Recorded games q m → ∀ a ∈ symmDiff (atoms q) (atoms p), U a) :
    CollisionFree K games p :=
  fun q m hr hh => (C08_hash_eq_iff_key_eq K U hK q p (hU q m hr)).1 hh

/-- a position of the book is offered every move recorded for it — no hypothesis on `K` -/
theorem C16_offers_recorded (K : Keys) (games : List String) (t : Table) (ht : buildBookGames K games = .ok t)
    (q : State) (m : Move) (h : Recorded games q m) : Offers K t q m :=
  (C16_build K games t ht q m).2 ⟨q, h, rfl⟩

/-- …and so is every position with the same key (other clocks, other history, an en-passant target nobody can
capture on) -/
theorem C16_offers_same_key (K : Keys) (games : List String) (t : Table) (ht : buildBookGames K games = .ok t)
    (q p : State) (m : Move) (h : Recorded games q m) (hk : key q = key p) : Offers K t p m :=
  (C16_build K games t ht p m).2 ⟨q, h, C08_equal_key K q p hk⟩

/-- every game starts from a legal position; so every recorded position is a legal position without stacked pieces
and every recorded move reads — through all its accessors — as a legal move of the rules of chess there -/
theorem C16_recorded_legal (games : List String) (q : State) (m : Move) (h : Recorded games q m) :
    LegalPos q = true ∧ DisjointBoard q.pieces ∧ m ∈ (legalMoves q).map (·.1) ∧
      ∃ sm, toSpecMove m = some sm ∧ sm ∈ Spec.legalMoves (abs q) := by
  obtain ⟨g, _, l, hl, hm⟩ := h
  have hp := (playTokens_ok_iff _ _).1 hl
  obtain ⟨h1, h2, h3⟩ := hp.legalPos startState_legal startState_disjoint hm
  exact ⟨h1, h2, hp.legal hm, h3⟩

/-- the model's `panic` error (an `unwrap` inside `compute_legal_moves`) cannot occur while a game is replayed -/
theorem C16_no_panic (s : State) (hl : LegalPos s = true) (hd : DisjointBoard s.pieces) (t : List Char) :
    stepToken s t ≠ .error .panic := by
  unfold stepToken
  cases parseSanChars t with
  | none => simp
  | some q =>
    rw [C02.legalMoves?_eq s hl hd]
    simp only []
    cases (legalMoves s).find? (fun r => q.test r.1) <;> simp

/-- **legal moves are a function of the key.**  `key q = key p` (and en-passant targets, if any, on the rank the
side to move implies — true of every `LegalPos`) ⇒ `compute_legal_moves` lists the same moves in the same order:
neither the clocks nor an en-passant target without capturer are read. -/
theorem C16_legal_moves_of_key (q p : State) (hk : key q = key p) (hq : EpOK q) (hp : EpOK p) :
    (legalMoves q).map (·.1) = (legalMoves p).map (·.1) :=
  legalMoves_congr_key q p hk hq hp

/-- special case: all five hashed components literally equal (`SameKey` of C08), no side condition -/
theorem C16_legal_same_ep (q p : State) (h : SameKey q p) :
    (legalMoves q).map (·.1) = (legalMoves p).map (·.1) :=
  legalMoves_congr_fields q p h.1 h.2.1 h.2.2.1 h.2.2.2.1 h.2.2.2.2

/-- **C16_legal.**  Whatever history led to the legal position `p`: every move the book offers for `p` is one of the
legal moves of `p` (an element of `compute_legal_moves(p)`), provided no recorded position collides with `p`. -/
theorem C16_legal (K : Keys) (games : List String) (t : Table) (ht : buildBookGames K games = .ok t)
    (p : State) (hp : LegalPos p = true) (hK : CollisionFree K games p) (m : Move) (h : Offers K t p m) :
    m ∈ (legalMoves p).map (·.1) := by
  obtain ⟨q, hr, hk⟩ := (C16_exact K games t ht p hK m).1 h
  obtain ⟨hql, _, hmem, _⟩ := C16_recorded_legal games q m hr
  rw [← C16_legal_moves_of_key q p hk (EpOK_of_legalPos q hql) (EpOK_of_legalPos p hp)]
  exact hmem

/-- …and, read through all its accessors, a legal move of the rules of chess in `p` (C01) -/
theorem C16_legal_rules (K : Keys) (games : List String) (t : Table) (ht : buildBookGames K games = .ok t)
    (p : State) (hp : LegalPos p = true) (hd : DisjointBoard p.pieces) (hK : CollisionFree K games p)
    (m : Move) (h : Offers K t p m) :
    ∃ sm, toSpecMove m = some sm ∧ sm ∈ Spec.legalMoves (abs p) := by
  obtain ⟨r, hr, e⟩ := List.mem_map.1 (C16_legal K games t ht p hp hK m h)
  obtain ⟨sm, h1, h2, _⟩ := (C01_legal_results p hp hd).2 r hr
  exact ⟨sm, e ▸ h1, h2⟩

/-- without any hypothesis on `K`: a collision is the only way to be offered an illegal move — an offered move is
legal in some recorded position with the same HASH -/
theorem C16_legal_up_to_collision (K : Keys) (games : List String) (t : Table) (ht : buildBookGames K games = .ok t)
    (p : State) (m : Move) (h : Offers K t p m) :
    ∃ q, hash K q = hash K p ∧ LegalPos q = true ∧ m ∈ (legalMoves q).map (·.1) := by
  obtain ⟨q, hr, hh⟩ := (C16_build K games t ht p m).1 h
  obtain ⟨hql, _, hmem, _⟩ := C16_recorded_legal games q m hr
  exact ⟨q, hh, hql, hmem⟩

/-! ## non-vacuity

### text handling (kernel-evaluated) -/

/-- two games; the second one sits behind THREE newlines (a missing tag line) like the four games of
`Gibraltar2019.txt` that the build script dropped before the repair of F7 -/
def toyFile : String :=
  "[Event \"toy\"]\n[Result \"1-0\"]\n\n1. e4 e5 2. Nf3 1-0\n\n[Event \"toy\"]\n\n\n1.d4 d5 2.c4 1/2-1/2\n"

set_option maxRecDepth 1000000 in
example : gamesOfFile toyFile = ["1. e4 e5 2. Nf3 1-0", "1.d4 d5 2.c4 1/2-1/2"] := by decide +kernel

set_option maxRecDepth 1000000 in
/-- result tokens and move numbers are dropped, `1.d4` ↦ `d4`, `3...Nf6` ↦ `..Nf6` (everything after the FIRST dot),
and only the first `BOOK_DEPTH` = 10 move strings are kept -/
example : bookTokens "1.d4 d5 2. c4 1/2-1/2 3...Nf6 a b c d e f g h" =
    ["d4", "d5", "c4", "..Nf6", "a", "b", "c", "d", "e", "f"].map String.toList := by decide +kernel

/-! ### the whole pipeline on the toy file, evaluated (keys drawn from the ChaCha8 model, seed 0) -/

def toyKeysOfSeed (seed : UInt64) : Keys := (KeyTable.ofRng (Rng.seedFromU64 seed)).1.keys

/-- the answers of the toy book for a list of FENs, as sorted LAN strings (`none` = `lookup` returned `None`) -/
def toyAnswers (fens : List String) : List (Option (List String)) :=
  match buildBook (toyKeysOfSeed 0) [toyFile] with
  | .ok t => fens.map fun fen =>
    match parseFen true fen with
    | .ok s => (lookup (toyKeysOfSeed 0) t s).map fun ms => (ms.map Move.lan).mergeSort (· ≤ ·)
    | _ => some ["<bad fen>"]
  | .error _ => [some ["<build error>"]]

#guard toyAnswers [
    -- the initial position: the first moves of both games …
    "rnbqkbnr/pppppppp/8/8/8/8/PPPPPPPP/RNBQKBNR w KQkq - 0 1",
    -- … whatever the clocks
    "rnbqkbnr/pppppppp/8/8/8/8/PPPPPPPP/RNBQKBNR w KQkq - 31 77",
    -- after 1. e4 (en-passant target e3 that nobody can capture on: same key with and without it)
    "rnbqkbnr/pppppppp/8/8/4P3/8/PPPP1PPP/RNBQKBNR b KQkq e3 0 1",
    "rnbqkbnr/pppppppp/8/8/4P3/8/PPPP1PPP/RNBQKBNR b KQkq - 0 1",
    -- after 1. d4 d5 (the game behind three newlines)
    "rnbqkbnr/ppp1pppp/8/3p4/3P4/8/PPP1PPPP/RNBQKBNR w KQkq d6 0 2",
    -- same placement, other side to move / other castling rights: not in the book
    "rnbqkbnr/pppppppp/8/8/8/8/PPPPPPPP/RNBQKBNR b KQkq - 0 1",
    "rnbqkbnr/pppppppp/8/8/8/8/PPPPPPPP/RNBQKBNR w KQk - 0 1",
    -- the third ply of the first game is recorded, the position after it is not
    "rnbqkbnr/pppp1ppp/8/4p3/4P3/8/PPPP1PPP/RNBQKBNR w KQkq e6 0 2",
    "rnbqkbnr/pppp1ppp/8/4p3/4P3/5N2/PPPP1PPP/RNBQKB1R b KQkq - 1 2"] =
  [some ["d2d4", "e2e4"], some ["d2d4", "e2e4"], some ["e7e5"], some ["e7e5"], some ["c2c4"],
   Option.none, Option.none, some ["g1f3"], Option.none]

-- an unreadable / unmatched token inside the first ten move strings fails the build
#guard (match buildBook (toyKeysOfSeed 0) ["1. e4 Nf9 1-0"] with | .error (.invalidMoveStr "Nf9") => true | _ => false)
#guard (match buildBook (toyKeysOfSeed 0) ["1. e4 Nf3 1-0"] with | .error (.unknownMove "Nf3") => true | _ => false)

/-! ### a two-game corpus, proved (no evaluation of the magic tables: the moves come from `C01_legal_results` / `C01_moves`)

`["1. e4 1-0", "1.d4 1/2-1/2"]`: for EVERY key table the build succeeds, and every position with the key of the
initial position — any clocks, any history — is offered exactly two moves, which read as e2–e4 and d2–d4 and are legal
there.  All hypotheses of `C16_build`, `C16_exact`, `C16_legal` are instantiated. -/

def toyGames : List String := ["1. e4 1-0", "1.d4 1/2-1/2"]

def e2e4 : Spec.SMove := { color := .white, kind := .pawn, src := 12, dst := 28, dbl := true }
def d2d4 : Spec.SMove := { color := .white, kind := .pawn, src := 11, dst := 27, dbl := true }

/-- a one-ply game whose only move string is a pawn move to `dst`: it is readable, and the recorded move — the FIRST
legal move passing the query — reads as the one legal pawn move of the rules to that square -/
theorem toy_play (g : String) (tok : List Char) (q : MoveQuery) (sm0 : Spec.SMove) (dst : Nat)
    (htok : bookTokens g = [tok]) (hparse : parseSanChars tok = some q)
    (hq : ∀ m, q.test m = true ↔ Move.piece m = .pawn ∧ Move.dest m = dst)
    (hmem : sm0 ∈ Spec.legalMoves (abs startState)) (hkind : sm0.kind = .pawn) (hdst : sm0.dst = dst)
    (huniq : ∀ sm ∈ Spec.legalMoves (abs startState), sm.kind = .pawn → sm.dst = dst → sm = sm0) :
    ∃ m, playMovetext g = .ok [(startState, m)] ∧ toSpecMove m = some sm0 := by
  have hL := C02.legalMoves?_eq startState startState_legal startState_disjoint
  -- some legal move passes the query …
  have hperm := (C01_moves startState startState_legal startState_disjoint).1
  have hin : some sm0 ∈ (legalMoves startState).map (toSpecMove ∘ (·.1)) :=
    hperm.mem_iff.2 (List.mem_map.2 ⟨sm0, hmem, rfl⟩)
  obtain ⟨r0, hr0, hr0s⟩ := List.mem_map.1 hin
  have ht0 : q.test r0.1 = true := by
    obtain ⟨hp, he⟩ := (toSpecMove_eq_some r0.1 sm0).1 hr0s
    rw [hq]
    refine ⟨by rw [hp, hkind]; rfl, ?_⟩
    have := congrArg Spec.SMove.dst he
    rw [hdst] at this
    exact this.symm
  -- … so the first match exists
  have hsome : ((legalMoves startState).find? (fun r => q.test r.1)).isSome = true := by
    rw [List.find?_isSome]; exact ⟨r0, hr0, ht0⟩
  obtain ⟨r, hr⟩ := Option.isSome_iff_exists.1 hsome
  have hrt : q.test r.1 = true := by simpa using List.find?_some hr
  have hrm : r ∈ legalMoves startState := List.mem_of_find?_eq_some hr
  have hstep : stepToken startState tok = .ok (r.1, r.2) :=
    (stepToken_ok_iff startState r.2 tok r.1).2 ⟨q, _, hparse, hL, hr⟩
  have hsingle : collect (scanMoves startState [tok]) = .ok [(startState, r.1)] := by
    simp only [scanMoves, hstep, collect]
  refine ⟨r.1, (congrArg playTokens htok).trans hsingle, ?_⟩
  -- and it reads as the unique rule-level move
  obtain ⟨sm, h1, h2, _⟩ := C02.legalMoves_entry startState startState_legal startState_disjoint r hrm
  obtain ⟨hp, he⟩ := (toSpecMove_eq_some r.1 sm).1 h1
  obtain ⟨hpawn, hd⟩ := (hq r.1).1 hrt
  have hk : sm.kind = .pawn := by
    rw [hpawn] at hp
    cases hsk : sm.kind <;> rw [hsk] at hp <;> first | rfl | cases hp
  have hd' : sm.dst = dst := by rw [he]; exact hd
  rw [h1, huniq sm h2 hk hd']

theorem pawnQuery_test (rank file : Nat) (hf : file < 8) (m : Move) :
    ({ piece := some .pawn, destRank := some rank, destFile := some file } : MoveQuery).test m = true ↔
      Move.piece m = .pawn ∧ Move.dest m = rank * 8 + file := by
  have hd : (rank = Move.dest m / 8 ∧ file = Move.dest m % 8) ↔ Move.dest m = rank * 8 + file := by omega
  rw [MoveQuery.test_iff, ← hd]
  simp only [Option.some.injEq, forall_eq', rankOf, fileOf, reduceCtorEq, false_implies, implies_true, true_and,
    and_true, forall_eq, eq_comm (a := Piece.pawn)]

/-- the pseudo-legal moves of the rules in the initial position, evaluated once: e2–e4 and d2–d4 are among them, leave
the king safe, and no other pawn move goes to e4 resp. d4 (`Spec.legalMoves` filters `Spec.pseudoMoves` by
`Spec.isLegalAfter`, so only these two moves need the king-safety test) -/
theorem start_pawn_moves :
    ((e2e4 ∈ Spec.pseudoMoves (abs startState) ∧ Spec.isLegalAfter (abs startState) e2e4 = true) ∧
      d2d4 ∈ Spec.pseudoMoves (abs startState) ∧ Spec.isLegalAfter (abs startState) d2d4 = true) ∧
      ∀ sm ∈ Spec.pseudoMoves (abs startState), sm.kind = .pawn →
        (sm.dst = 28 → sm = e2e4) ∧ (sm.dst = 27 → sm = d2d4) := by
  rw [startState_eq, pseudoMoves_abs]; simp only [isLegalAfter_abs]; decide +kernel

theorem toy_e4 : ∃ m, playMovetext "1. e4 1-0" = .ok [(startState, m)] ∧ toSpecMove m = some e2e4 :=
  toy_play "1. e4 1-0" "e4".toList { piece := some .pawn, destRank := some 3, destFile := some 4 } e2e4 28
    (by decide +kernel) (by decide +kernel) (pawnQuery_test 3 4 (by decide))
    (Spec.mem_legalMoves.2 start_pawn_moves.1.1) rfl rfl
    (fun sm h hk => (start_pawn_moves.2 sm (Spec.mem_legalMoves.1 h).1 hk).1)

theorem toy_d4 : ∃ m, playMovetext "1.d4 1/2-1/2" = .ok [(startState, m)] ∧ toSpecMove m = some d2d4 :=
  toy_play "1.d4 1/2-1/2" "d4".toList { piece := some .pawn, destRank := some 3, destFile := some 3 } d2d4 27
    (by decide +kernel) (by decide +kernel) (pawnQuery_test 3 3 (by decide))
    (Spec.mem_legalMoves.2 start_pawn_moves.1.2) rfl rfl
    (fun sm h hk => (start_pawn_moves.2 sm (Spec.mem_legalMoves.1 h).1 hk).2)

theorem toy_recorded_iff {me md : Move} (hpe : playMovetext "1. e4 1-0" = .ok [(startState, me)])
    (hpd : playMovetext "1.d4 1/2-1/2" = .ok [(startState, md)]) (q : State) (m : Move) :
    Recorded toyGames q m ↔ q = startState ∧ (m = me ∨ m = md) := by
  -- no `cases`/`subst` on equations with `startState`: unifying against it would run the FEN parser
  constructor
  · rintro ⟨g, hg, l, hl, hm⟩
    rcases List.mem_cons.1 hg with e | hg
    · rw [e, hpe] at hl
      rw [← Except.ok.inj hl, List.mem_singleton, Prod.mk.injEq] at hm
      exact ⟨hm.1, Or.inl hm.2⟩
    · rw [List.mem_singleton.1 hg, hpd] at hl
      rw [← Except.ok.inj hl, List.mem_singleton, Prod.mk.injEq] at hm
      exact ⟨hm.1, Or.inr hm.2⟩
  · rintro ⟨hq, hm | hm⟩ <;> rw [hq, hm]
    · exact ⟨_, List.mem_cons_self, _, hpe, List.mem_singleton.2 rfl⟩
    · exact ⟨_, List.mem_cons_of_mem _ List.mem_cons_self, _, hpd, List.mem_singleton.2 rfl⟩

/-- **the toy book, for every key table.**  The build succeeds; the two recorded moves read as e2–e4 and d2–d4; for every
position `p` with the key of the initial position (any clocks, with or without a useless en-passant target) the book
offers exactly these two, and both are legal moves of `p` (if `p` is a legal position). -/
theorem toy_book (K : Keys) :
    ∃ t me md, buildBookGames K toyGames = .ok t ∧ toSpecMove me = some e2e4 ∧ toSpecMove md = some d2d4 ∧
      ∀ p, key p = key startState →
        (∀ m, Offers K t p m ↔ m = me ∨ m = md) ∧
        (LegalPos p = true → me ∈ (legalMoves p).map (·.1) ∧ md ∈ (legalMoves p).map (·.1)) := by
  obtain ⟨me, hpe, hse⟩ := toy_e4
  obtain ⟨md, hpd, hsd⟩ := toy_d4
  have hrec := toy_recorded_iff hpe hpd
  -- hypothesis of `C16_build`: the build succeeds
  obtain ⟨t, ht⟩ := (C16_build_succeeds K toyGames).2 (fun g hg => by
    rcases List.mem_cons.1 hg with e | hg
    · exact ⟨_, e ▸ hpe⟩
    · exact ⟨_, List.mem_singleton.1 hg ▸ hpd⟩)
  refine ⟨t, me, md, ht, hse, hsd, fun p hk => ?_⟩
  -- hypothesis of `C16_exact` / `C16_legal`: no collision (here: the only recorded position has the key of `p`)
  have hcf : CollisionFree K toyGames p := fun q m hr _ => by rw [((hrec q m).1 hr).1, hk]
  have hoff : ∀ m, Offers K t p m ↔ m = me ∨ m = md := by
    intro m
    rw [C16_exact K toyGames t ht p hcf m]
    constructor
    · rintro ⟨q, hr, _⟩; exact ((hrec q m).1 hr).2
    · intro hm; exact ⟨startState, (hrec _ _).2 ⟨rfl, hm⟩, hk.symm⟩
  refine ⟨hoff, fun hl => ⟨?_, ?_⟩⟩
  · exact C16_legal K toyGames t ht p hl hcf me ((hoff me).2 (Or.inl rfl))
  · exact C16_legal K toyGames t ht p hl hcf md ((hoff md).2 (Or.inr rfl))

/-- the hypotheses `EpOK` of `C16_legal_moves_of_key` hold for every legal position, e.g. the initial one -/
example : EpOK startState := EpOK_of_legalPos startState startState_legal

/-- `CollisionFree` is implied by the independence hypothesis of C08 (satisfiable: `toyKeys_independent`) -/
example (games : List String) (p : State)
    (hU : ∀ q m, Recorded games q m → ∀ a ∈ symmDiff (atoms q) (atoms p), toyU a) :
    CollisionFree toyKeys games p :=
  C16_collisionFree_of_independent toyKeys toyU toyKeys_independent games p hU

/-- `EpOK` cannot be dropped from `C16_legal_moves_of_key`: two (ill-formed) states with the same key — kings, white
pawns c2 and e5, White to move, "en-passant target" d3 resp. d6, both "capturable" on the d-file — have different
legal moves.  No legal position has an en-passant target on rank 3 with White to move. -/
def epOdd (t : Nat) : State :=
  { pieces := { wk := 0x10, bk := 0x1000000000000000, wp := 0x1000000400 }, turn := .white,
    castleW := .noRights, castleB := .noRights, ep := some t, halfmove := 0, fullmove := 1 }

set_option maxRecDepth 1000000 in
example : key (epOdd 19) = key (epOdd 43) ∧
    (legalMoves (epOdd 19)).map (·.1) ≠ (legalMoves (epOdd 43)).map (·.1) := by
  simp only [legalMoves_fast]; decide +kernel

end Wee.Book
