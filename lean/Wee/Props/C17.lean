import Wee.Proofs.SearchCtl
/-!
# C17 — positions already seen in the game are treated as draws by the search

Rust: `weechess-engine/src/searcher.rs` — `analyze_iterative` (`state_history.increment(game_state_hash)`),
`analyze_recursive` (`if current_depth > 0 && state_history.lookup(&state_hash).is_some() { return Ok(EVEN) }`),
`StateHistory`.  Model: `Wee/Model/Search.lean` (`Ctx.history`, `searchNode`, `iterate`).

`StateHistory` is a multiset (`HashMap<Hash, usize>`) that is only ever asked "is the key present"; the model keeps
the list of recorded keys (`List.contains`).

* `C17_draw`: a non-root node whose hash is recorded returns `EVEN` (= 0) right after the node has been counted and
  the cancellation flag polled — before the table is read, without any table write, without searching a child and
  without touching the generator; the only other outcome is the interrupt of that very poll.
* `C17_root` / `searchNode_root_unfold`: at `current_depth = 0` the history is not consulted: the root is probed in
  the table and expanded although `iterate` has just recorded it.
* `C17_iterate_records_root`, `C17_iterate_searches_with_root`: the search records the root's hash in the artifact
  it returns and searches with that extended history.
* `C17_win_statement`: the consequence for won positions as a `Prop` over an abstract `WinIn`.  It is NOT the form
  that is proved: its hypotheses cannot be met (`C17_win_statement_vacuous` in `Wee/Props/C06Complete.lean`).  The
  theorems are `C17_win` and `C17_win_two_moves` there (they need the completeness of the search, C06).
-/
namespace Wee.SearchCtl
open Wee.Search

/-- **C17_draw.**  `analyze_recursive` on a node with `current_depth > 0` whose Zobrist key is in the state history:
the node is counted; if the new count is a multiple of the poll interval the flag is polled (and an answer
"cancelled" makes the node return `SearchInterrupt`); otherwise the result is `Ok(Evaluation::EVEN)`.
The final state differs from the initial one only in `nodes` (+1) and, when polled, `polls` (+1): the transposition
table is neither read nor written, the generator is not advanced, no child is searched — for every remaining depth,
window, prioritized move and table content. -/
theorem C17_draw (ctx : Ctx) (rem : Nat) (a : NodeArgs) (st : St)
    (hd : a.curDepth > 0) (hh : ctx.history.contains (Wee.hash ctx.keys a.s) = true) :
    (searchNode ctx rem a).run.run st =
      if (st.nodes + 1) % Gen.pollInterval = 0 then
        if cancelledAt ctx st = true
        then (.error .interrupt, { st with nodes := st.nodes + 1, polls := st.polls + 1 })
        else (.ok 0, { st with nodes := st.nodes + 1, polls := st.polls + 1 })
      else (.ok 0, { st with nodes := st.nodes + 1 }) :=
  searchNode_recorded ctx rem a st hd hh

/-- the two readable corollaries: not interrupted ⇒ the value is the draw score and only the counters moved -/
theorem C17_draw_value (ctx : Ctx) (rem : Nat) (a : NodeArgs) (st : St)
    (hd : a.curDepth > 0) (hh : ctx.history.contains (Wee.hash ctx.keys a.s) = true)
    (hni : ¬ ((st.nodes + 1) % Gen.pollInterval = 0 ∧ cancelledAt ctx st = true)) :
    ∃ st', (searchNode ctx rem a).run.run st = (.ok 0, st') ∧ st'.tt = st.tt ∧ st'.rng = st.rng ∧
      st'.nodes = st.nodes + 1 ∧ (st'.polls = st.polls ∨ st'.polls = st.polls + 1) := by
  rw [C17_draw ctx rem a st hd hh]
  by_cases h1 : (st.nodes + 1) % Gen.pollInterval = 0
  · have h2 : ¬ cancelledAt ctx st = true := fun h => hni ⟨h1, h⟩
    rw [if_pos h1, if_neg h2]
    exact ⟨_, rfl, rfl, rfl, rfl, Or.inr rfl⟩
  · rw [if_neg h1]
    exact ⟨_, rfl, rfl, rfl, rfl, Or.inl rfl⟩

/-- … and the interrupted case returns `SearchInterrupt` -/
theorem C17_draw_interrupt (ctx : Ctx) (rem : Nat) (a : NodeArgs) (st : St)
    (hd : a.curDepth > 0) (hh : ctx.history.contains (Wee.hash ctx.keys a.s) = true)
    (hi : (st.nodes + 1) % Gen.pollInterval = 0 ∧ cancelledAt ctx st = true) :
    (searchNode ctx rem a).run.run st =
      (.error .interrupt, { st with nodes := st.nodes + 1, polls := st.polls + 1 }) := by
  rw [C17_draw ctx rem a st hd hh, if_pos hi.1, if_pos hi.2]

/-- the hypotheses are satisfiable: depth 1, the key of the node recorded, counter away from a poll -/
example : ∃ (ctx : Ctx) (a : NodeArgs) (st : St), a.curDepth > 0 ∧
    ctx.history.contains (Wee.hash ctx.keys a.s) = true ∧
    ¬ ((st.nodes + 1) % Gen.pollInterval = 0 ∧ cancelledAt ctx st = true) := by
  let K : Keys := { turn := fun _ => 0, piece := fun _ _ _ => 0, castle := fun _ _ => 0, epFile := fun _ => 0 }
  let s : State := default
  refine ⟨{ keys := K, history := [Wee.hash K s], cancelAt := Option.none },
    { s := s, maxDepth := 1, curDepth := 1, curExt := 0, alpha := 0, beta := 0, prioritized := Option.none },
    default, by decide, by simp, ?_⟩
  intro h
  exact absurd h.2 (by simp [cancelledAt])

/-- **C17_root (unfolding).**  At `current_depth = 0` the early `return Ok(EVEN)` is not taken whatever the history
contains: after the node is counted (and the flag possibly polled) the root is looked up in the table and, unless
the table cuts it off, searched (`contM`: quiescence at remaining depth 0, the move loop otherwise). -/
theorem searchNode_root_unfold (ctx : Ctx) (rem : Nat) (a : NodeArgs) (st : St) (h0 : a.curDepth = 0) :
    (searchNode ctx rem a).run.run st =
      match tick ctx st with
      | (.error e, st1) => (.error e, st1)
      | (.ok _, st1) =>
        match probe a (st1.tt.find (Wee.hash ctx.keys a.s).toNat) with
        | .underflow => (.error (.panic "usize subtraction underflow"), st1)
        | .cut v => (.ok v, st1)
        | .window alpha beta => (contM ctx rem a alpha beta).run.run st1 := by
  rw [searchNode_eq, nodeM_run]
  have : (decide (a.curDepth > 0) && ctx.history.contains (Wee.hash ctx.keys a.s)) = false := by
    simp [h0]
  simp only [this, Bool.false_eq_true, ↓reduceIte]
  rfl

/-- **C17_root.**  The root call does not depend on whether the root's own key is recorded: at `current_depth = 0`, with no
entry for the root in the table (`find = none`), remaining depth `rem+1` and a node count that is not at a poll (`hpoll`), it
runs the move loop of the root with its own window `(a.alpha, a.beta)` — it is *expanded*, not valued as a draw — although
`iterate` has put the root's key at the head of the history it searches with. -/
theorem C17_root (ctx : Ctx) (rem : Nat) (a : NodeArgs) (st : St) (h0 : a.curDepth = 0)
    (hpoll : (st.nodes + 1) % Gen.pollInterval ≠ 0)
    (hfind : st.tt.find (Wee.hash ctx.keys a.s).toNat = Option.none) :
    (searchNode ctx (rem+1) a).run.run st =
      (expandM ctx (searchNode ctx rem) a (Wee.hash ctx.keys a.s) a.alpha a.beta).run.run
        { st with nodes := st.nodes + 1 } := by
  rw [searchNode_root_unfold ctx (rem+1) a st h0, tick_eq, if_neg hpoll]
  simp only [hfind, probe]
  rfl

/-- **C17_iterate_records_root.**  `analyze_iterative` returns an artifact whose history is the incoming history
plus the key of the searched position (`state_history.increment(game_state_hash)`), for every outcome of the
search (completed, interrupted, terminal root, even a panic of the model). -/
theorem C17_iterate_records_root (root : State) (rng0 : Rng.ChaCha8) (maxDepth : Option Nat) (art : Artifact)
    (workersOf : Nat → Nat) (cancelAt : Option Nat) (fuelDepth : Nat) :
    (iterate root rng0 maxDepth art workersOf cancelAt fuelDepth).artifact.history =
      Wee.hash art.keys.keys root :: art.history := rfl

/-- the hasher is handed on unchanged -/
theorem C17_iterate_keeps_keys (root : State) (rng0 : Rng.ChaCha8) (maxDepth : Option Nat) (art : Artifact)
    (workersOf : Nat → Nat) (cancelAt : Option Nat) (fuelDepth : Nat) :
    (iterate root rng0 maxDepth art workersOf cancelAt fuelDepth).artifact.keys = art.keys := by
  rw [iterate_eq]

/-- every worker of the search runs with the extended history (`iterCtx`), so by `C17_draw` every non-root node
whose key equals the root's key or a previously recorded key is a draw -/
theorem C17_iterate_searches_with_root (root : State) (art : Artifact) (cancelAt : Option Nat) (h : UInt64) :
    (iterCtx root art cancelAt).history.contains h = (h == Wee.hash art.keys.keys root || art.history.contains h) := by
  show (Wee.hash art.keys.keys root :: art.history).contains h = _
  rw [List.contains_cons]

/-- **C17_win as a statement over an abstract `WinIn`** (a predicate on ply budgets and positions).  If two different
first moves of the root keep a forced mate within `n` plies and one of them, `r1`, leads into a position whose key is
recorded in the incoming history — and the key of NO other state is recorded —, then a one-worker search of depth
`n + 1` on a fresh table ends with a `BestMove` event whose evaluation is a winning terminal score (`≥ POS_INF`) and
whose first move is not the repeating move.
That last hypothesis cannot be met together with the one before it: the Zobrist key does not read the move counters,
so a state `≠ r1.2` has the key of `r1.2`; `C17_win_statement_vacuous` (`Wee/Props/C06Complete.lean`) proves this
statement from that contradiction, for every `WinIn`.  The form that says something about the search is `C17_win` / `C17_win_two_moves`
there, where "recorded" is a property of keys and the mate has to avoid the recorded keys. -/
def C17_win_statement (WinIn : Nat → State → Prop) : Prop :=
  ∀ (root : State) (n : Nat) (r1 r2 : Move × State) (rng0 : Rng.ChaCha8) (art : Artifact) (tables buckets : Nat),
    r1 ∈ legalMoves root → r2 ∈ legalMoves root → r1.1 ≠ r2.1 →
    WinIn n r1.2 → WinIn n r2.2 →
    art.tt = TT.Access.new tables buckets → 0 < tables → 0 < buckets →
    art.history.contains (Wee.hash art.keys.keys r1.2) = true →
    (∀ q, q ≠ r1.2 → art.history.contains (Wee.hash art.keys.keys q) = false) →
    ∃ ev line, (iterate root rng0 (some (n + 1)) art (fun _ => 1) Option.none).events.getLast? = some (.best ev line) ∧
      ev ≥ Ev.posInf ∧ line.head? ≠ some r1.1

end Wee.SearchCtl
