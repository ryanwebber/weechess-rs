import Wee.Proofs.UciStep
/-!
# C18 — `ucinewgame` starts from a clean search memory

`Uci.step` is the transcription of one iteration of `Client::exec`; the hook trace
`verif-state searching=… artifact=…` of the real process is compared with this model after every
command of every generated history.  The theorems: whatever the history, after `ucinewgame`
no search is running and no artifact is stored; hence the next search starts from fresh memory
(`SearchArtifact` = hasher + table + position history), i.e. exactly as in a freshly started process.
-/
namespace Wee.Uci

/-- one step on a line whose first token is `ucinewgame` -/
theorem C18_step_clean (hasBook : State → Bool) (s : Sess) (cmd : String) (rest : List String)
    (h : splitAsciiWs cmd = "ucinewgame" :: rest) :
    ∃ outs, step hasBook s cmd = some ({ s with searching := false, artifact := false }, outs, false) ∧
      (outs = [] ∨ outs = [Out.joinRunning]) := by
  rw [step_ucinewgame hasBook _ s h]
  by_cases hs : s.searching = true <;> simp [hs]

/-- **C18_clean**: stated for an arbitrary session state `s` (hence for the state after every
command history that does not panic, with any book): a step on `ucinewgame` leaves no running search
and no stored artifact, does not touch the position and does not quit. -/
theorem C18_clean (hasBook : State → Bool) (s : Sess) (cmd : String) (rest : List String)
    (h : splitAsciiWs cmd = "ucinewgame" :: rest) (s' : Sess) (outs : List Out) (q : Bool)
    (hstep : step hasBook s cmd = some (s', outs, q)) :
    s'.searching = false ∧ s'.artifact = false ∧ s'.pos = s.pos ∧ q = false := by
  obtain ⟨o, ho, _⟩ := C18_step_clean hasBook s cmd rest h
  rw [ho] at hstep
  simp only [Option.some.injEq, Prod.mk.injEq] at hstep
  obtain ⟨rfl, _, rfl⟩ := hstep
  exact ⟨rfl, rfl, rfl, rfl⟩

/-- the next search after a clean state is a fresh-memory search: `go` on a position outside the
book starts a search that does not reuse an artifact (`previous_artifact.take()` is `None`) -/
theorem C18_next_search_fresh (hasBook : State → Bool) (s : Sess) (cmd : String) (args : List String)
    (hclean : s.searching = false ∧ s.artifact = false)
    (h : splitAsciiWs cmd = "go" :: args) (hb : hasBook s.pos = false) :
    ∃ d t pre, step hasBook s cmd =
      some ({ s with searching := true, artifact := false, searchOk := true }, pre ++ [Out.searchStarted d t false], false) := by
  obtain ⟨h1, h2⟩ := hclean
  rw [step_go hasBook _ s h, joinKeep_idle h1]
  simp only [hb, Bool.false_eq_true, if_false]
  refine ⟨(parseGoArgs args Option.none Option.none).1, (parseGoArgs args Option.none Option.none).2.1,
    (if (parseGoArgs args Option.none Option.none).2.2 then [Out.line "info string unparsable go commands"] else []), ?_⟩
  simp [h2]

/-- `isready` changes nothing in the session state, so in particular not the search memory (shown for
this one command only) -/
theorem C18_isready_keeps (hasBook : State → Bool) (s : Sess) (cmd : String) (rest : List String)
    (h : splitAsciiWs cmd = "isready" :: rest) :
    step hasBook s cmd = some (s, [Out.line "readyok"], false) :=
  step_isready hasBook _ s h

/-- non-vacuity: `go; stop; ucinewgame` from the initial state really passes through a state with a
stored artifact (the history on which the pinned tree kept the old memory) -/
example :
    (run (fun _ => false) Sess.init ["go depth 1", "stop"]).map (fun r => (r.1.searching, r.1.artifact)) = some (false, true) ∧
    (run (fun _ => false) Sess.init ["go depth 1", "stop", "ucinewgame"]).map (fun r => (r.1.searching, r.1.artifact)) = some (false, false) := by
  decide +kernel

end Wee.Uci
