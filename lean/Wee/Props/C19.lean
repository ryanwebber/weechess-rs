import Wee.Proofs.SearchCtl
/-!
# C19 — a search is reproducible from its seed

Rust: `weechess-engine/src/searcher.rs` — `Searcher::analyze` (`RandomNumberGenerator::seed_from_u64(rng_seed)`),
`analyze_iterative` (`ZobristHasher::with(&mut rng)` when there is no previous artifact, `ChaCha8Rng::seed_from_u64(rng.gen())`
per worker and iteration), `analyze_recursive` (`rng.gen_range(-10..=10)` inside `sort_by_cached_key`).
Model: `Wee/Model/Search.lean` (`iterate`, `drawSeeds`, `jitter`), `Wee/Model/Rng.lean`, `Wee/Model/Hash.lean`.

In the model a search **is a function** `iterate root rng0 maxDepth art workersOf cancelAt fuelDepth : Outcome`
of its arguments: there is no clock, no OS randomness, no hashed-container iteration order in it.  The theorems
below are therefore immediate (`rfl` / congruence) — they only spell out *which* arguments a fresh one-worker search
has: the position, the seed, the depth limit (and the table shape, which the public entry point fixes).
The assurance for the Rust code is the exact correspondence tie (DESIGN §C19): the executable model predicts the full
`StatusEvent` sequence (lines, evaluations, node counts) of the real engine for every tested (position, seed, depth),
which an implementation with a hidden source of nondeterminism could not match run after run; the theorem says the
prediction itself is unique.

The only places where the generator state is consumed are `drawSeeds` (one `u64` per worker and iteration) and
`jitter` (one `gen_range` per pseudo-legal move of an expanded node with ≥ 2 moves): `C19_seeds`, `C19_sort_rng_only`.
-/
namespace Wee.SearchCtl
open Wee.Search

/-- `verif::artifact_new(seed, tables, buckets)`: hasher keys drawn from a generator seeded with `seed`, empty
table, empty history -/
def freshArtifact (seed : UInt64) (tables buckets : Nat) : Artifact :=
  { keys := (KeyTable.ofRng (Rng.seedFromU64 seed)).1, tt := TT.Access.new tables buckets, history := [] }

/-- `verif::analyze_sync(state, seed, max_depth, Some(artifact_new(seed, ..)), Some(1), cancel_at_poll, ..)`:
the search generator is seeded again with `seed` -/
def searchHook (root : State) (seed : UInt64) (maxDepth : Option Nat) (tables buckets : Nat)
    (cancelAt : Option Nat) (fuelDepth : Nat := 64) : Outcome :=
  iterate root (Rng.seedFromU64 seed) maxDepth (freshArtifact seed tables buckets) (fun _ => 1) cancelAt fuelDepth

/-- `Searcher::analyze(state, seed, evaluator, max_depth, None)` restricted to one worker: the hasher keys are the
first draws of the generator and the search continues with the same generator (`ZobristHasher::with(&mut rng)`) -/
def searchPublic (root : State) (seed : UInt64) (maxDepth : Option Nat) (tables buckets : Nat)
    (cancelAt : Option Nat) (fuelDepth : Nat := 64) : Outcome :=
  iterate root (KeyTable.ofRng (Rng.seedFromU64 seed)).2 maxDepth (freshArtifact seed tables buckets) (fun _ => 1)
    cancelAt fuelDepth

/-- **C19_function.**  Two searches of the same position with the same seed, the same depth limit, a fresh search
memory (of the same shape) and a single worker report exactly the same sequence of events — best lines,
evaluations, progress records with node counts, saturation warning — end in the same artifact and the same
panic status.  Immediate: the model search is a function of these arguments (see the header for what carries the
assurance). -/
theorem C19_function (root₁ root₂ : State) (seed₁ seed₂ : UInt64) (maxDepth₁ maxDepth₂ : Option Nat)
    (tables buckets : Nat) (cancelAt : Option Nat) (fuelDepth : Nat)
    (hroot : root₁ = root₂) (hseed : seed₁ = seed₂) (hdepth : maxDepth₁ = maxDepth₂) :
    (searchHook root₁ seed₁ maxDepth₁ tables buckets cancelAt fuelDepth).events =
      (searchHook root₂ seed₂ maxDepth₂ tables buckets cancelAt fuelDepth).events ∧
    (searchHook root₁ seed₁ maxDepth₁ tables buckets cancelAt fuelDepth).artifact =
      (searchHook root₂ seed₂ maxDepth₂ tables buckets cancelAt fuelDepth).artifact ∧
    (searchHook root₁ seed₁ maxDepth₁ tables buckets cancelAt fuelDepth).panic =
      (searchHook root₂ seed₂ maxDepth₂ tables buckets cancelAt fuelDepth).panic := by
  subst hroot hseed hdepth
  exact ⟨rfl, rfl, rfl⟩

/-- the same for the public entry point (generator shared between hasher and search) -/
theorem C19_function_public (root₁ root₂ : State) (seed₁ seed₂ : UInt64) (maxDepth₁ maxDepth₂ : Option Nat)
    (tables buckets : Nat) (cancelAt : Option Nat) (fuelDepth : Nat)
    (hroot : root₁ = root₂) (hseed : seed₁ = seed₂) (hdepth : maxDepth₁ = maxDepth₂) :
    searchPublic root₁ seed₁ maxDepth₁ tables buckets cancelAt fuelDepth =
      searchPublic root₂ seed₂ maxDepth₂ tables buckets cancelAt fuelDepth := by
  subst hroot hseed hdepth
  rfl

/-- the general form: *whatever* the memory and the worker schedule, the outcome is determined by the arguments
of `iterate` (so a re-run on a copy of the same artifact reproduces the run) -/
theorem C19_function_general (root : State) (rng₁ rng₂ : Rng.ChaCha8) (maxDepth : Option Nat) (art₁ art₂ : Artifact)
    (workersOf : Nat → Nat) (cancelAt : Option Nat) (fuelDepth : Nat) (hr : rng₁ = rng₂) (ha : art₁ = art₂) :
    iterate root rng₁ maxDepth art₁ workersOf cancelAt fuelDepth =
      iterate root rng₂ maxDepth art₂ workersOf cancelAt fuelDepth := by
  subst hr ha; rfl

/-- with a depth limit the model's iteration fuel (which stands for `usize::MAX`) plays no role -/
theorem C19_fuel_irrelevant (root : State) (rng0 : Rng.ChaCha8) (d : Nat) (art : Artifact)
    (workersOf : Nat → Nat) (cancelAt : Option Nat) (f₁ f₂ : Nat) :
    iterate root rng0 (some d) art workersOf cancelAt f₁ = iterate root rng0 (some d) art workersOf cancelAt f₂ := rfl

/-- the hypotheses of `C19_function` are satisfiable (trivially: any position and seed) -/
example : (default : State) = default ∧ (7 : UInt64) = 7 ∧ (some 3 : Option Nat) = some 3 := ⟨rfl, rfl, rfl⟩

/-- **C19_seeds.**  With one worker, an iteration seeds its worker with the next `u64` of the search generator
(`ChaCha8Rng::seed_from_u64(rng.gen())`): one draw, and the generator after it is handed on. -/
theorem C19_seeds (r : Rng.ChaCha8) :
    drawSeeds 1 r = ([(Rng.nextU64 r).1], (Rng.nextU64 r).2) := rfl

/-- **C19_sort_rng_only.**  Ordering the moves of a node cannot fail, returns a permutation of the pseudo-legal
moves and changes nothing of the worker state but the generator (no table access, no counter). -/
theorem C19_sort_rng_only (s : State) (xs : List Move) (st : St) :
    ∃ ys r, (sortByCachedKey xs fun mv => do let j ← jitter; pure (estimate s mv + j)).run.run st =
      (.ok ys, { st with rng := r }) ∧ ys.Perm xs :=
  sort_rngOnly s xs st

/-- with fewer than two moves the generator is not touched at all (`sort_by_cached_key` computes no key) -/
theorem C19_sort_short (s : State) (xs : List Move) (st : St) (h : xs.length < 2) :
    (sortByCachedKey xs fun mv => do let j ← jitter; pure (estimate s mv + j)).run.run st = (.ok xs, st) := by
  unfold sortByCachedKey
  simp only [h, ↓reduceIte]
  rfl

/-- one `gen_range(-10..=10)` per key -/
theorem C19_jitter (st : St) :
    jitter.run.run st =
      (.ok (Rng.genRangeI32 Gen.jitterLo Gen.jitterHi st.rng).1,
       { st with rng := (Rng.genRangeI32 Gen.jitterLo Gen.jitterHi st.rng).2 }) :=
  jitter_run st

end Wee.SearchCtl
