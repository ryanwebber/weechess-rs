import Wee.Proofs.MoveBits
import Wee.Proofs.CborRoundTrip
/-!
# C20 — move values faithfully carry their attributes

Rust: `weechess-core/src/moves.rs`, `struct Move(u32)`, `impl Move`, `mod compact`.
Model: `Wee/Model/Move.lean` (literal transcription of `store/load/bit/set_bit`, constructors and
getters over the layout constants generated into `Wee/Gen/MoveLayout.lean`), `Wee/Model/Cbor.lean`
(ciborium's unsigned-integer form).

Vocabulary (`Wee/Proofs/MoveAttrs.lean`):
* `Move.mk c p o d cap pr ep cq ck` — the general constructor: `by_moving` followed by
  `set_capture`, `set_promotion`, `set_en_passant`, `set_castle_queenside`, `set_castle_kingside`;
  the double-step flag is *derived* inside `by_moving` (`Move.dbl p o d`).
* `Move.attrs m : Move.Attrs` — the record of all ten getters
  (colour, piece, origin, destination, capture, promotion, en-passant, double-step, castleQ, castleK).

All statements quantify over **both colours, all seven `Piece` values for the moving piece
(the six real kinds and `Piece.none`), all squares `< 64`, every optional capture / promotion kind
other than `some Piece.none`, and all flag values**; what happens for `some Piece.none` is stated
separately (`C20_none_capture`, `C20_none_promotion`).

Proof method: the packed word is read as a natural number; storing into a clear field is addition,
loading is `/ 2^off % 2^w`, so a constructed word is its fields laid side by side (`Move.mk_reads`) and a getter
reads one of them.  No `bv_decide`, no `native_decide`.
-/
namespace Wee
open Move Gen Cbor

/-! ## C20_get — every getter returns the constructed attribute -/

/-- **General constructor.** For every colour, piece, origin, destination, optional capture,
optional promotion and every combination of the en-passant / castle flags, each getter of the
constructed move (`Move::color`, `piece`, `origin`, `destination`, `capture`, `promotion`,
`is_en_passant`, `is_double_pawn`, `castle_queenside`, `castle_kingside`) returns exactly the
constructed attribute; `is_double_pawn` returns `piece == Pawn ∧ |rank o − rank d| > 1`.
`piece = some p` also says that the `unwrap` in `Move::piece` cannot panic. -/
theorem C20_get_mk (c : Color) (p : Piece) (o d : Nat) (cap pr : Option Piece) (ep cq ck : Bool)
    (ho : o < 64) (hd : d < 64) (hc : cap ≠ some Piece.none) (hr : pr ≠ some Piece.none) :
    attrs (mk c p o d cap pr ep cq ck) =
      { color := c, piece := some p, origin := o, dest := d, capture := cap, promotion := pr,
        enPassant := ep, doublePawn := dbl p o d, castleQ := cq, castleK := ck } :=
  attrs_mk c p o d cap pr ep cq ck ho hd hc hr

example : (3 : Nat) < 64 ∧ (63 : Nat) < 64 ∧ (some Piece.rook ≠ some Piece.none) ∧
    (some Piece.queen ≠ some Piece.none) := by decide

/-- The getters derived from the ten primitive ones: `Move::piece` (unwrapped), `is_capture`,
`is_promotion`, `castle_side` (queenside bit tested first), `resulting_piece` inputs. -/
theorem C20_get_mk_derived (c : Color) (p : Piece) (o d : Nat) (cap pr : Option Piece) (ep cq ck : Bool)
    (ho : o < 64) (hd : d < 64) (hc : cap ≠ some Piece.none) (hr : pr ≠ some Piece.none) :
    let m := mk c p o d cap pr ep cq ck
    Move.piece m = p ∧ Move.isCapture m = cap.isSome ∧ Move.isPromotion m = pr.isSome ∧
    Move.castleSide m = (if cq then some Side.queen else if ck then some Side.king else Option.none) := by
  intro m
  refine ⟨?_, ?_, ?_, ?_⟩
  · show (piece? m).getD Piece.none = p
    rw [show piece? m = some p from piece?_mk c p o d cap pr ep cq ck ho hd]; rfl
  · show (captureCode m != 0) = cap.isSome
    rw [captureCode_mk c p o d cap pr ep cq ck ho hd]
    cases cap with
    | none => rfl
    | some q => cases q <;> first | exact absurd rfl hc | rfl
  · show (promotionCode m != 0) = pr.isSome
    rw [promotionCode_mk c p o d cap pr ep cq ck ho hd]
    cases pr with
    | none => rfl
    | some q => cases q <;> first | exact absurd rfl hr | rfl
  · show (if castleQ m then some Side.queen else if castleK m then some Side.king else Option.none) = _
    rw [castleQ_mk c p o d cap pr ep cq ck ho hd, castleK_mk c p o d cap pr ep cq ck ho hd]

/-- `Move::by_moving`: colour, piece, origin, destination come back; no capture, no promotion, no
en-passant, no castling; the double-step flag is `piece == Pawn ∧ |rank o − rank d| > 1`. -/
theorem C20_get_byMoving (c : Color) (p : Piece) (o d : Nat) (ho : o < 64) (hd : d < 64) :
    attrs (byMoving c p o d) =
      { color := c, piece := some p, origin := o, dest := d, capture := Option.none,
        promotion := Option.none, enPassant := false, doublePawn := dbl p o d,
        castleQ := false, castleK := false } := by
  rw [byMoving_eq_mk c p o d ho hd]
  exact attrs_mk c p o d _ _ _ _ _ ho hd (by decide) (by decide)

/-- `Move::by_capturing` with a real captured kind `q`: as `by_moving` plus `capture = Some(q)`. -/
theorem C20_get_byCapturing (c : Color) (p : Piece) (o d : Nat) (q : Piece)
    (ho : o < 64) (hd : d < 64) (hq : q ≠ Piece.none) :
    attrs (byCapturing c p o d q) =
      { color := c, piece := some p, origin := o, dest := d, capture := some q,
        promotion := Option.none, enPassant := false, doublePawn := dbl p o d,
        castleQ := false, castleK := false } := by
  rw [byCapturing_eq_mk c p o d ho hd q]
  exact attrs_mk c p o d _ _ _ _ _ ho hd (fun h => hq (Option.some.inj h)) (by decide)

/-- `Move::by_promoting` with a real promotion kind `r`: as `by_moving` plus `promotion = Some(r)`. -/
theorem C20_get_byPromoting (c : Color) (p : Piece) (o d : Nat) (r : Piece)
    (ho : o < 64) (hd : d < 64) (hr : r ≠ Piece.none) :
    attrs (byPromoting c p o d r) =
      { color := c, piece := some p, origin := o, dest := d, capture := Option.none,
        promotion := some r, enPassant := false, doublePawn := dbl p o d,
        castleQ := false, castleK := false } := by
  rw [byPromoting_eq_mk c p o d ho hd r]
  exact attrs_mk c p o d _ _ _ _ _ ho hd (by decide) (fun h => hr (Option.some.inj h))

/-- `Move::by_capture_promoting`: both `capture = Some(q)` and `promotion = Some(r)` come back,
for every origin/destination (e.g. destination 63 with both fields set). -/
theorem C20_get_byCapturePromoting (c : Color) (p : Piece) (o d : Nat) (q r : Piece)
    (ho : o < 64) (hd : d < 64) (hq : q ≠ Piece.none) (hr : r ≠ Piece.none) :
    attrs (byCapturePromoting c p o d q r) =
      { color := c, piece := some p, origin := o, dest := d, capture := some q,
        promotion := some r, enPassant := false, doublePawn := dbl p o d,
        castleQ := false, castleK := false } := by
  rw [byCapturePromoting_eq_mk c p o d ho hd q r]
  exact attrs_mk c p o d _ _ _ _ _ ho hd (fun h => hq (Option.some.inj h)) (fun h => hr (Option.some.inj h))

/-- instance with the hypotheses discharged, the corner case of the property text: destination 63 with capture
and promotion both set (white pawn g7×h8=Q capturing a rook) -/
example : attrs (byCapturePromoting .white .pawn 54 63 .rook .queen) =
    { color := .white, piece := some .pawn, origin := 54, dest := 63, capture := some .rook,
      promotion := some .queen, enPassant := false, doublePawn := false, castleQ := false,
      castleK := false } :=
  C20_get_byCapturePromoting .white .pawn 54 63 .rook .queen (by decide) (by decide) (by decide) (by decide)

/-- the derived double-step flag is really set for a pawn moving two ranks and only then -/
example : dbl .pawn 8 24 = true ∧ dbl .pawn 8 16 = false ∧ dbl .rook 8 24 = false ∧
    Move.isDoublePawn (byMoving .white .pawn 8 24) = true ∧
    Move.isDoublePawn (byMoving .white .rook 8 24) = false := by decide

/-- `Move::by_en_passant`: reports `capture = Some(Pawn)` and the en-passant flag. -/
theorem C20_get_byEnPassant (c : Color) (p : Piece) (o d : Nat) (ho : o < 64) (hd : d < 64) :
    attrs (byEnPassant c p o d) =
      { color := c, piece := some p, origin := o, dest := d, capture := some Piece.pawn,
        promotion := Option.none, enPassant := true, doublePawn := dbl p o d,
        castleQ := false, castleK := false } := by
  rw [byEnPassant_eq_mk c p o d ho hd]
  exact attrs_mk c p o d _ _ _ _ _ ho hd (by decide) (by decide)

/-- `Move::by_castling`, all four (colour, side) pairs: the king of that colour, from
`KING_ORIGINS[colour]` to `CASTLE_DESTS[colour][side]`, no capture / promotion / en-passant /
double-step, exactly the flag of its side, and `castle_side() = Some(side)`. -/
theorem C20_get_byCastling (c : Color) (s : Side) :
    attrs (byCastling c s) =
      { color := c, piece := some Piece.king, origin := kingOrigins[c.idx]!,
        dest := castleDests[c.idx]![s.idx]!, capture := Option.none, promotion := Option.none,
        enPassant := false, doublePawn := false, castleQ := (s == Side.queen),
        castleK := (s == Side.king) } ∧
    Move.castleSide (byCastling c s) = some s ∧ Move.isAnyCastle (byCastling c s) = true := by
  cases c <;> cases s <;> decide +kernel

/-- the concrete squares: e1→g1, e1→c1, e8→g8, e8→c8 -/
example : (Move.origin (byCastling .white .king), Move.dest (byCastling .white .king)) = (4, 6) ∧
    (Move.origin (byCastling .white .queen), Move.dest (byCastling .white .queen)) = (4, 2) ∧
    (Move.origin (byCastling .black .king), Move.dest (byCastling .black .king)) = (60, 62) ∧
    (Move.origin (byCastling .black .queen), Move.dest (byCastling .black .queen)) = (60, 58) := by decide

/-! ### `Piece.none`

As *moving piece*, `Piece.none` (code 0) round-trips like any other kind (`C20_get_mk` holds for all
seven values).  As *captured / promotion kind* it is stored as 0, which is the encoding of "absent":
the move is bit-for-bit the one without that attribute and the getter returns `None`. -/

/-- `by_capturing(.., Piece::None)` is the same value as `by_moving(..)` (any squares). -/
theorem C20_none_capture (c : Color) (p : Piece) (o d : Nat) :
    byCapturing c p o d Piece.none = byMoving c p o d :=
  store_zero _ _ _

/-- `by_promoting(.., Piece::None)` is the same value as `by_moving(..)` (any squares). -/
theorem C20_none_promotion (c : Color) (p : Piece) (o d : Nat) :
    byPromoting c p o d Piece.none = byMoving c p o d :=
  store_zero _ _ _

/-! ## C20_inj — equality of the packed words is equality of all attributes -/

/-- Two moves built by the general constructor are equal as `u32` (which is what
`#[derive(PartialEq, Eq, Hash)]` on `struct Move(u32)` compares) **iff** colour, piece, origin,
destination, capture, promotion and the three free flags are all equal (the double-step flag is a
function of piece, origin and destination). -/
theorem C20_inj (c c' : Color) (p p' : Piece) (o d o' d' : Nat) (cap pr cap' pr' : Option Piece)
    (ep cq ck ep' cq' ck' : Bool)
    (ho : o < 64) (hd : d < 64) (ho' : o' < 64) (hd' : d' < 64)
    (hc : cap ≠ some Piece.none) (hr : pr ≠ some Piece.none)
    (hc' : cap' ≠ some Piece.none) (hr' : pr' ≠ some Piece.none) :
    mk c p o d cap pr ep cq ck = mk c' p' o' d' cap' pr' ep' cq' ck' ↔
      (c = c' ∧ p = p' ∧ o = o' ∧ d = d' ∧ cap = cap' ∧ pr = pr' ∧ ep = ep' ∧ cq = cq' ∧ ck = ck') := by
  constructor
  · intro h
    have ha := congrArg attrs h
    rw [attrs_mk c p o d cap pr ep cq ck ho hd hc hr,
      attrs_mk c' p' o' d' cap' pr' ep' cq' ck' ho' hd' hc' hr'] at ha
    injection ha with h1 h2 h3 h4 h5 h6 h7 _ h9 h10
    exact ⟨h1, Option.some.inj h2, h3, h4, h5, h6, h7, h9, h10⟩
  · rintro ⟨rfl, rfl, rfl, rfl, rfl, rfl, rfl, rfl, rfl⟩
    rfl

/-- Same fact phrased with the getters: constructed moves are equal iff all their getters agree. -/
theorem C20_eq_iff_attrs (c c' : Color) (p p' : Piece) (o d o' d' : Nat) (cap pr cap' pr' : Option Piece)
    (ep cq ck ep' cq' ck' : Bool)
    (ho : o < 64) (hd : d < 64) (ho' : o' < 64) (hd' : d' < 64)
    (hc : cap ≠ some Piece.none) (hr : pr ≠ some Piece.none)
    (hc' : cap' ≠ some Piece.none) (hr' : pr' ≠ some Piece.none) :
    mk c p o d cap pr ep cq ck = mk c' p' o' d' cap' pr' ep' cq' ck' ↔
      attrs (mk c p o d cap pr ep cq ck) = attrs (mk c' p' o' d' cap' pr' ep' cq' ck') := by
  constructor
  · intro h; rw [h]
  · intro h
    rw [attrs_mk c p o d cap pr ep cq ck ho hd hc hr,
      attrs_mk c' p' o' d' cap' pr' ep' cq' ck' ho' hd' hc' hr'] at h
    injection h with h1 h2 h3 h4 h5 h6 h7 _ h9 h10
    exact (C20_inj c c' p p' o d o' d' cap pr cap' pr' ep cq ck ep' cq' ck' ho hd ho' hd' hc hr hc' hr').2
      ⟨h1, Option.some.inj h2, h3, h4, h5, h6, h7, h9, h10⟩

/-- non-vacuity of `C20_inj`: two different attribute tuples give different words, and a
concrete packed value (white pawn a7×b8=Q capturing a knight, destination 57). -/
example : mk .white .pawn 48 57 (some .knight) (some .queen) false false false ≠
    mk .white .pawn 48 57 (some .knight) (some .rook) false false false := by decide
example : (mk .white .pawn 48 57 (some .knight) (some .queen) false false false).toNat = 273868545 := by decide
example : byCapturePromoting .white .pawn 48 57 .knight .queen = 273868545 := by decide

/-- every constructed move fits the low 29 bits -/
theorem C20_mk_lt (c : Color) (p : Piece) (o d : Nat) (cap pr : Option Piece) (ep cq ck : Bool)
    (ho : o < 64) (hd : d < 64) : (mk c p o d cap pr ep cq ck).toNat < 2 ^ 29 :=
  mk_lt c p o d cap pr ep cq ck ho hd

/-! ## C20_fields — the layout constants -/

/-- the ten field masks over the generated constants: five multi-bit fields and five flags -/
def C20_fieldMasks : List Nat :=
  [PIECE_MASK, ORIGIN_MASK, DEST_MASK, CAPTURE_MASK, PROMOTION_MASK,
   2 ^ EN_PASSANT_OFFSET, 2 ^ DOUBLE_PAWN_OFFSET, 2 ^ CASTLE_QUEENSIDE_OFFSET,
   2 ^ CASTLE_KINGSIDE_OFFSET, 2 ^ COLOR_OFFSET]

/-- The ten fields of the packed move (piece, origin, destination, capture, promotion and the
flags en-passant, double-step, castle-queenside, castle-kingside, colour) occupy pairwise disjoint
bit ranges, each inside the low 29 bits; together they tile bits 0‥28 exactly; each multi-bit mask
is a contiguous block starting at its own offset, wide enough for its values (piece codes ≤ 6 < 2^4,
squares < 2^6). -/
theorem C20_fields :
    C20_fieldMasks.Pairwise (fun a b => a &&& b = 0) ∧
    (∀ m ∈ C20_fieldMasks, m < 2 ^ 29) ∧
    C20_fieldMasks.foldl (· ||| ·) 0 = 2 ^ 29 - 1 ∧
    PIECE_MASK = (2 ^ 4 - 1) <<< PIECE_OFFSET ∧ ORIGIN_MASK = (2 ^ 6 - 1) <<< ORIGIN_OFFSET ∧
    DEST_MASK = (2 ^ 6 - 1) <<< DEST_OFFSET ∧ CAPTURE_MASK = (2 ^ 4 - 1) <<< CAPTURE_OFFSET ∧
    PROMOTION_MASK = (2 ^ 4 - 1) <<< PROMOTION_OFFSET ∧
    (∀ p : Piece, p.code < 2 ^ 4) ∧ pieceCodes = Piece.allIncludingNone.map Piece.code := by
  refine ⟨by decide +kernel, by decide +kernel, by decide +kernel, by decide, by decide, by decide, by decide, by decide, ?_, by decide⟩
  intro p; cases p <;> decide

/-! ## C20_cbor — serialisation round trip -/

/-- A move written by ciborium (`Move(u32)` → CBOR unsigned integer, shortest form) and read back
is the same `u32`, for every one of the 2^32 raw values (not only constructed moves). -/
theorem C20_cbor (raw : UInt32) : decodeU32 (encodeU32 raw) = some raw := by
  have h := decodeU32Prefix_encodeU32 raw []
  rw [List.append_nil] at h
  unfold decodeU32
  rw [h]

/-- Stream form: inside a larger document (the opening book) the reader consumes exactly the bytes
the writer produced and leaves the rest untouched. -/
theorem C20_cbor_stream (raw : UInt32) (rest : List UInt8) :
    decodeU32Prefix (encodeU32 raw ++ rest) = some (raw, rest) :=
  decodeU32Prefix_encodeU32 raw rest

/-- Consequently serialisation is injective: different moves never share an encoding. -/
theorem C20_cbor_inj (a b : UInt32) (h : encodeU32 a = encodeU32 b) : a = b := by
  have ha := C20_cbor a
  rw [h, C20_cbor b] at ha
  exact (Option.some.inj ha).symm

/-- Composition with `C20_get_mk`: a constructed move survives serialisation and still reports
its attributes. -/
theorem C20_cbor_attrs (c : Color) (p : Piece) (o d : Nat) (cap pr : Option Piece) (ep cq ck : Bool)
    (ho : o < 64) (hd : d < 64) (hc : cap ≠ some Piece.none) (hr : pr ≠ some Piece.none) :
    (decodeU32 (encodeU32 (mk c p o d cap pr ep cq ck))).map attrs =
      some { color := c, piece := some p, origin := o, dest := d, capture := cap, promotion := pr,
             enPassant := ep, doublePawn := dbl p o d, castleQ := cq, castleK := ck } := by
  rw [C20_cbor, Option.map_some, attrs_mk c p o d cap pr ep cq ck ho hd hc hr]

/-- bytes observed from the real code: raw 273868545 ↦ `1a 10 52 e7 01`; and the short forms -/
example : encodeU32 273868545 = [0x1a, 0x10, 0x52, 0xe7, 0x01] := by decide
example : encodeU32 0 = [0x00] ∧ encodeU32 23 = [0x17] ∧ encodeU32 24 = [0x18, 0x18] ∧
    encodeU32 255 = [0x18, 0xff] ∧ encodeU32 256 = [0x19, 0x01, 0x00] ∧
    encodeU32 65535 = [0x19, 0xff, 0xff] ∧ encodeU32 65536 = [0x1a, 0x00, 0x01, 0x00, 0x00] ∧
    encodeU32 4294967295 = [0x1a, 0xff, 0xff, 0xff, 0xff] := by decide
/-- the reader also accepts non-shortest forms, and rejects values that do not fit / other types -/
example : decodeU32 [0x1b, 0, 0, 0, 0, 0x10, 0x52, 0xe7, 0x01] = some 273868545 ∧
    decodeU32 [0x1b, 0, 0, 0, 1, 0, 0, 0, 0] = Option.none ∧ decodeU32 [0x20] = Option.none ∧
    decodeU32 [0x1a, 0x10, 0x52] = Option.none := by decide

end Wee
