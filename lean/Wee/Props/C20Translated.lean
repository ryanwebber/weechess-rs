import Wee.Proofs.MoveFnsBridge
import Wee.Props.C20
/-!
# C20 for the TRANSLATED functions — move values faithfully carry their attributes

`Wee/Props/C20.lean` states C20 about the hand-written model `Wee/Model/Move.lean`, which is tied to the Rust code
by differential runs.  Here the same statements are made about the definitions that `tools/rs2lean.py`
**regenerates from the Rust source text on every run** (`Wee/Gen/MoveFns.lean`, namespace `Wee.GenFns`):
`mod compact` (`store`, `load`, `bit`, `set_bit`, the layout constants), `impl BitSetExt for BitSet`, `impl Move`
and the helpers these call (`PieceIndex::new/piece/color`, `Square::rank`, `Rank::abs_distance_to`, …).
They are corollaries of `C20_*` through the bridge `Wee/Proofs/MoveFnsBridge.lean` (generated = model on all inputs).

Reading the statements:
* Rust `Square(u8)` and `PieceIndex(u8)` are their `u8`; `o d : GenFns.Square` range over all 256 values and the
  theorems assume `o < 64`, `d < 64` (the invariant of `Square`); the moving piece is `PieceIndex::new(c, p)`.
* A translated function that can panic (an `unwrap`, a `debug_assert!`, `i8`/`u8` arithmetic overflow) has type
  `Panics T = Option T`, `none` = panic.  Every conclusion `… = some v` therefore ALSO says that the Rust function
  does not panic on these arguments (debug profile; the release profile then computes the same value).
* `attrsT m` reads every translated getter of the word `m`
  (`Move::color`, `piece`, `origin`, `destination`, `capture`, `promotion`, `is_en_passant`, `is_double_pawn`,
  `BitSetExt::castle_queenside`, `castle_kingside`); it panics if one of them panics.
* `GenFns.mkT` is the general constructor (`by_moving` then the five setters) over the translated functions.

What is trusted here (and only here): the semantics `rs2lean.py` gives to the Rust subset and its table of primitive
mappings (`Piece::try_from_primitive ↦ Piece.ofCode?`, …), listed at the top of the tool and in
`tools/rs2lean.NOTES.md`.
-/
namespace Wee
open Gen

/-- all getters of a packed move, through the TRANSLATED accessors; `none` = one of them panics -/
def attrsT (m : GenFns.Move) : GenFns.Panics Move.Attrs := do
  let p ← GenFns.Move.piece m
  let o ← GenFns.Move.origin m
  let d ← GenFns.Move.destination m
  let cap ← GenFns.Move.capture m
  let pr ← GenFns.Move.promotion m
  pure { color := GenFns.Move.color m, piece := some p, origin := o.toNat, dest := d.toNat, capture := cap,
         promotion := pr, enPassant := GenFns.Move.is_en_passant m, doublePawn := GenFns.Move.is_double_pawn m,
         castleQ := GenFns.BitSetExt.castle_queenside m, castleK := GenFns.BitSetExt.castle_kingside m }

/-! ## The translated getters agree with the model's on every word -/

/-- Whenever the translated getters all return (no panic), they return what the model's getters return — for
every one of the 2^32 raw words, not only constructed moves. -/
theorem C20T_attrs_sound (m : UInt32) (a : Move.Attrs) (h : attrsT m = some a) : Move.attrs m = a := by
  unfold attrsT at h
  rw [GenFns.Move.piece_eq, GenFns.Move.origin_eq, GenFns.Move.destination_eq] at h
  simp only [GenFns.bind_eq_some, GenFns.pure_eq_some, Option.some.injEq] at h
  obtain ⟨p, hp, _, rfl, _, rfl, cap, hc, pr, hr, rfl⟩ := h
  have ho := GenFns.nat_toUInt8_toNat _ (by have := Move.origin_lt m; omega : Move.origin m < 256)
  have hd := GenFns.nat_toUInt8_toNat _ (by have := Move.dest_lt m; omega : Move.dest m < 256)
  simp only [Move.attrs, hp, ho, hd, GenFns.Move.capture_some m cap hc, GenFns.Move.promotion_some m pr hr,
    GenFns.Move.color_eq, GenFns.Move.is_en_passant_eq, GenFns.Move.is_double_pawn_eq,
    GenFns.BitSetExt.castle_queenside_eq, GenFns.BitSetExt.castle_kingside_eq]

/-- On every word whose piece, capture and promotion fields hold codes ≤ 6 the translated getters do not panic and
return the model's attributes.  (Codes 7‥15 are no `Piece` discriminant; `C20T_raw_word_divergence` shows a panic on
such a word.) -/
theorem C20T_attrs_complete (m : UInt32) (hp : Move.pieceCode m ≤ 6) (hc : Move.captureCode m ≤ 6)
    (hr : Move.promotionCode m ≤ 6) : attrsT m = some (Move.attrs m) := by
  have h1 : (GenFns.Move.piece m).isSome := by
    rw [GenFns.Move.piece_eq]; unfold Move.piece?; rw [GenFns.ofCode_isSome_iff]; exact decide_eq_true hp
  have h2 : (GenFns.Move.capture m).isSome := by rw [GenFns.Move.capture_isSome]; exact decide_eq_true hc
  have h3 : (GenFns.Move.promotion m).isSome := by rw [GenFns.Move.promotion_isSome]; exact decide_eq_true hr
  obtain ⟨p, hp'⟩ := Option.isSome_iff_exists.1 h1
  obtain ⟨cap, hc'⟩ := Option.isSome_iff_exists.1 h2
  obtain ⟨pr, hr'⟩ := Option.isSome_iff_exists.1 h3
  have hs : attrsT m = some
      { color := GenFns.Move.color m, piece := some p, origin := (Move.origin m).toUInt8.toNat,
        dest := (Move.dest m).toUInt8.toNat, capture := cap, promotion := pr,
        enPassant := GenFns.Move.is_en_passant m, doublePawn := GenFns.Move.is_double_pawn m,
        castleQ := GenFns.BitSetExt.castle_queenside m, castleK := GenFns.BitSetExt.castle_kingside m } := by
    unfold attrsT
    rw [hp', GenFns.Move.origin_eq, GenFns.Move.destination_eq, hc', hr']
    rfl
  rw [hs, C20T_attrs_sound m _ hs]

/-- **Finding (model ≠ code on raw words that no constructor produces).**  On a word whose capture field holds 7
(`raw = 7 << 16`), Rust `Move::is_capture` — `self.capture().is_some()` — panics in
`Piece::try_from_primitive(7).unwrap()`, while the hand model's `Move.isCapture` (`captureCode != 0`) answers
`true`.  Such words arise only from `Move::from_raw` (verification hook) or from deserialising foreign CBOR; every
constructed move has codes ≤ 6 (`C20_get_mk`).  Replay on the real code: `Move::from_raw(458752).is_capture()`. -/
theorem C20T_raw_word_divergence :
    GenFns.Move.is_capture (458752 : UInt32) = Option.none ∧ Move.isCapture (458752 : UInt32) = true ∧
    GenFns.Move.capture (458752 : UInt32) = Option.none ∧ Move.capture (458752 : UInt32) = Option.none := by
  decide

/-! ## C20T_get — every translated getter returns the constructed attribute -/

private theorem lt64 {o : UInt8} (h : o < 64) : o.toNat < 64 := UInt8.lt_iff_toNat_lt.1 h

private theorem attrsT_mk (c : Color) (p : Piece) (o d : Nat) (cap pr : Option Piece) (ep cq ck : Bool)
    (ho : o < 64) (hd : d < 64) (hc : cap ≠ some Piece.none) (hr : pr ≠ some Piece.none) :
    attrsT (Move.mk c p o d cap pr ep cq ck) =
      some { color := c, piece := some p, origin := o, dest := d, capture := cap, promotion := pr,
             enPassant := ep, doublePawn := Move.dbl p o d, castleQ := cq, castleK := ck } := by
  rw [C20T_attrs_complete _
      (by rw [Move.pieceCode_mk c p o d cap pr ep cq ck ho hd]; exact Move.code_le p)
      (Move.codes_mk_le c p o d cap pr ep cq ck ho hd).1 (Move.codes_mk_le c p o d cap pr ep cq ck ho hd).2,
    C20_get_mk c p o d cap pr ep cq ck ho hd hc hr]

/-- **General constructor, translated code.**  For every colour, every kind (incl. `Piece::None`), all squares
`< 64`, every optional capture / promotion kind other than `Some(Piece::None)` and all flag values: building the move
with the translated `by_moving` + setters does not panic, and every translated getter of the result returns, without
panic, exactly the constructed attribute (`is_double_pawn` = `piece == Pawn ∧ |rank o − rank d| > 1`). -/
theorem C20T_get_mk (c : Color) (p : Piece) (o d : GenFns.Square) (cap pr : Option Piece) (ep cq ck : Bool)
    (ho : o < 64) (hd : d < 64) (hc : cap ≠ some Piece.none) (hr : pr ≠ some Piece.none) :
    (GenFns.mkT c p o d cap pr ep cq ck).bind attrsT =
      some { color := c, piece := some p, origin := o.toNat, dest := d.toNat, capture := cap, promotion := pr,
             enPassant := ep, doublePawn := Move.dbl p o.toNat d.toNat, castleQ := cq, castleK := ck } := by
  rw [GenFns.mkT_eq c p o d cap pr ep cq ck (lt64 ho) (lt64 hd), Option.bind_some,
    attrsT_mk c p _ _ cap pr ep cq ck (lt64 ho) (lt64 hd) hc hr]

example : ((12 : UInt8) < 64 ∧ (28 : UInt8) < 64) ∧ (some Piece.rook ≠ some Piece.none) := by decide
/-- a concrete instance evaluated by the kernel: white pawn e2–e4 taking nothing, double step detected -/
example : (GenFns.mkT .white .pawn 12 28 Option.none Option.none false false false).bind attrsT =
    some { color := .white, piece := some .pawn, origin := 12, dest := 28, capture := Option.none,
           promotion := Option.none, enPassant := false, doublePawn := true, castleQ := false, castleK := false } := by
  decide

/-- The derived translated getters on a constructed move: `Move::is_capture`, `is_promotion`, `castle_side`,
`is_castle`, `is_any_castle`, `resulting_piece`, `is_simple_non_capture` — none panics, values as constructed. -/
theorem C20T_get_mk_derived (c : Color) (p : Piece) (o d : GenFns.Square) (cap pr : Option Piece) (ep cq ck : Bool)
    (ho : o < 64) (hd : d < 64) (hc : cap ≠ some Piece.none) (hr : pr ≠ some Piece.none) :
    ∃ m, GenFns.mkT c p o d cap pr ep cq ck = some m ∧
      GenFns.Move.is_capture m = some cap.isSome ∧ GenFns.Move.is_promotion m = some pr.isSome ∧
      GenFns.Move.castle_side m = (if cq then some Side.queen else if ck then some Side.king else Option.none) ∧
      GenFns.Move.is_any_castle m = (cq || ck) ∧
      GenFns.Move.resulting_piece m = some (pr.getD p) ∧
      GenFns.Move.is_simple_non_capture m =
        some (!cap.isSome && !pr.isSome && !ep && !(cq || ck) && !Move.dbl p o.toNat d.toNat) := by
  refine ⟨_, GenFns.mkT_eq c p o d cap pr ep cq ck (lt64 ho) (lt64 hd), ?_⟩
  have hd' := C20_get_mk_derived c p o.toNat d.toNat cap pr ep cq ck (lt64 ho) (lt64 hd) hc hr
  have ha := C20_get_mk c p o.toNat d.toNat cap pr ep cq ck (lt64 ho) (lt64 hd) hc hr
  obtain ⟨hcc, hpc⟩ := Move.codes_mk_le c p o.toNat d.toNat cap pr ep cq ck (lt64 ho) (lt64 hd)
  generalize Move.mk c p o.toNat d.toNat cap pr ep cq ck = m at hd' ha hcc hpc
  obtain ⟨_, h2, h3, h4⟩ := hd'
  have hpiece : Move.piece? m = some p := congrArg Move.Attrs.piece ha
  have hprom : GenFns.Move.promotion m = some pr := by
    have := GenFns.Move.promotion_isSome m
    rw [decide_eq_true hpc] at this
    obtain ⟨r, hr'⟩ := Option.isSome_iff_exists.1 this
    have h5 := GenFns.Move.promotion_some m r hr'
    have h6 : Move.promotion m = pr := congrArg Move.Attrs.promotion ha
    rw [hr', ← h5, h6]
  have hep : Move.isEnPassant m = ep := congrArg Move.Attrs.enPassant ha
  have hdb : Move.isDoublePawn m = Move.dbl p o.toNat d.toNat := congrArg Move.Attrs.doublePawn ha
  have hany : Move.isAnyCastle m = (cq || ck) := by
    unfold Move.isAnyCastle Move.isCastle
    rw [h4]; cases cq <;> cases ck <;> rfl
  refine ⟨?_, ?_, ?_, ?_, ?_, ?_⟩
  · rw [GenFns.Move.is_capture_eq, if_pos hcc, h2]
  · rw [GenFns.Move.is_promotion_eq, if_pos hpc, h3]
  · rw [GenFns.Move.castle_side_eq, h4]
  · rw [GenFns.Move.is_any_castle_eq, hany]
  · rw [GenFns.Move.resulting_piece_eq, hprom, hpiece]; rfl
  · rw [GenFns.Move.is_simple_non_capture_eq m hcc hpc, h2, h3, hep, hany, hdb]

/-- translated `Move::by_moving`: colour, piece, origin, destination come back; no capture, promotion, en-passant,
castling; double-step derived -/
theorem C20T_get_by_moving (c : Color) (p : Piece) (o d : GenFns.Square) (ho : o < 64) (hd : d < 64) :
    (GenFns.Move.by_moving (GenFns.PieceIndex.new c p) o d).bind attrsT =
      some { color := c, piece := some p, origin := o.toNat, dest := d.toNat, capture := Option.none,
             promotion := Option.none, enPassant := false, doublePawn := Move.dbl p o.toNat d.toNat,
             castleQ := false, castleK := false } := by
  rw [GenFns.Move.by_moving_eq c p o d (lt64 ho) (lt64 hd), Option.bind_some,
    Move.byMoving_eq_mk c p _ _ (lt64 ho) (lt64 hd)]
  exact attrsT_mk c p _ _ _ _ _ _ _ (lt64 ho) (lt64 hd) (by decide) (by decide)

/-- translated `Move::by_capturing` with a real captured kind -/
theorem C20T_get_by_capturing (c : Color) (p : Piece) (o d : GenFns.Square) (q : Piece)
    (ho : o < 64) (hd : d < 64) (hq : q ≠ Piece.none) :
    (GenFns.Move.by_capturing (GenFns.PieceIndex.new c p) o d q).bind attrsT =
      some { color := c, piece := some p, origin := o.toNat, dest := d.toNat, capture := some q,
             promotion := Option.none, enPassant := false, doublePawn := Move.dbl p o.toNat d.toNat,
             castleQ := false, castleK := false } := by
  rw [GenFns.Move.by_capturing_eq c p o d q (lt64 ho) (lt64 hd), Option.bind_some,
    Move.byCapturing_eq_mk c p _ _ (lt64 ho) (lt64 hd)]
  exact attrsT_mk c p _ _ _ _ _ _ _ (lt64 ho) (lt64 hd) (fun h => hq (Option.some.inj h)) (by decide)

/-- translated `Move::by_promoting` with a real promotion kind -/
theorem C20T_get_by_promoting (c : Color) (p : Piece) (o d : GenFns.Square) (r : Piece)
    (ho : o < 64) (hd : d < 64) (hr : r ≠ Piece.none) :
    (GenFns.Move.by_promoting (GenFns.PieceIndex.new c p) o d r).bind attrsT =
      some { color := c, piece := some p, origin := o.toNat, dest := d.toNat, capture := Option.none,
             promotion := some r, enPassant := false, doublePawn := Move.dbl p o.toNat d.toNat,
             castleQ := false, castleK := false } := by
  rw [GenFns.Move.by_promoting_eq c p o d r (lt64 ho) (lt64 hd), Option.bind_some,
    Move.byPromoting_eq_mk c p _ _ (lt64 ho) (lt64 hd)]
  exact attrsT_mk c p _ _ _ _ _ _ _ (lt64 ho) (lt64 hd) (by decide) (fun h => hr (Option.some.inj h))

/-- translated `Move::by_capture_promoting`: capture and promotion both come back, for every origin/destination -/
theorem C20T_get_by_capture_promoting (c : Color) (p : Piece) (o d : GenFns.Square) (q r : Piece)
    (ho : o < 64) (hd : d < 64) (hq : q ≠ Piece.none) (hr : r ≠ Piece.none) :
    (GenFns.Move.by_capture_promoting (GenFns.PieceIndex.new c p) o d q r).bind attrsT =
      some { color := c, piece := some p, origin := o.toNat, dest := d.toNat, capture := some q,
             promotion := some r, enPassant := false, doublePawn := Move.dbl p o.toNat d.toNat,
             castleQ := false, castleK := false } := by
  rw [GenFns.Move.by_capture_promoting_eq c p o d q r (lt64 ho) (lt64 hd), Option.bind_some,
    Move.byCapturePromoting_eq_mk c p _ _ (lt64 ho) (lt64 hd)]
  exact attrsT_mk c p _ _ _ _ _ _ _ (lt64 ho) (lt64 hd) (fun h => hq (Option.some.inj h))
    (fun h => hr (Option.some.inj h))

/-- the corner case of the property text evaluated on the translated code: destination 63 with capture and promotion
both set; and the packed value observed from the real code (`273868545`) -/
example : (GenFns.Move.by_capture_promoting (GenFns.PieceIndex.new .white .pawn) 54 63 .rook .queen).bind attrsT =
    some { color := .white, piece := some .pawn, origin := 54, dest := 63, capture := some .rook,
           promotion := some .queen, enPassant := false, doublePawn := false, castleQ := false,
           castleK := false } :=
  C20T_get_by_capture_promoting .white .pawn 54 63 .rook .queen (by decide) (by decide) (by decide) (by decide)
example : GenFns.Move.by_capture_promoting (GenFns.PieceIndex.new .white .pawn) 48 57 .knight .queen =
    some (273868545 : UInt32) := by decide

/-- translated `Move::by_en_passant`: reports `capture = Some(Pawn)` and the en-passant flag -/
theorem C20T_get_by_en_passant (c : Color) (p : Piece) (o d : GenFns.Square) (ho : o < 64) (hd : d < 64) :
    (GenFns.Move.by_en_passant (GenFns.PieceIndex.new c p) o d).bind attrsT =
      some { color := c, piece := some p, origin := o.toNat, dest := d.toNat, capture := some Piece.pawn,
             promotion := Option.none, enPassant := true, doublePawn := Move.dbl p o.toNat d.toNat,
             castleQ := false, castleK := false } := by
  rw [GenFns.Move.by_en_passant_eq c p o d (lt64 ho) (lt64 hd), Option.bind_some,
    Move.byEnPassant_eq_mk c p _ _ (lt64 ho) (lt64 hd)]
  exact attrsT_mk c p _ _ _ _ _ _ _ (lt64 ho) (lt64 hd) (by decide) (by decide)

/-- translated `Move::by_castling`, all four (colour, side) pairs: the king from `KING_ORIGINS[colour]` to
`CASTLE_DESTS[colour][side]`, exactly the flag of its side, `castle_side() = Some(side)`; no panic. -/
theorem C20T_get_by_castling (c : Color) (s : Side) :
    (GenFns.Move.by_castling c s).bind attrsT =
      some { color := c, piece := some Piece.king, origin := kingOrigins[c.idx]!,
             dest := castleDests[c.idx]![s.idx]!, capture := Option.none, promotion := Option.none,
             enPassant := false, doublePawn := false, castleQ := (s == Side.queen),
             castleK := (s == Side.king) } ∧
    (GenFns.Move.by_castling c s).map GenFns.Move.castle_side = some (some s) ∧
    (GenFns.Move.by_castling c s).map GenFns.Move.is_any_castle = some true := by
  cases c <;> cases s <;> decide

/-- `by_capturing(.., Piece::None)` / `by_promoting(.., Piece::None)` in the translated code are bit-for-bit
`by_moving(..)` (0 is the encoding of "absent"), for ALL `u8` arguments (also invalid squares / piece indices:
then both sides panic alike). -/
theorem C20T_none_capture (pi : GenFns.PieceIndex) (o d : GenFns.Square) :
    GenFns.Move.by_capturing pi o d Piece.none = GenFns.Move.by_moving pi o d := by
  simp only [GenFns.Move.by_capturing, GenFns.set_capture_eq, Move.optCode, Move.store_zero,
    show Piece.none.code = 0 from rfl]
  cases GenFns.Move.by_moving pi o d <;> rfl

theorem C20T_none_promotion (pi : GenFns.PieceIndex) (o d : GenFns.Square) :
    GenFns.Move.by_promoting pi o d Piece.none = GenFns.Move.by_moving pi o d := by
  simp only [GenFns.Move.by_promoting, GenFns.set_promotion_eq, Move.optCode, Move.store_zero,
    show Piece.none.code = 0 from rfl]
  cases GenFns.Move.by_moving pi o d <;> rfl

/-! ## C20T_inj — equality of the packed words is equality of all attributes -/

/-- Two moves built by the translated general constructor are equal (as `Panics u32`; both are `some`) **iff**
colour, piece, origin, destination, capture, promotion and the three free flags are all equal.
`#[derive(PartialEq, Eq, Hash)]` on `struct Move(u32)` compares exactly this word (the derive line is checked
textually by `rs2lean.py`). -/
theorem C20T_inj (c c' : Color) (p p' : Piece) (o d o' d' : GenFns.Square) (cap pr cap' pr' : Option Piece)
    (ep cq ck ep' cq' ck' : Bool)
    (ho : o < 64) (hd : d < 64) (ho' : o' < 64) (hd' : d' < 64)
    (hc : cap ≠ some Piece.none) (hr : pr ≠ some Piece.none)
    (hc' : cap' ≠ some Piece.none) (hr' : pr' ≠ some Piece.none) :
    GenFns.mkT c p o d cap pr ep cq ck = GenFns.mkT c' p' o' d' cap' pr' ep' cq' ck' ↔
      (c = c' ∧ p = p' ∧ o = o' ∧ d = d' ∧ cap = cap' ∧ pr = pr' ∧ ep = ep' ∧ cq = cq' ∧ ck = ck') := by
  rw [GenFns.mkT_eq c p o d cap pr ep cq ck (lt64 ho) (lt64 hd),
    GenFns.mkT_eq c' p' o' d' cap' pr' ep' cq' ck' (lt64 ho') (lt64 hd'), Option.some.injEq,
    C20_inj c c' p p' _ _ _ _ cap pr cap' pr' ep cq ck ep' cq' ck' (lt64 ho) (lt64 hd) (lt64 ho') (lt64 hd')
      hc hr hc' hr', UInt8.toNat_inj, UInt8.toNat_inj]

/-- non-vacuity: different attribute tuples give different words in the translated code -/
example : GenFns.mkT .white .pawn 48 57 (some .knight) (some .queen) false false false ≠
    GenFns.mkT .white .pawn 48 57 (some .knight) (some .rook) false false false := by decide

/-- every move built by the translated constructors fits the low 29 bits -/
theorem C20T_mk_lt (c : Color) (p : Piece) (o d : GenFns.Square) (cap pr : Option Piece) (ep cq ck : Bool)
    (ho : o < 64) (hd : d < 64) :
    ∃ m, GenFns.mkT c p o d cap pr ep cq ck = some m ∧ (GenFns.Move.as_raw m).toNat < 2 ^ 29 :=
  ⟨_, GenFns.mkT_eq c p o d cap pr ep cq ck (lt64 ho) (lt64 hd),
    C20_mk_lt c p o.toNat d.toNat cap pr ep cq ck (lt64 ho) (lt64 hd)⟩

/-! ## C20T_fields — the layout constants as TRANSLATED (typed `u8` offsets, `u32` masks) -/

/-- the ten field masks over the translated constants -/
def C20T_fieldMasks : List Nat :=
  [GenFns.compact.PIECE_MASK.toNat, GenFns.compact.ORIGIN_MASK.toNat, GenFns.compact.DEST_MASK.toNat,
   GenFns.compact.CAPTURE_MASK.toNat, GenFns.compact.PROMOTION_MASK.toNat,
   2 ^ GenFns.compact.EN_PASSANT_OFFSET.toNat, 2 ^ GenFns.compact.DOUBLE_PAWN_OFFSET.toNat,
   2 ^ GenFns.compact.CASTLE_QUEENSIDE_OFFSET.toNat, 2 ^ GenFns.compact.CASTLE_KINGSIDE_OFFSET.toNat,
   2 ^ GenFns.compact.COLOR_OFFSET.toNat]

/-- The translated constants (each `const` of `mod compact`, with the Rust initialiser expression
`0b111111 << ORIGIN_OFFSET` etc. translated, not pre-evaluated) are the constants `extract.py` evaluates. -/
theorem C20T_fieldMasks_eq : C20T_fieldMasks = C20_fieldMasks := by
  simp only [C20T_fieldMasks, C20_fieldMasks, GenFns.PIECE_MASK_eq, GenFns.ORIGIN_MASK_eq, GenFns.DEST_MASK_eq,
    GenFns.CAPTURE_MASK_eq, GenFns.PROMOTION_MASK_eq, GenFns.EN_PASSANT_OFFSET_eq, GenFns.DOUBLE_PAWN_OFFSET_eq,
    GenFns.CASTLE_QUEENSIDE_OFFSET_eq, GenFns.CASTLE_KINGSIDE_OFFSET_eq, GenFns.COLOR_OFFSET_eq]

/-- The ten fields of the packed move, over the translated constants: pairwise disjoint, inside the low 29 bits,
tiling bits 0‥28 exactly; each multi-bit mask a contiguous block at its own offset, wide enough for its values;
every shift amount used by `store`/`load`/`bit`/`set_bit` call sites is `< 32` (so that debug and release profile
agree — also checked by the translator). -/
theorem C20T_fields :
    C20T_fieldMasks.Pairwise (fun a b => a &&& b = 0) ∧
    (∀ m ∈ C20T_fieldMasks, m < 2 ^ 29) ∧
    C20T_fieldMasks.foldl (· ||| ·) 0 = 2 ^ 29 - 1 ∧
    GenFns.compact.PIECE_MASK.toNat = (2 ^ 4 - 1) <<< GenFns.compact.PIECE_OFFSET.toNat ∧
    GenFns.compact.ORIGIN_MASK.toNat = (2 ^ 6 - 1) <<< GenFns.compact.ORIGIN_OFFSET.toNat ∧
    GenFns.compact.DEST_MASK.toNat = (2 ^ 6 - 1) <<< GenFns.compact.DEST_OFFSET.toNat ∧
    GenFns.compact.CAPTURE_MASK.toNat = (2 ^ 4 - 1) <<< GenFns.compact.CAPTURE_OFFSET.toNat ∧
    GenFns.compact.PROMOTION_MASK.toNat = (2 ^ 4 - 1) <<< GenFns.compact.PROMOTION_OFFSET.toNat ∧
    (∀ p : Piece, (GenFns.Piece.into_u8 p).toNat < 2 ^ 4) ∧
    ([GenFns.compact.PIECE_OFFSET, GenFns.compact.ORIGIN_OFFSET, GenFns.compact.DEST_OFFSET,
      GenFns.compact.CAPTURE_OFFSET, GenFns.compact.PROMOTION_OFFSET, GenFns.compact.EN_PASSANT_OFFSET,
      GenFns.compact.DOUBLE_PAWN_OFFSET, GenFns.compact.CASTLE_QUEENSIDE_OFFSET,
      GenFns.compact.CASTLE_KINGSIDE_OFFSET, GenFns.compact.COLOR_OFFSET].all (· < 32)) = true := by
  have h := C20_fields
  rw [C20T_fieldMasks_eq, GenFns.PIECE_MASK_eq, GenFns.ORIGIN_MASK_eq, GenFns.DEST_MASK_eq, GenFns.CAPTURE_MASK_eq,
    GenFns.PROMOTION_MASK_eq, GenFns.PIECE_OFFSET_eq, GenFns.ORIGIN_OFFSET_eq, GenFns.DEST_OFFSET_eq,
    GenFns.CAPTURE_OFFSET_eq, GenFns.PROMOTION_OFFSET_eq]
  obtain ⟨h1, h2, h3, h4, h5, h6, h7, h8, h9, _⟩ := h
  refine ⟨h1, h2, h3, h4, h5, h6, h7, h8, ?_, by decide⟩
  intro p; rw [GenFns.into_u8_toNat]; exact h9 p

end Wee
