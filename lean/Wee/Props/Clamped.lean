import Wee.Props.C03Report
/-!
# What the repair of defect F10 buys: the material provisos disappear

**Defect F10** (found while proving 'at least one report'; history and witness position in `Wee/Props/C03Report.lean`): with extreme material
the heuristic evaluation exceeded not only `POS_INF = 10000` but `mate_in_ply(0) = 11000`, the root's search window; no
move could raise alpha, nothing was stored, and the search of a legal position with legal moves reported no line (UCI: no
`bestmove`).  **Repair** (`/repo` commit 1b229f7, `weechess-engine/src/eval/mod.rs`, end of `Evaluator::evaluate`):
`eval.clamp(Evaluation(NEG_INF.0 + 1), Evaluation(POS_INF.0 - 1))` on the HEURISTIC result only (the mate / stalemate
returns and `Evaluator::estimate` are untouched).  Model: `clampHeuristic` in `Wee/Model/Eval.lean`, applied to both
heuristic returns of `evaluate`.  Lemmas: `Wee/Proofs/ClampLemmas.lean`.

With the clamp, for EVERY state — no material hypothesis, no count of men, no legality:

1. `clampHeuristic`: range, oddness, monotonicity, identity on `(-10000, 10000)` (§1);
2. C05 "others never as mate" for ALL positions: `C05_nonterminal_unconditional`, `C05_terminal_only_mate`, `C05_all`,
   `C05_nonterminal_all` (the statement `C05_nonterminal_statement` without `|material| < 9000` and without "≤ 16 men") (§2);
3. `EvalBelowMate_all` (in `C03Report.lean`): static evaluations at plies `1 ≤ d < 2^31` are strictly inside
   `(-mate0, mate0)` on every set of states; hence C03 part D and C07 "exactly one `bestmove`" without `EvalBelowMate` /
   `PotentialOK`: `C03_report` (`C03_report_statement` of `C03.lean` closed), `C03_at_least_one_report_unconditional`, `…_any_schedule_unconditional`, `C03_report_session_unconditional`,
   `C03_at_least_one_report_legal_root`, `MemOK.iterate_unconditional`, `MemOK.searchS_unconditional`,
   `C07_writer_exactly_one_unconditional`, `…_any_schedule_unconditional`, `C07_session_exactly_one_unconditional` (§3);
4. C06 / C17 without `MaterialBounded` / `TreeBounded`: the underlying lemmas (`C06.static_ok`, `C06.quiesce_sound`,
   `C06.searchNode_sound`, the completeness lemmas) have no material hypothesis and `C06.Domain` asks nothing of the
   evaluation, so `C06_static_ok_all`, `C06_quiesce_sound_all`, `C06_sound_fresh_all`, `C06_complete_one_worker_all`,
   `C06_complete_some_report_any_workers_all`, `C06_search_any_schedule_all`, `C07_writer_exactly_one_mate_all` (§4;
   `C17_win_all`, `C17_win_two_moves_all` are in `Wee/Props/C06Complete.lean`).  The theorems of `C06`, `C06Complete`, `C07Compose`, `C03Report` still
   carry the hypotheses `MaterialBounded` / `TreeBounded` / `RootBounded` / `EvalBelowMate` / `PotentialOK`; these are
   redundant.
5. non-vacuity on the two F10 positions (the 43-knight position `knRoot` and the 15-queen position `qRoot`) and on the
   eleven-queen position of C05 (§5).
-/

/-! ## 1. the clamp -/
namespace Wee.C05

/-- **range**: the clamped score lies in `[NEG_INF + 1, POS_INF - 1] = [-9999, 9999]` -/
theorem C05_clamp_range (e : Eval) :
    Ev.negInf + 1 ≤ clampHeuristic e ∧ clampHeuristic e ≤ Ev.posInf - 1 ∧ -9999 ≤ clampHeuristic e ∧ clampHeuristic e ≤ 9999 :=
  ⟨(clampHeuristic_range e).1, (clampHeuristic_range e).2, clampHeuristic_range e⟩

/-- **oddness**: the bounds are symmetric (`NEG_INF + 1 = -(POS_INF - 1)`), so clamping commutes with negation — this is
what keeps C13 (`evaluate(White) = -evaluate(Black)`) true after the repair -/
theorem C05_clamp_odd (e : Eval) : clampHeuristic (-e) = - clampHeuristic e := clampHeuristic_neg e

/-- **monotonicity**: clamping never reverses the order of two scores (move ordering by score is preserved up to ties at
the two ends) -/
theorem C05_clamp_mono {a b : Eval} (h : a ≤ b) : clampHeuristic a ≤ clampHeuristic b := by
  rw [clampHeuristic_eq, clampHeuristic_eq]; eomega

/-- **identity** strictly inside `(-10000, 10000)`: scores of ordinary positions are not changed by the repair
(`C05_nonterminal`: one king, at most 16 men a side and `|material| < 9000` suffice) -/
theorem C05_clamp_id {e : Eval} (h1 : -10000 < e) (h2 : e < 10000) : clampHeuristic e = e := clampHeuristic_id h1 h2

/-- saturation: everything from `POS_INF - 1` up becomes `9999`, everything from `NEG_INF + 1` down `-9999`; clamping is
idempotent and never increases the modulus -/
theorem C05_clamp_saturate (e : Eval) :
    (9999 ≤ e → clampHeuristic e = 9999) ∧ (e ≤ -9999 → clampHeuristic e = -9999) ∧
    clampHeuristic (clampHeuristic e) = clampHeuristic e ∧ (clampHeuristic e).natAbs ≤ e.natAbs :=
  ⟨@clampHeuristic_sat_hi e, @clampHeuristic_sat_lo e, clampHeuristic_idem e, clampHeuristic_natAbs_le e⟩

/-- a clamped score is never terminal -/
theorem C05_clamp_not_terminal (e : Eval) : Ev.isTerminal (clampHeuristic e) = false := clampHeuristic_not_terminal e

/-- on ordinary positions `evaluate` still returns the unclamped weighted sum: one king and at most 16 men a side, a legal
move, `|material| < 9000` (the hypotheses of `C05_nonterminal`) -/
theorem C05_evaluate_unclamped (s : State) (c : Color) (d : Nat) (hk : OneKingEach s) (hmen : ∀ c, men s c ≤ 16)
    (hm : ∃ m ms, legalMoves? s = some (m :: ms)) (hmat : (materialDiff s c).natAbs < 9000) :
    evaluate s c d = some (evalHeuristic (Variation.of s) c) := by
  obtain ⟨m, ms, hm⟩ := hm
  have h := C05_heuristic_lt s c hk hmen hmat
  rw [C05_nonterminal_branch s c d m ms hm (kingHasMove_ne_none s hk), clampHeuristic_id h.1 h.2]

/-! ## 2. C05 for all positions -/

/-- **C05_nonterminal_unconditional.**  For EVERY state `s` (legal or not, any material, any number of men), every
perspective and depth: if `compute_legal_moves` lists at least one move and `Evaluator::evaluate` returns `e` (i.e. does
not panic: the side to move has a king), then `e` is the clamped heuristic sum and is NOT a terminal (mate) score:
`NEG_INF < e < POS_INF`. -/
theorem C05_nonterminal_unconditional (s : State) (c : Color) (d : Nat) (e : Eval) (m : Move × State)
    (ms : List (Move × State)) (hm : legalMoves? s = some (m :: ms)) (h : evaluate s c d = some e) :
    e = clampHeuristic (evalHeuristic (Variation.of s) c) ∧ Ev.isTerminal e = false ∧ -10000 < e ∧ e < 10000 := by
  have he := evaluate_of_move hm h
  have hr := clampHeuristic_range (evalHeuristic (Variation.of s) c)
  refine ⟨he, by rw [he]; exact clampHeuristic_not_terminal _, ?_, ?_⟩ <;> (rw [he]; eomega)

/-- **C05_terminal_only_mate.**  For every state, perspective and depth: a TERMINAL result of `Evaluator::evaluate`
(`e ≤ NEG_INF` or `e ≥ POS_INF`) arises only in the checkmate branch — no legal move, in check, value `∓mate_in_ply(depth)`.
(`C06_static_ok` without the material bound and for both perspectives.) -/
theorem C05_terminal_only_mate (s : State) (c : Color) (d : Nat) (e : Eval) (h : evaluate s c d = some e)
    (ht : Ev.isTerminal e = true) :
    legalMoves? s = some [] ∧ s.isCheck = true ∧ e = (if s.turn = c then - Ev.mateInPly d else Ev.mateInPly d) :=
  evaluate_terminal h ht

/-- **C05_all** — the full property C05 ("no-move positions score as mate or draw; others never as mate") WITHOUT the
proviso `|material| < 9000`.  For every state `s`, perspective `c`, depth `d`:

1. no legal move and in check ⇒ `evaluate = -mate_in_ply(d)` from the side to move's perspective, `+mate_in_ply(d)` from the
   opponent's (no further hypothesis);
2. no legal move and not in check ⇒ `evaluate = 0` (on a placement without stacked pieces with a king of the side to move:
   the hypotheses of `C05_stalemate_closed`);
3. at least one legal move (and a king of the side to move) ⇒ `evaluate` returns the clamped heuristic sum, and that value
   is not terminal — for ALL positions;
4. conversely, whatever `evaluate` returns: if it is terminal then the position is checkmate. -/
theorem C05_all (s : State) (c : Color) (d : Nat) :
    (legalMoves? s = some [] → s.isCheck = true →
      evaluate s c d = some (if s.turn = c then - Ev.mateInPly d else Ev.mateInPly d)) ∧
    (legalMoves? s = some [] → s.isCheck = false → C10.DisjointBoard s.pieces → kingHasMove s ≠ none →
      evaluate s c d = some 0) ∧
    (∀ m ms, legalMoves? s = some (m :: ms) → kingHasMove s ≠ none →
      ∃ e, evaluate s c d = some e ∧ e = clampHeuristic (evalHeuristic (Variation.of s) c) ∧
        Ev.isTerminal e = false) ∧
    (∀ e, evaluate s c d = some e → Ev.isTerminal e = true → legalMoves? s = some [] ∧ s.isCheck = true) :=
  ⟨fun hno hchk => C05_mate s c d hno hchk,
   fun hno hchk hd hking => C05_stalemate_closed s c d hd hno hchk hking,
   fun m ms hm hking => ⟨_, C05_nonterminal_branch s c d m ms hm hking, rfl, clampHeuristic_not_terminal _⟩,
   fun _ h ht => ⟨(evaluate_terminal h ht).1, (evaluate_terminal h ht).2.1⟩⟩

/-- `C05_nonterminal_statement` (DESIGN.md) without its hypotheses "at most 16 men a side" and `|material| < 9000` -/
def C05_nonterminal_all_statement : Prop :=
  ∀ (s : State) (c : Color) (d : Nat), OneKingEach s → (∃ m ms, legalMoves? s = some (m :: ms)) →
    ∃ e, evaluate s c d = some e ∧ Ev.isTerminal e = false

/-- **C05_nonterminal_all.**  A position with one king a side and a legal move never gets a terminal score — whatever
its material. -/
theorem C05_nonterminal_all : C05_nonterminal_all_statement := by
  intro s c d hk ⟨m, ms, hm⟩
  exact ⟨_, C05_nonterminal_branch s c d m ms hm (kingHasMove_ne_none s hk), clampHeuristic_not_terminal _⟩

/-- `C05_nonterminal_statement` is the special case -/
example : C05_nonterminal_all_statement → C05_nonterminal_statement :=
  fun h s c d hk _ hm _ => h s c d hk hm

end Wee.C05

/-! ## 3. C03 part D and C07 without the evaluation bound -/
namespace Wee
open Wee.Search
open Wee.C10 (DisjointBoard)

/-- `EvalBelowMate_all` (proved in `Wee/Props/C03Report.lean`) spelled out: for every state, perspective, ply
`1 ≤ depth < 2^31`, a static evaluation is strictly inside the root window `(-11000, 11000)` -/
theorem C03_static_inside_root_window (s : State) (p : Color) (depth : Nat) (v : Int) (h1 : 1 ≤ depth)
    (h2 : depth < 2^31) (hev : evaluate s p depth = some v) : -11000 < v ∧ v < 11000 := by
  have := evaluate_inside_root h1 h2 hev
  rwa [M0_eq] at this

/-- **C03_report: the full statement D of `Wee/Props/C03.lean` (`C03_report_statement`) is a theorem.**
`C03_report_statement_of_eval_bound` reduces it to the evaluation bound, which holds since the repair of F10. -/
theorem C03_report : C03_report_statement :=
  C03_report_statement_of_eval_bound (EvalBelowMate_all _)

/-- **`MemOK.iterate` without the evaluation bound**: every search on a region hands back a memory satisfying the invariant -/
theorem MemOK.iterate_unconditional {R : State → Prop} (hR : Region R) (root : State) (hroot : R root)
    (art : Artifact) (h : MemOK R art) (rng0 : Rng.ChaCha8) (maxDepth : Option Nat) (workersOf : Nat → Nat)
    (cancelAt : Option Nat) (fuelDepth : Nat) (hlim : maxDepth.getD fuelDepth ≤ 1000000000) :
    (Search.iterate root rng0 maxDepth art workersOf cancelAt fuelDepth).panic = Option.none ∧
    (Search.iterate root rng0 maxDepth art workersOf cancelAt fuelDepth).artifact.keys = art.keys ∧
    MemOK R (Search.iterate root rng0 maxDepth art workersOf cancelAt fuelDepth).artifact :=
  MemOK.iterate hR (EvalBelowMate_all R) root hroot art h rng0 maxDepth workersOf cancelAt fuelDepth hlim

/-- **`MemOK.searchS` without the evaluation bound** (every schedule of the workers) -/
theorem MemOK.searchS_unconditional {R : State → Prop} (hR : Region R) (root : State) (hroot : R root)
    (art : Artifact) (h : MemOK R art) (rng0 : Rng.ChaCha8) (maxDepth : Option Nat) (workersOf : Nat → Nat)
    (cancelAt : Option Nat) (fuelDepth : Nat) (hlim : maxDepth.getD fuelDepth ≤ 1000000000) (out : Outcome)
    (hout : SearchS root rng0 maxDepth art workersOf cancelAt fuelDepth out) :
    out.panic = Option.none ∧ out.artifact.keys = art.keys ∧ MemOK R out.artifact :=
  MemOK.searchS hR (EvalBelowMate_all R) root hroot art h rng0 maxDepth workersOf cancelAt fuelDepth hlim out hout

/-- **C03_at_least_one_report_unconditional.**  `C03_at_least_one_report` with the hypothesis `EvalBelowMate` removed: for
every region `R` (legal positions without stacked pieces, closed under legal moves), every root of `R` with at least one
legal move, every incoming artifact satisfying `MemOK` — fresh or left by any earlier searches —, every seed, every depth
limit `≥ 1`, every worker-count function with at least one worker in the first iteration, every cancellation instant: the
search does not panic and reports at least one `BestMove`, whose line is non-empty and legal from the root.
No hypothesis on the material is left: the counterexample (the search of `knRoot`, `Wee/Props/C03Report.lean`) is gone with
defect F10. -/
theorem C03_at_least_one_report_unconditional {R : State → Prop} (hR : Region R) (root : State) (hroot : R root)
    (hmoves : legalMoves root ≠ []) (art : Artifact) (hmem : MemOK R art) (rng0 : Rng.ChaCha8) (maxDepth : Option Nat)
    (fuelDepth : Nat) (hlim : 1 ≤ maxDepth.getD fuelDepth) (workersOf : Nat → Nat) (hw : 0 < workersOf 0)
    (cancelAt : Option Nat) :
    let out := iterate root rng0 maxDepth art workersOf cancelAt fuelDepth
    out.panic = Option.none ∧ ∃ ev line, Event.best ev line ∈ out.events ∧ line ≠ [] ∧ LineLegal root line :=
  C03_at_least_one_report R hR (EvalBelowMate_all R) root hroot hmoves art hmem rng0 maxDepth fuelDepth hlim workersOf hw
    cancelAt

/-- the same for every outcome under every schedule of the workers (`SearchS`) -/
theorem C03_at_least_one_report_any_schedule_unconditional {R : State → Prop} (hR : Region R) (root : State)
    (hroot : R root) (hmoves : legalMoves root ≠ [])
    (art : Artifact) (hmem : MemOK R art) (rng0 : Rng.ChaCha8) (maxDepth : Option Nat) (fuelDepth : Nat)
    (hlim : 1 ≤ maxDepth.getD fuelDepth) (workersOf : Nat → Nat) (hw : 0 < workersOf 0) (cancelAt : Option Nat)
    (out : Outcome) (hout : SearchS root rng0 maxDepth art workersOf cancelAt fuelDepth out) :
    out.panic = Option.none ∧ ∃ ev line, Event.best ev line ∈ out.events ∧ line ≠ [] ∧ LineLegal root line :=
  C03_at_least_one_report_any_schedule hR (EvalBelowMate_all R) root hroot hmoves art hmem rng0 maxDepth fuelDepth hlim
    workersOf hw cancelAt out hout

/-- **C03_at_least_one_report_legal_root.**  `C03_at_least_one_report_of_potential` without the root condition
`PotentialOK`: for EVERY legal root (no stacked pieces) with a legal move — the initial position included —, every memory
satisfying `MemOK` on the positions reachable from the root, every seed, depth limit `≥ 1`, worker counts with at least one
worker in the first iteration, every cancellation instant: the search does not panic and reports at least one `BestMove`
with a non-empty legal line. -/
theorem C03_at_least_one_report_legal_root (root : State) (hl : LegalPos root = true) (hd : DisjointBoard root.pieces)
    (hmoves : legalMoves root ≠ [])
    (art : Artifact) (hmem : MemOK (Reach (fun s => s = root)) art) (rng0 : Rng.ChaCha8) (maxDepth : Option Nat)
    (fuelDepth : Nat) (hlim : 1 ≤ maxDepth.getD fuelDepth) (workersOf : Nat → Nat) (hw : 0 < workersOf 0)
    (cancelAt : Option Nat) :
    let out := iterate root rng0 maxDepth art workersOf cancelAt fuelDepth
    out.panic = Option.none ∧ ∃ ev line, Event.best ev line ∈ out.events ∧ line ≠ [] ∧ LineLegal root line :=
  C03_at_least_one_report_unconditional (Region.reach (fun s => s = root) (fun s h => by subst h; exact ⟨hl, hd⟩)) root
    (Reach.root root rfl) hmoves art hmem rng0 maxDepth fuelDepth hlim workersOf hw cancelAt

/-- **C03_report_session_unconditional** (the quantifier over histories of searches on one memory, no evaluation bound) -/
theorem C03_report_session_unconditional {R : State → Prop} (hR : Region R) (qs : List SearchReq) (art : Artifact)
    (hmem : MemOK R art) (hqs : ∀ q ∈ qs, R q.root ∧ q.maxDepth.getD q.fuelDepth ≤ 1000000000) :
    ∀ p ∈ sessionOut art qs,
      p.2.panic = Option.none ∧ MemOK R p.2.artifact ∧
      (∀ ev line, Event.best ev line ∈ p.2.events → line ≠ [] ∧ LineLegal p.1.root line) ∧
      (legalMoves p.1.root ≠ [] →
        1 ≤ p.1.maxDepth.getD p.1.fuelDepth → 0 < p.1.workersOf 0 → ∃ ev line, Event.best ev line ∈ p.2.events) :=
  C03_report_session hR (EvalBelowMate_all R) qs art hmem hqs

end Wee

namespace Wee.Uci
open Wee.Search

/-- **C07_writer_exactly_one_unconditional.**  For every root with a legal move in a region, ANY incoming memory satisfying
`MemOK`, any seed, any depth limit `≥ 1`, any worker counts with at least one worker in the first iteration, any
cancellation instant: the search thread does not panic and the writer thread prints EXACTLY ONE `bestmove` line; it is its
last line and names a legal move of the root (`LegalToken`).  No evaluation hypothesis. -/
theorem C07_writer_exactly_one_unconditional {R : State → Prop} (hR : Region R) (root : State)
    (hroot : R root) (hmoves : legalMoves root ≠ [])
    (art : Artifact) (hmem : MemOK R art) (rng0 : Rng.ChaCha8) (maxDepth : Option Nat) (fuelDepth : Nat)
    (hlim : 1 ≤ maxDepth.getD fuelDepth) (workersOf : Nat → Nat) (hw : 0 < workersOf 0) (cancelAt : Option Nat) :
    let out := iterate root rng0 maxDepth art workersOf cancelAt fuelDepth
    out.panic = Option.none ∧
    ∃ t, bestmoves (writerLines out.events) = [t] ∧ (writerLines out.events).getLast? = some (.bestmove t) ∧
      LegalToken root t :=
  C07_writer_exactly_one_always hR (EvalBelowMate_all R) root hroot hmoves art hmem rng0 maxDepth fuelDepth hlim workersOf
    hw cancelAt

/-- the same for every outcome under every schedule of the workers -/
theorem C07_writer_exactly_one_any_schedule_unconditional {R : State → Prop} (hR : Region R) (root : State)
    (hroot : R root) (hmoves : legalMoves root ≠ [])
    (art : Artifact) (hmem : MemOK R art) (rng0 : Rng.ChaCha8) (maxDepth : Option Nat) (fuelDepth : Nat)
    (hlim : 1 ≤ maxDepth.getD fuelDepth) (workersOf : Nat → Nat) (hw : 0 < workersOf 0) (cancelAt : Option Nat)
    (out : Outcome) (hout : SearchS root rng0 maxDepth art workersOf cancelAt fuelDepth out) :
    out.panic = Option.none ∧
    ∃ t, bestmoves (writerLines out.events) = [t] ∧ (writerLines out.events).getLast? = some (.bestmove t) ∧
      LegalToken root t :=
  C07_writer_exactly_one_any_schedule hR (EvalBelowMate_all R) root hroot hmoves art hmem rng0 maxDepth fuelDepth hlim
    workersOf hw cancelAt out hout

/-- **C07_session_exactly_one_unconditional.**  `C07_session_exactly_one_always` without `EvalBelowMate`: a whole session of
the command loop on a region `R` of legal positions (every `go` issued in a position of `R` that has a legal move; fresh
memories satisfy `MemOK R`), ANY transcript (any schedules, seeds, cancellation instants, at least one worker in the first
iteration, depth limits between 1 and `10^9`, memory handed on from search to search): **the number of `bestmove` lines
EQUALS the number of `go` lines read**, and the memory left at the end satisfies `MemOK R`. -/
theorem C07_session_exactly_one_unconditional {R : State → Prop} (hR : Region R)
    (Fresh : Artifact → Prop) (hfresh : ∀ a, Fresh a → MemOK R a) (K : Keys) (tbl : Book.Table)
    (s : Sess) (lines : List String) (s' : Sess) (touts : List (Out × State))
    (hrun : runT (fun p => (Book.lookup K tbl p).isSome) s lines = some (s', touts))
    (hpos : ∀ o p, (o, p) ∈ touts → o.isStart = true → R p ∧ legalMoves p ≠ [])
    (t : List (WLine × State)) (last' : Option Artifact)
    (htr : Transcript (sessionSpecW Fresh K tbl) Option.none Option.none touts t last' Option.none) :
    Transcript.nbest t = (processed lines).countP isGo ∧ (∀ m0, last' = some m0 → MemOK R m0) :=
  C07_session_exactly_one_always hR (EvalBelowMate_all R) Fresh hfresh K tbl s lines s' touts hrun hpos t last' htr

end Wee.Uci

/-! ## 4. C06 / C17 without `MaterialBounded` / `TreeBounded` -/
namespace Wee.C06
open Wee.Search Wee.Outcome
open Wee.C10 (DisjointBoard)

/-- the reachability relation of C06 / C17 is the one of C03 / C07 with a single root -/
theorem reachable_iff_reach (root s : State) : Reachable root s ↔ Reach (fun s => s = root) s :=
  ⟨Reachable.least (P := Reach (fun s => s = root)) (Reach.root root rfl) (fun s h r hr => Reach.step s r h hr) s,
   Reach.least (fun _ h => h ▸ Reachable.refl root) (fun _ h r hr => Reachable.step r h hr) s⟩

/-- **C06_static_ok_all.**  For EVERY state: `evaluate(state, turn_to_move, depth)` is terminal only in the mate branch. -/
theorem C06_static_ok_all (s : State) (d : Nat) (e : Eval)
    (h : evaluate s s.turn d = some e) (ht : Ev.isTerminal e = true) :
    legalMoves? s = some [] ∧ s.isCheck = true ∧ e = - Ev.mateInPly d := static_ok h ht

/-- with a legal move the static value (from the side to move) is strictly inside `(-10000, 10000)`, and it never claims a
win for the side to move — for every state -/
theorem C06_static_nonterminal_all (s : State) (d : Nat) (e : Eval) (h : evaluate s s.turn d = some e) :
    e < 10000 ∧ (legalMoves? s ≠ some [] → -10000 < e) :=
  ⟨static_lt h, fun hm => (static_nonterminal h hm).1⟩

/-- **C06_quiesce_sound_all.**  Every value returned by `quiescence_search` (any fuel, depth, window `alpha < beta`) on ANY
position is `SoundVal`. -/
theorem C06_quiesce_sound_all (fuel : Nat) (s : State) (depth : Nat) (α β r : Eval) (hαβ : α < β)
    (h : quiesce evaluate fuel s depth α β = .ok r) : SoundVal s α β r :=
  quiesce_sound fuel s depth α β r hαβ h

/-- a `Domain` is: closed under legal moves, the generator does not panic, no harmful collision — nothing about the
evaluation -/
example (K : Keys) (D : State → Prop) (h1 : ∀ s, D s → ∀ r ∈ legalMoves s, D r.2) (h2 : ∀ s, D s → legalMoves? s ≠ none)
    (h3 : ∀ s s', D s → D s' → (hash K s).toNat = (hash K s').toNat → ∀ e, SoundEntry s e → SoundEntry s' e) :
    Domain K D := ⟨h1, h2, h3⟩

/-- **C06_sound_fresh_all** (soundness half of C06 from fresh memory, NO material hypothesis).  For every legal root
position (placement without overlaps) — the initial position, positions with nine queens, … —, every key table without
harmful collision among the reachable positions, fresh memory of any geometry, every seed, depth limit, cancellation
point and worker counts: every report with a winning terminal evaluation is a true forced mate for the side to move, and
with one worker per iteration the reported first move leads to a position in which the opponent is `Lost`. -/
theorem C06_sound_fresh_all (root : State) (hl : LegalPos root = true) (hd : DisjointBoard root.pieces)
    (keys : KeyTable) (hcf : CollisionFree keys.keys (Reachable root))
    (nT nB : Nat) (hT : 0 < nT) (hB : 0 < nB) (history : List UInt64)
    (rng0 : Rng.ChaCha8) (maxDepth : Option Nat) (workersOf : Nat → Nat) (cancelAt : Option Nat) (fuelDepth : Nat) :
    let out := iterate root rng0 maxDepth { keys := keys, tt := TT.Access.new nT nB, history := history }
      workersOf cancelAt fuelDepth
    (∀ ev ∈ out.events, ClaimTrue root ev) ∧ ((∀ d, workersOf d = 1) → ∀ ev ∈ out.events, MoveKeeps root ev) := by
  intro out
  have h := C06_iterate_sound ⟨by decide, hT, hB⟩ { keys := keys, tt := TT.Access.new nT nB, history := history }
    (Domain.ofRoot_all hl hd hcf) root (Reachable.refl root) (TTInv.fresh _ _ hT hB)
    rng0 maxDepth workersOf cancelAt fuelDepth
  exact ⟨h.2.2.1, h.2.2.2⟩

/-- **C06_complete_one_worker_all** (completeness half of C06 for one worker per iteration, NO material hypothesis):
`C06_complete_one_worker` without `TreeBounded root`. -/
theorem C06_complete_one_worker_all (root : State) (n d : Nat) (keys : KeyTable) (nT nB : Nat) (rng0 : Rng.ChaCha8)
    (fuelDepth : Nat)
    (hl : LegalPos root = true) (hdj : DisjointBoard root.pieces)
    (hcf : CollisionFree keys.keys (Reachable root)) (hcfn : CollisionFreeN keys.keys (Reachable root))
    (hT : 0 < nT) (hB : 0 < nB) (hw : forcedMate n root = true) (hnd : n ≤ d) :
    let out := iterate root rng0 (some d) { keys := keys, tt := TT.Access.new nT nB, history := [] } (fun _ => 1)
      Option.none fuelDepth
    out.panic = Option.none ∧
    ∃ ev line, (bestReports out.events).getLast? = some (ev, line) ∧ Ev.posInf ≤ ev ∧
      ∃ r ∈ legalMoves root, line.head? = some r.1 ∧ Lost r.2 := by
  intro out
  obtain ⟨hnp, ev, line, h1, h2, h3⟩ := C06_complete_workers root n d keys nT nB rng0 (fun _ => 1) fuelDepth hl hdj
    hcf hcfn hT hB hw hnd fun _ => Nat.one_pos
  exact ⟨hnp, ev, line, h1, h2, h3 fun _ => rfl⟩

/-- **C06_complete_some_report_any_workers_all**: `C06_complete_some_report_any_workers` without `TreeBounded root`. -/
theorem C06_complete_some_report_any_workers_all (root : State) (n d : Nat) (keys : KeyTable) (nT nB : Nat)
    (rng0 : Rng.ChaCha8) (workersOf : Nat → Nat) (fuelDepth : Nat)
    (hl : LegalPos root = true) (hdj : DisjointBoard root.pieces)
    (hcf : CollisionFree keys.keys (Reachable root)) (hcfn : CollisionFreeN keys.keys (Reachable root))
    (hT : 0 < nT) (hB : 0 < nB) (hw : forcedMate n root = true) (hnd : n ≤ d) (hwk : ∀ k, 0 < workersOf k) :
    let out := iterate root rng0 (some d) { keys := keys, tt := TT.Access.new nT nB, history := [] } workersOf
      Option.none fuelDepth
    out.panic = Option.none ∧
    ∃ ev line, (bestReports out.events).getLast? = some (ev, line) ∧ Ev.posInf ≤ ev := by
  intro out
  obtain ⟨hnp, ev, line, h1, h2, _⟩ := C06_complete_workers root n d keys nT nB rng0 workersOf fuelDepth hl hdj
    hcf hcfn hT hB hw hnd hwk
  exact ⟨hnp, ev, line, h1, h2⟩

end Wee.C06

namespace Wee
open Wee.Search
open Wee.C10 (DisjointBoard)

/-- **C06_search_any_schedule_all** (C06 soundness for the whole search under arbitrary schedules of the workers, from a
legal root and fresh memory, NO material hypothesis).  For every legal root, key table without harmful collision among the
reachable positions, fresh memory of any geometry, any history, seed, depth limit, worker counts, cancellation instant, and
EVERY outcome `out` of the search when in every iteration the workers race in an arbitrary interleaving of their atomic
table operations: the table handed back is sound again and every winning `BestMove` report is a true forced win. -/
theorem C06_search_any_schedule_all (root : State) (hl : LegalPos root = true) (hd : DisjointBoard root.pieces)
    (keys : KeyTable) (hcf : C06.CollisionFree keys.keys (C06.Reachable root))
    (nT nB : Nat) (hT : 0 < nT) (hB : 0 < nB) (history : List UInt64)
    (rng0 : Rng.ChaCha8) (maxDepth : Option Nat) (workersOf : Nat → Nat) (cancelAt : Option Nat) (fuelDepth : Nat)
    (out : Outcome)
    (hout : SearchS root rng0 maxDepth { keys := keys, tt := TT.Access.new nT nB, history := history } workersOf
      cancelAt fuelDepth out) :
    C06.TTInv keys.keys (C06.Reachable root) Gen.bucketSize nT nB out.artifact.tt ∧
    ∀ ev ∈ out.events, C06.ClaimTrue root ev :=
  C06_search_any_schedule ⟨by decide, hT, hB⟩ { keys := keys, tt := TT.Access.new nT nB, history := history }
    (C06.Domain.ofRoot_all hl hd hcf) root (C06.Reachable.refl root) (C06.TTInv.fresh _ _ hT hB)
    rng0 maxDepth workersOf cancelAt fuelDepth out hout

end Wee

namespace Wee.Uci
open Wee.Search
open Wee.C10 (DisjointBoard)

/-- **C07_writer_exactly_one_mate_all**: `C07_writer_exactly_one_mate` (the printed `bestmove` keeps the forced mate)
without `TreeBounded root`. -/
theorem C07_writer_exactly_one_mate_all (root : State) (n d : Nat) (keys : KeyTable) (nT nB : Nat) (rng0 : Rng.ChaCha8)
    (fuelDepth : Nat)
    (hl : LegalPos root = true) (hdj : DisjointBoard root.pieces)
    (hcf : C06.CollisionFree keys.keys (C06.Reachable root)) (hcfn : C06.CollisionFreeN keys.keys (C06.Reachable root))
    (hT : 0 < nT) (hB : 0 < nB) (hw : Outcome.forcedMate n root = true) (hnd : n ≤ d) :
    let out := iterate root rng0 (some d) { keys := keys, tt := TT.Access.new nT nB, history := [] } (fun _ => 1)
      Option.none fuelDepth
    out.panic = Option.none ∧
    ∃ r ∈ legalMoves root, bestmoves (writerLines out.events) = [Move.lan r.1] ∧
      (writerLines out.events).getLast? = some (.bestmove (Move.lan r.1)) ∧
      LegalToken root (Move.lan r.1) ∧ Outcome.Lost r.2 := by
  intro out
  obtain ⟨hnp, ev, line, hlast, _, r, hr, hhead, hlost⟩ :=
    C06.C06_complete_one_worker_all root n d keys nT nB rng0 fuelDepth hl hdj hcf hcfn hT hB hw hnd
  have hb : bestmoves (writerLines out.events) = [Move.lan r.1] := bestmoves_of_last_report (ev := ev) hlast hhead
  have ht : WLine.bestmove (Move.lan r.1) ∈ writerLines out.events :=
    mem_bestmoves.1 (by rw [hb]; exact List.mem_singleton.2 rfl)
  exact ⟨hnp, r, hr, hb, bestmove_is_last _ _ ht, legalToken_of_mem root hl hdj r hr, hlost⟩

end Wee.Uci

/-! ## 5. non-vacuity: the two F10 positions and the eleven queens of C05 -/
namespace Wee.C05
open Wee.C10 (DisjointBoard)

/-- on a legal position (no stacked pieces) with a legal move, `evaluate` is exactly the clamped heuristic sum — the form
used below to evaluate positions whose move generation is too expensive for the kernel (sliders) through C01 -/
theorem C05_evaluate_legal (s : State) (c : Color) (d : Nat) (hl : LegalPos s = true) (hd : DisjointBoard s.pieces)
    (hmoves : legalMoves s ≠ []) :
    evaluate s c d = some (clampHeuristic (evalHeuristic (Variation.of s) c)) := by
  have hL := C02.legalMoves?_eq s hl hd
  cases hLe : legalMoves s with
  | nil => exact absurd hLe hmoves
  | cons m ms =>
    rw [hLe] at hL
    exact C05_nonterminal_branch s c d m ms hL (kingHasMove_ne_none s (C02.oneKingEach_of_legal s hl hd))

/-- the eleven queens of `C05_unbounded_example` (heuristic sum 10020): all clauses of `C05_all` / the hypotheses of
`C05_nonterminal_unconditional` are satisfied there, and the result is the non-terminal 9999 -/
example : (∃ m ms, legalMoves? elevenQ = some (m :: ms)) ∧ evalHeuristic (Variation.of elevenQ) .white = 10020 ∧
    evaluate elevenQ .white 0 = some 9999 ∧ Ev.isTerminal 9999 = false :=
  ⟨C05_unbounded_example.2.2.1, C05_unbounded_example.2.2.2.2.1, C05_unbounded_example_repaired.1,
    C05_unbounded_example_repaired.2.2.1⟩

end Wee.C05

namespace Wee
open Wee.Search
open Wee.C10 (DisjointBoard)

theorem c02Start_legal : LegalPos c02Start = true ∧ DisjointBoard c02Start.pieces :=
  (show startState = c02Start from startState_eq) ▸ ⟨startState_legal, startState_disjoint⟩

/-- the first F10 position, `6nk/6pp/8/8/8/8/QQQQQQQQ/KQQQQQQQ b - - 0 1`: Black (king h8, knight g8, pawns g7 h7; the
g-pawn is pinned by the queen on b2) to move against a king and 15 queens -/
def qRoot : State :=
  { pieces := { wq := 0xFFFE, wk := 1, bp := 0x00C0000000000000, bn := 0x4000000000000000, bk := 0x8000000000000000 },
    turn := .black, castleW := .noRights, castleB := .noRights, ep := Option.none, halfmove := 0, fullmove := 1 }
/-- after h7-h6 -/
def qS1 : State :=
  { pieces := { wq := 0xFFFE, wk := 1, bp := 18155135997837312, bn := 0x4000000000000000, bk := 0x8000000000000000 },
    turn := .white, castleW := .noRights, castleB := .noRights, ep := Option.none, halfmove := 0, fullmove := 2 }
/-- after Ng8-f6 -/
def qS2 : State :=
  { pieces := { wq := 0xFFFE, wk := 1, bp := 0x00C0000000000000, bn := 35184372088832, bk := 0x8000000000000000 },
    turn := .white, castleW := .noRights, castleB := .noRights, ep := Option.none, halfmove := 1, fullmove := 2 }

theorem q_legal : LegalPos qRoot = true ∧ LegalPos qS1 = true ∧ LegalPos qS2 = true := by
  simp only [legalPos_abs]; decide +kernel
theorem q_disjoint : DisjointBoard qRoot.pieces ∧ DisjointBoard qS1.pieces ∧ DisjointBoard qS2.pieces := by decide +kernel

/-- the numbers of legal moves by the rules of chess (`Spec.legalMoves`: ray walks, no magic tables — the kernel can run
it); by C01 these are the lengths of the lists `compute_legal_moves` returns -/
theorem q_count0 : (Spec.legalMoves (abs qRoot)).length = 5 := by rw [legalMoves_abs]; decide +kernel
theorem q_count1 : (Spec.legalMoves (abs qS1)).length = 98 := by rw [legalMoves_abs]; decide +kernel
theorem q_count2 : (Spec.legalMoves (abs qS2)).length = 96 := by rw [legalMoves_abs]; decide +kernel

theorem q_moves_ne : legalMoves qRoot ≠ [] ∧ legalMoves qS1 ≠ [] ∧ legalMoves qS2 ≠ [] := by
  refine ⟨fun h => ?_, fun h => ?_, fun h => ?_⟩
  · have := C01_count qRoot q_legal.1 q_disjoint.1
    rw [h, q_count0] at this; cases this
  · have := C01_count qS1 q_legal.2.1 q_disjoint.2.1
    rw [h, q_count1] at this; cases this
  · have := C01_count qS2 q_legal.2.2 q_disjoint.2.2
    rw [h, q_count2] at this; cases this

/-- the heuristic sums of the two successors are far above `mate_in_ply(0) = 11000` … -/
theorem q_heuristic : evalHeuristic (Variation.of qS1) .white = 12922 ∧ evalHeuristic (Variation.of qS2) .white = 12882 := by
  simp only [variationOf_fast, evalHeuristic_fast]; decide +kernel

/-- … and `Evaluator::evaluate` returns `±9999` for them, at every depth (before the repair of F10: 12922 / 12882, above
the root window, which is why the search of `qRoot` reported nothing) -/
theorem q_eval (d : Nat) : evaluate qS1 .white d = some 9999 ∧ evaluate qS1 .black d = some (-9999) ∧
    evaluate qS2 .white d = some 9999 ∧ evaluate qS2 .black d = some (-9999) := by
  have e1 := C05.C05_evaluate_legal qS1 .white d q_legal.2.1 q_disjoint.2.1 q_moves_ne.2.1
  have e2 := C05.C05_evaluate_legal qS2 .white d q_legal.2.2 q_disjoint.2.2 q_moves_ne.2.2
  rw [q_heuristic.1] at e1
  rw [q_heuristic.2] at e2
  have b1 := C13.C13_neg' qS1 .white d
  have b2 := C13.C13_neg' qS2 .white d
  rw [e1] at b1
  rw [e2] at b2
  exact ⟨e1, b1, e2, b2⟩

/-- **the search of the 15-queen position reports** and is answered by exactly one `bestmove`, on any memory satisfying
`MemOK` on the positions reachable from it, for every seed, depth limit `≥ 1`, worker counts, cancellation instant -/
theorem q_reports (art : Artifact) (hmem : MemOK (Reach (fun s => s = qRoot)) art)
    (rng0 : Rng.ChaCha8) (maxDepth : Option Nat) (fuelDepth : Nat) (hlim : 1 ≤ maxDepth.getD fuelDepth)
    (workersOf : Nat → Nat) (hw : 0 < workersOf 0) (cancelAt : Option Nat) :
    let out := iterate qRoot rng0 maxDepth art workersOf cancelAt fuelDepth
    out.panic = Option.none ∧ (∃ ev line, Event.best ev line ∈ out.events ∧ line ≠ [] ∧ LineLegal qRoot line) ∧
    ∃ t, Uci.bestmoves (Uci.writerLines out.events) = [t] ∧ Uci.LegalToken qRoot t := by
  intro out
  obtain ⟨hnp, hrep⟩ := C03_at_least_one_report_legal_root qRoot q_legal.1 q_disjoint.1 q_moves_ne.1 art hmem rng0
    maxDepth fuelDepth hlim workersOf hw cancelAt
  obtain ⟨_, t, h1, _, h3⟩ := Uci.C07_writer_exactly_one_unconditional
    (Region.reach (fun s => s = qRoot) (fun s h => by subst h; exact ⟨q_legal.1, q_disjoint.1⟩)) qRoot
    (Reach.root qRoot rfl) q_moves_ne.1 art hmem rng0 maxDepth fuelDepth hlim workersOf hw cancelAt
  exact ⟨hnp, hrep, t, h1, h3⟩

/-- the second F10 position (43 knights, `knRoot` of `Wee/Props/C03Report.lean`): successors evaluate to 9999
(`kn_eval1 … kn_eval3`) and the search reports
(`C03_report_overmaterial_repaired`); the same through the theorem for legal roots -/
example (art : Artifact) (hmem : MemOK (Reach (fun s => s = knRoot)) art) (rng0 : Rng.ChaCha8) (d : Nat) (hd : 1 ≤ d)
    (workersOf : Nat → Nat) (hw : 0 < workersOf 0) (cancelAt : Option Nat) :
    ∃ ev line, Event.best ev line ∈ (iterate knRoot rng0 (some d) art workersOf cancelAt).events ∧ line ≠ [] ∧
      LineLegal knRoot line :=
  (C03_at_least_one_report_legal_root knRoot kn_legal.1 kn_disjoint.1 kn_moves_ne art hmem rng0 (some d) 64 hd workersOf
    hw cancelAt).2

/-- the initial position (promotion potential 10400 a side, so `PotentialOK` fails) is covered: every search of it on a
memory satisfying `MemOK` reports (hypotheses of `C03_at_least_one_report_legal_root`: legal, no stacked pieces, a legal
move) -/
example : LegalPos c02Start = true ∧ DisjointBoard c02Start.pieces ∧ ¬ PotentialOK c02Start :=
  ⟨c02Start_legal.1, c02Start_legal.2, by decide +kernel⟩

end Wee

namespace Wee.C06
open Wee.Search Wee.Outcome

/-- **`C06_complete_one_worker_all` instantiated** on `compRoot` / `compKeys` of `Wee/Props/C06Complete.lean` (all its
hypotheses hold there: `compRoot_hyps`; its `TreeBounded` component is not used) -/
example (nT nB : Nat) (hT : 0 < nT) (hB : 0 < nB) (rng0 : Rng.ChaCha8) (d : Nat) (hd : 1 ≤ d) :
    let out := iterate compRoot rng0 (some d) { keys := compKeys, tt := TT.Access.new nT nB, history := [] }
      (fun _ => 1) Option.none
    out.panic = Option.none ∧
    ∃ ev line, (bestReports out.events).getLast? = some (ev, line) ∧ Ev.posInf ≤ ev ∧
      ∃ r ∈ legalMoves compRoot, line.head? = some r.1 ∧ Lost r.2 :=
  C06_complete_one_worker_all compRoot 1 d compKeys nT nB rng0 64 compRoot_hyps.1 compRoot_hyps.2.1
    compRoot_hyps.2.2.2.1 compRoot_hyps.2.2.2.2.1 hT hB compRoot_hyps.2.2.2.2.2 hd

/-- **`C06_sound_fresh_all` applies to the initial position** (which `TreeBounded_of_potential` could not reach: promotion
potential 10400 a side): for every key table without harmful collision among the positions reachable from it, every
winning report of every search of the initial position from fresh memory is a true forced mate -/
example (keys : KeyTable) (hcf : CollisionFree keys.keys (Reachable c02Start)) (nT nB : Nat) (hT : 0 < nT) (hB : 0 < nB)
    (history : List UInt64) (rng0 : Rng.ChaCha8) (maxDepth : Option Nat) (workersOf : Nat → Nat) (cancelAt : Option Nat) :
    ∀ ev ∈ (iterate c02Start rng0 maxDepth { keys := keys, tt := TT.Access.new nT nB, history := history } workersOf
      cancelAt).events, ClaimTrue c02Start ev :=
  (C06_sound_fresh_all c02Start c02Start_legal.1 c02Start_legal.2 keys hcf nT nB hT hB history rng0 maxDepth
    workersOf cancelAt 64).1

/-- the static-evaluation lemmas on an over-material position: the 15-queen successor `qS1` (White to move, heuristic sum
12922) has a non-terminal static value, so `C06_static_ok_all` never misreads it as a mate -/
example (d : Nat) : evaluate qS1 qS1.turn d = some 9999 ∧ Ev.isTerminal 9999 = false :=
  ⟨(q_eval d).1, by decide⟩

end Wee.C06
