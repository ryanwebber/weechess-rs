import Wee.Proofs.ComposeLemmas
import Wee.Props.C01
import Wee.Props.C02
import Wee.Props.C08
import Wee.Props.C15
import Wee.Proofs.KeyMoves
/-!
# Composed statements: C02 (coordinates denote THE move of the rules), C08 (table consumers)

Two statements that follow from several property theorems together.

`C02_coords_spec`.  Rust: `State::by_performing_moves` (`state.rs`) on the `MoveQuery` that `uci.rs` builds from a move
token `e2e4` / `e7e8q` (`coordQuery origin destination letter`).  From `C02_coords` (how one
query is resolved against the generated list), `C01_moves` / `C01_legal_results` (the generated list
read through the accessors is a duplicate-free permutation of `Spec.legalMoves`, successors are the
rules' successors) and `specLegal_coords_inj` (a legal move of the rules is determined by origin, destination and
promotion; from `WfM.facts_of_pseudo`, which has the kind as well).

`C08_consumers`.  Rust: the consumers of `ZobristHasher::hash` — the transposition table (`searcher.rs`), keyed by
`hash as usize`.  From `C15_find` (a `find` returns nothing or the entry of the most recent
insert under exactly that 64-bit key), `C08_hash_eq_iff_key_eq` (under xor-independent keys equal
hashes mean equal rule-relevant keys) and `Book.legalMoves_congr_key` (key-equal positions have the
same legal moves: `compute_legal_moves` reads neither the clocks nor an en-passant target nobody
can capture on).
-/
namespace Wee
open Wee.C10 (DisjointBoard)
open Wee.C02 (coordQuery)

/-- **General form** (any letter, including the resolver's leniency `g1f3n`): the answer of
`by_performing_moves` to one coordinate query is decided by the legal moves *of the rules* that
`coordsMatch` selects: none → `UnknownMove`; exactly one `m` → `Ok` of a state that abstracts to the
rules' successor `Spec.applyMove (abs s) m` (and is again a legal position without stacked pieces);
two or more → `AmbiguousMove`.  In the error cases only the error is returned (the caller's
position is unchanged: `State` is immutable). -/
theorem C02_coords_spec_general (s : State) (hl : LegalPos s = true) (hd : DisjointBoard s.pieces)
    (o d : Nat) (pr : Option Piece) :
    ((Spec.legalMoves (abs s)).filter (coordsMatch o d pr) = [] →
      performQueries s [coordQuery o d pr] = some (.error .unknown)) ∧
    (∀ m, (Spec.legalMoves (abs s)).filter (coordsMatch o d pr) = [m] →
      ∃ s', performQueries s [coordQuery o d pr] = some (.ok s') ∧ abs s' = Spec.applyMove (abs s) m ∧
        LegalPos s' = true ∧ DisjointBoard s'.pieces) ∧
    (2 ≤ ((Spec.legalMoves (abs s)).filter (coordsMatch o d pr)).length →
      performQueries s [coordQuery o d pr] = some (.error .ambiguous)) := by
  obtain ⟨c1, c2, c3⟩ := C02_coords s (coordQuery o d pr) _ (C02.legalMoves?_eq s hl hd)
  have hperm := coords_filter_perm s hl hd o d pr
  refine ⟨fun hF => ?_, fun m hF => ?_, fun hF => ?_⟩
  · rw [hF] at hperm
    rw [C02.performQueries_error s _ [] _ (c2 (List.map_eq_nil_iff.1 hperm.eq_nil))]
  · rw [hF] at hperm
    obtain ⟨r, hr, hrm⟩ := List.map_eq_singleton_iff.1 (List.perm_singleton.1 hperm)
    have hq := c1 r hr
    have hmem : r ∈ legalMoves s := by
      have : r ∈ (legalMoves s).filter (fun r => (coordQuery o d pr).test r.1) := by rw [hr]; exact List.mem_singleton.2 rfl
      exact (List.mem_filter.1 this).1
    obtain ⟨sm, hsm, _, habs, hd', hl'⟩ := C02.legalMoves_entry s hl hd r hmem
    have : sm = m := by
      have hrm' : toSpecMove r.1 = some m := hrm
      rw [hsm] at hrm'; exact Option.some.inj hrm'
    subst this
    refine ⟨r.2, ?_, habs, hl', hd'⟩
    rw [C02.performQueries_ok s r.2 _ [] hq]; rfl
  · have hlen := hperm.length_eq
    simp only [List.length_map] at hlen
    rw [C02.performQueries_error s _ [] _ (c3 (by rw [hlen]; exact hF))]

/-- **C02_coords_spec.**  Legal position `s` (no stacked pieces), coordinates `(o, d)` and a letter
`pr` that is attached exactly when a pawn of the side to move stands on `o` and `d` is on its last
rank (the convention of UCI move text: `e7e8q`, never `e7e8`, never `g1f3n`).  Then
`by_performing_moves(s, [query])`
* is `Ok s'` with `abs s' = Spec.applyMove (abs s) m` for THE legal move `m` of the rules with origin
  `o`, destination `d` and promotion kind `pr` — whenever such a move exists (and `s'` is again a
  legal position without stacked pieces);
* is `Err(UnknownMove)` when no legal move of the rules has these coordinates (position unchanged);
* is never `Err(AmbiguousMove)`;
and there is at most one such `m` (so "THE" is justified). -/
theorem C02_coords_spec (s : State) (hl : LegalPos s = true) (hd : DisjointBoard s.pieces)
    (o d : Nat) (pr : Option Piece)
    (hpr : pr.isSome = true ↔
      ((abs s).at o = some (absColor s.turn, Spec.Kind.pawn) ∧ d / 8 = Spec.lastRank (absColor s.turn))) :
    (∀ m ∈ Spec.legalMoves (abs s), m.src = o → m.dst = d → m.promo = pr.bind absKind →
      ∃ s', performQueries s [coordQuery o d pr] = some (.ok s') ∧ abs s' = Spec.applyMove (abs s) m ∧
        LegalPos s' = true ∧ DisjointBoard s'.pieces) ∧
    ((∀ m ∈ Spec.legalMoves (abs s), ¬ (m.src = o ∧ m.dst = d ∧ m.promo = pr.bind absKind)) →
      performQueries s [coordQuery o d pr] = some (.error .unknown)) ∧
    performQueries s [coordQuery o d pr] ≠ some (.error .ambiguous) ∧
    (∀ m ∈ Spec.legalMoves (abs s), ∀ m' ∈ Spec.legalMoves (abs s),
      m.src = o → m.dst = d → m.promo = pr.bind absKind →
      m'.src = o → m'.dst = d → m'.promo = pr.bind absKind → m = m') := by
  have hP : Spec.LegalPos (abs s) = true := hl
  have hiff := coordsMatch_iff_of_letter (abs s) hP o d pr hpr
  obtain ⟨g1, g2, _⟩ := C02_coords_spec_general s hl hd o d pr
  have huniq : ∀ m ∈ Spec.legalMoves (abs s), ∀ m' ∈ Spec.legalMoves (abs s),
      m.src = o → m.dst = d → m.promo = pr.bind absKind →
      m'.src = o → m'.dst = d → m'.promo = pr.bind absKind → m = m' := by
    intro m hm m' hm' a1 a2 a3 b1 b2 b3
    exact specLegal_coords_inj (abs s) hP m m' hm hm' (by rw [a1, b1]) (by rw [a2, b2]) (by rw [a3, b3])
  have hone : ∀ m ∈ Spec.legalMoves (abs s), m.src = o → m.dst = d → m.promo = pr.bind absKind →
      (Spec.legalMoves (abs s)).filter (coordsMatch o d pr) = [m] := fun m hm a1 a2 a3 =>
    filter_eq_singleton _ _ m (nodup_of_nodup_map some _ (legalMoves_nodup (abs s))) hm fun x hx =>
      (hiff x hx).trans ⟨fun ⟨b1, b2, b3⟩ => huniq x hx m hm b1 b2 b3 a1 a2 a3, fun e => e ▸ ⟨a1, a2, a3⟩⟩
  refine ⟨fun m hm a1 a2 a3 => g2 m (hone m hm a1 a2 a3), fun hnone => ?_, ?_, huniq⟩
  · apply g1
    rw [List.filter_eq_nil_iff]
    intro m hm ht
    exact hnone m hm ((hiff m hm).1 ht)
  · cases hF : (Spec.legalMoves (abs s)).filter (coordsMatch o d pr) with
    | nil =>
      rw [g1 hF]
      intro h
      cases h
    | cons a t =>
      have hmem : a ∈ (Spec.legalMoves (abs s)).filter (coordsMatch o d pr) := hF ▸ List.mem_cons_self
      obtain ⟨ha, hc⟩ := List.mem_filter.1 hmem
      obtain ⟨a1, a2, a3⟩ := (hiff a ha).1 hc
      obtain ⟨s', hs', _⟩ := g2 a (hone a ha a1 a2 a3)
      rw [hs']
      intro h
      cases h

/-- non-vacuity: in the position of `C01_example` (White Ke1 Ng1 Pa7 Pe5, Black Kh8 Nb8 Pd5, en-passant
target d6) the tokens `a7a8q` (letter: pawn a7 reaches a8), `e5d6` (no letter: not the last rank) and
`g1f3` (no letter: a knight) satisfy the letter hypothesis -/
example :
    ((some Piece.queen).isSome = true ↔ ((abs C01_example).at 48 = some (absColor C01_example.turn, Spec.Kind.pawn) ∧
      56 / 8 = Spec.lastRank (absColor C01_example.turn))) ∧
    ((Option.none : Option Piece).isSome = true ↔ ((abs C01_example).at 36 = some (absColor C01_example.turn, Spec.Kind.pawn) ∧
      43 / 8 = Spec.lastRank (absColor C01_example.turn))) ∧
    ((Option.none : Option Piece).isSome = true ↔ ((abs C01_example).at 6 = some (absColor C01_example.turn, Spec.Kind.pawn) ∧
      21 / 8 = Spec.lastRank (absColor C01_example.turn))) :=
  ⟨⟨fun _ => ⟨by rw [C10.abs_at]; decide +kernel, by decide⟩, fun _ => rfl⟩,
    ⟨fun h => (by cases h), fun h => absurd h.2 (by decide)⟩,
    ⟨fun h => (by cases h), fun h => absurd h.2 (by decide)⟩⟩

/-- … and the rules do have a legal move with the coordinates of `e5d6` (the en-passant capture), so
the first clause of `C02_coords_spec` applies to it -/
example : ∃ m ∈ Spec.legalMoves (abs C01_example), m.src = 36 ∧ m.dst = 43 ∧ m.promo = Option.none ∧ m.ep = true :=
  ⟨{ color := .white, kind := .pawn, src := 36, dst := 43, capture := some .pawn, ep := true },
    Spec.mem_legalMoves.2
      ⟨(mem_pseudoMoves _ _).2 (Or.inl ⟨36, .pawn, by rw [C10.abs_at]; decide +kernel, by decide +kernel⟩),
        by rw [isLegalAfter_abs]; decide +kernel⟩,
    rfl, rfl, rfl, rfl⟩

/-! ## C08: table operations issued for positions -/

/-- a table operation the search issues for a position: the key is the position's hash -/
inductive PosOp
  | insert (q : State) (e : TT.Entry)
  | find (q : State)

/-- `hash as usize` (64-bit target) -/
def hkey (K : Keys) (q : State) : Nat := (hash K q).toNat

def PosOp.toOp (K : Keys) : PosOp → TT.Op
  | .insert q e => .insert (hkey K q) e
  | .find q => .find (hkey K q)

theorem mem_toOp_insert (K : Keys) (ops : List PosOp) (k : Nat) (e : TT.Entry)
    (h : TT.Op.insert k e ∈ ops.map (PosOp.toOp K)) : ∃ q, PosOp.insert q e ∈ ops ∧ hkey K q = k := by
  obtain ⟨op, hop, heq⟩ := List.mem_map.1 h
  cases op with
  | find q => cases heq
  | insert q e' =>
    simp only [PosOp.toOp, TT.Op.insert.injEq] at heq
    obtain ⟨rfl, rfl⟩ := heq
    exact ⟨q, hop, rfl⟩

/-- without any hypothesis on the keys: what is read was stored under the same 64-bit hash, by the
most recent insert under it (pure C15; the gap to "same position" is exactly a hash collision) -/
theorem C08_consumers_hash (K : Keys) (tables buckets : Nat) (hT : 0 < tables) (hB : 0 < buckets)
    (ops : List PosOp) (p : State) (e : TT.Entry)
    (hfind : (TT.run (TT.Access.new tables buckets) (ops.map (PosOp.toOp K))).find (hkey K p) = some e) :
    ∃ q, PosOp.insert q e ∈ ops ∧ hash K q = hash K p := by
  have hlatest : TT.latest (ops.map (PosOp.toOp K)) (hkey K p) = some e := TT.C15_find_some hT hB hfind
  obtain ⟨q, hq, hk⟩ := mem_toOp_insert K ops _ e (TT.latest_some_mem hlatest)
  exact ⟨q, hq, UInt64.toNat_inj.1 hk⟩

/-- **C08_consumers.**  Take any history of table operations issued for positions — every `insert`
and `find` keyed by the position's hash, as the search does (`hash as usize`) — on a fresh
`tables × buckets` access layer, in any interleaving (C15: linearizable).  If afterwards the lookup
for position `p` returns an entry `e`, then `e` was inserted for a position `q`
* that hashes exactly like `p` (no hypothesis), and it is the most recent insert under that hash;
* with the same rule-relevant key as `p` — placement, side to move, castling rights, file of an
  available en-passant capture — provided the random keys are xor-independent on the atoms in which
  the inserted positions differ from `p` (`Keys.IndependentOn`, the exact content of "up to 64-bit
  chance", see `Props/C08.lean`);
* hence with the same legal moves as `p` when both are positions with a sane en-passant field
  (`Book.EpOK`: true of every `LegalPos`).
So what a consumer reads for `p` (best move, bound, evaluation) was computed for a position that the
rules cannot tell from `p`; only the clocks and the repetition history may differ. -/
theorem C08_consumers (K : Keys) (U : Atom → Prop) (hK : K.IndependentOn U)
    (tables buckets : Nat) (hT : 0 < tables) (hB : 0 < buckets) (ops : List PosOp) (p : State) (e : TT.Entry)
    (hU : ∀ q e', PosOp.insert q e' ∈ ops → ∀ a ∈ symmDiff (atoms q) (atoms p), U a)
    (hfind : (TT.run (TT.Access.new tables buckets) (ops.map (PosOp.toOp K))).find (hkey K p) = some e) :
    ∃ q, PosOp.insert q e ∈ ops ∧ hash K q = hash K p ∧
      TT.latest (ops.map (PosOp.toOp K)) (hkey K p) = some e ∧
      key q = key p ∧
      (Book.EpOK q → Book.EpOK p → (legalMoves q).map (·.1) = (legalMoves p).map (·.1)) := by
  have hlatest : TT.latest (ops.map (PosOp.toOp K)) (hkey K p) = some e := TT.C15_find_some hT hB hfind
  obtain ⟨q, hq, hh⟩ := C08_consumers_hash K tables buckets hT hB ops p e hfind
  have hkey : key q = key p := (C08_hash_eq_iff_key_eq K U hK q p (hU q e hq)).1 hh
  exact ⟨q, hq, hh, hlatest, hkey, fun hq' hp' => Book.legalMoves_congr_key q p hkey hq' hp'⟩

/-- the same for legal positions: the stored entry belongs to a position with the same legal moves;
in particular a stored move that was legal where it was stored is legal where it is read -/
theorem C08_consumers_legal (K : Keys) (U : Atom → Prop) (hK : K.IndependentOn U)
    (tables buckets : Nat) (hT : 0 < tables) (hB : 0 < buckets) (ops : List PosOp) (p : State) (e : TT.Entry)
    (hlegal : ∀ q e', PosOp.insert q e' ∈ ops → LegalPos q = true) (hp : LegalPos p = true)
    (hU : ∀ q e', PosOp.insert q e' ∈ ops → ∀ a ∈ symmDiff (atoms q) (atoms p), U a)
    (hfind : (TT.run (TT.Access.new tables buckets) (ops.map (PosOp.toOp K))).find (hkey K p) = some e) :
    ∃ q, PosOp.insert q e ∈ ops ∧ key q = key p ∧ (legalMoves q).map (·.1) = (legalMoves p).map (·.1) ∧
      (∀ mv : Move, mv ∈ (legalMoves q).map (·.1) → mv ∈ (legalMoves p).map (·.1)) := by
  obtain ⟨q, hq, _, _, hk, hm⟩ := C08_consumers K U hK tables buckets hT hB ops p e hU hfind
  have := hm (Book.EpOK_of_legalPos q (hlegal q e hq)) (Book.EpOK_of_legalPos p hp)
  exact ⟨q, hq, hk, this, fun mv h => this ▸ h⟩

/-- the repetition history (`state_history.lookup(&state_hash).is_some()` in `searcher.rs`; `ctx.history.contains hash`
in the model): a hit for `p` means some past
position hashes like `p`, hence — keys independent — has the key of `p` (same placement, side, rights,
available en-passant capture: what the repetition rule compares) -/
theorem C08_consumers_history (K : Keys) (U : Atom → Prop) (hK : K.IndependentOn U) (past : List State) (p : State)
    (hU : ∀ q ∈ past, ∀ a ∈ symmDiff (atoms q) (atoms p), U a)
    (hhit : (past.map (hash K)).contains (hash K p) = true) :
    ∃ q ∈ past, hash K q = hash K p ∧ key q = key p := by
  rw [List.contains_iff_mem] at hhit
  obtain ⟨q, hq, hh⟩ := List.mem_map.1 hhit
  exact ⟨q, hq, hh, (C08_hash_eq_iff_key_eq K U hK q p (hU q hq)).1 hh⟩

/-! ### non-vacuity: the hypotheses of `C08_consumers` on a concrete history -/

namespace ComposeExample

/-- white Ke1 with the right `K`, black Ke3 -/
def s1 : State := { pieces := { wk := 0x10, bk := 0x100000 }, turn := .white,
                    castleW := ⟨true, false⟩, castleB := .noRights, ep := Option.none, halfmove := 0, fullmove := 1 }
/-- the same without the right (another key) -/
def s2 : State := { s1 with castleW := .noRights }
/-- `s1` with other clocks (the same key) -/
def s1' : State := { s1 with halfmove := 7, fullmove := 30 }

def e1 : TT.Entry := { (default : TT.Entry) with depth := 3, mv := 11 }
def e2 : TT.Entry := { (default : TT.Entry) with depth := 5, mv := 22 }

def history : List PosOp := [.insert s1 e1, .find s2, .insert s2 e2]

/-- the lookup for `s1'` (never inserted itself) returns the entry stored for `s1` … -/
theorem find_s1' : (TT.run (TT.Access.new 2 3) (history.map (PosOp.toOp toyKeys))).find (hkey toyKeys s1') = some e1 := by
  decide +kernel

/-- … the independence hypothesis holds for this history with the toy key table of `Props/C08.lean` … -/
theorem history_U : ∀ q e', PosOp.insert q e' ∈ history → ∀ a ∈ symmDiff (atoms q) (atoms s1'), toyU a := by
  intro q e' hq a ha
  simp only [history, List.mem_cons, List.not_mem_nil, or_false] at hq
  rcases hq with h | h | h
  · cases h
    have : symmDiff (atoms s1) (atoms s1') = [] := by decide +kernel
    rw [this] at ha; cases ha
  · cases h
  · cases h
    have : symmDiff (atoms s2) (atoms s1') = [Atom.castle .white .king] := by decide +kernel
    rw [this, List.mem_singleton] at ha
    subst ha; trivial

/-- … so the theorem applies: the entry read for `s1'` was stored for a position with the key of `s1'` -/
example : ∃ q, PosOp.insert q e1 ∈ history ∧ key q = key s1' := by
  obtain ⟨q, h1, _, _, h2, _⟩ :=
    C08_consumers toyKeys toyU toyKeys_independent 2 3 (by decide) (by decide) history s1' e1 history_U find_s1'
  exact ⟨q, h1, h2⟩

end ComposeExample

end Wee
