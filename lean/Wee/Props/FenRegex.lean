import Wee.Proofs.RegexLemmas
import Wee.Props.C11
import Wee.Props.C14
import Wee.Props.C14Total
/-!
# The hand-written FEN recogniser implements `FEN_REGEX` (trusted-base reduction for C11 / C14)

Rust: `weechess-core/src/notation.rs`, `mod fen`:

```rust
const FEN_REGEX: &str = r"^(((?:[rnbqkpRNBQKP1-8]+\/){7})[rnbqkpRNBQKP1-8]+)\s([b|w])\s(-|([K|Q|k|q]{1,4}))\s(-|[a-h][1-8])\s(\d+)\s(\d+)$";
fn try_from_notation(notation: &str) -> Result<State, ()> {
    let re = Regex::new(FEN_REGEX).unwrap();
    let groups = re.captures(notation).ok_or(())?;
    let board = Board::try_parse(&groups[1])?;
    let turn_to_move = match &groups[3] { "w" => Color::White, "b" => Color::Black, _ => return Err(()) };
    let castle_rights = match &groups[4] { "-" => ArrayMap::filled(CastleRights::NONE), s => ArrayMap::try_parse(s)? };
    let en_passant_target = match &groups[6] { "-" => None, s => Some(Square::try_from(s)?) };
    let clock = Clock { halfmove_clock: groups[7].parse().map_err(|_| ())?, fullmove_number: groups[8].parse().map_err(|_| ())? };
    Ok(State::new(board, turn_to_move, castle_rights, en_passant_target, clock))
}
```

The model `parseFenChars` (`Wee/Model/Fen.lean`) merges the regex gate and the field parsers into one hand-written
recogniser (`splitFields` at every `\s` character, Boolean checks per field).  `fenRegex_is_modelled` (`Props/C11.lean`)
only says that the literal is the one the recogniser was written for; here the recogniser is proved to compute what the
regex followed by the field parsers computes.

The literal extracted from the Rust source (`Gen.fenRegex`) parses, by the regex-syntax parser of
`Wee/Spec/Regex.lean`, to the syntax tree `Spec.fenAst` (`FenRegex_parsed`).  Under the standard relational semantics
`Spec.M` a text is matched by `fenAst` in at most one way: all nine groups are determined by the text, so the
disambiguation policy of the regex engine (leftmost-first, greedy) cannot matter (`FenRegex_unique`), and
`Regex::captures` returns exactly what the decision procedure `Spec.fenCaptures` (`Proofs/RegexLemmas.lean`) computes
(`FenRegex_captures`).  `fenPipeline` is `try_from_notation` transcribed line by line over that semantics
(`re.captures`, `&groups[i]` with its panic when a group did not participate, the five field parsers), and
**`FenRegex_recogniser`** is `parseFenChars checked cs = fenPipeline nd checked cs` for every list of characters, both
build profiles.  C14 and C11 are then restated over `fenPipeline`.

## What is still assumed about the `regex` crate

1. *Syntax*: `Regex::new` reads the literal as `Spec.parseRegex` does (the parser accepts only the constructs the
   literal uses and rejects everything else, so there is no room for a second reading inside the subset).
2. *Semantics*: `captures` returns `None` iff no substring matches in the sense of `Spec.M`, and otherwise the groups of
   SOME match in that sense (which one is irrelevant by `FenRegex_unique`).  Unicode mode, no flags.
3. *Tables*: `\s` is `White_Space` (`Spec.isWhiteSpace`, equal to the model's `isRegexSpace` by `isWhiteSpace_eq`);
   `\d` is a set `nd` of which only `NdAssumptions` is used: it contains the ASCII digits and no white space
   (true of the general category `Nd`).
-/
namespace Wee
open Wee.Spec

/-! ## the literal and its syntax tree -/

/-- the literal `FEN_REGEX`, as re-extracted from `notation.rs` on every run, denotes `fenAst` -/
theorem FenRegex_parsed : parseRegex Gen.fenRegex = some fenAst := parse_fenRegex

/-- the `\s` table of the regex spec is the one the model's `splitFields` uses -/
theorem FenRegex_space (c : Char) : isWhiteSpace c = isRegexSpace c := isWhiteSpace_eq c

/-- the parser rejects what is outside the subset instead of re-interpreting it -/
example : parseRegex "a*" = none ∧ parseRegex "a." = none ∧ parseRegex "(?i)a" = none ∧ parseRegex "[^a]" = none ∧
    parseRegex "[a&&b]" = none ∧ parseRegex "a+?" = none ∧ parseRegex "\\w" = none ∧ parseRegex "(a" = none ∧
    parseRegex "a)" = none := by decide +kernel

example : parseRegex "^(a|[b-d]{2,3})\\s$" =
    some (.cat .bol (.cat (.group 1 (.alt (.chr 'a') (.rep (.cls [.range 'b' 'd']) 2 (some 3)))) (.cat .space .eol))) := by
  decide +kernel

/-- the semantics is the usual one: un-anchored search (`b` is found inside `abc`), anchors tie a match to the ends of
the text, `+` needs one iteration, and a group inside a repetition keeps its last iteration (`(a|b)+` on `ab`: group 1 = `b`) -/
example (P : PerlClasses) :
    IsMatch P (.chr 'b') ['a', 'b', 'c'] ∧ ¬ IsMatch P (.cat .bol (.chr 'b')) ['a', 'b', 'c'] ∧
    ¬ IsMatch P (.rep (.chr 'a') 1 none) [] ∧
    Captures P (.rep (.group 1 (.alt (.chr 'a') (.chr 'b'))) 1 none) ['a', 'b']
      (fun i => if i = 0 then some ['a', 'b'] else if i = 1 then some ['b'] else none) := by
  refine ⟨⟨_, ['a'], ['b'], ['c'], [], rfl, .chr, rfl⟩, ?_, ?_, ?_⟩
  · rintro ⟨g, pre, s, post, caps, ht, hm, -⟩
    obtain ⟨s₁, s₂, c₁, c₂, rfl, rfl, h₁, h₂⟩ := M_cat.1 hm
    obtain ⟨rfl, rfl, rfl⟩ := M_bol.1 h₁
    obtain ⟨rfl, rfl⟩ := M_chr.1 h₂
    simp at ht
  · rintro ⟨g, pre, s, post, caps, ht, hm, -⟩
    have hr : IsCharRx P (.chr 'a') (fun c => c == 'a') := fun pre s post c => by
      rw [M_chr]; constructor
      · rintro ⟨rfl, rfl⟩; exact ⟨'a', rfl, by simp, rfl⟩
      · rintro ⟨ch, rfl, h, rfl⟩; simp at h; subst h; exact ⟨rfl, rfl⟩
    have := ((M_rep_char hr).1 hm).1
    have hs : s = [] := by
      have := congrArg List.length ht; simp at this; exact List.eq_nil_of_length_eq_zero (by omega)
    subst hs; simp at this
  · refine ⟨[], ['a', 'b'], [], [(1, ['a']), (1, ['b'])], rfl, ?_, ?_⟩
    · exact .repCons (s₁ := ['a']) (s₂ := ['b']) (c₁ := [(1, ['a'])]) (c₂ := [(1, ['b'])]) (by simp)
        (.group (.altL .chr))
        (.repCons (s₁ := ['b']) (s₂ := []) (c₁ := [(1, ['b'])]) (c₂ := []) (by simp) (.group (.altR .chr)) .repNil)
    · funext i
      by_cases h0 : i = 0
      · subst h0; simp [groupOf]
      · by_cases h1 : i = 1
        · subst h1; simp [groupOf]
        · have : (1 == i) = false := by simp; omega
          have : (0 == i) = false := by simp; omega
          simp [groupOf, *]

/-! ## what is assumed of `\d` -/

/-- the only facts about the Unicode general category `Nd` (what `\d` matches) that the theorems use -/
structure NdAssumptions (nd : Char → Bool) : Prop where
  /-- `0`–`9` are decimal digits -/
  ascii : ∀ c, c.isDigit = true → nd c = true
  /-- no decimal digit is white space -/
  not_space : ∀ c, nd c = true → isWhiteSpace c = false

/-- a stand-in for `Nd` for the examples: ASCII, Arabic-Indic (U+0660–0669) and full-width (U+FF10–FF19) digits -/
def ndSample (c : Char) : Bool :=
  c.isDigit || (0x660 ≤ c.toNat && c.toNat ≤ 0x669) || (0xFF10 ≤ c.toNat && c.toNat ≤ 0xFF19)

/-- the assumptions are satisfiable, also by a set with non-ASCII digits -/
theorem ndSample_ok : NdAssumptions ndSample := by
  constructor
  · intro c h; simp [ndSample, h]
  · intro c h
    simp only [ndSample, Bool.or_eq_true, Bool.and_eq_true, decide_eq_true_eq] at h
    rcases h with (h | h) | h
    · rw [isWhiteSpace_eq]; exact FenL.not_space_of_isDigit c h
    · rw [isWhiteSpace_eq]; simp only [isRegexSpace]; simp; omega
    · rw [isWhiteSpace_eq]; simp only [isRegexSpace]; simp; omega

example : NdAssumptions Char.isDigit :=
  ⟨fun _ h => h, fun c h => by rw [isWhiteSpace_eq]; exact FenL.not_space_of_isDigit c h⟩

/-! ## matches are unique; the groups are a function of the text -/

/-- **uniqueness of the decomposition**: whatever the surrounding text, two matches of `fenAst` on the same
characters record the same capture events — the same text for each of the eight groups (and group 5 takes part in
both or in neither).  Moreover a match is always the whole text (`pre = post = []`, from the anchors). -/
theorem FenRegex_unique (nd : Char → Bool) (hnd : NdAssumptions nd) (pre s post : List Char) (caps₁ caps₂ : Caps)
    (h₁ : M (unicode nd) fenAst pre s post caps₁) (h₂ : M (unicode nd) fenAst pre s post caps₂) :
    caps₁ = caps₂ ∧ pre = [] ∧ post = [] := by
  obtain ⟨hpre, hpost, G₁, hG₁, rfl⟩ := (M_fenAst_iff_captures hnd.not_space).1 h₁
  obtain ⟨-, -, G₂, hG₂, rfl⟩ := (M_fenAst_iff_captures hnd.not_space).1 h₂
  rw [hG₁] at hG₂; cases hG₂
  exact ⟨rfl, hpre, hpost⟩

/-- **`Regex::captures` on `FEN_REGEX`**: `g` is a possible result for the text `cs` iff the decision procedure
`fenCaptures` (six white-space-separated fields, each checked against its group) accepts `cs` and `g` lists its
fields: `g 0 = cs`, `g 1` board, `g 2` the first seven ranks with their `/`, `g 3` side, `g 4` castling,
`g 5` castling unless it is `-` (then the group did not participate), `g 6` en passant, `g 7`, `g 8` counters. -/
theorem FenRegex_captures (nd : Char → Bool) (hnd : NdAssumptions nd) (cs : List Char) (g : Nat → Option (List Char)) :
    Captures (unicode nd) fenAst cs g ↔ ∃ G, fenCaptures nd cs = some G ∧ g = G.groups cs :=
  captures_fenAst_iff hnd.not_space cs g

theorem FenRegex_captures_unique (nd : Char → Bool) (hnd : NdAssumptions nd) (cs : List Char)
    (g₁ g₂ : Nat → Option (List Char)) (h₁ : Captures (unicode nd) fenAst cs g₁) (h₂ : Captures (unicode nd) fenAst cs g₂) :
    g₁ = g₂ := by
  obtain ⟨G₁, hG₁, rfl⟩ := (FenRegex_captures nd hnd cs g₁).1 h₁
  obtain ⟨G₂, hG₂, rfl⟩ := (FenRegex_captures nd hnd cs g₂).1 h₂
  rw [hG₁] at hG₂; cases hG₂; rfl

/-- so `reCaptures` (defined by choice among the possible results) is computed by `fenCaptures` -/
theorem FenRegex_reCaptures (nd : Char → Bool) (hnd : NdAssumptions nd) (cs : List Char) :
    reCaptures (unicode nd) fenAst cs = (fenCaptures nd cs).map (·.groups cs) :=
  reCaptures_fenAst hnd.not_space cs

theorem FenRegex_isMatch (nd : Char → Bool) (hnd : NdAssumptions nd) (cs : List Char) :
    IsMatch (unicode nd) fenAst cs ↔ (fenCaptures nd cs).isSome = true := by
  constructor
  · rintro ⟨g, hg⟩
    obtain ⟨G, hG, -⟩ := (FenRegex_captures nd hnd cs g).1 hg
    rw [hG]; rfl
  · intro h
    cases hG : fenCaptures nd cs with
    | none => rw [hG] at h; cases h
    | some G => exact ⟨_, (FenRegex_captures nd hnd cs _).2 ⟨G, hG, rfl⟩⟩

/-! ### non-vacuity: the start position matches, with these groups -/

/-- the six fields of `Fen::DEFAULT` -/
def defaultGroups : FenGroups :=
  ⟨"rnbqkbnr/pppppppp/8/8/8/8/PPPPPPPP/RNBQKBNR".toList, ['w'], "KQkq".toList, ['-'], ['0'], ['1']⟩

theorem fenCaptures_default : fenCaptures ndSample Gen.fenDefault.toList = some defaultGroups := by
  rw [FenL.fenDefault_toList]; decide +kernel

set_option maxRecDepth 1000000 in
example : fenCaptures ndSample Gen.fenDefault.toList = some defaultGroups := fenCaptures_default

set_option maxRecDepth 1000000 in
/-- group 2 of the start position; group 5 participates -/
example : defaultGroups.groups [] 2 = some "rnbqkbnr/pppppppp/8/8/8/8/PPPPPPPP/".toList ∧
    defaultGroups.groups [] 5 = some "KQkq".toList := by decide +kernel

/-- `Fen::DEFAULT` is matched by `FEN_REGEX` (through the theorem, not by evaluation) -/
example : IsMatch (unicode ndSample) fenAst Gen.fenDefault.toList :=
  (FenRegex_isMatch ndSample ndSample_ok _).2 (by rw [fenCaptures_default]; rfl)

set_option maxRecDepth 1000000 in
/-- the class `[b|w]` lets `|` through as side to move and `[K|Q|k|q]` lets `|` through among the castling letters; a non-ASCII
digit passes `\d+`, and any one white-space character (a tab, an ideographic space, NEL) separates two fields; a second
space, a ninth rank, a trailing newline, a fifth castling letter, a leading space do not match -/
example :
    (fenCaptures ndSample "8/8/8/8/8/8/8/8 | K|q - 0 1".toList).isSome = true ∧
    (fenCaptures ndSample "8/8/8/8/8/8/8/8\tw - e3　0\u00851".toList).isSome = true ∧
    (fenCaptures ndSample "8/8/8/8/8/8/8/8 w - - ٣ 1".toList).isSome = true ∧
    (fenCaptures ndSample "8/8/8/8/8/8/8/8 w - -  0 1".toList).isSome = false ∧
    (fenCaptures ndSample "8/8/8/8/8/8/8/8/8 w - - 0 1".toList).isSome = false ∧
    (fenCaptures ndSample "8/8/8/8/8/8/8/8 w - - 0 1\n".toList).isSome = false ∧
    (fenCaptures ndSample "8/8/8/8/8/8/8/8 w KQkqK - 0 1".toList).isSome = false ∧
    (fenCaptures ndSample " 8/8/8/8/8/8/8/8 w - - 0 1".toList).isSome = false := by decide +kernel

/-! ## `try_from_notation`, line by line, over the regex semantics -/

namespace FenRx

/-- `Result<_, ()>` with `?`, plus the panic outcome -/
scoped instance : Monad Res where
  pure := .ok
  bind r f := match r with
    | .ok a => f a
    | .err => .err
    | .panic => .panic

/-- `.ok_or(())` -/
def okOr {α : Type} : Option α → Res α
  | some a => .ok a
  | none => .err

/-- `&groups[i]` (`impl Index<usize> for Captures`): panics when group `i` did not participate in the match -/
def index (groups : Nat → Option (List Char)) (i : Nat) : Res (List Char) :=
  match groups i with
  | some s => .ok s
  | none => .panic

/-- `Board::try_parse(s)` (the model's `parseBoardCells`, then `Board::from(&map)`) -/
def boardTryParse (checked : Bool) (s : List Char) : Res PieceMap :=
  match parseBoardCells checked s 0 (List.replicate 64 Option.none) with
  | .ok cells => .ok (piecesOfCells cells)
  | .err => .err
  | .panic => .panic

/-- `match &groups[3] { "w" => Color::White, "b" => Color::Black, _ => return Err(()) }` -/
def turnOf : List Char → Res Color
  | ['w'] => .ok .white
  | ['b'] => .ok .black
  | _ => .err

/-- `match &groups[4] { "-" => ArrayMap::filled(CastleRights::NONE), s => ArrayMap::try_parse(s)? }` -/
def rightsOf : List Char → Res (CastleRights × CastleRights)
  | ['-'] => .ok (CastleRights.noRights, CastleRights.noRights)
  | s => okOr (parseCastle s)

/-- `match &groups[6] { "-" => None, s => Some(Square::try_from(s)?) }` (`parseSquare` is the model of
`Square::try_from(&str)` in `Model/San.lean`: byte length 2, `File::from_char`, `Rank::from_char`) -/
def epOf : List Char → Res (Option Nat)
  | ['-'] => .ok Option.none
  | s => match parseSquare s with
    | some sq => .ok (some sq)
    | Option.none => .err

/-- `groups[i].parse().map_err(|_| ())?` at type `usize` -/
def clockOf (s : List Char) : Res Nat := okOr (parseUsize s)

end FenRx

open FenRx in
/-- **`Fen::try_from_notation`, transcribed**: the regex with its standard semantics (`reCaptures`: any result the
semantics allows, `None` when there is no match), then the field parsers in the order of `notation.rs`.
`nd` is the set matched by `\d`, `checked` the build profile (overflow checks). -/
noncomputable def fenPipeline (nd : Char → Bool) (checked : Bool) (text : List Char) : Res State := do
  let groups ← okOr (reCaptures (unicode nd) fenAst text)      -- let groups = re.captures(notation).ok_or(())?;
  let board ← index groups 1 >>= boardTryParse checked          -- let board = Board::try_parse(&groups[1])?;
  let turn ← index groups 3 >>= turnOf                          -- let turn_to_move = match &groups[3] { … };
  let rights ← index groups 4 >>= rightsOf                      -- let castle_rights = match &groups[4] { … };
  let ep ← index groups 6 >>= epOf                              -- let en_passant_target = match &groups[6] { … };
  let half ← index groups 7 >>= clockOf                         -- halfmove_clock: groups[7].parse().map_err(|_| ())?,
  let full ← index groups 8 >>= clockOf                         -- fullmove_number: groups[8].parse().map_err(|_| ())?,
  pure { pieces := board, turn := turn, castleW := rights.1, castleB := rights.2, ep := ep,
         halfmove := half, fullmove := full }                   -- Ok(State::new(board, turn_to_move, …))

namespace FenRx

theorem rightsOf_eq (castle : List Char) : rightsOf castle = okOr (FenL.rightsOf castle) := by
  unfold rightsOf FenL.rightsOf
  split
  · rfl
  · rename_i hne
    rw [if_neg]
    · simpa using hne

theorem epOf_eq (ep : List Char) (h : FenL.epOk ep = true) : epOf ep = .ok (FenL.epOf ep) := by
  by_cases hd : ep = ['-']
  · subst hd; rfl
  · obtain ⟨h1, h2⟩ := parseSquare_of_epOk ep h hd
    unfold epOf
    split
    · rename_i h; exact absurd rfl hd
    · rw [h1]
      cases he : FenL.epOf ep with
      | none => rw [he] at h2; cases h2
      | some sq => rfl

/-- the part of the recogniser after its gate is the field-parser part of the pipeline -/
theorem afterGate_eq (checked : Bool) (cs : List Char) (G : FenGroups) (hs : FenL.sideOk G.side = true)
    (he : FenL.epOk G.ep = true) :
    afterGate checked G.board G.side G.castle G.ep G.half G.full =
      (do
        let groups := G.groups cs
        let board ← index groups 1 >>= boardTryParse checked
        let turn ← index groups 3 >>= turnOf
        let rights ← index groups 4 >>= rightsOf
        let ep ← index groups 6 >>= epOf
        let half ← index groups 7 >>= clockOf
        let full ← index groups 8 >>= clockOf
        pure { pieces := board, turn := turn, castleW := rights.1, castleB := rights.2, ep := ep,
               halfmove := half, fullmove := full } : Res State) := by
  obtain ⟨board, side, castle, ep, half, full⟩ := G
  simp only at hs he
  have hside : side = ['w'] ∨ side = ['b'] ∨ side = ['|'] := by
    simp only [FenL.sideOk, Bool.and_eq_true, beq_iff_eq, List.all_eq_true, Bool.or_eq_true] at hs
    match side, hs with
    | [c], hs =>
      rcases hs.2 c List.mem_cons_self with (rfl | rfl) | rfl
      · exact .inr (.inl rfl)
      · exact .inr (.inr rfl)
      · exact .inl rfl
  have hr : rightsOf castle = okOr (if castle == ['-'] then some (CastleRights.noRights, CastleRights.noRights)
      else parseCastle castle) := rightsOf_eq castle
  have hep : epOf ep = .ok (FenL.epOf ep) := epOf_eq ep he
  simp only [FenGroups.groups, index, bind, pure, afterGate, boardTryParse, hr, hep, clockOf, FenL.epOf]
  cases parseBoardCells checked board 0 (List.replicate 64 Option.none) with
  | panic => rfl
  | err => rfl
  | ok cells =>
    simp only
    generalize (if castle == ['-'] then some (CastleRights.noRights, CastleRights.noRights) else parseCastle castle) = R
    rcases R with _ | ⟨cw, cb⟩
    · rcases hside with rfl | rfl | rfl <;> rfl
    · rcases hside with rfl | rfl | rfl <;> cases parseUsize half <;> cases parseUsize full <;> rfl

end FenRx

/-- **FenRegex_recogniser**: for every list of characters and both build profiles, the hand-written recogniser of
`Model/Fen.lean` computes exactly `try_from_notation` as transcribed over the regex semantics: `Err` when `FEN_REGEX`
(parsed from the source literal, standard semantics, Unicode `\s`, any `\d` with `NdAssumptions`) does not match;
otherwise the field parsers applied to the capture groups — in particular `&groups[i]` never panics for
`i ∈ {1,3,4,6,7,8}`, a side `|` and castling texts containing `|` are `Err`, and a counter with a non-ASCII digit
is `Err`. -/
theorem FenRegex_recogniser (nd : Char → Bool) (hnd : NdAssumptions nd) (checked : Bool) (cs : List Char) :
    parseFenChars checked cs = fenPipeline nd checked cs := by
  unfold fenPipeline
  rw [FenRegex_reCaptures nd hnd cs]
  cases hG : fenCaptures nd cs with
  | none => exact parseFenChars_of_fenCaptures_none hnd.ascii checked cs hG
  | some G =>
    obtain ⟨h, hs, -, he⟩ := parseFenChars_of_fenCaptures_some checked cs G hG
    rw [h, FenRx.afterGate_eq checked cs G hs he]
    rfl

theorem FenRegex_recogniser_string (nd : Char → Bool) (hnd : NdAssumptions nd) (checked : Bool) (s : String) :
    parseFen checked s = fenPipeline nd checked s.toList :=
  FenRegex_recogniser nd hnd checked s.toList

/-- the two directions spelled out: no match → `Err`; a match → no panic at `&groups[i]`, and the value is
determined by the six fields -/
theorem FenRegex_gate (nd : Char → Bool) (hnd : NdAssumptions nd) (checked : Bool) (cs : List Char) :
    (¬ IsMatch (unicode nd) fenAst cs → parseFenChars checked cs = .err) ∧
    (∀ g, Captures (unicode nd) fenAst cs g →
      ∃ G : FenGroups, g = G.groups cs ∧ parseFenChars checked cs = afterGate checked G.board G.side G.castle G.ep G.half G.full) := by
  constructor
  · intro h
    apply parseFenChars_of_fenCaptures_none hnd.ascii
    cases hG : fenCaptures nd cs with
    | none => rfl
    | some G => exact absurd ((FenRegex_isMatch nd hnd cs).2 (by rw [hG]; rfl)) h
  · intro g hg
    obtain ⟨G, hG, rfl⟩ := (FenRegex_captures nd hnd cs g).1 hg
    exact ⟨G, rfl, (parseFenChars_of_fenCaptures_some checked cs G hG).1⟩

/-! ## C14 and C11 over the pipeline -/

/-- **C14_fen over the regex semantics**: `try_from_notation` (regex + field parsers) never panics, on any string,
in either build profile — including the `&groups[i]` indexing -/
theorem C14_fen_pipeline (nd : Char → Bool) (hnd : NdAssumptions nd) (checked : Bool) (s : String) :
    fenPipeline nd checked s.toList ≠ .panic := by
  rw [← FenRegex_recogniser_string nd hnd]
  exact C14_fen checked s

/-- whatever the pipeline accepts has its en-passant target on the board (the invariant of `Props/C14Total.lean`) -/
theorem C14_fen_fromFen_pipeline (nd : Char → Bool) (hnd : NdAssumptions nd) (checked : Bool) (s : String) (st : State)
    (h : fenPipeline nd checked s.toList = .ok st) : FromFen st := by
  rw [← FenRegex_recogniser_string nd hnd] at h
  exact C14_fen_fromFen checked s st h

/-- **C11 (1) over the regex semantics**: position → text → position is the identity on every representable position -/
theorem C11_parse_write_pipeline (nd : Char → Bool) (hnd : NdAssumptions nd) (checked : Bool) (s : State)
    (h : ReprPos s) : fenPipeline nd checked (writeFen s).toList = .ok s := by
  rw [← FenRegex_recogniser_string nd hnd]
  exact C11_parse_write checked s h

/-- **C11 (2) over the regex semantics**: every canonical FEN string is accepted and written back unchanged -/
theorem C11_write_parse_pipeline (nd : Char → Bool) (hnd : NdAssumptions nd) (checked : Bool) (t : String)
    (h : CanonicalFen t) : ∃ s, fenPipeline nd checked t.toList = .ok s ∧ writeFen s = t := by
  obtain ⟨s, h1, h2⟩ := C11_write_parse checked t h
  exact ⟨s, by rw [← FenRegex_recogniser_string nd hnd]; exact h1, h2⟩

/-- the same for the text of the independent writer: `Spec.writeFen p` is read as `conc p` and written back unchanged -/
theorem C11_write_parse_writer_pipeline (nd : Char → Bool) (hnd : NdAssumptions nd) (checked : Bool) (p : Spec.Pos)
    (hep : ∀ e, p.ep = some e → e < 64) (hh : p.halfmove < 2^64) (hf : p.fullmove < 2^64) :
    fenPipeline nd checked (Spec.writeFen p).toList = .ok (conc p) ∧ writeFen (conc p) = Spec.writeFen p := by
  obtain ⟨h1, h2⟩ := C11_write_parse_writer checked p hep hh hf
  exact ⟨by rw [← FenRegex_recogniser_string nd hnd]; exact h1, h2⟩

/-- every written FEN of a representable position is matched by `FEN_REGEX` -/
theorem C11_written_matches (nd : Char → Bool) (hnd : NdAssumptions nd) (s : State) (h : ReprPos s) :
    IsMatch (unicode nd) fenAst (writeFen s).toList := by
  refine Classical.byContradiction fun hn => ?_
  have h1 := (FenRegex_gate nd hnd true (writeFen s).toList).1 hn
  have h2 := C11_parse_write true s h
  rw [parseFen, h1] at h2
  cases h2

/-! ### non-vacuity of the corollaries -/

set_option maxRecDepth 100000 in
example : ReprPos c11AfterE4 := by decide +kernel

/-- the pipeline on the start position, through the theorems -/
example : fenPipeline ndSample true Gen.fenDefault.toList = .ok c11Start := by
  rw [← FenRegex_recogniser_string ndSample ndSample_ok]
  exact parse_fenDefault

/-- a text that matches the regex and is rejected by a field parser: side `|` -/
example : IsMatch (unicode ndSample) fenAst "8/8/8/8/8/8/8/8 | - - 0 1".toList ∧
    fenPipeline ndSample false "8/8/8/8/8/8/8/8 | - - 0 1".toList = .err := by
  constructor
  · refine (FenRegex_isMatch ndSample ndSample_ok _).2 ?_
    decide +kernel
  · rw [← FenRegex_recogniser_string ndSample ndSample_ok]
    decide +kernel

end Wee
