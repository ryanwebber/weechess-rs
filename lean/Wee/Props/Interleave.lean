import Wee.Proofs.SeqSchedule
import Wee.Proofs.EnvFlat
import Wee.Props.C03
import Wee.Props.C04
import Wee.Props.C06
/-!
# C03 / C04 / C06 for racing workers: an interleaving semantics of the shared transposition table

Rust: `weechess-engine/src/searcher.rs`.  The workers of one iteration of `analyze_iterative` run under rayon
(`thread_data.into_par_iter().map(..analyze_recursive..)`).  They share exactly one mutable object, the
`TranspositionTableAccess`; every access is `TranspositionTableAccess::find` / `insert`, each of which holds ONE `RwLock`
guard of ONE sub-table for the whole operation (C15).  Each worker owns its `rng`, `nodes_searched`, `move_buffer`;
`hasher`, `state_history` and the cancellation flag are only read.  So a concurrent run of `N` workers is an interleaving
of atomic table operations.

Model: `Wee/Model/SearchEnv.lean` —
* `searchNodeE env` / `childLoopE env`: the code of `searchNode` / `childLoop` with the three table accesses going
  through `findE` / `insertE`, which first let the environment `env` apply the foreign inserts that happened since this
  worker's previous table operation, and which log the operation (finds with their result);
* `History` = the global order of the operations, `envOf H i` = the environment `H` is for worker `i`,
  `Interleaving ctx root tt ws H` = "`H` is an execution of the workers `ws` on the shared table `tt`".

`Wee/Props/C03.lean`, `C04.lean`, `C06.lean` cover thread interleavings only through "the invariant is closed under
arbitrary admissible inserts" (`C03_interleaving`); the executable model runs the workers one after the other
(`runWorkers`), which is ONE schedule.  Here the safety parts of C03, C04, C06 are proved for EVERY schedule:

* the semantics and its sanity:
  `Interleave_empty_env` — in the empty environment the worker is exactly `searchNode` (tie to the executable model that
  is compared event by event with the real engine);
  `Interleave_causal` — a worker's first `K` operations depend only on the first `K` batches of its environment;
  `Interleave_reads_from` — in an execution every `find` returned what the SHARED table held at that moment;
  `Interleave_sequential` — the sequential schedule is an execution (so `Interleaving` is satisfiable for every input);
  `Interleave_rely_guarantee` — if every worker, in every environment of admissible inserts, performs only admissible
  inserts, then in every execution all inserts are admissible (induction on the length of the global history);
* one iteration, any number of workers, any seeds, ALL interleavings:
  `C03_lines_legal_any_schedule(_bounded)`, `C06_claims_true_any_schedule`, `C04_no_panic_any_schedule`,
  `C04_stop_bound_any_env`, `C04_termination_any_env`;
* the whole search with every iteration under an arbitrary schedule (relation `SearchS`):
  `Interleave_iterate_is_schedule` (the sequential model `iterate` is one of its outcomes),
  `C03_search_any_schedule`, `C06_search_any_schedule`, `C04_search_any_schedule`;
* non-vacuity (end of the file): a concrete two-worker execution that is not sequential (`il_interleaving`,
  `il_not_sequential`), a whole search with it (`il_searchS`), all hypotheses of the theorems discharged on it.

What is NOT covered here: C06's clause "the reported first move keeps the mate" for several workers (not claimed by
`C06_report_pairing_partial`; proved for every schedule when one worker is deepest and the root's bucket never fills,
open otherwise: `Wee/Props/C06Pairing.lean`),
C03's "at least one report" under races (that is `C03_at_least_one_report_any_schedule` in `Wee/Props/C03Report.lean`),
C06's completeness under races, wall-clock latency.

**Trusted** (not modelled): that a `find`/`insert` under the `RwLock` guard is atomic (C15's linearisation argument), that
rayon's `collect` joins all started workers before `analyze_iterative` reads the table again, and that nothing but the
table is shared between the workers of an iteration (read off the Rust text above).
-/
namespace Wee
open Wee.Search Wee.Env
open Wee.C10 (DisjointBoard)

/-! ## 0. the semantics -/

/-- `Interleaving`, unfolded: every operation of the history belongs to a worker, and the history projected on worker
`i` is the log of worker `i` run in the environment the history induces for it -/
example (ctx : Ctx) (root : State) (tt : TT.Access) (ws : List Worker) (H : History) :
    Interleaving ctx root tt ws H ↔
      ((∀ p ∈ H, p.1 < ws.length) ∧
       ∀ i (h : i < ws.length), (runWorkerE (envOf H i) ctx root ws[i] tt).2.2 = H.proj i) := Iff.rfl

/-- **Interleave_empty_env** (`searchNodeE_empty`).  With nobody else writing, the worker of the interleaving semantics
is the sequential model's `searchNode` / `runWorker`: same outcome, same final state. -/
theorem Interleave_empty_env (ctx : Ctx) (rem : Nat) (a : NodeArgs) (n : Nat) (st : St) (root : State) (w : Worker)
    (tt : TT.Access) :
    ((searchNodeE Env.empty ctx rem a n st).1, (searchNodeE Env.empty ctx rem a n st).2.1) =
        (searchNode ctx rem a).run.run st ∧
    ((runWorkerE Env.empty ctx root w tt).1, (runWorkerE Env.empty ctx root w tt).2.1) =
        runWorker ctx root w.searchDepth w.best tt w.rng w.polls :=
  ⟨searchNodeE_empty ctx rem a n st, runWorkerE_empty ctx root w tt⟩

/-- **Interleave_causal.**  If two environments have the same first `K` batches, a worker's first `K` logged operations
(with the results of its finds) are the same in both: what a worker does next depends only on what it has seen. -/
theorem Interleave_causal (K : Nat) (env env' : Env) (h : ∀ j, j < K → env.script j = env'.script j)
    (ctx : Ctx) (root : State) (w : Worker) (tt : TT.Access) :
    (runWorkerE env ctx root w tt).2.2.take K = (runWorkerE env' ctx root w tt).2.2.take K :=
  runWorkerE_causal h ctx root w tt

/-- **Interleave_rely_guarantee.**  Let `Adm` be a predicate on inserts which every worker
guarantees whenever it can rely on it: in every environment all of whose inserts are `Adm`, the worker's own inserts are
`Adm`.  Then in EVERY execution `H` of the workers all inserts are `Adm`. -/
theorem Interleave_rely_guarantee (ctx : Ctx) (root : State) (tt : TT.Access) (ws : List Worker) (H : History)
    (Adm : Nat → TT.Entry → Prop)
    (hworker : ∀ i (h : i < ws.length) (env : Env), (∀ j, ∀ p ∈ env.script j, Adm p.1 p.2) →
      ∀ k e, TOp.insert k e ∈ (runWorkerE env ctx root ws[i] tt).2.2 → Adm k e)
    (hI : Interleaving ctx root tt ws H) : ∀ p ∈ H, ∀ k e, p.2 = TOp.insert k e → Adm k e :=
  interleaving_guarantee Adm hworker hI

/-- **Interleave_reads_from.**  In every execution `H`, every `find` of every worker returned exactly what the shared table
held at that moment: the initial table changed by all inserts — of whichever worker — that precede the `find` in `H`.
So the worker-local view used in `Interleaving` and the global table `History.table` agree, and `H` is a sequential
history of the table object as in C15 (`C15_find` then says which entry a `find` can return). -/
theorem Interleave_reads_from (ctx : Ctx) (root : State) (tt : TT.Access) (ws : List Worker) (H : History)
    (hI : Interleaving ctx root tt ws H) (H1 : History) (i k : Nat) (r : Option TT.Entry) (H2 : History)
    (hH : H = H1 ++ (i, TOp.find k r) :: H2) : (History.table tt H1).find k = r :=
  interleaving_reads_from hI H1 i k r H2 hH

/-- **Interleave_sequential.**  For EVERY configuration — table, workers — the hypothesis `Interleaving` is satisfiable:
running the workers one after the other, each on the table the previous ones left (`sequentialHistory`, what the model's
`runWorkers` does), is an execution, and in it every worker's run (outcome, final state, log) is its run by
`runWorker`-in-the-empty-environment on the table the previous workers left. -/
theorem Interleave_sequential (ctx : Ctx) (root : State) (tt : TT.Access) (ws : List Worker) :
    Interleaving ctx root tt ws (sequentialHistory ctx root tt 0 ws) ∧
    ∀ i (hi : i < ws.length),
      runWorkerE (envOf (sequentialHistory ctx root tt 0 ws) i) ctx root ws[i] tt =
        runWorkerE Env.empty ctx root ws[i] (seqTable ctx root tt ws i) :=
  ⟨sequential_interleaving ctx root tt ws, fun i hi => (sequential_whole ctx root tt ws i hi).1⟩

/-! ## 1. C03 for every schedule -/

/-- **C03_lines_legal_any_schedule** (depth-graded form; the closed-region form follows).
Any number of workers `ws` (any search depths `≤ D`, any generator states / seeds, any poll offsets; the handed-over best
move absent or legal in the root), a shared table `tt` satisfying the invariant, collision-free keys on the positions of
grade `≤ D`, and ANY execution `H` of these workers (`Interleaving`).  Then
1. every insert any worker performs is a `LegalInsert` (the guarantee of each worker, relying on the same of the others);
2. the shared table satisfies `TInv` after every prefix of `H` — at every moment of the iteration;
3. the line walked (`walkLine`, at most `D + 1` moves) from the table at any moment — in particular from the final
   table, which is what `analyze_iterative` reports — is a legal line from the root;
4. each worker's own final view of the table satisfies `TInv` as well. -/
theorem C03_lines_legal_any_schedule_bounded {G : Nat → State → Prop} (hG : Graded G) (D : Nat) (ctx : Ctx)
    (hcf : CollisionFree ctx.keys (upTo G D)) (root : State) (hroot : G 0 root)
    (tt : TT.Access) (htt : TInv ctx.keys (upTo G D) tt) (ws : List Worker)
    (hws : ∀ w ∈ ws, w.searchDepth ≤ D ∧ ∀ m, w.best = some m → LegalIn root m)
    (H : History) (hI : Interleaving ctx root tt ws H) :
    (∀ p ∈ H, ∀ k e, p.2 = TOp.insert k e → LegalInsert ctx.keys (upTo G D) k e) ∧
    (∀ n, TInv ctx.keys (upTo G D) (History.table tt (H.take n))) ∧
    (∀ n len, len ≤ D + 1 → LineLegal root (walkLine ctx.keys (History.table tt (H.take n)) len root)) ∧
    (∀ i (h : i < ws.length), TInv ctx.keys (upTo G D) (runWorkerE (envOf H i) ctx root ws[i] tt).2.1.tt) := by
  obtain ⟨hins, htab⟩ := interleaving_legal hG D ctx hcf root hroot tt htt ws hws H hI
  refine ⟨hins, htab, fun n len hlen => ?_, fun i h => ?_⟩
  · exact walkLine_legal_graded hG D (htab n).2 len root 0 hroot (by omega)
  · exact (runWorkerE_legal hG D ctx hcf root hroot (envOf H i) (envOf_adm hins i) ws[i]
      (hws _ (List.getElem_mem h)).1 (hws _ (List.getElem_mem h)).2 tt htt).1

/-- **C03_lines_legal_any_schedule** (closed region).  For a region `R` of legal positions closed under legal moves, keys
that are collision-free on it, a root in it, a shared table satisfying `TInv`, ANY number of workers with ANY search
depths, seeds and poll offsets (best move absent or legal) and ANY interleaving `H` of their table operations: all
inserts are legal inserts, the table satisfies `TInv` at every moment, and every line walked from it at any moment, of
any length, is a legal line from the root. -/
theorem C03_lines_legal_any_schedule {R : State → Prop} (hR : Region R) (ctx : Ctx) (hcf : CollisionFree ctx.keys R)
    (root : State) (hroot : R root) (tt : TT.Access) (htt : TInv ctx.keys R tt) (ws : List Worker)
    (hws : ∀ w ∈ ws, ∀ m, w.best = some m → LegalIn root m)
    (H : History) (hI : Interleaving ctx root tt ws H) :
    (∀ p ∈ H, ∀ k e, p.2 = TOp.insert k e → LegalInsert ctx.keys R k e) ∧
    (∀ n, TInv ctx.keys R (History.table tt (H.take n))) ∧
    (∀ n len, LineLegal root (walkLine ctx.keys (History.table tt (H.take n)) len root)) := by
  obtain ⟨hins, htab⟩ := interleaving_legal_region hR ctx hcf root hroot tt htt ws hws H hI
  exact ⟨hins, htab, fun n len => walkLine_legal hR (htab n).2 len root hroot⟩

/-! ## 2. C06 for every schedule -/

/-- **C06_claims_true_any_schedule.**  A `Domain` `D` of positions (closed under legal moves, generator
well-behaved, no harmful collision; since the repair of F10 nothing is asked of the evaluation), the root in it, a shared table satisfying `C06.TTInv` (shape + every entry sound),
ANY number of workers (any depths, seeds, poll offsets; best move absent or legal) and ANY interleaving `H`.  Then
1. every insert of every worker is a `SoundInsert` (key of a position of `D`, entry sound for it);
2. the shared table satisfies `C06.TTInv` — in particular `SoundTT` — after every prefix of `H`;
3. the value every worker returns is `SoundVal` for the root window: a winning value is a true forced win of the root,
   a losing one a true forced loss — whatever the other workers wrote into the table meanwhile;
4. hence the evaluation `analyze_iterative` reports after a completed iteration — the maximum over the workers' values —
   is a true claim (`ClaimTrue`), for every schedule;
5. and the report of an interrupted iteration (evaluation and first move read from the root's entry of the final table)
   even keeps the mate (`MoveKeeps`). -/
theorem C06_claims_true_any_schedule {K : Keys} {D : State → Prop} {L nT nB : Nat} (g : C06.Geo L nT nB)
    (dom : C06.Domain K D) (ctx : Ctx) (hK : ctx.keys = K) (root : State) (hD : D root)
    (tt : TT.Access) (htt : C06.TTInv K D L nT nB tt) (ws : List Worker)
    (hws : ∀ w ∈ ws, C06.BestOK root w.best) (H : History) (hI : Interleaving ctx root tt ws H) :
    (∀ p ∈ H, ∀ k e, p.2 = TOp.insert k e → SoundInsert K D k e) ∧
    (∀ n, C06.TTInv K D L nT nB (History.table tt (H.take n))) ∧
    (∀ i (h : i < ws.length) e, outcomeOf ctx root tt ws[i] H i = .ok e → C06.SoundVal root (-11000) 11000 e) ∧
    (∀ evals : List Eval, (∀ e ∈ evals, ∃ i, ∃ h : i < ws.length, outcomeOf ctx root tt ws[i] H i = .ok e) →
      ∀ e es line, evals = e :: es → C06.ClaimTrue root (.best (es.foldl max e) line)) ∧
    (∀ x line, (History.table tt H).find (hash K root).toNat = some x → line.head? = some x.mv.toUInt32 →
      C06.MoveKeeps root (.best x.eval line)) := by
  obtain ⟨hins, htab, hval⟩ := interleaving_sound g dom ctx hK root hD tt htt ws hws H hI
  refine ⟨hins, htab, hval, fun evals hev e es line hcons hpos => ?_, fun x line hf hl hpos => ?_⟩
  · have hm := foldl_max_mem e es
    rw [← hcons] at hm
    obtain ⟨i, h, he⟩ := hev _ hm
    refine (hval i h _ he).1 ⟨hpos, ?_⟩
    rw [posInf_eq] at hpos
    eomega
  · have hfin : C06.TTInv K D L nT nB (History.table tt H) := by
      have := htab H.length; rwa [List.take_length] at this
    rw [posInf_eq] at hpos
    obtain ⟨r, hr, hr1, hr2⟩ := (C06.root_entry_move hfin.2 hD hf).2 hpos
    exact ⟨r, hr, by rw [hl, hr1], hr2⟩

/-! ## 3. C04 for every schedule -/

/-- **C04_no_panic_any_schedule.**  A legal root (no stacked pieces) whose key is in the history (as `analyze_iterative`
arranges), a shared table whose entries have `depth ≤ max_depth`, which has the shape of a reachable table and whose entry
under the root's key, if any, carries a legal move of the root; ANY number of workers (best move absent or legal) and ANY
interleaving `H`.  Then no worker panics — neither the generator, `try_as_legal_move`'s `unwrap`, the evaluator, the
two `usize` subtractions of the probe nor the quiescence fuel — and the three table properties hold after every prefix of
`H`, so they hold for the next iteration and the next search. -/
theorem C04_no_panic_any_schedule (ctx : Ctx) (root : State) (nT nB : Nat) (hT : 0 < nT) (hB : 0 < nB)
    (hhist : ctx.history.contains (Wee.hash ctx.keys root) = true)
    (hl : LegalPos root = true) (hdj : DisjointBoard root.pieces)
    (tt : TT.Access) (hdep : tt.All SearchCtl.DepthOK) (hinv : TT.AInv Gen.bucketSize nT nB tt)
    (hroot : SearchCtl.RootInv ctx root tt) (ws : List Worker) (hws : ∀ w ∈ ws, SearchCtl.BestOK root w.best)
    (H : History) (hI : Interleaving ctx root tt ws H) :
    (∀ i (h : i < ws.length) why, outcomeOf ctx root tt ws[i] H i ≠ .error (.panic why)) ∧
    (∀ n, (History.table tt (H.take n)).All SearchCtl.DepthOK ∧
          TT.AInv Gen.bucketSize nT nB (History.table tt (H.take n)) ∧
          SearchCtl.RootInv ctx root (History.table tt (H.take n))) ∧
    (∀ p ∈ H, ∀ k e, p.2 = TOp.insert k e → SafeInsert ctx root k e) := by
  exact interleaving_safe ctx root nT nB hT hB hhist ⟨hl, hdj⟩ tt ⟨hdep, hinv, hroot⟩ ws hws H hI

/-- **C04_stop_bound_any_env.**  The poll/interrupt bound of a worker does not depend on the other workers at all: in
EVERY environment (no admissibility assumed), once `Stop` is visible to the worker's polls (`cancelAt = some k`,
`k ≤ polls`), the worker returns `SearchInterrupt` with exactly 10000 counted nodes or finishes its iteration below 10000. -/
theorem C04_stop_bound_any_env (env : Env) (ctx : Ctx) (k : Nat) (hk : ctx.cancelAt = some k) (root : State)
    (w : Worker) (tt : TT.Access) (hp : k ≤ w.polls) :
    (runWorkerE env ctx root w tt).1 = .error .interrupt ∧ (runWorkerE env ctx root w tt).2.1.nodes = Gen.pollInterval
    ∨
    (runWorkerE env ctx root w tt).1 ≠ .error .interrupt ∧ (runWorkerE env ctx root w tt).2.1.nodes < Gen.pollInterval := by
  have h := SearchCtl.stop_post_cases (searchNodeE_stop_bound env ctx k hk w.searchDepth (rootArgsE root w) 0
    { tt, rng := w.rng, nodes := 0, polls := w.polls } hp).post
  simp only [Nat.zero_div, Nat.zero_add, Nat.one_mul] at h
  exact h.imp id fun h => ⟨h.1, h.2.2.1⟩

/-- **C04_termination_any_env.**  `searchNodeE` is a total function satisfying the recursive equations of
`analyze_recursive` in every environment (structural recursion on the remaining depth and on the move list, accepted by
the kernel): interference cannot make a worker diverge. -/
theorem C04_termination_any_env (env : Env) (ctx : Ctx) (rem : Nat) (a : NodeArgs) :
    searchNodeE env ctx 0 a = nodeBodyE env ctx Option.none a ∧
    searchNodeE env ctx (rem + 1) a = nodeBodyE env ctx (some (searchNodeE env ctx rem)) a :=
  ⟨searchNodeE_zero env ctx a, searchNodeE_succ env ctx rem a⟩

/-! ## 4. the whole search, every iteration under an arbitrary schedule

`SearchS root rng0 maxDepth art workersOf cancelAt fuelDepth out` (`Wee/Model/SearchEnv.lean`): `out` is a possible outcome
of `analyze_iterative` when in every iteration the workers are raced in some interleaving (`StepS`: seeds drawn as in the
code, any poll offsets, rayon may skip workers once one is interrupted or has panicked, results joined by `joinOf`, reported by
`finishStep` = the text of `iterStep` after its call of `runWorkers`).  The model's `iterate` is the outcome for the
sequential schedules. -/

/-- **Interleave_iterate_is_schedule.**  The outcome of the executable sequential model `iterate` — the function that is
compared event by event with the real engine — is one of the outcomes of the search under arbitrary schedules: in every
iteration `runWorkers` is the sequential interleaving of the workers it starts (it stops starting workers after the first
interrupt or panic, which `StepS` allows).  Hence every theorem below specialises to `iterate`, and `SearchS` is inhabited
for every input. -/
theorem Interleave_iterate_is_schedule (root : State) (rng0 : Rng.ChaCha8) (maxDepth : Option Nat) (art : Artifact)
    (workersOf : Nat → Nat) (cancelAt : Option Nat) (fuelDepth : Nat) :
    SearchS root rng0 maxDepth art workersOf cancelAt fuelDepth
      (iterate root rng0 maxDepth art workersOf cancelAt fuelDepth) :=
  iterate_searchS root rng0 maxDepth art workersOf cancelAt fuelDepth

/-- **C03 for the whole search under arbitrary schedules.**  Every `BestMove` line reported by ANY outcome of the
search — any seed, depth limit, worker counts, cancellation instant, poll offsets and any interleaving of the workers'
table operations in every iteration — is non-empty and legal from the root; the artifact handed back satisfies the
invariant again.  Hypotheses as in `C03_reported_lines_legal_bounded`. -/
theorem C03_search_any_schedule {G : Nat → State → Prop} (hG : Graded G) (D : Nat) (root : State) (hroot : G 0 root)
    (art : Artifact) (hcf : CollisionFree art.keys.keys (upTo G D)) (htt : TInv art.keys.keys (upTo G D) art.tt)
    (rng0 : Rng.ChaCha8) (maxDepth : Option Nat) (workersOf : Nat → Nat) (cancelAt : Option Nat) (fuelDepth : Nat)
    (hD : maxDepth.getD fuelDepth ≤ D) (out : Outcome)
    (hout : SearchS root rng0 maxDepth art workersOf cancelAt fuelDepth out) :
    out.artifact.keys = art.keys ∧ TInv art.keys.keys (upTo G D) out.artifact.tt ∧
    ∀ ev line, Event.best ev line ∈ out.events → line ≠ [] ∧ LineLegal root line :=
  searchS_inv hG D root hroot art hcf htt rng0 maxDepth workersOf cancelAt fuelDepth
    (Nat.le_trans (iterLimit_le root maxDepth fuelDepth) hD) out hout

/-- the sequential statement `C03_reported_lines_legal_bounded` is the instance `out := iterate …` -/
example {G : Nat → State → Prop} (hG : Graded G) (D : Nat) (root : State) (hroot : G 0 root)
    (art : Artifact) (hcf : CollisionFree art.keys.keys (upTo G D)) (htt : TInv art.keys.keys (upTo G D) art.tt)
    (rng0 : Rng.ChaCha8) (maxDepth : Option Nat) (workersOf : Nat → Nat) (cancelAt : Option Nat) (fuelDepth : Nat)
    (hD : maxDepth.getD fuelDepth ≤ D) (ev : Eval) (line : List Move)
    (h : Event.best ev line ∈ (iterate root rng0 maxDepth art workersOf cancelAt fuelDepth).events) :
    line ≠ [] ∧ LineLegal root line :=
  (C03_search_any_schedule hG D root hroot art hcf htt rng0 maxDepth workersOf cancelAt fuelDepth hD _
    (Interleave_iterate_is_schedule root rng0 maxDepth art workersOf cancelAt fuelDepth)).2.2 ev line h

/-- **C06 for the whole search under arbitrary schedules.**  Every winning `BestMove` report of ANY outcome of the search is
a true forced win of the root (`ClaimTrue`), and the table handed back is sound again. -/
theorem C06_search_any_schedule {D : State → Prop} {L nT nB : Nat} (g : C06.Geo L nT nB) (art : Artifact)
    (dom : C06.Domain art.keys.keys D) (root : State) (hD : D root) (htt : C06.TTInv art.keys.keys D L nT nB art.tt)
    (rng0 : Rng.ChaCha8) (maxDepth : Option Nat) (workersOf : Nat → Nat) (cancelAt : Option Nat) (fuelDepth : Nat)
    (out : Outcome) (hout : SearchS root rng0 maxDepth art workersOf cancelAt fuelDepth out) :
    C06.TTInv art.keys.keys D L nT nB out.artifact.tt ∧ ∀ ev ∈ out.events, C06.ClaimTrue root ev :=
  searchS_sound g art dom root hD htt rng0 maxDepth workersOf cancelAt fuelDepth out hout

/-- **C04 for the whole search under arbitrary schedules.**  No outcome of the search is a panic: for every legal root, seed,
depth limit, worker counts, cancellation instant, poll offsets, every interleaving in every iteration, and every
well-formed memory whose entry for the root's key, if any, carries a legal move of the root (`C04_no_panic`'s hypotheses). -/
theorem C04_search_any_schedule (root : State) (rng0 : Rng.ChaCha8) (maxDepth : Option Nat) (art : Artifact)
    (workersOf : Nat → Nat) (cancelAt : Option Nat) (fuelDepth : Nat) (tables buckets : Nat)
    (hT : 0 < tables) (hB : 0 < buckets) (hl : LegalPos root = true) (hdj : DisjointBoard root.pieces)
    (hdep : art.tt.All SearchCtl.DepthOK) (hinv : TT.AInv Gen.bucketSize tables buckets art.tt)
    (hprio : SearchCtl.PrioritizedOK art root) (out : Outcome)
    (hout : SearchS root rng0 maxDepth art workersOf cancelAt fuelDepth out) :
    out.panic = Option.none ∧ out.artifact.tt.All SearchCtl.DepthOK ∧
    TT.AInv Gen.bucketSize tables buckets out.artifact.tt ∧ SearchCtl.PrioritizedOK out.artifact root :=
  searchS_safe root rng0 maxDepth art workersOf cancelAt fuelDepth tables buckets hT hB ⟨hl, hdj⟩ hdep hinv hprio out hout

/-! ## 5. non-vacuity: a concrete two-worker execution that is not sequential

The position of `Wee/Props/C03.lean` (`c03Root`: White Kh1 Pg2 Pa6 Pc6, Black Ka8 Pa7 Pg3 Ph2, White to move; the only
legal move c6-c7 stalemates Black), the toy key table `c03KeyTable` (root ↦ 0, successor ↦ 1), a fresh 2 × 4 table, two
workers of iteration 0 with different seeds.  Each worker performs three table operations: probe the root (miss), probe
the successor (miss), store the root entry.  In the history `ilH` the two workers alternate, so BOTH miss on the root —
in either sequential schedule the second worker would find the first worker's entry and return at once.  The worker runs
are executed symbolically (for every environment and seed: the move ordering is only known to be a permutation). -/

namespace InterleaveExample
open Wee.SearchCtl (childArgs entryOf bufferOf)

def mK : Move := 268516470
theorem ex_pseudo : pseudoLegalMoves c03Root = some [c03Move, mK] := by rw [pseudoLegalMoves_fast]; decide +kernel
theorem ex_try1 : tryAsLegal c03Root c03Move = some (some (c03Move, c03Succ)) := by
  rw [tryAsLegal_fast]; decide +kernel
theorem ex_try2 : tryAsLegal c03Root mK = some Option.none := by rw [tryAsLegal_fast]; decide +kernel
theorem ex_eval : evaluate c03Succ c03Succ.turn 1 = some 0 := by rw [evaluate_fast]; decide +kernel
theorem ex_check : c03Root.isCheck = false := by rw [isCheck_fast]; decide +kernel

theorem ex_quiesce (fuel d : Nat) (α β : Eval) (h : evaluate c03Succ c03Succ.turn d = some 0) :
    quiesce evaluate (fuel + 1) c03Succ d α β = .ok 0 := by
  rw [SearchCtl.quiesce_nil _ _ d α β c03_lm_succ, h]

def ilCtx : Ctx := { keys := c03KeyTable.keys, history := [hash c03KeyTable.keys c03Root], cancelAt := Option.none }
def ilEntry : TT.Entry := { kind := 0, mv := c03Move.toNat, depth := 0, maxDepth := 1, eval := 0 }

theorem ex_quiesceFuel : quiesceFuel c03Succ = (quiesceFuel c03Succ - 1) + 1 := by
  unfold quiesceFuel; omega


theorem ex_child (env : Env) (a : NodeArgs) (hs : a.s = c03Succ) (hd : a.curDepth = 1) (n : Nat) (st : St)
    (hnodes : (st.nodes + 1) % Gen.pollInterval ≠ 0)
    (hfind : (applyInserts st.tt (env.script n)).find 1 = Option.none) :
    searchNodeE env ilCtx 0 a n st =
      (.ok 0, { st with nodes := st.nodes + 1, tt := applyInserts st.tt (env.script n) }, [.find 1 Option.none]) := by
  rw [searchNodeE_zero, nodeBodyE_run]
  have ht : SearchCtl.tick ilCtx st = (.ok (), { st with nodes := st.nodes + 1 }) := by
    rw [SearchCtl.tick_eq, if_neg hnodes]
  rw [ht]
  simp only
  have hh : Wee.hash ilCtx.keys a.s = 1 := by rw [hs]; exact c03_hash_succ
  rw [hh]
  have hc : (decide (a.curDepth > 0) && ilCtx.history.contains 1) = false := by
    rw [hd]; simp [ilCtx, c03_hash_root]
  rw [hc]
  simp only [Bool.false_eq_true, if_false]
  rw [probeE_run]
  have hf : (applyInserts st.tt (env.script n)).find (1 : UInt64).toNat = Option.none := hfind
  simp only [hf]
  rw [probeK, tailE_none_run, hs, hd, ex_quiesceFuel, ex_quiesce _ _ _ _ ex_eval]
  rfl

theorem perm_pair {x y : Move} (hne : x ≠ y) {l : List Move} (h : l.Perm [x, y]) : l = [x, y] ∨ l = [y, x] := by
  have hl := h.length_eq
  match l, hl with
  | [a, b], _ =>
    have hx : x ∈ [a, b] := h.mem_iff.2 (by simp)
    have hy : y ∈ [a, b] := h.mem_iff.2 (by simp)
    have ha : a ∈ [x, y] := h.mem_iff.1 (by simp)
    have hb : b ∈ [x, y] := h.mem_iff.1 (by simp)
    simp only [List.mem_cons, List.not_mem_nil, or_false] at hx hy ha hb
    rcases ha with rfl | rfl <;> rcases hb with rfl | rfl
    · exfalso; rcases hy with h | h <;> exact hne h.symm
    · exact Or.inl rfl
    · exact Or.inr rfl
    · exfalso; rcases hx with h | h <;> exact hne h


theorem ex_childArgs_depth (a : NodeArgs) (hs : a.s = c03Root) (hd : a.curDepth = 0) (next : State) (alpha : Eval) :
    (childArgs a next alpha).curDepth = 1 := by
  unfold childArgs extensionOf
  rw [hs, ex_check, hd]
  simp

theorem ex_step (env : Env) (a : NodeArgs) (hs : a.s = c03Root) (hd : a.curDepth = 0)
    (hβ : a.beta = Ev.mateInPly 0) (rest : List Move) (best : Option Move) (kind : Nat) (n : Nat) (st : St)
    (hnodes : (st.nodes + 1) % Gen.pollInterval ≠ 0)
    (hfind : (applyInserts st.tt (env.script n)).find 1 = Option.none) :
    childLoopE env ilCtx (searchNodeE env ilCtx 0) a 0 (c03Move :: rest) (- Ev.mateInPly 0) best kind n st =
      match childLoopE env ilCtx (searchNodeE env ilCtx 0) a 0 rest 0 (some c03Move) kindExact (n + 1)
          { st with nodes := st.nodes + 1, tt := applyInserts st.tt (env.script n) } with
      | (r, st2, l2) => (r, st2, TOp.find 1 Option.none :: l2) := by
  rw [childLoopE_cons_run, hs, ex_try1]
  simp only
  rw [ex_child env (childArgs a c03Succ (-Ev.mateInPly 0)) rfl (ex_childArgs_depth a hs hd _ _) n st hnodes hfind]
  simp only
  rw [hβ, if_neg (by decide), if_pos (by decide)]
  rfl

theorem ex_skip (env : Env) (a : NodeArgs) (hs : a.s = c03Root) (rest : List Move) (alpha : Eval)
    (best : Option Move) (kind : Nat) :
    childLoopE env ilCtx (searchNodeE env ilCtx 0) a 0 (mK :: rest) alpha best kind =
      childLoopE env ilCtx (searchNodeE env ilCtx 0) a 0 rest alpha best kind := by
  funext n st
  rw [childLoopE_cons_run, hs, ex_try2]

theorem ex_run (env : Env) (w : Worker) (tt : TT.Access) (hsd : w.searchDepth = 1) (hb : w.best = Option.none)
    (h0 : (applyInserts tt (env.script 0)).find 0 = Option.none)
    (h1 : (applyInserts (applyInserts tt (env.script 0)) (env.script 1)).find 1 = Option.none) :
    (runWorkerE env ilCtx c03Root w tt).1 = .ok 0 ∧
    (runWorkerE env ilCtx c03Root w tt).2.2 = [.find 0 Option.none, .find 1 Option.none, .insert 0 ilEntry] := by
  rw [runWorkerE_eq, hsd, searchNodeE_succ, root_run, show Wee.hash ilCtx.keys c03Root = 0 from c03_hash_root,
    show (applyInserts tt (env.script 0)).find (0 : UInt64).toNat = Option.none from h0]
  rw [probeK]
  obtain ⟨sorted, r, hs, hperm⟩ := SearchCtl.sort_rngOnly c03Root [c03Move, mK]
    { tt := applyInserts tt (env.script 0), rng := w.rng, nodes := 1, polls := w.polls }
  rw [tailE_some_run env ilCtx _ (rootArgsE c03Root w) 0 _ _ _ _ [c03Move, mK] sorted _ ex_pseudo hs,
    show bufferOf (rootArgsE c03Root w).prioritized sorted = sorted by unfold bufferOf rootArgsE; rw [hb]]
  -- the child loop visits the two pseudo-legal moves in either order
  have hloop : childLoopE env ilCtx (searchNodeE env ilCtx 0)
      { rootArgsE c03Root w with alpha := (rootArgsE c03Root w).alpha, beta := (rootArgsE c03Root w).beta } 0
      sorted.reverse (rootArgsE c03Root w).alpha Option.none kindUpper 1
      { tt := applyInserts tt (env.script 0), rng := r, nodes := 1, polls := w.polls } =
      (.ok (.ok (0, some c03Move, kindExact)),
        { tt := applyInserts (applyInserts tt (env.script 0)) (env.script 1), rng := r, nodes := 2, polls := w.polls },
        [TOp.find 1 Option.none]) := by
    have hstep := fun rest best kind => ex_step env
      { rootArgsE c03Root w with alpha := (rootArgsE c03Root w).alpha, beta := (rootArgsE c03Root w).beta }
      rfl rfl rfl rest best kind 1 { tt := applyInserts tt (env.script 0), rng := r, nodes := 1, polls := w.polls }
      (show (1 + 1) % Gen.pollInterval ≠ 0 by decide) h1
    rcases perm_pair (by decide) hperm with rfl | rfl
    · show childLoopE env ilCtx _ _ 0 [mK, c03Move] (- Ev.mateInPly 0) _ _ _ _ = _
      rw [ex_skip env _ rfl, hstep, childLoopE_nil_run]
    · show childLoopE env ilCtx _ _ 0 [c03Move, mK] (- Ev.mateInPly 0) _ _ _ _ = _
      rw [hstep, ex_skip env _ rfl, childLoopE_nil_run]
  rw [hloop]
  simp only
  rw [if_neg (show ¬ ((2 : Nat) == 1) = true by decide)]
  simp only [entryOf, rootArgsE, hsd]
  exact ⟨trivial, rfl⟩

/-- two workers of iteration 0 (search depth 1, no previous best move), different seeds -/
def ilW0 : Worker := Worker.ofIteration 0 Option.none 0 11
def ilW1 : Worker := Worker.ofIteration 0 Option.none 1 22
/-- fresh memory -/
def ilTT : TT.Access := TT.Access.new 2 4
/-- the workers alternate: both probe the root before either has stored it -/
def ilH : History :=
  [(0, .find 0 Option.none), (1, .find 0 Option.none), (0, .find 1 Option.none), (1, .find 1 Option.none),
   (0, .insert 0 ilEntry), (1, .insert 0 ilEntry)]

/-- each of two such workers, run in the environment the alternating history induces for it, misses on both probes -/
theorem il_run (i : Nat) (hi : i < 2) (w : Worker) (hsd : w.searchDepth = 1) (hb : w.best = Option.none) :
    (runWorkerE (envOf ilH i) ilCtx c03Root w ilTT).1 = .ok 0 ∧
    (runWorkerE (envOf ilH i) ilCtx c03Root w ilTT).2.2 = [.find 0 Option.none, .find 1 Option.none, .insert 0 ilEntry] :=
  match i, hi with
  | 0, _ => ex_run (envOf ilH 0) w ilTT hsd hb (by decide +kernel) (by decide +kernel)
  | 1, _ => ex_run (envOf ilH 1) w ilTT hsd hb (by decide +kernel) (by decide +kernel)

/-- **the alternating history is an execution** of ANY two workers of iteration 0 (search depth 1, no previous best move;
any generator states and poll offsets) on the fresh table, proved by running each worker symbolically in the environment
the history induces for it -/
theorem il_interleaving_gen (w0 w1 : Worker) (h0 : w0.searchDepth = 1) (h1 : w1.searchDepth = 1)
    (b0 : w0.best = Option.none) (b1 : w1.best = Option.none) : Interleaving ilCtx c03Root ilTT [w0, w1] ilH := by
  refine ⟨(show ∀ p ∈ ilH, p.1 < 2 by decide), fun i hi => ?_⟩
  match i, hi with
  | 0, _ => rw [show [w0, w1][0] = w0 from rfl, (il_run 0 (by decide) w0 h0 b0).2]; decide
  | 1, _ => rw [show [w0, w1][1] = w1 from rfl, (il_run 1 (by decide) w1 h1 b1).2]; decide

theorem il_interleaving : Interleaving ilCtx c03Root ilTT [ilW0, ilW1] ilH :=
  il_interleaving_gen ilW0 ilW1 rfl rfl rfl rfl

/-- both workers return the stalemate value 0 -/
theorem il_outcomes : outcomeOf ilCtx c03Root ilTT ilW0 ilH 0 = .ok 0 ∧ outcomeOf ilCtx c03Root ilTT ilW1 ilH 1 = .ok 0 := by
  -- `rw`, not unfolding up to `rfl`: the kernel would compare `outcomeOf ..` with `(runWorkerE ..).1` by running the workers
  rw [outcomeOf, outcomeOf]
  exact ⟨(il_run 0 (by decide) ilW0 rfl rfl).1, (il_run 1 (by decide) ilW1 rfl rfl).1⟩

/-- a history in which no worker's operations are interrupted by another worker's: every schedule that runs the workers
one after the other, in whatever order, has this shape -/
def Blockwise (H : History) : Prop :=
  ∀ c, c < H.length → ∀ b, b < c → ∀ a, a < b → H[a]?.map (·.1) = H[c]?.map (·.1) →
    H[b]?.map (·.1) = H[a]?.map (·.1)

instance (H : History) : Decidable (Blockwise H) := by unfold Blockwise; infer_instance

/-- **the example is not a sequential schedule** -/
theorem il_not_sequential : ¬ Blockwise ilH := by decide

/-! ### a whole search with a non-sequential schedule (`SearchS` is inhabited beyond the sequential outcomes) -/

theorem drawSeeds_two (r : Rng.ChaCha8) : ∃ a b, (drawSeeds 2 r).1 = [a, b] :=
  match (drawSeeds 2 r).1, drawSeeds_length 2 r with
  | [a, b], _ => ⟨a, b, rfl⟩

/-- the artifact of the example: the toy keys, fresh memory, no game history -/
def ilArt : Artifact := { keys := c03KeyTable, tt := ilTT, history := [] }

theorem il_walk : walkLine ilCtx.keys (History.table ilTT ilH) (0 + 1) c03Root = [c03Move] := by decide +kernel

/-- what rayon's join yields for the example execution, for any two workers of iteration 0 -/
theorem il_join (w0 w1 : Worker) (h0 : w0.searchDepth = 1) (h1 : w1.searchDepth = 1)
    (b0 : w0.best = Option.none) (b1 : w1.best = Option.none) (polls : Nat) :
    (joinOf ilCtx c03Root ilTT [w0, w1] ilH polls).panic = Option.none ∧
    (joinOf ilCtx c03Root ilTT [w0, w1] ilH polls).interrupted = false ∧
    (joinOf ilCtx c03Root ilTT [w0, w1] ilH polls).evals = [0, 0] ∧
    (joinOf ilCtx c03Root ilTT [w0, w1] ilH polls).tt = History.table ilTT ilH := by
  have e0 := (il_run 0 (by decide) w0 h0 b0).1
  have e1 := (il_run 1 (by decide) w1 h1 b1).1
  have houts : ((List.range [w0, w1].length).filterMap fun i =>
      [w0, w1][i]?.map fun w => runWorkerE (envOf ilH i) ilCtx c03Root w ilTT) =
      [runWorkerE (envOf ilH 0) ilCtx c03Root w0 ilTT, runWorkerE (envOf ilH 1) ilCtx c03Root w1 ilTT] := by
    simp [List.range_succ]
  unfold joinOf
  simp only [houts]
  refine ⟨?_, ?_, ?_, trivial⟩
  · simp [e0, e1]
  · simp [e0, e1]
  · simp [e0, e1]

/-- **a possible outcome of the search under a non-sequential schedule**: for every seed, the search of the example
position with two workers and depth limit 1, the workers of the only iteration racing as in `ilH`, does not panic and
reports the legal line `c6-c7` with evaluation 0 -/
theorem il_searchS (rng0 : Rng.ChaCha8) :
    ∃ out, SearchS c03Root rng0 (some 1) ilArt (fun _ => 2) Option.none 64 out ∧
      out.panic = Option.none ∧ Event.best 0 [c03Move] ∈ out.events := by
  obtain ⟨a, b, hab⟩ := drawSeeds_two rng0
  have hws : workersOfIteration 0 Option.none (drawSeeds 2 rng0).1 (fun _ => 0) =
      [Worker.ofIteration 0 Option.none 0 a 0, Worker.ofIteration 0 Option.none 1 b 0] := by rw [hab]; rfl
  have hI := il_interleaving_gen (Worker.ofIteration 0 Option.none 0 a 0) (Worker.ofIteration 0 Option.none 1 b 0)
    rfl rfl rfl rfl
  obtain ⟨jp, ji, je, jt⟩ := il_join (Worker.ofIteration 0 Option.none 0 a 0) (Worker.ofIteration 0 Option.none 1 b 0)
    rfl rfl rfl rfl 0
  obtain ⟨st0, hst0⟩ : ∃ s : IterSt, s =
      { tt := ilTT, rng := rng0, events := [], nodes := 0, bestEval := Ev.negInf, bestMv := Option.none, polls := 0 } :=
    ⟨_, rfl⟩
  obtain ⟨st1, hst1⟩ : ∃ s : IterSt, s = finishStep ilCtx c03Root (hash c03KeyTable.keys c03Root) 0 (drawSeeds 2 rng0).2
      (joinOf ilCtx c03Root ilTT [Worker.ofIteration 0 Option.none 0 a 0, Worker.ofIteration 0 Option.none 1 b 0] ilH 0)
      st0 := ⟨_, rfl⟩
  have hstep : StepS ilCtx c03Root (hash c03KeyTable.keys c03Root) 2 0 st0 st1 := by
    refine ⟨fun _ => 0, [Worker.ofIteration 0 Option.none 0 a 0, Worker.ofIteration 0 Option.none 1 b 0], ilH, 0,
      ?_, fun _ => ?_, ?_, ?_⟩
    · rw [hst0, hws]; exact List.Sublist.refl _
    · intro _; rw [hst0, hws]
    · rw [hst0]; exact hI
    · rw [hst1, hst0]
  have hrep := finishStep_reports ilCtx c03Root (hash c03KeyTable.keys c03Root) 0 (drawSeeds 2 rng0).2
    (joinOf ilCtx c03Root ilTT [Worker.ofIteration 0 Option.none 0 a 0, Worker.ofIteration 0 Option.none 1 b 0] ilH 0)
    st0 jp ji c03Move [] (by rw [jt]; exact il_walk) 0 [0] je
  rw [← hst1] at hrep
  have hpanic : st1.panic = Option.none := by rw [hrep.1, hst0]
  have hev : Event.best 0 [c03Move] ∈ st1.events := hrep.2
  refine ⟨_, ⟨st1, ?_, rfl⟩, hpanic, ?_⟩
  · have hlim : (if (legalMoves c03Root).isEmpty = true then 0 else 1) = 0 + 1 := by rw [c03_moves_root]; rfl
    show LoopS ilCtx c03Root _ _ (if (legalMoves c03Root).isEmpty = true then 0 else 1) 0
      { tt := ilTT, rng := rng0, events := [], nodes := 0, bestEval := Ev.negInf, bestMv := Option.none, polls := 0 } st1
    rw [hlim, ← hst0]
    -- iteration 0: the flag is not read at the boundary (`boundaryPoll _ 0 st = st`)
    exact LoopS.step 0 0 st0 st1 st1 st0.polls (by rw [hst0]) (by rw [hst0]; rfl) hstep (LoopS.done _ _)
  · dsimp only
    split
    · exact List.mem_append_left _ hev
    · exact hev

/-! ### the hypotheses of the three theorems hold on the example -/

theorem il_best (w : Worker) (hw : w ∈ [ilW0, ilW1]) : w.best = Option.none := by
  simp only [List.mem_cons, List.not_mem_nil, or_false] at hw
  rcases hw with rfl | rfl <;> rfl

/-- `C03_lines_legal_any_schedule` on the example: all hypotheses discharged -/
example : (∀ p ∈ ilH, ∀ k e, p.2 = TOp.insert k e → LegalInsert ilCtx.keys c03R k e) ∧
    (∀ n, TInv ilCtx.keys c03R (History.table ilTT (ilH.take n))) ∧
    (∀ n len, LineLegal c03Root (walkLine ilCtx.keys (History.table ilTT (ilH.take n)) len c03Root)) :=
  C03_lines_legal_any_schedule c03_region ilCtx c03_collisionFree c03Root (Or.inl rfl) ilTT
    (C03_TTInv_new _ _ (by decide) (by decide)) [ilW0, ilW1]
    (fun w hw m hm => by rw [il_best w hw] at hm; cases hm) ilH il_interleaving

set_option maxRecDepth 1000000 in
/-- the walk on the final table of the example execution returns the legal line (kernel evaluation of the model,
independent of the theorems) -/
example : walkLine ilCtx.keys (History.table ilTT ilH) 5 c03Root = [c03Move] := by decide +kernel

/-- the two positions of the example form a `Domain` for the toy keys (C06's hypotheses) -/
theorem il_domain : C06.Domain c03KeyTable.keys c03R where
  closed := c03_region.closed
  genOK := by
    rintro s (rfl | rfl)
    · rw [c03_lm_root]; exact fun h => nomatch h
    · rw [c03_lm_succ]; exact fun h => nomatch h
  coll := by
    rintro s s' (rfl | rfl) (rfl | rfl) hk e he
    · exact he
    · rw [c03_hash_root, c03_hash_succ] at hk; exact absurd hk (by decide)
    · rw [c03_hash_root, c03_hash_succ] at hk; exact absurd hk (by decide)
    · exact he

/-- `C06_claims_true_any_schedule` on the example: all hypotheses discharged -/
example : (∀ p ∈ ilH, ∀ k e, p.2 = TOp.insert k e → SoundInsert c03KeyTable.keys c03R k e) ∧
    (∀ n, C06.TTInv c03KeyTable.keys c03R Gen.bucketSize 2 4 (History.table ilTT (ilH.take n))) ∧
    (∀ i (h : i < [ilW0, ilW1].length) e, outcomeOf ilCtx c03Root ilTT [ilW0, ilW1][i] ilH i = .ok e →
      C06.SoundVal c03Root (-11000) 11000 e) :=
  let h := C06_claims_true_any_schedule (K := c03KeyTable.keys) ⟨by decide, by decide, by decide⟩ il_domain ilCtx rfl
    c03Root (Or.inl rfl) ilTT (C06.TTInv.fresh _ _ (by decide) (by decide)) [ilW0, ilW1]
    (fun w hw m hm => by rw [il_best w hw] at hm; cases hm) ilH il_interleaving
  ⟨h.1, h.2.1, h.2.2.1⟩

/-- `C04_no_panic_any_schedule` on the example: all hypotheses discharged -/
example : ∀ i (h : i < [ilW0, ilW1].length) why,
    outcomeOf ilCtx c03Root ilTT [ilW0, ilW1][i] ilH i ≠ .error (.panic why) :=
  (C04_no_panic_any_schedule ilCtx c03Root 2 4 (by decide) (by decide) (by simp [ilCtx]) c03_legal_root (by decide)
    ilTT (TT.Access.All.new _ _ _) (TT.AInv.new _ _)
    (fun e he => by rw [show ilTT = TT.Access.new 2 4 from rfl, TT.Access.new_find (by decide) (by decide)] at he; cases he)
    [ilW0, ilW1] (fun w hw m hm => by rw [il_best w hw] at hm; cases hm) ilH il_interleaving).1

end InterleaveExample

end Wee
