import Wee.Proofs.ThreadsLemmas
import Wee.Proofs.WriterLemmas
/-!
# The thread / channel protocol of one search: theorems for ALL interleavings (C04 / C07 runtime residue)

Model: `Wee/Model/Threads.lean` — `Searcher::analyze` (control thread C, search thread S, the two `mpsc` channels, the
`CancellationToken`) and `uci.rs` `Search::spawn` / `Search::wait_cancel` (timer thread T, writer thread W, the command
loop M) as a small-step transition system `step f8 s a`: one atomic action `a` of one process.  `Reachable f8 writer timer s`
are the states of ALL interleavings: every scheduling, every sequence of events S may emit (any number — there is no
bound on it anywhere in this file: the theorems are proved by an inductive invariant, `Inv` in
`Wee/Proofs/ThreadsLemmas.lean`, not by exploration), S ending by itself / on the flag / by a panic at any moment, T firing
at any moment or never, M calling `wait_cancel` at any moment or never, and — without a writer — the caller dropping
the event receiver at any moment.  `f8 = true` is the code as it stands (`join().ok()`), `f8 = false` the code before the
repair of F8.

The session model (`Wee/Model/Uci.lean`) abstracts all of this to the mark `Out.joinRunning` ("the running search is
joined here and its bestmove has appeared by then") and `Sess.searchOk`; DESIGN §6 C04 / C07 list "thread scheduling" as
trusted runtime residue.  The theorems below discharge that residue down to the stated semantics of `std`.

## What the model assumes about `std` and the OS (the remaining trusted base of these theorems)

1. `std::sync::mpsc::channel()` is an unbounded FIFO: `Sender::send` never blocks; it fails iff the receiver has been
   dropped (the message is then discarded), and has no other effect.  `Receiver::recv` blocks while the queue is empty
   and some sender is alive; it returns `Err` iff the queue is empty and ALL senders were dropped; messages queued before
   the last sender was dropped are still delivered.  (`Threads_std_channels` states this of the model.)
2. `JoinHandle::join` blocks until the closure of the thread has returned or unwound AND its captured variables were
   dropped; it returns `Err` iff the thread panicked.  A panic unwinds (no `panic = "abort"`), dropping the captured
   variables; a panic of the main thread ends the process.
3. Drop order: S owns one sender of each channel and the order in which it drops them is NOT assumed (either order is
   an interleaving).  C (`controller`), W (`receiver`), T (`timer_stop`), M (`self.control`) each own one channel end,
   which is dropped no later than the moment the thread becomes joinable / `wait_cancel` returns.
4. `thread::spawn` does not fail; a thread that was not scheduled yet behaves like one that has not taken a step.
5. `println!` in W does not panic (stdout stays open) — a panicking W would still be joined (`_ = write_handle.join()`).
6. The `AtomicBool` of the `CancellationToken` is set once and never reset; S reads it only inside `analyze_iterative`.
7. Scheduling is weakly fair for unblocked threads, and a search whose flag is set returns: the `Relaxed` store becomes
   visible to the loading thread, and a poll is reached (C04: `C04_stop_bound` bounds the counted nodes per worker and
   iteration; since the repair of F11 every iteration boundary is a poll, so a poll IS reached after at most one more
   iteration of fewer than `workers × 10000` counted nodes and the search then ends —
   `C04_stop_ends_within_one_iteration`, `C04_stop_total_bound`, `C04_unlimited_stop_independent_of_fuel` in
   `Wee/Props/C04Stop.lean`; before the repair "some iteration reaches a poll" was a hypothesis, false on the witness
   `C04_F11_old_loop_never_stops`).  What remains assumed is that a finite number of counted nodes takes finite time.
   These are the fairness assumptions `Act.fair` of the three liveness theorems (`Threads_wait_cancel_ends`,
   `Threads_wait_cancel_returns`, `Threads_search_answers`) and of nothing else; every other theorem is a safety
   theorem about every reachable state and needs no fairness.

Not covered: more than one search alive at a time (the command loop joins the running search before it spawns the next,
`Uci.step`), the process exit (`quit` joins first; T is then killed with the process), W's or T's own panics.
-/
namespace Wee.Threads
open Wee.Fair

variable {μ π : Type}

/-! ## 0. the `std` semantics the model implements, as theorems about `step` -/

/-- **what the model takes `mpsc` to be** (assumption 1, stated of `step`; `s.m ≠ aborted`: the process is alive).
* a `send` is enabled whenever its thread is at the sending instruction — it never blocks, whatever the queue and the
  receiver are (`sEmit`, `sSendStop`, `mCall`, `tFire`);
* C's `recv` returns iff a `Stop` is queued or all three senders are gone;
* W's `recv` returns an event iff one is queued, and `Err` iff the queue is empty and the sender is gone. -/
theorem Threads_std_channels (f8 : Bool) (s : St μ π) (hm : s.m ≠ .aborted) :
    (∀ e, Enabled f8 s (.sEmit e) ↔ s.s = .run) ∧
    (Enabled f8 s .sSendStop ↔ s.s = .sendStop) ∧
    (Enabled f8 s .mCall ↔ s.m = .idle) ∧
    (Enabled f8 s .tFire ↔ s.t = .waiting) ∧
    (Enabled f8 s .cRecv ↔ s.c = .recv ∧ (0 < s.q2 ∨ (s.tx2 = false ∧ s.tx3 = false ∧ s.tt = false))) ∧
    (Enabled f8 s .wRecv ↔ s.w = .loop ∧ s.q1 ≠ []) ∧
    (Enabled f8 s .wClosed ↔ s.w = .loop ∧ s.q1 = [] ∧ s.sink = false) := by
  simp only [enabled_iff hm]
  refine ⟨fun e => ⟨fun ⟨_, h⟩ => by cases h; assumption, fun h => ⟨_, .sEmit e h⟩⟩,
    ⟨fun ⟨_, h⟩ => by cases h <;> assumption, fun h => ?_⟩,
    ⟨fun ⟨_, h⟩ => by cases h; assumption, fun h => ⟨_, .mCall h⟩⟩,
    ⟨fun ⟨_, h⟩ => by cases h; assumption, fun h => ⟨_, .tFire h⟩⟩,
    ⟨fun ⟨_, h⟩ => ?_, fun ⟨hc, h⟩ => ?_⟩,
    ⟨fun ⟨_, h⟩ => ?_, fun ⟨hw, hq⟩ => ?_⟩,
    ⟨fun ⟨_, h⟩ => by cases h; assumption, fun h => ⟨_, .wClosed h⟩⟩⟩
  · cases hk : s.rx2
    · exact ⟨_, .sSendStopErr h hk⟩
    · exact ⟨_, .sSendStop h hk⟩
  · cases h with
    | cRecv hc hq => exact ⟨hc, Or.inl hq⟩
    | cRecvErr hc _ ht => exact ⟨hc, Or.inr ht⟩
  · by_cases hq : 0 < s.q2
    · exact ⟨_, .cRecv hc hq⟩
    · exact ⟨_, .cRecvErr hc hq (h.resolve_left hq)⟩
  · cases h with
    | wRecv hw hq => exact ⟨hw, by rw [hq]; nofun⟩
  · cases hq' : s.q1 with
    | nil => exact absurd hq' hq
    | cons e r => exact ⟨_, .wRecv hw hq'⟩

/-! ## 1. `tx3.send(ControlEvent::Stop).unwrap()` never panics -/

/-- **Threads_send_stop_never_panics.**  In every reachable state of every interleaving: when S is about to execute
`tx3.send(ControlEvent::Stop).unwrap()` the receiver `controller` is alive — C drops it only when it ends, and C ends
only after `search_handle.join()` returned, i.e. after S ended.  So the `unwrap` never fires (`sendFailed` stays
false), the step enqueues a `Stop` and leaves S un-panicked; the ONLY way the search thread panics is a panic inside
`analyze_iterative` (`sOk = !injected`). -/
theorem Threads_send_stop_never_panics {f8 writer timer : Bool} {s : St μ π} (h : Reachable f8 writer timer s) :
    (s.s = .sendStop → s.rx2 = true) ∧ s.sendFailed = false ∧ s.sOk = (!s.injected) ∧
    (∀ s', step f8 s .sSendStop = some s' → s'.q2 = s.q2 + 1 ∧ s'.sOk = s.sOk ∧ s'.sendFailed = false) := by
  have hi := inv_reachable h
  have h1 : s.s = .sendStop → s.rx2 = true := by
    intro hs
    rw [hi.rx2_iff]
    intro hc
    have := (hi.c_done hc).1
    rw [hs] at this; cases this
  refine ⟨h1, hi.sendFailed, hi.sOk_iff, fun s' hs' => ?_⟩
  cases (step_iff.1 hs').2 with
  | sSendStop => exact ⟨rfl, rfl, hi.sendFailed⟩
  | sSendStopErr hr hk => rw [h1 hr] at hk; cases hk

/-! ## 2. no deadlock; `wait_cancel` returns -/

/-- **Threads_no_deadlock.**  In every reachable state in which M is blocked inside `wait_cancel` (in
`search_handle.join()` or in `write_handle.join()`) some *guaranteed* action is enabled: a deterministic step of a thread
that is not blocked, or — when the flag is set — the search's return on the interrupt path (C04's termination
assumption); never merely one of the optional actions (`sEmit`, `sEndSelf`, `sPanic`, `tFire`, …).  The action is given
explicitly: `helpful s`. -/
theorem Threads_no_deadlock {f8 writer timer : Bool} {s : St μ π} (h : Reachable f8 writer timer s)
    (hw : s.m = .joinC ∨ s.m = .joinW) :
    (helpful s).fair = true ∧ Enabled f8 s (helpful s) :=
  ⟨(enabled_helpful (inv_reachable h) hw).2, (enabled_helpful (inv_reachable h) hw).1⟩

/-- **Threads_terminal_states.**  The only reachable states in which NO action at all is enabled are the proper ends:
`wait_cancel` has returned (or, before the repair of F8, the process aborted), and then C, S, W and T have all ended.
No thread is ever left blocked. -/
theorem Threads_terminal_states {f8 writer timer : Bool} {s : St μ π} (h : Reachable f8 writer timer s)
    (hno : ∀ a : Act μ π, ¬ Enabled f8 s a) :
    (s.m = .returned ∨ s.m = .aborted) ∧
    (s.m = .returned → s.c = .done ∧ s.s = .done ∧ (s.w = .done ∨ s.w = .absent) ∧ s.t = .done) :=
  terminal_state (inv_reachable h) (fun a => by simpa [Enabled] using hno a)

/-- **Threads_wait_cancel_ends** (both variants of the code).  On every execution from the initial state that is weakly
fair for the guaranteed actions, every moment at which M is blocked in `wait_cancel` is followed by a moment at which
`wait_cancel` is over.  Proof: ranking function `(rank1, rank2)` (program counters; then the queued events once S can no
longer emit) with the helpful-action rule `Wee.Fair.leadsTo_of_rank`, which is itself proved in
`Wee/Proofs/ThreadsLemmas.lean`. -/
theorem Threads_wait_cancel_ends (f8 writer timer : Bool) (e : Exec (step f8 (μ := μ) (π := π)))
    (h0 : e.st 0 = init writer timer) (hfair : ∀ a : Act μ π, a.fair = true → WeakFair e a)
    (i : Nat) (hw : (e.st i).m = .joinC ∨ (e.st i).m = .joinW) :
    ∃ j, i ≤ j ∧ ((e.st j).m = .returned ∨ (e.st j).m = .aborted) :=
  waiting_leadsTo_over e (h0 ▸ inv_init f8 writer timer) hfair i hw

theorem exec_reachable {f8 writer timer : Bool} (e : Exec (step f8 (μ := μ) (π := π)))
    (h0 : e.st 0 = init writer timer) (i : Nat) : Reachable f8 writer timer (e.st i) :=
  e.invariant (Reachable f8 writer timer) (h0 ▸ Reachable.init) (fun _ a _ hr hs => Reachable.step a hr hs) i

/-- **Threads_wait_cancel_returns** (the code as it stands).  Once M has called `wait_cancel` it returns: on every weakly
fair execution — whatever S emits and for however long, whether S ends by itself, on the flag or by a panic, whether or
not T fires, with or without a writer, whenever the receiver is dropped — M is never blocked forever. -/
theorem Threads_wait_cancel_returns (writer timer : Bool) (e : Exec (step true (μ := μ) (π := π)))
    (h0 : e.st 0 = init writer timer) (hfair : ∀ a : Act μ π, a.fair = true → WeakFair e a)
    (i : Nat) (hw : (e.st i).m = .joinC ∨ (e.st i).m = .joinW) :
    ∃ j, i ≤ j ∧ (e.st j).m = .returned := by
  obtain ⟨j, hj, h | h⟩ := Threads_wait_cancel_ends true writer timer e h0 hfair i hw
  · exact ⟨j, hj, h⟩
  · exact absurd h ((inv_reachable (exec_reachable e h0 j)).aborted rfl)

/-- **Threads_trigger.**  What makes the stop condition of a search occur (`Triggered`): the timer firing, M's `Stop`,
the search ending by itself or on the flag, or its panic. -/
theorem Threads_trigger {f8 writer timer : Bool} {s s' : St μ π} (h : Reachable f8 writer timer s) (a : Act μ π)
    (ha : a = .tFire ∨ a = .mCall ∨ a = .sEndSelf ∨ a = .sNotice ∨ a = .sPanic) (hs : step f8 s a = some s') :
    Triggered s' := by
  have hi := inv_reachable h
  -- a `send` on the control channel: C has set the flag, or is about to, or will receive the `Stop`
  have hsend : s.flag = true ∨ s.c = .cancel ∨ (s.c = .recv ∧ 0 < if s.rx2 then s.q2 + 1 else s.q2) := by
    cases hc : s.c with
    | recv => exact Or.inr (Or.inr ⟨rfl, by simp [hi.rx2_iff.2 (by simp [hc])]⟩)
    | cancel => exact Or.inr (Or.inl rfl)
    | joinS => exact Or.inl (hi.flag_iff.2 (Or.inl hc))
    | done => exact Or.inl (hi.flag_iff.2 (Or.inr hc))
  rcases ha with rfl | rfl | rfl | rfl | rfl <;> cases (step_iff.1 hs).2
  · exact Or.inr hsend
  · exact Or.inr hsend
  all_goals exact Or.inl nofun

/-- **Threads_search_answers** (liveness without M; the code as it stands).  Once the stop condition of the search has
occurred — the timer fired (`go movetime`, or the default 4 s), or `Stop` was sent, or the search ended by itself
(`go depth n`, mate) or panicked: `Threads_trigger` — then on every weakly fair execution, WITHOUT any further command
from the user, the search thread becomes joinable and the writer prints everything and ends: with a writer the output is
then exactly `writerOut` of all emitted events, `bestmove` included.  So every `go` whose search ends is answered before,
and independently of, the next command; `wait_cancel` (at the next `go`/`position`/`stop`/`quit`) only waits for it. -/
theorem Threads_search_answers (writer timer : Bool) (e : Exec (step true (μ := μ) (π := π)))
    (h0 : e.st 0 = init writer timer) (hfair : ∀ a : Act μ π, a.fair = true → WeakFair e a)
    (i : Nat) (ht : Triggered (e.st i)) :
    ∃ j, i ≤ j ∧ (e.st j).s = .done ∧ ((e.st j).w = .done ∨ (e.st j).w = .absent) ∧
      (writer = true → (e.st j).w = .done ∧ (e.st j).printed = writerOut (e.st j).emitted) := by
  obtain ⟨j, hj, h⟩ := triggered_leadsTo_answered e (h0 ▸ inv_init true writer timer) hfair i ht
  have hr := exec_reachable e h0 j
  have hi := inv_reachable hr
  rcases h with ⟨hs, hw⟩ | h
  · refine ⟨j, hj, hs, hw, fun hwr => ?_⟩
    have hwd : (e.st j).w = .done := by
      rcases hw with hw | hw
      · exact hw
      · rw [(writer_reachable hr).1 hw] at hwr; cases hwr
    exact ⟨hwd, (printed_done hi hwd).2.2⟩
  · exact absurd h (hi.aborted rfl)

/-! ## 3. at most one `bestmove`, all of it before `wait_cancel` returns -/

/-- **Threads_bestmove_at_most_once.**  At most one `bestmove` line per search, in every reachable state. -/
theorem Threads_bestmove_at_most_once {f8 writer timer : Bool} {s : St μ π} (h : Reachable f8 writer timer s) :
    (bestmoves s.printed).length ≤ 1 := by
  rw [bestmoves_printed (inv_reachable h)]
  split
  · cases (lastBest s.emitted []).head? <;> simp
  · simp

/-- **Threads_bestmove_before_return.**  When `wait_cancel` has returned: C and S have ended; with a writer, W has ended
too, the event queue is empty, W has received EVERY event S emitted, in order, and has printed exactly what the writer
function `writerOut` prints for them — all info lines and, if the last `BestMove` event has a non-empty line, the one
`bestmove`. -/
theorem Threads_bestmove_before_return {f8 writer timer : Bool} {s : St μ π} (h : Reachable f8 writer timer s)
    (hm : s.m = .returned) :
    s.c = .done ∧ s.s = .done ∧ s.sink = false ∧
    (writer = true → s.w = .done ∧ s.q1 = [] ∧ s.consumed = s.emitted ∧ s.printed = writerOut s.emitted) := by
  have hi := inv_reachable h
  obtain ⟨hc, hs, _⟩ := hi.past (Or.inr hm)
  refine ⟨hc, hs, (hi.s_done hs).1, fun hwr => ?_⟩
  have hw := (hi.m_ret hm).resolve_right fun hw => by rw [(writer_reachable h).1 hw] at hwr; cases hwr
  obtain ⟨h1, h2, h3⟩ := printed_done hi hw
  exact ⟨hw, h2, h1, h3⟩

/-- **Threads_nothing_after_return.**  After `wait_cancel` has returned, whatever the remaining threads (T) still do:
nothing more is printed, nothing more is emitted, the join result stands.  So every line of this search precedes the
join point — what `Out.joinRunning` of the session model says. -/
theorem Threads_nothing_after_return {f8 writer timer : Bool} {s s' : St μ π} (h : Reachable f8 writer timer s)
    (hm : s.m = .returned) (acts : List (Act μ π)) (hr : runActs f8 s acts = some s') :
    s'.m = .returned ∧ s'.printed = s.printed ∧ s'.emitted = s.emitted ∧ s'.artifact = s.artifact := by
  obtain ⟨h1, h2, h3, h4, _⟩ := runActs_returned_stable acts (inv_reachable h) hm hr
  exact ⟨h1, h2, h3, h4⟩

/-- **Threads_refines_writer.**  Along every run the printed lines only grow, and whatever has been printed at any
moment of a search with a writer is a prefix of `writerOut evs`, `evs` being ALL events the search emits up to the
moment `wait_cancel` returns: the lines of the writer appear one by one at arbitrary moments, in order, and are complete
at the join — exactly the `emit`* `join` shape of `Transcript` in `Wee/Proofs/WriterLemmas.lean`. -/
theorem Threads_refines_writer {f8 timer : Bool} {s s' : St μ π} (h : Reachable f8 true timer s)
    (acts : List (Act μ π)) (hr : runActs f8 s acts = some s') (hm : s'.m = .returned) :
    ∃ rest, s.printed ++ rest = writerOut s'.emitted ∧ s'.printed = writerOut s'.emitted := by
  have h' := runActs_reachable acts h hr
  obtain ⟨l, hl⟩ := (runActs_mono acts hr).1
  have := (Threads_bestmove_before_return h' hm).2.2.2 rfl
  exact ⟨l, by rw [hl, this.2.2.2], this.2.2.2⟩

/-- **Threads_join_result.**  The value `wait_cancel` returns: `Some(artifact)` iff the search thread did not panic —
the `Sess.searchOk` flag that `joinKeep` of the session model stores into `artifact`. -/
theorem Threads_join_result {writer timer : Bool} {s : St μ π} (h : Reachable true writer timer s)
    (hm : s.m = .returned) : s.artifact = (!s.injected) ∧ s.cOk = s.sOk := by
  obtain ⟨_, _, hk, ha⟩ := (inv_reachable h).past (Or.inr hm)
  exact ⟨ha, hk⟩

/-! ## 4. the printed move is the first move of the LAST `BestMove` event -/

/-- **Threads_bestmove_is_last_best.**  If `bestmove m` has been printed then W has ended, S can emit nothing more
(`sink` is dropped), every emitted event was received, and `m` is the first move of the line of the LAST `BestMove`
event S emitted.  Conversely, once W has ended, the `bestmove` lines are exactly: the head of that line, if any. -/
theorem Threads_bestmove_is_last_best {f8 writer timer : Bool} {s : St μ π} (h : Reachable f8 writer timer s) :
    (∀ m, Line.bestmove m ∈ s.printed →
      s.w = .done ∧ s.sink = false ∧ s.consumed = s.emitted ∧
      ∃ line, lastBestEvent s.emitted = some line ∧ line.head? = some m) ∧
    (s.w = .done → bestmoves s.printed = ((lastBestEvent s.emitted).bind List.head?).toList) := by
  have hi := inv_reachable h
  have hconv : s.w = .done → bestmoves s.printed = ((lastBestEvent s.emitted).bind List.head?).toList := by
    intro hw
    rw [bestmoves_printed hi, if_pos hw, lastBest_eq]
    cases lastBestEvent s.emitted <;> rfl
  refine ⟨fun m hm => ?_, hconv⟩
  have hm' := mem_bestmoves.2 hm
  have hw : s.w = .done := by
    apply Classical.byContradiction
    intro hw
    rw [bestmoves_printed hi, if_neg hw] at hm'
    cases hm'
  refine ⟨hw, (hi.w_past (Or.inr hw)).1, (printed_done hi hw).1, ?_⟩
  rw [hconv hw] at hm'
  cases hl : lastBestEvent s.emitted with
  | none => rw [hl] at hm'; cases hm'
  | some line =>
    rw [hl] at hm'
    refine ⟨line, rfl, ?_⟩
    simp only [Option.bind_some] at hm'
    cases hh : line.head? with
    | none => rw [hh] at hm'; cases hm'
    | some m' => rw [hh] at hm'; simp only [Option.toList_some, List.mem_singleton] at hm'; rw [hm']

/-- **Threads_bestmove_exactly_one.**  Under the engine's guarantee that reported lines are never empty
(`analyze_iterative` skips an empty line: both `BestMove` sites are guarded), when `wait_cancel` of a search with a
writer has returned: EXACTLY one `bestmove` has been printed iff the search emitted some `BestMove` event, none
otherwise. -/
theorem Threads_bestmove_exactly_one {f8 timer : Bool} {s : St μ π} (h : Reachable f8 true timer s)
    (hm : s.m = .returned) (hne : ∀ line p, Ev.best line p ∈ s.emitted → line ≠ []) :
    ((∃ line p, Ev.best line p ∈ s.emitted) → ∃ m, bestmoves s.printed = [m]) ∧
    ((∀ line p, Ev.best line p ∉ s.emitted) → bestmoves s.printed = []) := by
  have hw := ((Threads_bestmove_before_return h hm).2.2.2 rfl).1
  have hb := (Threads_bestmove_is_last_best h).2 hw
  constructor
  · rintro ⟨line, p, hmem⟩
    cases hl : lastBestEvent s.emitted with
    | none => exact absurd hmem (lastBestEvent_none.1 hl line p)
    | some l =>
      obtain ⟨p', hp'⟩ := lastBestEvent_some hl
      cases l with
      | nil => exact absurd rfl (hne [] p' hp')
      | cons m r => exact ⟨m, by rw [hb, hl]; rfl⟩
  · intro hno
    rw [hb, lastBestEvent_none.2 hno]
    rfl

/-! ## 5. the event receiver dropped at any time -/

/-- **Threads_receiver_dropped.**  `Searcher::analyze` used directly (no writer): the caller may read events or drop
the receiver at ANY moment (`callerRecv`, `callerDrop` are actions of every interleaving).  In every run in which
`analyze_iterative` does not panic, neither S nor C ever panics — a failed `sink.send` is ignored exactly where the code
ignores it — and when the caller's join returns it returns the artifact.  (That the join does return is
`Threads_wait_cancel_returns`, which holds for this configuration too.) -/
theorem Threads_receiver_dropped {timer : Bool} (acts : List (Act μ π)) {s : St μ π}
    (hr : runActs true (init false timer) acts = some s) (hnp : Act.sPanic ∉ acts) :
    s.sOk = true ∧ s.cOk = true ∧ s.sendFailed = false ∧ (s.m = .returned → s.s = .done ∧ s.artifact = true) := by
  have hi := inv_reachable (runActs_reachable (timer := timer) acts Reachable.init hr)
  -- `injected` is set by `sPanic` only
  have hinj : s.injected = false :=
    runActs_ind_mem (P := fun x => x.injected = false) acts (fun ha h hs => Bool.eq_false_iff.2 fun h' =>
      ((step_injected hs).1 h').elim (by simp [h]) fun e => hnp (e ▸ ha)) rfl hr
  have hs : s.sOk = true := by rw [hi.sOk_iff, hinj]; rfl
  have hc : s.cOk = true := by
    by_cases hcd : s.c = .done
    · rw [(hi.c_done hcd).2, hs]
    · exact hi.c_ok hcd
  refine ⟨hs, hc, hi.sendFailed, fun hm => ?_⟩
  obtain ⟨_, hsd, _, ha⟩ := hi.past (Or.inr hm)
  exact ⟨hsd, by rw [ha, hinj]; rfl⟩

/-! ## 6. a panic of the search thread is tolerated -/

/-- **Threads_search_panic_tolerated** (the code as it stands).  If `analyze_iterative` panicked (`injected`): the main
thread never panics; when C ends it has panicked too (`search_handle.join().unwrap()` re-raises); once M is past its first
join the join result is `None`; when `wait_cancel` has returned — and it does return: `Threads_wait_cancel_returns` —
W has ended and has printed exactly the writer's output for the events emitted before the panic, including the
`bestmove` of the last line received. -/
theorem Threads_search_panic_tolerated {writer timer : Bool} {s : St μ π} (h : Reachable true writer timer s)
    (hp : s.injected = true) :
    s.m ≠ .aborted ∧ (s.c = .done → s.cOk = false) ∧
    (s.m = .joinW ∨ s.m = .returned → s.artifact = false) ∧
    (s.m = .returned → writer = true → s.w = .done ∧ s.printed = writerOut s.emitted) := by
  have hi := inv_reachable h
  have hs : s.sOk = false := by rw [hi.sOk_iff, hp]; rfl
  refine ⟨hi.aborted rfl, fun hc => by rw [(hi.c_done hc).2, hs], fun hm => ?_, fun hm hw => ?_⟩
  · rw [(hi.past hm).2.2.2, hp]; rfl
  · have := (Threads_bestmove_before_return h hm).2.2.2 hw
    exact ⟨this.1, this.2.2.2⟩

/-- **Threads_preF8_never_returns.**  Before the repair of F8 (`join().unwrap()` in `wait_cancel`): after a panic of the
search thread `wait_cancel` NEVER gets past its first join — by `Threads_wait_cancel_ends` it therefore ends in
`aborted`: the process is gone. -/
theorem Threads_preF8_never_returns {writer timer : Bool} {s : St μ π} (h : Reachable false writer timer s)
    (hp : s.injected = true) : s.m ≠ .joinW ∧ s.m ≠ .returned := by
  have hi := inv_reachable h
  have hs : s.sOk = false := by rw [hi.sOk_iff, hp]; rfl
  have key : s.m = .joinW ∨ s.m = .returned → False := by
    intro hm
    have h1 := hi.preF8 rfl hm
    rw [(hi.past hm).2.2.1, hs] at h1
    cases h1
  exact ⟨fun e => key (Or.inl e), fun e => key (Or.inr e)⟩

/-! ## 7. the timer is harmless; `Stop` is idempotent -/

/-- **Threads_timer_harmless.**
(a) T is never blocked and cannot panic: `tFire` is enabled whenever T waits, `tExit` whenever it has fired; they
    change only T's program counter, T's sender and the number of queued `Stop`s.
(b) When C has ended — in particular after everything has ended — T's `send` fails silently: only T's program counter
    changes.
(c) A step of T never disables an action of another process: T never blocks anybody. -/
theorem Threads_timer_harmless {f8 writer timer : Bool} {s : St μ π} (h : Reachable f8 writer timer s)
    (hm : s.m ≠ .aborted) :
    (s.t = .waiting → step f8 s .tFire = some { s with t := .fired, q2 := if s.rx2 then s.q2 + 1 else s.q2 }) ∧
    (s.t = .fired → step f8 s .tExit = some { s with t := .done, tt := false }) ∧
    (s.t = .waiting → s.c = .done → step f8 s .tFire = some { s with t := .fired }) ∧
    (∀ (b a : Act μ π) (s' : St μ π), b.proc = .T → step f8 s b = some s' → a.proc ≠ .T →
      Enabled f8 s a → Enabled f8 s' a) := by
  refine ⟨fun ht => (Step.tFire ht).to_step hm, fun ht => (Step.tExit ht).to_step hm, fun ht hc => ?_, fun b a s' hb hs ha hen =>
    timer_never_blocks hb hs ha hen⟩
  have hrx : s.rx2 = false := by
    have := (inv_reachable h).rx2_iff
    cases hx : s.rx2 with
    | false => rfl
    | true => exact absurd hc (this.1 hx)
  rw [(Step.tFire ht).to_step hm, hrx]
  rfl

/-- **Threads_stop_idempotent.**  `StopEquiv s u`: `s` and `u` agree on everything except T's own state and the NUMBER
of queued `Stop`s, and either C is past its `recv` or both queues hold at least one `Stop`.
(a) Once a `Stop` is queued or C is past its `recv`, a further `Stop` — from T (`tFire`) or from M (`mCall` after T
    fired: the two initial orders of sending agree up to `StopEquiv`) — leads to an equivalent state.
(b) Steps of T are invisible for `StopEquiv`; every step of M, C, S, W from one of two equivalent states is matched by
    the SAME action from the other, ending in equivalent states (a bisimulation; `StopEquiv` is symmetric).
(c) Equivalent states agree on all program counters of M, C, S, W, the flag, the event channel, everything printed,
    emitted, received and on the join result.
So one `Stop` or many, from whichever senders in whichever order: same behaviour. -/
theorem Threads_stop_idempotent (f8 : Bool) :
    (∀ (s s' : St μ π), (s.c ≠ .recv ∨ 0 < s.q2) → step f8 s .tFire = some s' → StopEquiv s' s) ∧
    (∀ (s a b b' : St μ π), step f8 s .mCall = some a → step f8 s .tFire = some b → step f8 b .mCall = some b' →
      s.rx2 = true → StopEquiv a b') ∧
    (∀ (s u s' : St μ π) (b : Act μ π), StopEquiv s u → b.proc = .T → step f8 s b = some s' → StopEquiv s' u) ∧
    (∀ (s u s' : St μ π) (a : Act μ π), StopEquiv s u → a.proc ≠ .T → step f8 s a = some s' →
      ∃ u', step f8 u a = some u' ∧ StopEquiv s' u') ∧
    (∀ (s u : St μ π), StopEquiv s u → StopEquiv u s) ∧
    (∀ (s u : St μ π), StopEquiv s u →
      s.m = u.m ∧ s.c = u.c ∧ s.s = u.s ∧ s.w = u.w ∧ s.flag = u.flag ∧ s.q1 = u.q1 ∧ s.printed = u.printed ∧
      s.emitted = u.emitted ∧ s.consumed = u.consumed ∧ s.artifact = u.artifact ∧ s.sOk = u.sOk ∧ s.cOk = u.cOk) := by
  refine ⟨fun s s' h hs => stopEquiv_timer (StopEquiv.refl h) rfl hs, ?_, fun s u s' b h hb hs => stopEquiv_timer h hb hs,
    fun s u s' a h ha hs => stopEquiv_step h ha hs, fun s u h => h.symm, fun s u h => h.obs⟩
  intro s a b b' ha hb hb' hrx
  cases (step_iff.1 ha).2
  cases (step_iff.1 hb).2
  cases (step_iff.1 hb').2
  exact ⟨rfl, Or.inr ⟨by simp [hrx], by simp [hrx]⟩⟩

/-- **Threads_recv_never_errs.**  `controller.recv()` never returns `Err(RecvError)`: M keeps its sender until
`wait_cancel` has returned, which is after C ended.  The `Err(mpsc::RecvError) => break` arm of the control loop is dead
code under `uci.rs` (it serves callers of `Searcher::analyze` that drop the control sender without sending `Stop`). -/
theorem Threads_recv_never_errs {f8 writer timer : Bool} {s : St μ π} (h : Reachable f8 writer timer s) :
    s.recvErr = false ∧ (s.c = .recv → s.tx2 = true) := by
  have hi := inv_reachable h
  refine ⟨hi.recvErr, fun hc => ?_⟩
  rw [hi.tx2_iff]
  intro hm
  have := (hi.m_past (Or.inr hm)).1
  rw [hc] at this; cases this

/-! ## the refinement of the session model, explicitly

`Wee/Proofs/WriterLemmas.lean` has the writer thread as a function (`writerLines`) of the `Search.Event`s of a search and
`Transcript`, the refinement of the session model's marks by printed lines, in which the lines of a running search are
`emit`ted at arbitrary moments and the `joinRunning` mark can only be passed when all of them were printed.  Here the
thread model is instantiated with `Search.Event` and its output is rendered into `WLine`s (`toEv`, `render`, and
`render_writerOut`: the writer function `writerOut` of `Wee/Model/Threads.lean`, rendered, is `writerLines` — at the end of
`Wee/Proofs/WriterLemmas.lean`). -/

section session
open Wee.Search Wee.Uci

/-- **Threads_refines_session.**  Take ANY run of the thread system of a search with a writer thread, with or without a
timer (`timer` is arbitrary), from its start to a state in which `wait_cancel` has returned, `evs` being the `Search.Event`s the search thread
emitted.  Whatever the session specification `A` allows a search that emits `evs` to print (`A.search mem p d
(writerLines evs) art` — in `sessionAnswers` this is literally `ws = writerLines out.events`), the lines the thread system
HAS printed when the join returns are a `Transcript` of the session marks `searchStarted … ; joinRunning`:
every line of `writerLines evs`, in order, all of them before the join mark is passed, nothing afterwards
(`Threads_nothing_after_return`), with the artifact handed back — and the join result is `Some` iff no thread panicked
(`Threads_join_result`, the model's `searchOk`).  Moreover at every EARLIER moment `s₀` of the run the lines printed so
far are a prefix: they extend, by `Transcript.emit` steps, to the same transcript. -/
theorem Threads_refines_session {ν : Type} (A : Answers ν) {timer : Bool}
    {s₀ s : St Move Search.Event} (h₀ : Reachable true true timer s₀) (acts : List (Act Move Search.Event))
    (hr : runActs true s₀ acts = some s) (hm : s.m = .returned)
    (evs : List Search.Event) (hev : s.emitted = evs.map toEv)
    (last : Option ν) (p p' : State) (d : Option Nat) (mt : Option Int) (reuse : Bool) (art : ν)
    (hreuse : reuse = true → last.isSome = true)
    (hA : A.search (if reuse then last else Option.none) p d (writerLines evs) art) :
    s.printed.flatMap render = writerLines evs ∧
    Transcript A last Option.none [(.searchStarted d mt reuse, p), (.joinRunning, p')]
      ((s.printed.flatMap render).map (·, p)) (some art) Option.none ∧
    ∃ rest, s₀.printed.flatMap render ++ rest = writerLines evs ∧
      Transcript A Option.none (some (p, rest, art)) [(.joinRunning, p')] (rest.map (·, p)) (some art) Option.none := by
  obtain ⟨l, hl, hp⟩ := Threads_refines_writer h₀ acts hr hm
  have hfull : s.printed.flatMap render = writerLines evs := by rw [hp, hev, render_writerOut]
  have hjoin : ∀ rest : List WLine,
      Transcript A Option.none (some (p, rest, art)) [(.joinRunning, p')] (rest.map (·, p)) (some art) Option.none := by
    intro rest
    have h1 : Transcript A Option.none (some (p, [], art)) [(.joinRunning, p')] [] (some art) Option.none :=
      Transcript.join p' (Transcript.done (some art) Option.none)
    have := Transcript.emit_all rest h1
    rwa [List.append_nil] at this
  refine ⟨hfull, ?_, l.flatMap render, ?_, hjoin _⟩
  · rw [hfull]
    exact Transcript.start d mt reuse p hreuse hA (hjoin _)
  · rw [← List.flatMap_append, hl, hev, render_writerOut]

/-- a search that emits `Progress` and `BestMove (e2e4 e7e5)`, stopped by M while it runs (the events, as `Search.Event`s) -/
def exEvents : List Search.Event := [.progress 1 20, .best 35 [(302018753 : UInt32), 33592129]]

def exActs : List (Act Move Search.Event) :=
  [.sEmit (toEv (.progress 1 20)), .wRecv, .sEmit (toEv (.best 35 [(302018753 : UInt32), 33592129])), .mCall, .cRecv,
   .cCancel, .sNotice, .sSendStop, .sDropSink, .sDropTx3, .sFinish, .cJoin, .mJoinC, .wRecv, .wClosed, .wTail, .mJoinW]

/-- the hypotheses of `Threads_refines_session` are satisfiable, and the rendered output is what one expects -/
example : ∃ s : St Move Search.Event, runActs true (init true true) exActs = some s ∧ s.m = .returned ∧
    s.emitted = exEvents.map toEv ∧
    s.printed.flatMap render = [.infoTime 1 20, .infoScore 35, .infoPv ["e2e4", "e7e5"], .bestmove "e2e4"] :=
  ⟨_, rfl, rfl, rfl, by decide +kernel⟩

end session

/-! ## non-vacuity: concrete runs, kernel-checked

Events over `μ = Nat` (moves), `π = Unit`.  Every run starts in `init true true` (writer and timer present) unless said
otherwise, and is replayed by the kernel (`decide +kernel` evaluates `runActs`). -/

section runs

abbrev A0 := Act Nat Unit
def evB (l : List Nat) : Ev Nat Unit := .best l ()
def evO : Ev Nat Unit := .other ()

/-- what is looked at in the final state -/
structure View where
  m : MPc
  c : CPc
  s : SPc
  w : WPc
  artifact : Bool
  printed : List (Line Nat Unit)
  q2 : Nat
deriving DecidableEq, Repr

def view (r : Option (St Nat Unit)) : Option View :=
  r.map fun s => ⟨s.m, s.c, s.s, s.w, s.artifact, s.printed, s.q2⟩

/-- **normal completion by the depth limit**; the user sends `stop` much later: S emits a `Progress` and a `BestMove`,
ends by itself, sends `Stop`; C takes it, cancels, joins; W prints and ends; then M calls `wait_cancel` — its `Stop` is
sent into a channel whose receiver is gone (ignored) and both joins return at once. -/
def runDepth : List A0 :=
  [.sEmit evO, .sEmit (evB [7, 8]), .sEndSelf, .sSendStop, .sDropSink, .sDropTx3, .sFinish, .cRecv, .cCancel, .cJoin,
   .wRecv, .wRecv, .wClosed, .wTail, .mCall, .mJoinC, .mJoinW]

theorem runDepth_ok : view (runActs true (init true true) runDepth) =
    some ⟨.returned, .done, .done, .done, true, [.info evO, .info (evB [7, 8]), .bestmove 7], 0⟩ := by decide +kernel

/-- **`Stop` during the search**: M's `Stop` arrives while S runs; C cancels; S emits one more `BestMove` (the interrupt
path), then notices; the drops happen in the other order; the writer's `bestmove` is the head of the LAST line. -/
def runStopDuring : List A0 :=
  [.sEmit (evB [1]), .mCall, .wRecv, .cRecv, .cCancel, .sEmit (evB [2, 3]), .sNotice, .sSendStop, .sDropTx3, .sDropSink,
   .sFinish, .cJoin, .mJoinC, .wRecv, .wClosed, .wTail, .mJoinW]

theorem runStopDuring_ok : view (runActs true (init true true) runStopDuring) =
    some ⟨.returned, .done, .done, .done, true, [.info (evB [1]), .info (evB [2, 3]), .bestmove 2], 1⟩ := by
  decide +kernel

/-- **`Stop` before the first event**: nothing is emitted, nothing is printed — no `bestmove` (C03's "at least one
report" is a property of `analyze_iterative`, not of the protocol). -/
def runStopBefore : List A0 :=
  [.mCall, .cRecv, .cCancel, .sNotice, .sSendStop, .sDropSink, .sDropTx3, .sFinish, .cJoin, .mJoinC, .wClosed, .wTail,
   .mJoinW]

theorem runStopBefore_ok : view (runActs true (init true true) runStopBefore) =
    some ⟨.returned, .done, .done, .done, true, [], 1⟩ := by decide +kernel

/-- **panic of the search thread** (F8 scenario) with the code as it stands: S panics after one `BestMove`; its senders
are dropped without a `Stop`; W drains the channel and prints the `bestmove` of what it received; C stays in `recv`
until M's `Stop`, then panics at `join().unwrap()`; `wait_cancel` returns `None`. -/
def runPanic : List A0 :=
  [.sEmit (evB [5]), .sPanic, .sDropSink, .sDropTx3, .sFinish, .wRecv, .wClosed, .wTail, .mCall, .cRecv, .cCancel,
   .cJoin, .mJoinC, .mJoinW]

theorem runPanic_ok : view (runActs true (init true true) runPanic) =
    some ⟨.returned, .done, .done, .done, false, [.info (evB [5]), .bestmove 5], 0⟩ := by decide +kernel

/-- the same scenario **before the repair of F8**: `join().unwrap()` in `wait_cancel` takes the process down — here
even before W printed the `bestmove` of the event it had not yet received. -/
def runPreF8 : List A0 :=
  [.sEmit (evB [5]), .sPanic, .sDropSink, .sDropTx3, .sFinish, .mCall, .cRecv, .cCancel, .cJoin, .mJoinC]

/-- **Threads_preF8_aborts**: a kernel-checked witness run of the pre-F8 code reaching "process aborted" -/
theorem Threads_preF8_aborts :
    ∃ (acts : List A0) (s : St Nat Unit), runActs false (init true true) acts = some s ∧ s.m = .aborted ∧
      s.injected = true ∧ s.printed = [] ∧ s.q1 = [evB [5]] :=
  ⟨runPreF8, _, rfl, by decide +kernel, by decide +kernel, by decide +kernel, by decide +kernel⟩

/-- the same actions with the repaired code do not abort -/
theorem runPreF8_repaired : (runActs true (init true true) runPreF8).map (·.m) = some .joinW := by decide +kernel

/-- **the timer fires first**, M's `Stop` comes second and the search thread's own third (three `Stop`s: `tFire`, `mCall`, `sSendStop`; C reads one, two
are never read), T ends in the middle -/
def runTimer : List A0 :=
  [.sEmit (evB [4]), .tFire, .cRecv, .cCancel, .mCall, .sNotice, .sSendStop, .sDropSink, .sDropTx3, .sFinish, .cJoin,
   .tExit, .mJoinC, .wRecv, .wClosed, .wTail, .mJoinW]

theorem runTimer_ok : view (runActs true (init true true) runTimer) =
    some ⟨.returned, .done, .done, .done, true, [.info (evB [4]), .bestmove 4], 2⟩ := by decide +kernel

/-- **the timer fires after everything has ended**: its `send` fails silently, T ends -/
def runLateTimer : List A0 := runDepth ++ [.tFire, .tExit]

theorem runLateTimer_ok : view (runActs true (init true true) runLateTimer) =
      some ⟨.returned, .done, .done, .done, true, [.info evO, .info (evB [7, 8]), .bestmove 7], 0⟩ ∧
    (runActs true (init true true) runLateTimer).map (·.t) = some .done ∧
    (runActs true (init true true) runLateTimer).map (·.tt) = some false := by
  refine ⟨?_, ?_, ?_⟩ <;> decide +kernel

/-- **no writer, receiver dropped in the middle** (`Searcher::analyze` used directly, no timer): the caller reads one
event, S emits another, the caller drops the receiver, S's next `send` fails and is ignored; S ends normally and the
join returns the artifact. -/
def runDirect : List A0 :=
  [.sEmit (evB [9]), .callerRecv, .sEmit evO, .callerDrop, .sEmit (evB [6]), .sEndSelf, .sSendStop, .sDropSink,
   .sDropTx3, .sFinish, .mCall, .cRecv, .cCancel, .cJoin, .mJoinC, .mJoinW]

theorem runDirect_ok : view (runActs true (init false false) runDirect) =
      some ⟨.returned, .done, .done, .absent, true, [], 1⟩ ∧
    (runActs true (init false false) runDirect).map (fun s => (s.emitted.length, s.q1, s.rx1, s.sOk)) =
      some (3, [], false, true) := by
  refine ⟨?_, ?_⟩ <;> decide +kernel

/-! ### the hypotheses of the theorems are satisfiable -/

/-- a reachable state in which S is about to send `Stop` (§1), with the receiver alive -/
example : ∃ s : St Nat Unit, Reachable true true true s ∧ s.s = .sendStop ∧ s.rx2 = true :=
  ⟨_, runActs_reachable (s' := (runActs true (init true true) [Act.sEmit evO, .sEndSelf]).get (by decide +kernel))
      [Act.sEmit evO, .sEndSelf] Reachable.init (by simp),
    by decide +kernel, by decide +kernel⟩

/-- a reachable state in which M is blocked in its first join, C in `recv` with M's `Stop` queued, S still running
(§2) — the helpful action is `cRecv` -/
example : ∃ s : St Nat Unit, Reachable true true true s ∧ s.m = .joinC ∧ s.s = .run ∧ helpful s = .cRecv :=
  ⟨_, runActs_reachable (s' := (runActs true (init true true) [Act.sEmit evO, .mCall]).get (by decide +kernel))
      [Act.sEmit evO, .mCall] Reachable.init (by simp),
    by decide +kernel, by decide +kernel, by decide +kernel⟩

/-- reachable states with `wait_cancel` returned exist, with a `bestmove` printed (§3, §4), after a panic
(§6) and without a writer (§5) -/
example : ∃ s : St Nat Unit, Reachable true true true s ∧ s.m = .returned ∧ Line.bestmove 7 ∈ s.printed :=
  ⟨_, runActs_reachable (s' := (runActs true (init true true) runDepth).get (by decide +kernel))
      runDepth Reachable.init (by simp),
    by decide +kernel, by decide +kernel⟩

example : ∃ s : St Nat Unit, Reachable true true true s ∧ s.m = .returned ∧ s.injected = true :=
  ⟨_, runActs_reachable (s' := (runActs true (init true true) runPanic).get (by decide +kernel))
      runPanic Reachable.init (by simp),
    by decide +kernel, by decide +kernel⟩

example : ∃ s : St Nat Unit, runActs true (init false false) runDirect = some s ∧ Act.sPanic ∉ runDirect ∧
    s.m = .returned :=
  ⟨(runActs true (init false false) runDirect).get (by decide +kernel), by simp, by decide +kernel, by decide +kernel⟩

/-- a weakly fair execution in which M waits exists (the hypotheses of `Threads_wait_cancel_returns` and of `Threads_search_answers`): `runStopDuring`
followed by stuttering — in its final state no guaranteed action is enabled -/
example : ∃ (e : Exec (step true (μ := Nat) (π := Unit))), e.st 0 = init true true ∧
    (∀ a : A0, a.fair = true → WeakFair e a) ∧ ((e.st 2).m = .joinC) ∧ Triggered (e.st 2) := by
  have hrun : runList (step true) (init true true) runStopDuring =
      some ((runActs true (init true true) runStopDuring).get (by decide +kernel)) := by
    rw [← runActs_eq_runList]; simp
  refine ⟨Exec.ofRun (step true) (init true true) runStopDuring (by rw [hrun]; rfl), stAt_zero _ _ _, ?_, ?_, ?_⟩
  · intro a ha
    apply Exec.ofRun_fair (step true) (init true true) _ runStopDuring hrun
    cases a <;> first | (cases ha; done) | decide +kernel
  · show (stAt (step true) (init true true) runStopDuring 2).m = .joinC
    decide +kernel
  · refine Or.inr (Or.inr (Or.inr ⟨?_, ?_⟩))
    · show (stAt (step true) (init true true) runStopDuring 2).c = .recv
      decide +kernel
    · show 0 < (stAt (step true) (init true true) runStopDuring 2).q2
      decide +kernel

end runs

end Wee.Threads
