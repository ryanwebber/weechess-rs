import Wee.Props.C01
import Wee.Props.C08
import Wee.Props.C09
import Wee.Proofs.CoreFnsBridge
import Wee.Proofs.GenMovesBridge
/-!
# Properties restated for the functions TRANSLATED FROM THE RUST SOURCE TEXT

`tools/rs2lean2.py` / `tools/rs2lean3.py` regenerate `Wee.GenFns.*` from the text of `board.rs`, `hasher.rs`, `attacks.rs`,
`state.rs` and `movegen.rs` on every run; the bridge files prove each generated function equal to the hand-written model
function.  The theorems below compose those bridges with the property theorems, so that the statement is about the function the
translator produced from the committed source — with the translator's parser and its table of primitive mappings
(`tools/rs2lean.NOTES.md`) as the trusted part, instead of a sampled comparison of model and code.

`stateOf s` is the Rust-side value (`struct State`) of a model state, `zobristOf k` that of a key table.
-/
namespace Wee
open Wee.GenFns
open Wee.C10 (DisjointBoard)

/-- **C01 for the translated generator.**  For every legal position (no stacked pieces, representable en-passant square and
clocks) the function obtained from the text of `MoveGenerator::compute_legal_moves` returns — without panicking — an array whose
moves, read through all their accessors, are a permutation without duplicates of the legal moves of the rules of chess, each paired
with the Rust-side value of the model's successor state. -/
theorem C01_translated (s : State) (hl : LegalPos s = true) (hd : DisjointBoard s.pieces) (ok : StateOK s) :
    ∃ L : List (Move × State),
      MoveGenerator.compute_legal_moves (stateOf s) = some ((L.map resOf).toArray) ∧
      (L.map (toSpecMove ∘ (·.1))).Perm ((Spec.legalMoves (abs s)).map some) ∧
      (L.map (toSpecMove ∘ (·.1))).Nodup := by
  obtain ⟨hp, hn⟩ := C01_moves s hl hd
  refine ⟨legalMoves s, ?_, hp, hn⟩
  rw [MoveGenerator.compute_legal_moves_model s ok, C02.legalMoves?_eq s hl hd]
  rfl

/-- every successor the translated generator lists is the rule successor of its move and again a legal position -/
theorem C01_translated_successors (s : State) (hl : LegalPos s = true) (hd : DisjointBoard s.pieces) (ok : StateOK s) :
    ∃ L : List (Move × State),
      MoveGenerator.compute_legal_moves (stateOf s) = some ((L.map resOf).toArray) ∧
      ∀ r ∈ L, ∃ sm, toSpecMove r.1 = some sm ∧ sm ∈ Spec.legalMoves (abs s) ∧
        abs r.2 = Spec.applyMove (abs s) sm ∧ DisjointBoard r.2.pieces ∧ LegalPos r.2 = true := by
  refine ⟨legalMoves s, ?_, C02.legalMoves_entry s hl hd⟩
  rw [MoveGenerator.compute_legal_moves_model s ok, C02.legalMoves?_eq s hl hd]
  rfl

/-- **C08 (equal keys hash equal) for the translated hasher**: positions with the same placement, side to move, castling rights and
en-passant target get the same value from the function obtained from the text of `ZobristHasher::hash`, for every key table with 2 turn keys and 8 en-passant file
keys, the en-passant targets of both positions being squares (`< 64`). -/
theorem C08_translated_equal (k : KeyTable) (ht : k.turn.size = 2) (he : k.epFile.size = 8) (s t : State)
    (hs : ∀ q, s.ep = some q → q < 64) (htt : ∀ q, t.ep = some q → q < 64) (h : SameKey s t) :
    ZobristHasher.hash (zobristOf k) (stateOf s) = ZobristHasher.hash (zobristOf k) (stateOf t) := by
  rw [ZobristHasher.hash_keyTable k ht he s hs, ZobristHasher.hash_keyTable k ht he t htt, C08_equal k.keys s t h]

/-- the move counters do not enter the translated hash -/
theorem C08_translated_counters (k : KeyTable) (ht : k.turn.size = 2) (he : k.epFile.size = 8) (s : State)
    (hs : ∀ q, s.ep = some q → q < 64) (h m : Nat) :
    ZobristHasher.hash (zobristOf k) (stateOf { s with halfmove := h, fullmove := m }) =
      ZobristHasher.hash (zobristOf k) (stateOf s) :=
  C08_translated_equal k ht he _ s hs hs ⟨rfl, rfl, rfl, rfl, rfl⟩

/-- **C09 for the translated lookups** (this theorem and the next two: rook, bishop, queen): the functions obtained from the text of `compute_rook_attacks` / `compute_bishop_attacks` /
`compute_queen_attacks` (mask, wrapping multiplication by the magic, shift, table index) never panic on a real square and return
exactly the squares reached by walking each ray up to and including the first blocker. -/
theorem C09_translated_rook (sq : UInt8) (h : sq.toNat < 64) (occ : UInt64) :
    ∃ b, AttackGenerator.compute_rook_attacks sq occ = some b ∧
      ∀ t, test b t = (Spec.slide (fun n => test occ n) Spec.rookDirs sq.toNat).contains t :=
  ⟨_, AttackGenerator.compute_rook_attacks_eq sq occ h, fun t => C09_rook sq.toNat h occ t⟩

/-- the same for `compute_bishop_attacks` -/
theorem C09_translated_bishop (sq : UInt8) (h : sq.toNat < 64) (occ : UInt64) :
    ∃ b, AttackGenerator.compute_bishop_attacks sq occ = some b ∧
      ∀ t, test b t = (Spec.slide (fun n => test occ n) Spec.bishopDirs sq.toNat).contains t :=
  ⟨_, AttackGenerator.compute_bishop_attacks_eq sq occ h, fun t => C09_bishop sq.toNat h occ t⟩

/-- the same for `compute_queen_attacks`: the rook's and the bishop's rays -/
theorem C09_translated_queen (sq : UInt8) (h : sq.toNat < 64) (occ : UInt64) :
    ∃ b, AttackGenerator.compute_queen_attacks sq occ = some b ∧
      ∀ t, test b t = (Spec.slide (fun n => test occ n) (Spec.rookDirs ++ Spec.bishopDirs) sq.toNat).contains t :=
  ⟨_, AttackGenerator.compute_queen_attacks_eq sq occ h, fun t => C09_queen sq.toNat h occ t⟩

end Wee
