import Wee.Props.C05
import Wee.Props.C13
import Wee.Props.Clamped
import Wee.Proofs.EvalFnsBridge
import Wee.Props.C11
import Wee.Proofs.TextFnsBridge2
/-!
# C05, C13 and C11 restated for the functions TRANSLATED FROM THE RUST SOURCE TEXT

The evaluator (C05, C13): `tools/rs2lean_eval.py` regenerates `Wee.GenFns.Evaluator.evaluate` from the text of `weechess-engine/src/eval/*.rs`
on every run (binary32 arithmetic in source order; the legal-move and attack queries are the stage-3a translations of `movegen.rs` /
`board.rs`).  `Evaluator.evaluate_eq` proves: whenever that function returns `r`, the model's `evaluate` returns `r`.  Composed with the
property theorems this gives statements about what the source text computes.  `⟨eval.EVALUATORS⟩` is `Evaluator::default()`.

The FEN writer and reader (C11): `tools/rs2lean_text.py` regenerates `Fen.into_notation` and `Fen.try_from_notation` from the text of
`notation.rs`.  `Fen.into_notation_eq` (no panic, exactly the model's `writeFen`) and `Fen.try_from_notation_model` (the model's
`parseFenChars`, behind a regex seam `rx` assumed to have the semantics of `Spec/Regex.lean`: `RegexSeam`) carry C11's round trip over.
-/
namespace Wee
open Wee.GenFns

/-- **C13 (negation) for the translated evaluator**: whatever the two perspectives return, the values are exact negatives. -/
theorem C13_translated_neg (s : State) (ok : StateOK s) (depth : UInt64) (hd : depth.toNat < 2 ^ 31) (rw rb : Int32)
    (hw : Evaluator.evaluate ⟨eval.EVALUATORS⟩ (stateOf s) .white depth = some rw)
    (hb : Evaluator.evaluate ⟨eval.EVALUATORS⟩ (stateOf s) .black depth = some rb) :
    rw.toInt = - rb.toInt := by
  have e1 := Evaluator.evaluate_eq s ok .white depth hd rw hw
  have e2 := Evaluator.evaluate_eq s ok .black depth hd rb hb
  have h := C13.C13_neg s depth.toNat
  rw [e1, e2] at h
  simpa using h

/-- **C05 (mate) for the translated evaluator**: on a position without legal moves whose side to move is in check, whatever the
translated function returns is the mate score of that ply, negative for the side to move. -/
theorem C05_translated_mate (s : State) (ok : StateOK s) (c : Color) (depth : UInt64) (hd : depth.toNat < 2 ^ 31) (r : Int32)
    (h : Evaluator.evaluate ⟨eval.EVALUATORS⟩ (stateOf s) c depth = some r)
    (hno : legalMoves? s = some []) (hchk : s.isCheck = true) :
    r.toInt = if s.turn = c then - Ev.mateInPly depth.toNat else Ev.mateInPly depth.toNat := by
  have e := Evaluator.evaluate_eq s ok c depth hd r h
  rw [C05.C05_mate s c depth.toNat hno hchk] at e
  exact (Option.some.inj e).symm

/-- **C05 (no false mates) for the translated evaluator**: a terminal value is returned only for checkmates. -/
theorem C05_translated_terminal_is_mate (s : State) (ok : StateOK s) (c : Color) (depth : UInt64) (hd : depth.toNat < 2 ^ 31) (r : Int32)
    (h : Evaluator.evaluate ⟨eval.EVALUATORS⟩ (stateOf s) c depth = some r) (ht : Ev.isTerminal r.toInt = true) :
    legalMoves? s = some [] ∧ s.isCheck = true :=
  (C05.C05_all s c depth.toNat).2.2.2 r.toInt (Evaluator.evaluate_eq s ok c depth hd r h) ht

/-- a representable position of C11 is one a Rust `State` can hold -/
theorem ReprPos.stateOK {s : State} (h : ReprPos s) : StateOK s :=
  ⟨fun t ht => by have := h.2.1; rw [ht] at this; exact this, h.2.2.1, h.2.2.2⟩

/-- **C11 (round trip) for the translated FEN writer and reader**: for every representable position (disjoint bitboards, en-passant
square < 64, 64-bit counters) the function translated from the text of the FEN WRITER produces — without panicking — a text which the
function translated from the text of the FEN READER (behind any regex seam with the standard semantics) reads back as the same
Rust-side position value. -/
theorem C11_translated_roundtrip (nd : Char → Bool) (hnd : NdAssumptions nd) (hplus : nd '+' = false)
    (rx : RegexCaptures) (hrx : RegexSeam nd rx) (s : State) (h : ReprPos s) :
    ∃ text, Fen.into_notation (stateOf s) [] = .ok text ∧ Fen.try_from_notation rx text = .ok (stateOf s) := by
  have ok := h.stateOK
  refine ⟨(writeFen s).toList, ?_, ?_⟩
  · simpa using Fen.into_notation_eq s ok.ep ok.half ok.full []
  · rw [Fen.try_from_notation_model nd hnd hplus true rx hrx]
    have := C11_parse_write true s h
    unfold parseFen at this
    rw [this]
    rfl

end Wee
