import Wee.Props.C16
import Wee.Proofs.BookFnsBridge
/-!
# C16 restated for the book builder and the lookup TRANSLATED FROM THE RUST SOURCE TEXT

`tools/rs2lean_book.py` regenerates `Wee.GenFns.build.generate_book_data` (from `weechess-engine/build.rs`, inside its I/O frame: the book
directory is the list `dir` of file contents, serialisation composes to the identity), `BookParser.parse_movetext` (`weechess-core/src/book.rs`)
and `OpeningBook.lookup` (`weechess-engine/src/book.rs`) on every run; `OpeningBook.lookup_built` proves the pair equal to the model's
`buildBook` / `lookup`.  Composed with `C16_build_files`: what the shipped book answers, as computed by the functions the source text denotes.
-/
namespace Wee
open Wee.GenFns Wee.Book

/-- **C16 for the translated builder and lookup.**  Hypotheses: a key table with 2 turn keys and 8 en-passant file keys, and the
regex seam `RxOK rx` (the builder parses `Fen::DEFAULT` for `State::default()`).  If the function translated from `build.rs` produces a
book `b` from the directory contents `dir`, then for every representable position `s` (en-passant square `< 64`; and the set stored for `s` shorter than `2^64`,
`len()` being a `usize`) the function translated from `OpeningBook::lookup` returns — without
panicking — an answer `r` such that a move is offered exactly when it was recorded, in the first `BOOK_DEPTH` plies of a game of those
files, from a position with the hash of `s`. -/
theorem C16_translated (k : KeyTable) (ht : k.turn.size = 2) (he : k.epFile.size = 8)
    (rx : RegexCaptures) (hrx : RxOK rx) (dir : List (List Char)) (b : core.Book)
    (h : build.generate_book_data rx (zobristOf k) dir = some (.ok b)) :
    ∃ t, Book.buildBook k.keys (dir.map String.ofList) = .ok t ∧
      ∀ s : State, (∀ e, s.ep = some e → e < 64) → (∀ ms, t[hash k.keys s]? = some ms → ms.length < 2 ^ 64) →
        ∃ r, OpeningBook.lookup ⟨b, zobristOf k⟩ (stateOf s) = some r ∧ r = Book.lookup k.keys t s ∧
          ∀ m, (∃ ms, r = some ms ∧ m ∈ ms) ↔
            ∃ q, Recorded ((dir.map String.ofList).flatMap gamesOfFile) q m ∧ hash k.keys q = hash k.keys s := by
  obtain ⟨t, hb, hl⟩ := OpeningBook.lookup_built k ht he rx hrx dir b h
  refine ⟨t, hb, fun s hep hlen => ⟨_, hl s hep hlen, rfl, fun m => ?_⟩⟩
  exact C16_build_files k.keys _ t hb s m

end Wee
