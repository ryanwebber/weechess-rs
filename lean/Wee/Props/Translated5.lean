import Wee.Props.C15
import Wee.Proofs.TTFnsBridge
/-!
# C15 restated for the table operations TRANSLATED FROM THE RUST SOURCE TEXT

`tools/rs2lean_tt.py` regenerates `TranspositionTableAccess.insert` / `find` (and the bucket and sub-table functions below them) from the text
of `searcher.rs` on every run, the `RwLock` read as the atomic application of the sub-table method.  A sequence of such operations, run through
the generated functions, is a `run` of the model (`genRun_accessOf`), so C15's "a lookup returns nothing or the most recent entry stored under
exactly that key" holds for what the source text computes.
-/
namespace Wee
open Wee.GenFns Wee.TT

/-- an operation on the Rust-side table: an insert of a Rust-side entry under a 64-bit key, or a lookup -/
inductive GenOp
  | insert (k : UInt64) (e : TranspositionEntry)
  | find (k : UInt64)

/-- the model operation it stands for -/
def GenOp.toOp : GenOp → Op
  | .insert k e => .insert k.toNat (entryOf e)
  | .find k => .find k.toNat

/-- the table after the operations, the inserts run one after the other through the generated `insert` (`none` = some insert
panicked); a lookup is skipped: the generated `find` returns no new table -/
def genRun (a : TranspositionTableAccess) : List GenOp → Option TranspositionTableAccess
  | [] => some a
  | .insert k e :: rest => (TranspositionTableAccess.insert a k e).bind fun a' => genRun a' rest
  | .find _ :: rest => genRun a rest

theorem genRun_accessOf (ops : List GenOp) : ∀ (a a' : TranspositionTableAccess), AccessWF a → genRun a ops = some a' →
    accessOf a' = run (accessOf a) (ops.map GenOp.toOp) ∧ AccessWF a' := by
  induction ops with
  | nil =>
    intro a a' w h
    simp only [genRun, Option.some.injEq] at h
    subst h
    exact ⟨rfl, w⟩
  | cons op rest ih =>
    intro a a' w h
    cases op with
    | find k =>
      simp only [genRun] at h
      obtain ⟨h1, h2⟩ := ih a a' w h
      exact ⟨by simpa [run, step, GenOp.toOp] using h1, h2⟩
    | insert k e =>
      simp only [genRun] at h
      cases hi : TranspositionTableAccess.insert a k e with
      | none => rw [hi] at h; cases h
      | some a1 =>
        rw [hi] at h
        obtain ⟨e1, w1⟩ := TranspositionTableAccess.insert_some a a1 k e w hi
        obtain ⟨h1, h2⟩ := ih a1 a' w1 h
        refine ⟨?_, h2⟩
        rw [h1, e1]
        simp [run, step, GenOp.toOp]

/-- **C15 (lookup) for the translated table**: start from the fresh table of `tables` sub-tables with `buckets` buckets each (as
`with_tables` / `with_bucket_count` build it), run any sequence of inserts and lookups through the generated functions; then the generated
`find` under any key returns — without panicking — either nothing or the most recent entry inserted under exactly that key. -/
theorem C15_translated_find (tables : Nat) (buckets : UInt64) (hT : 0 < tables) (hT' : tables < 2 ^ 64)
    (hB : 0 < buckets.toNat) (hB' : buckets.toNat * Gen.bucketSize < 2 ^ 64)
    (ops : List GenOp) (a : TranspositionTableAccess)
    (h : genRun ⟨Array.replicate tables (TranspositionTable.with_bucket_count buckets)⟩ ops = some a) (k : UInt64) :
    ∃ r, TranspositionTableAccess.find a k = some r ∧
      (r.map entryOf = none ∨ r.map entryOf = latest (ops.map GenOp.toOp) k.toNat) := by
  have w0 := accessWF_replicate tables buckets hT hT' hB hB'
  obtain ⟨e, w⟩ := genRun_accessOf ops _ a w0 h
  obtain ⟨r, hr, hr'⟩ := TranspositionTableAccess.find_eq a k w
  refine ⟨r, hr, ?_⟩
  rw [hr', e, accessOf_replicate]
  exact C15_find tables buckets.toNat hT hB (ops.map GenOp.toOp) k.toNat

end Wee
