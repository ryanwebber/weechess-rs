import Wee.Gen.Text
/-!
# Regular expressions: the subset used by `FEN_REGEX` (syntax, parser, standard semantics)

`notation.rs` gates every FEN string with one regular expression,

  `^(((?:[rnbqkpRNBQKP1-8]+\/){7})[rnbqkpRNBQKP1-8]+)\s([b|w])\s(-|([K|Q|k|q]{1,4}))\s(-|[a-h][1-8])\s(\d+)\s(\d+)$`

(`Regex::new(FEN_REGEX).unwrap()`, `re.captures(notation)`, then `groups[1]`, `[3]`, `[4]`, `[6]`, `[7]`, `[8]`).
This file says what that literal *means*, independently of the model:

* `Regex` — abstract syntax of the subset of the `regex` crate's syntax that the literal uses;
* `parseRegex` — a parser for that subset (everything else is rejected, never re-interpreted), and
  `parse_fenRegex : parseRegex Gen.fenRegex = some fenAst`, where `Gen.fenRegex` is re-extracted from the
  Rust source on every run: the tree the theorems talk about is the one the literal denotes;
* `M` — the textbook (backtracking-free, relational) matching semantics with contexts for the anchors
  and an event list for the capturing groups; `Captures` — what `Regex::captures` may return.

The relation `M` fixes no disambiguation policy (leftmost-first, greedy, POSIX longest, …): a policy
selects ONE derivation of `M`.  `Wee/Props/FenRegex.lean` proves that for `fenAst` there is at most one
derivation per text, so the policy is irrelevant.

Unicode mode of the crate: `\s` is the property `White_Space` (`isWhiteSpace`, 25 code points),
`\d` is the general category `Nd`, which is left abstract (`PerlClasses.digit`).
-/
namespace Wee.Spec

/-- Unicode `White_Space` (Unicode 15: U+0009–000D, 0020, 0085, 00A0, 1680, 2000–200A, 2028, 2029,
202F, 205F, 3000) — what `\s` matches in the `regex` crate in its default (Unicode) mode -/
def isWhiteSpace (c : Char) : Bool :=
  [0x09, 0x0A, 0x0B, 0x0C, 0x0D, 0x20, 0x85, 0xA0, 0x1680,
   0x2000, 0x2001, 0x2002, 0x2003, 0x2004, 0x2005, 0x2006, 0x2007, 0x2008, 0x2009, 0x200A,
   0x2028, 0x2029, 0x202F, 0x205F, 0x3000].contains c.toNat

/-- the meaning of the Perl classes `\s` and `\d` (they depend on the Unicode tables compiled into the
`regex` crate) -/
structure PerlClasses where
  space : Char → Bool
  digit : Char → Bool

/-- Unicode mode: `\s` = `White_Space`, `\d` = a given set `nd` (general category `Nd`) -/
def unicode (nd : Char → Bool) : PerlClasses := ⟨isWhiteSpace, nd⟩

/-! ## Syntax -/

/-- one item between `[` and `]` -/
inductive ClassItem
  | ch (c : Char)
  | range (lo hi : Char)
deriving DecidableEq, Repr

def ClassItem.mem (c : Char) : ClassItem → Bool
  | .ch d => c == d
  | .range lo hi => lo.toNat ≤ c.toNat && c.toNat ≤ hi.toNat

inductive Regex
  /-- the empty sequence -/
  | eps
  /-- a literal character (also an escaped one, `\/`) -/
  | chr (c : Char)
  /-- `[…]`: any one character that is a member of one of the items -/
  | cls (items : List ClassItem)
  /-- `\s` -/
  | space
  /-- `\d` -/
  | digit
  /-- `ab` -/
  | cat (a b : Regex)
  /-- `a|b` -/
  | alt (a b : Regex)
  /-- `r{lo,hi}`; `r+` is `rep r 1 none`, `r{n}` is `rep r n (some n)`, `r{m,}` is `rep r m none` -/
  | rep (r : Regex) (lo : Nat) (hi : Option Nat)
  /-- `(r)`, the `i`-th capturing group (numbered by opening parenthesis, from 1) -/
  | group (i : Nat) (r : Regex)
  /-- `(?:r)` -/
  | ncgroup (r : Regex)
  /-- `^` (no `m` flag: start of the text only) -/
  | bol
  /-- `$` (no `m` flag: end of the text only — in the `regex` crate NOT before a final `\n`) -/
  | eol
deriving DecidableEq, Repr

/-! ## Parser

A table-free, single-pass parser with an explicit stack of open groups.  Anything outside the subset
(`.`, `*`, `?`, lazy quantifiers, flags, look-around, negated or nested classes, class set operations
`&&` `--` `~~`, escapes other than `\s`, `\d` and escaped punctuation, …) makes it return `none`. -/

def mkSeq : List Regex → Regex
  | [] => .eps
  | [r] => r
  | r :: rs => .cat r (mkSeq rs)

def mkAlt : List Regex → Regex
  | [] => .eps
  | [r] => r
  | r :: rs => .alt r (mkAlt rs)

/-- how an open parenthesis was written -/
inductive GroupKind
  | top
  | capturing (i : Nat)
  | nonCapturing

/-- an open group: the alternatives already closed by `|` and the items of the current one, both in
reverse order -/
structure Frame where
  kind : GroupKind
  alts : List Regex := []
  cur : List Regex := []

def Frame.push (f : Frame) (r : Regex) : Frame := { f with cur := r :: f.cur }

/-- `|` -/
def Frame.bar (f : Frame) : Frame := { f with alts := mkSeq f.cur.reverse :: f.alts, cur := [] }

def Frame.close (f : Frame) : Regex :=
  let body := mkAlt (mkSeq f.cur.reverse :: f.alts).reverse
  match f.kind with
  | .top => body
  | .capturing i => .group i body
  | .nonCapturing => .ncgroup body

/-- apply a quantifier to the last item -/
def Frame.quantify (f : Frame) (lo : Nat) (hi : Option Nat) : Option Frame :=
  match f.cur with
  | [] => none
  | .bol :: _ | .eol :: _ => none
  | .rep .. :: _ => none            -- `a++`, `a+{2}`: not in the subset
  | r :: rest => some { f with cur := .rep r lo hi :: rest }

/-- a character that stands for itself outside a class -/
def plainChar (c : Char) : Bool :=
  !("\\.+*?()|[]{}^$#&~".toList.contains c)

/-- a character that may be escaped to stand for itself -/
def escapable (c : Char) : Bool := "\\/.+*?()|[]{}^$#&-~".toList.contains c

/-- the items of a class up to the closing `]`; returns the rest of the pattern -/
def parseClass : List Char → List ClassItem → Option (List ClassItem × List Char)
  | [], _ => none
  | ']' :: rest, acc => if acc.isEmpty then none else some (acc.reverse, rest)
  | lo :: '-' :: hi :: rest, acc =>
    if hi == ']' then
      -- a final `-` is a literal
      if classChar lo then some ((.ch '-' :: .ch lo :: acc).reverse, rest) else none
    else if classChar lo && classChar hi && lo.toNat ≤ hi.toNat then parseClass rest (.range lo hi :: acc)
    else none
  | c :: rest, acc => if classChar c then parseClass rest (.ch c :: acc) else none
where
  /-- a character that stands for itself inside a class (`|`, `.`, `+`, … do; `\ [ ] ^ & ~ -` are
  rejected here) -/
  classChar (c : Char) : Bool := !("\\[]^&~-".toList.contains c)

/-- decimal digits -/
def parseNat : List Char → Nat → Option (Nat × List Char)
  | c :: rest, acc => if c.isDigit then parseNatMore rest (acc * 10 + (c.toNat - '0'.toNat)) else none
  | [], _ => none
where
  parseNatMore : List Char → Nat → Nat × List Char
    | c :: rest, acc => if c.isDigit then parseNatMore rest (acc * 10 + (c.toNat - '0'.toNat)) else (acc, c :: rest)
    | [], acc => (acc, [])

/-- after `{`: `n}`, `m,n}` or `m,}` -/
def parseBrace (cs : List Char) : Option (Nat × Option Nat × List Char) :=
  match parseNat cs 0 with
  | some (lo, '}' :: rest) => some (lo, some lo, rest)
  | some (lo, ',' :: '}' :: rest) => some (lo, none, rest)
  | some (lo, ',' :: rest) =>
    match parseNat rest 0 with
    | some (hi, '}' :: rest') => if lo ≤ hi then some (lo, some hi, rest') else none
    | _ => none
  | _ => none

/-- main loop; `fuel` bounds the number of steps (each consumes at least one character) -/
def parseLoop : Nat → List Char → (stack : List Frame) → (top : Frame) → (nextGroup : Nat) → Option Regex
  | 0, _, _, _, _ => none
  | _ + 1, [], [], top, _ => some top.close
  | _ + 1, [], _ :: _, _, _ => none
  | fuel + 1, c :: rest, stack, top, g =>
    match c with
    | '(' =>
      match rest with
      | '?' :: ':' :: rest' => parseLoop fuel rest' (top :: stack) { kind := .nonCapturing } g
      | '?' :: _ => none
      | _ => parseLoop fuel rest (top :: stack) { kind := .capturing g } (g + 1)
    | ')' =>
      match stack with
      | [] => none
      | parent :: stack' => parseLoop fuel rest stack' (parent.push top.close) g
    | '|' => parseLoop fuel rest stack top.bar g
    | '^' => parseLoop fuel rest stack (top.push .bol) g
    | '$' => parseLoop fuel rest stack (top.push .eol) g
    | '+' =>
      match rest with
      | '?' :: _ | '+' :: _ => none
      | _ => match top.quantify 1 none with
        | some top' => parseLoop fuel rest stack top' g
        | none => none
    | '{' =>
      match parseBrace rest with
      | some (_, _, '?' :: _) => none
      | some (lo, hi, rest') =>
        match top.quantify lo hi with
        | some top' => parseLoop fuel rest' stack top' g
        | none => none
      | none => none
    | '[' =>
      match parseClass rest [] with
      | some (items, rest') => parseLoop fuel rest' stack (top.push (.cls items)) g
      | none => none
    | '\\' =>
      match rest with
      | 's' :: rest' => parseLoop fuel rest' stack (top.push .space) g
      | 'd' :: rest' => parseLoop fuel rest' stack (top.push .digit) g
      | e :: rest' => if escapable e then parseLoop fuel rest' stack (top.push (.chr e)) g else none
      | [] => none
    | c => if plainChar c then parseLoop fuel rest stack (top.push (.chr c)) g else none

def parseRegex (s : String) : Option Regex :=
  parseLoop (s.toList.length + 1) s.toList [] { kind := .top } 1

/-! ## Semantics -/

/-- capture events in the order in which the groups are left: `(i, s)` = group `i` matched `s` -/
abbrev Caps := List (Nat × List Char)

/-- `M P r pre s post caps`: `r` matches the substring `s` of the text `pre ++ s ++ post`, the capturing
groups inside `r` recording `caps`.  (The context `pre`/`post` only matters for the anchors.) -/
inductive M (P : PerlClasses) : Regex → List Char → List Char → List Char → Caps → Prop
  | eps {pre post} : M P .eps pre [] post []
  | chr {c pre post} : M P (.chr c) pre [c] post []
  | cls {items c pre post} : items.any (ClassItem.mem c) = true → M P (.cls items) pre [c] post []
  | space {c pre post} : P.space c = true → M P .space pre [c] post []
  | digit {c pre post} : P.digit c = true → M P .digit pre [c] post []
  | cat {a b pre s₁ s₂ post c₁ c₂} :
      M P a pre s₁ (s₂ ++ post) c₁ → M P b (pre ++ s₁) s₂ post c₂ → M P (.cat a b) pre (s₁ ++ s₂) post (c₁ ++ c₂)
  | altL {a b pre s post c} : M P a pre s post c → M P (.alt a b) pre s post c
  | altR {a b pre s post c} : M P b pre s post c → M P (.alt a b) pre s post c
  /-- zero iterations, allowed when the lower bound is 0 -/
  | repNil {r hi pre post} : M P (.rep r 0 hi) pre [] post []
  /-- one iteration followed by `r{lo-1,hi-1}`, allowed when the upper bound is not 0 -/
  | repCons {r lo hi pre s₁ s₂ post c₁ c₂} : hi ≠ some 0 →
      M P r pre s₁ (s₂ ++ post) c₁ → M P (.rep r (lo - 1) (hi.map (· - 1))) (pre ++ s₁) s₂ post c₂ →
      M P (.rep r lo hi) pre (s₁ ++ s₂) post (c₁ ++ c₂)
  | group {i r pre s post c} : M P r pre s post c → M P (.group i r) pre s post ((i, s) :: c)
  | ncgroup {r pre s post c} : M P r pre s post c → M P (.ncgroup r) pre s post c
  | bol {post} : M P .bol [] [] post []
  | eol {pre} : M P .eol pre [] [] []

/-- the text of group `i` after a match: its last event (a group inside a repetition keeps its last
iteration); `none` = the group did not participate -/
def groupOf (caps : Caps) (i : Nat) : Option (List Char) :=
  (caps.reverse.find? (·.1 == i)).map (·.2)

/-- `g` is a possible result of `Regex::captures(text)` for the pattern `r`: the pattern matches some
substring of the text (un-anchored search; anchors are part of the pattern), `g 0` is the matched
substring and `g i` the text of group `i`.  The `regex` crate returns the leftmost-first such match, or
`None` when there is none. -/
def Captures (P : PerlClasses) (r : Regex) (text : List Char) (g : Nat → Option (List Char)) : Prop :=
  ∃ pre s post caps, text = pre ++ s ++ post ∧ M P r pre s post caps ∧ g = groupOf ((0, s) :: caps)

/-- `Regex::is_match(text)` -/
def IsMatch (P : PerlClasses) (r : Regex) (text : List Char) : Prop := ∃ g, Captures P r text g

/-- `Regex::captures(text)` as a function: SOME result allowed by the semantics (which one is deliberately left open —
the crate takes the leftmost-first match), `none` exactly when the pattern matches nowhere in the text.  For a pattern
whose matches are unique, such as `fenAst` (`Wee.FenRegex_unique`), this is THE result. -/
noncomputable def reCaptures (P : PerlClasses) (r : Regex) (text : List Char) : Option (Nat → Option (List Char)) :=
  open Classical in
  if h : IsMatch P r text then some (Classical.choose h) else none

theorem reCaptures_some {P : PerlClasses} {r : Regex} {text : List Char} {g : Nat → Option (List Char)}
    (h : reCaptures P r text = some g) : Captures P r text g := by
  unfold reCaptures at h
  split at h
  · rename_i hm; cases h; exact Classical.choose_spec hm
  · cases h

theorem reCaptures_none {P : PerlClasses} {r : Regex} {text : List Char} :
    reCaptures P r text = none ↔ ¬ IsMatch P r text := by
  unfold reCaptures
  split <;> simp [*]

/-! ## The FEN literal -/

/-- the items of `[rnbqkpRNBQKP1-8]` -/
def fenBoardItems : List ClassItem :=
  [.ch 'r', .ch 'n', .ch 'b', .ch 'q', .ch 'k', .ch 'p', .ch 'R', .ch 'N', .ch 'B', .ch 'Q', .ch 'K', .ch 'P',
   .range '1' '8']

/-- the items of `[b|w]` — a `|` inside a class is a literal -/
def fenSideItems : List ClassItem := [.ch 'b', .ch '|', .ch 'w']

/-- the items of `[K|Q|k|q]` -/
def fenCastleItems : List ClassItem := [.ch 'K', .ch '|', .ch 'Q', .ch '|', .ch 'k', .ch '|', .ch 'q']

/-- `[rnbqkpRNBQKP1-8]+` -/
def fenRank : Regex := .rep (.cls fenBoardItems) 1 none

/-- `(((?:[rnbqkpRNBQKP1-8]+\/){7})[rnbqkpRNBQKP1-8]+)` -/
def fenBoardGroup : Regex :=
  .group 1 (.cat (.group 2 (.rep (.ncgroup (.cat fenRank (.chr '/'))) 7 (some 7))) fenRank)

/-- `([b|w])` -/
def fenSideGroup : Regex := .group 3 (.cls fenSideItems)

/-- `(-|([K|Q|k|q]{1,4}))` -/
def fenCastleGroup : Regex :=
  .group 4 (.alt (.chr '-') (.group 5 (.rep (.cls fenCastleItems) 1 (some 4))))

/-- `(-|[a-h][1-8])` -/
def fenEpGroup : Regex := .group 6 (.alt (.chr '-') (.cat (.cls [.range 'a' 'h']) (.cls [.range '1' '8'])))

/-- `(\d+)` -/
def fenCounterGroup (i : Nat) : Regex := .group i (.rep .digit 1 none)

/-- the abstract syntax of `FEN_REGEX` -/
def fenAst : Regex :=
  .cat .bol <| .cat fenBoardGroup <| .cat .space <| .cat fenSideGroup <| .cat .space <| .cat fenCastleGroup <|
  .cat .space <| .cat fenEpGroup <| .cat .space <| .cat (fenCounterGroup 7) <| .cat .space <|
  .cat (fenCounterGroup 8) .eol

/-- the literal extracted from `notation.rs` parses to `fenAst` -/
theorem parse_fenRegex : parseRegex Gen.fenRegex = some fenAst := by decide +kernel

end Wee.Spec
